/-
Lemmas about the waker tables of a QUIC connection (Model/QuicWakers.lean).
State level (`St`): the relation `Adv` "reached by wake-ups only" holds of `terminate` and of every event handler; it
conserves, per waker, wake-ups logged + registrations, and an entry that one statement of a handler removed is gone at
the end and was therefore woken. `terminate` is treated over a variable statement list; the regenerated `terminateBody`
comes in last.
World level (`World`, with the ghost list `owed`): what one operation can do to tables and `owed` is listed once, in `Did`;
`Inv`, every owed future is registered, is kept by every admissible operation.
-/
import Compio.Model.QuicWakers
namespace Compio.QuicWakers
open Compio.Gen.QuicWakers

theorem tbl_all_complete : ∀ t : Tbl, t ∈ Tbl.all := by intro t; cases t <;> decide
theorem tbl_all_nodup : Tbl.all.Nodup := by decide

@[simp] theorem setTab_same (s : St) (t : Tbl) (l : List Entry) : (s.setTab t l).tabs t = l := by
  simp [St.setTab]

theorem setTab_other (s : St) (t t' : Tbl) (l : List Entry) (h : t' ≠ t) : (s.setTab t l).tabs t' = s.tabs t' := by
  simp [St.setTab, h]

@[simp] theorem setTab_woken (s : St) (t : Tbl) (l : List Entry) : (s.setTab t l).woken = s.woken := rfl
@[simp] theorem setTab_error (s : St) (t : Tbl) (l : List Entry) : (s.setTab t l).error = s.error := rfl
@[simp] theorem setTab_connected (s : St) (t : Tbl) (l : List Entry) : (s.setTab t l).connected = s.connected := rfl

theorem wake_tabs_same (s : St) (t : Tbl) (sc : Scope) (k : Nat) :
    (s.wake t sc k).tabs t = (s.tabs t).filter (fun e => !hit sc k e) := by
  simp [St.wake, St.setTab]

theorem wake_tabs_other (s : St) (t t' : Tbl) (sc : Scope) (k : Nat) (h : t' ≠ t) :
    (s.wake t sc k).tabs t' = s.tabs t' := by
  simp [St.wake, St.setTab, h]

@[simp] theorem wake_woken (s : St) (t : Tbl) (sc : Scope) (k : Nat) :
    (s.wake t sc k).woken = s.woken ++ ((s.tabs t).filter (hit sc k)).map (·.2) := rfl
@[simp] theorem wake_error (s : St) (t : Tbl) (sc : Scope) (k : Nat) : (s.wake t sc k).error = s.error := rfl
@[simp] theorem wake_connected (s : St) (t : Tbl) (sc : Scope) (k : Nat) : (s.wake t sc k).connected = s.connected := rfl

theorem sum_map_congr_of_not_mem {α : Type} (l : List α) (t : α) (f g : α → Nat)
    (ht : t ∉ l) (h : ∀ x, x ≠ t → f x = g x) : (l.map f).sum = (l.map g).sum := by
  induction l with
  | nil => rfl
  | cons a l ih =>
    simp only [List.mem_cons, not_or] at ht
    simp only [List.map_cons, List.sum_cons]
    rw [ih ht.2, h a (fun e => ht.1 e.symm)]

theorem sum_map_update {α : Type} (l : List α) (t : α) (f g : α → Nat) (hn : l.Nodup) (ht : t ∈ l)
    (h : ∀ x, x ≠ t → f x = g x) : (l.map f).sum + g t = (l.map g).sum + f t := by
  induction l with
  | nil => cases ht
  | cons a l ih =>
    rw [List.nodup_cons] at hn
    simp only [List.map_cons, List.sum_cons]
    by_cases hat : a = t
    · subst hat
      rw [sum_map_congr_of_not_mem l a f g hn.1 h]; omega
    · have : t ∈ l := by
        cases ht with
        | head => exact absurd rfl hat
        | tail _ h' => exact h'
      have := ih hn.2 this
      rw [h a hat]; omega

theorem count_filter_partition (l : List Entry) (p : Entry → Bool) (w : Nat) :
    (l.map (·.2)).count w = ((l.filter p).map (·.2)).count w + ((l.filter (fun e => !p e)).map (·.2)).count w := by
  rw [← List.count_append, ← List.map_append]
  exact (((List.filter_append_perm p l).map _).count_eq w).symm

def tabCount (s : St) (w : Nat) : Nat := (Tbl.all.map fun t => ((s.tabs t).map (·.2)).count w).sum

/-- the potential every wake step conserves (`phi_wake`): wake-ups of `w` logged + wakers of `w` still registered -/
def phi (s : St) (w : Nat) : Nat := s.woken.count w + tabCount s w

theorem phi_wake (s : St) (t : Tbl) (sc : Scope) (k w : Nat) : phi (s.wake t sc k) w = phi s w := by
  have hsum := sum_map_update Tbl.all t
    (fun t' => (((s.wake t sc k).tabs t').map (·.2)).count w)
    (fun t' => ((s.tabs t').map (·.2)).count w) tbl_all_nodup (tbl_all_complete t)
    (fun x hx => by rw [wake_tabs_other _ _ _ _ _ hx])
  have hp := count_filter_partition (s.tabs t) (hit sc k) w
  simp only [wake_tabs_same] at hsum
  simp only [phi, tabCount, wake_woken, List.count_append]
  omega

theorem tabCount_zero_of_empty {s : St} (h : ∀ t, s.tabs t = []) (w : Nat) : tabCount s w = 0 := by
  simp [tabCount, h, Tbl.all]

/-- `s'` is reached from `s` by wake-ups (and flag updates) only -/
structure Adv (s s' : St) : Prop where
  log : ∃ extra, s'.woken = s.woken ++ extra
  kept : ∀ t e, e ∈ s.tabs t → e ∈ s'.tabs t ∨ e.2 ∈ newlyWoken s s'
  noNew : ∀ t e, e ∈ s'.tabs t → e ∈ s.tabs t
  count : ∀ w, phi s' w = phi s w

theorem newlyWoken_of_log {s s' : St} {extra : List Nat} (h : s'.woken = s.woken ++ extra) :
    newlyWoken s s' = extra := by
  simp [newlyWoken, h]

theorem Adv.refl (s : St) : Adv s s :=
  ⟨⟨[], by simp⟩, fun _ _ h => Or.inl h, fun _ _ h => h, fun _ => rfl⟩

theorem Adv.trans {a b c : St} (h1 : Adv a b) (h2 : Adv b c) : Adv a c := by
  obtain ⟨x1, hx1⟩ := h1.log
  obtain ⟨x2, hx2⟩ := h2.log
  have hx : c.woken = a.woken ++ (x1 ++ x2) := by rw [hx2, hx1, List.append_assoc]
  refine ⟨⟨_, hx⟩, fun t e he => ?_, fun t e h => h1.noNew t e (h2.noNew t e h), fun w => (h2.count w).trans (h1.count w)⟩
  -- woken on the way from `a` to `c`: on the way to `b`, or from `b` on
  rw [newlyWoken_of_log hx, List.mem_append, ← newlyWoken_of_log hx1, ← newlyWoken_of_log hx2]
  rcases h1.kept t e he with hb | hw
  · rcases h2.kept t e hb with hc | hw
    · exact Or.inl hc
    · exact Or.inr (Or.inr hw)
  · exact Or.inr (Or.inl hw)

theorem adv_foldl {α : Type} {f : St → α → St} (step : ∀ s a, Adv s (f s a)) (l : List α) :
    ∀ s, Adv s (l.foldl f s) := by
  induction l with
  | nil => exact Adv.refl
  | cons a r ih => intro s; exact (step s a).trans (ih _)

theorem wake_hits {s : St} {t : Tbl} {sc : Scope} {k : Nat} {e : Entry} (he : e ∈ s.tabs t)
    (hh : hit sc k e = true) : e.2 ∈ newlyWoken s (s.wake t sc k) := by
  rw [newlyWoken_of_log (wake_woken s t sc k)]
  exact List.mem_map.mpr ⟨e, List.mem_filter.mpr ⟨he, hh⟩, rfl⟩

theorem adv_wake (s : St) (t : Tbl) (sc : Scope) (k : Nat) : Adv s (s.wake t sc k) := by
  refine ⟨⟨_, wake_woken s t sc k⟩, fun t' e he => ?_, fun t' e he => ?_, phi_wake s t sc k⟩
  · by_cases htt : t' = t
    · subst htt
      rw [wake_tabs_same]
      by_cases hh : hit sc k e = true
      · exact Or.inr (wake_hits he hh)
      · exact Or.inl (List.mem_filter.mpr ⟨he, by simp [hh]⟩)
    · rw [wake_tabs_other _ _ _ _ _ htt]; exact Or.inl he
  · by_cases htt : t' = t
    · subst htt
      rw [wake_tabs_same] at he
      exact (List.mem_filter.mp he).1
    · rw [wake_tabs_other _ _ _ _ _ htt] at he; exact he

theorem adv_of_same_tabs_woken {s s' : St} (ht : s'.tabs = s.tabs) (hw : s'.woken = s.woken) : Adv s s' :=
  ⟨⟨[], by simp [hw]⟩, fun t e h => Or.inl (by rw [ht]; exact h), fun t e h => by rw [ht] at h; exact h,
    fun w => by simp [phi, tabCount, ht, hw]⟩

theorem wake_all_empties (s : St) (t : Tbl) (k : Nat) : (s.wake t .all k).tabs t = [] := by
  rw [wake_tabs_same]; simp [hit]

theorem Adv.woken_of_gone {s s' : St} (h : Adv s s') {t : Tbl} {e : Entry} (he : e ∈ s.tabs t)
    (hg : e ∉ s'.tabs t) : e.2 ∈ newlyWoken s s' :=
  (h.kept t e he).resolve_left hg

theorem Adv.foldl_gone {α : Type} {f : St → α → St} (step : ∀ s a, Adv s (f s a)) {a : α} {t : Tbl} {e : Entry}
    (ha : ∀ s, e ∉ (f s a).tabs t) : ∀ (l : List α) (s : St), a ∈ l → e ∉ (l.foldl f s).tabs t := by
  intro l
  induction l with
  | nil => intro s h; cases h
  | cons b r ih =>
    intro s h
    rw [List.foldl_cons]
    rcases List.mem_cons.mp h with rfl | hr
    · exact fun hm => ha s ((adv_foldl step r _).noNew t e hm)
    · exact ih _ hr

theorem adv_applyTerm (e : Err) (s : St) (a : TermAct) : Adv s (s.applyTerm e a) := by
  cases a with
  | setError => exact adv_of_same_tabs_woken rfl rfl
  | clearConnected => exact adv_of_same_tabs_woken rfl rfl
  | drain t => exact adv_wake s t _ _

theorem foldTerm_empties (e : Err) (acts : List TermAct) (s : St) {t : Tbl} (h : TermAct.drain t ∈ acts) :
    (acts.foldl (St.applyTerm e) s).tabs t = [] :=
  List.eq_nil_iff_forall_not_mem.mpr fun _ =>
    Adv.foldl_gone (adv_applyTerm e) (a := .drain t)
      (fun s => by rw [St.applyTerm, wake_all_empties]; exact List.not_mem_nil) acts s h

theorem foldTerm_error_stays (e : Err) (acts : List TermAct) :
    ∀ s : St, s.error = some e → (acts.foldl (St.applyTerm e) s).error = some e := by
  induction acts with
  | nil => intro s h; exact h
  | cons a r ih => intro s h; exact ih _ (by cases a <;> simp [St.applyTerm, h])

theorem foldTerm_error (e : Err) (acts : List TermAct) :
    ∀ s : St, TermAct.setError ∈ acts → (acts.foldl (St.applyTerm e) s).error = some e := by
  induction acts with
  | nil => intro s h; cases h
  | cons a r ih =>
    intro s h
    rw [List.foldl_cons]
    cases h with
    | head => exact foldTerm_error_stays e r _ rfl
    | tail _ h' => exact ih _ h'

theorem terminateDrains_complete : ∀ t : Tbl, t ∈ terminateDrains := by
  intro t; cases t <;> decide

theorem drains_in_body : ∀ t ∈ terminateDrains, TermAct.drain t ∈ terminateBody := by decide

theorem all_tables_drained (t : Tbl) : TermAct.drain t ∈ terminateBody :=
  drains_in_body t (terminateDrains_complete t)

theorem terminate_adv (s : St) (e : Err) : Adv s (s.terminate e) := adv_foldl (adv_applyTerm e) _ s

theorem terminate_tabs (s : St) (e : Err) (t : Tbl) : (s.terminate e).tabs t = [] :=
  foldTerm_empties e _ s (all_tables_drained t)

theorem terminate_error (s : St) (e : Err) : (s.terminate e).error = some e :=
  foldTerm_error e _ s (by decide)

theorem terminate_count (s : St) (e : Err) (w : Nat) :
    (s.terminate e).woken.count w = s.woken.count w + tabCount s w := by
  have h := (terminate_adv s e).count w
  unfold phi at h
  rw [tabCount_zero_of_empty (terminate_tabs s e) w] at h
  omega

theorem terminate_wakes {s : St} {e : Err} {t : Tbl} {x : Entry} (hx : x ∈ s.tabs t) :
    x.2 ∈ newlyWoken s (s.terminate e) :=
  (terminate_adv s e).woken_of_gone hx (by rw [terminate_tabs]; exact List.not_mem_nil)

theorem all_sites_check_error : ∀ r : Reg, regChecksError r = true := by
  intro r; cases r <;> rfl

theorem pollBlocked_of_error {s : St} {e : Err} (h : s.error = some e) (r : Reg) (k w : Nat) :
    s.pollBlocked r k w = (s, .err e) := by
  simp [St.pollBlocked, all_sites_check_error r, h]

theorem pollBlocked_of_no_error {s : St} (h : s.error = none) (r : Reg) (k w : Nat) :
    s.pollBlocked r k w = (s.register r k w, .pending) := by
  simp [St.pollBlocked, h]

theorem adv_applyAction (key : Nat) (zr : Bool) (e : Err) (s : St) (a : Action) :
    Adv s (s.applyAction key zr e a) := by
  cases a with
  | wake t sc => exact adv_wake s t sc key
  | wakeIfZeroRttRejected t =>
    rw [St.applyAction]
    split
    · exact adv_wake s t _ _
    · exact Adv.refl s
  | setConnected => exact adv_of_same_tabs_woken rfl rfl
  | terminate => exact terminate_adv s e

theorem adv_onEvent (s : St) (ev : Ev) (key : Nat) (zr : Bool) (e : Err) : Adv s (s.onEvent ev key zr e) :=
  adv_foldl (adv_applyAction key zr e) _ s

theorem applyAction_removes {s : St} {key : Nat} {zr : Bool} {err : Err} {r : Reg} {k w : Nat} {a : Action}
    (ha : actionWakes r a = true) (hk : regKey r ≠ .none → normKey r k = key) :
    (normKey r k, w) ∉ (s.applyAction key zr err a).tabs (registersIn r) := by
  cases a with
  | wake t sc =>
    simp only [actionWakes, Bool.and_eq_true, beq_iff_eq, Bool.or_eq_true, bne_iff_ne] at ha
    obtain ⟨rfl, hs⟩ := ha
    rw [St.applyAction, wake_tabs_same, List.mem_filter]
    cases sc with
    | all => exact fun h => by simp [hit] at h
    | key => exact fun h => by simp [hit, hk (hs.resolve_left nofun)] at h
  | terminate => rw [St.applyAction, terminate_tabs]; exact List.not_mem_nil
  | wakeIfZeroRttRejected t => simp [actionWakes] at ha
  | setConnected => simp [actionWakes] at ha

theorem ev_all_complete : ∀ ev : Ev, ev ∈ Ev.all := by intro ev; cases ev <;> decide
theorem reg_all_complete : ∀ r : Reg, r ∈ Reg.all := by intro r; cases r <;> decide

/-- the decision table over the regenerated `onEvent` / `registersIn` / `regKey`; `unblocks` is hand-written -/
theorem event_table_complete : ∀ (ev : Ev) (r : Reg), unblocks ev r = true →
    (Gen.QuicWakers.onEvent ev).any (actionWakes r) = true := by
  have table : Ev.all.all (fun ev => Reg.all.all fun r =>
      !unblocks ev r || (Gen.QuicWakers.onEvent ev).any (actionWakes r)) = true := by decide
  intro ev r hu
  have := List.all_eq_true.mp (List.all_eq_true.mp table ev (ev_all_complete ev)) r (reg_all_complete r)
  rwa [hu, Bool.not_true, Bool.false_or] at this

theorem onEvent_wakes {s : St} {ev : Ev} {key : Nat} {zr : Bool} {err : Err} {r : Reg} {k w : Nat}
    (hu : unblocks ev r = true) (he : (normKey r k, w) ∈ s.tabs (registersIn r))
    (hk : regKey r ≠ .none → normKey r k = key) :
    w ∈ newlyWoken s (s.onEvent ev key zr err) := by
  obtain ⟨a, hmem, ha⟩ := List.any_eq_true.mp (event_table_complete ev r hu)
  exact (adv_onEvent s ev key zr err).woken_of_gone he
    (Adv.foldl_gone (adv_applyAction key zr err) (fun _ => applyAction_removes ha hk) _ s hmem)

theorem insertEntry_mem (k : Kind) (g : Bool) (key w : Nat) (l : List Entry) :
    (key, w) ∈ insertEntry k g key w l := by
  cases k with
  | slot =>
    simp only [insertEntry]
    split
    · rename_i h
      simp only [Bool.and_eq_true, beq_iff_eq] at h
      rw [h.2]; exact List.mem_cons_self
    · exact List.mem_cons_self
  | queue => simp [insertEntry]
  | queueArr => simp [insertEntry]
  | map => simp [insertEntry]

/-- `slot` and `map` hold one waker per key: there an entry with the clashing key survives a registration only if
    it is the entry being registered -/
theorem insertEntry_keeps {k : Kind} {g : Bool} {key w : Nat} {l : List Entry} {e : Entry} (he : e ∈ l)
    (h : k = .slot ∨ k = .map ∧ e.1 = key → e = (key, w)) : e ∈ insertEntry k g key w l := by
  cases k with
  | slot => rw [h (Or.inl rfl)]; exact insertEntry_mem ..
  | queue => simp [insertEntry, he]
  | queueArr => simp [insertEntry, he]
  | map =>
    by_cases hk : e.1 = key
    · rw [h (Or.inr ⟨rfl, hk⟩)]; exact insertEntry_mem ..
    · simp [insertEntry, he, hk]

theorem register_tabs_other (s : St) (r : Reg) (k w : Nat) (t' : Tbl) (h : t' ≠ registersIn r) :
    (s.register r k w).tabs t' = s.tabs t' := setTab_other _ _ _ _ h

theorem register_tabs_same (s : St) (r : Reg) (k w : Nat) :
    (s.register r k w).tabs (registersIn r) =
      insertEntry (kind (registersIn r)) (regWillWakeGuard r) (normKey r k) w (s.tabs (registersIn r)) :=
  setTab_same _ _ _

theorem register_mem (s : St) (r : Reg) (k w : Nat) :
    (normKey r k, w) ∈ (s.register r k w).tabs (registersIn r) := by
  rw [register_tabs_same]; exact insertEntry_mem _ _ _ _ _

theorem slot_sites_unkeyed : ∀ r : Reg, kind (registersIn r) = .slot → regKey r = .none := by
  intro r; cases r <;> decide

theorem normKey_of_slot {r : Reg} (h : kind (registersIn r) = .slot) (k : Nat) : normKey r k = 0 := by
  simp [normKey, slot_sites_unkeyed r h]

/-- every future that is owed a wake-up is registered in its table -/
def Inv (W : World) : Prop := ∀ x ∈ W.owed, x.entry ∈ W.st.tabs x.tbl

theorem inv_init : Inv World.init := by intro x hx; cases hx

theorem mem_discharge {owed : List Waiter} {woken : List Nat} {x : Waiter} :
    x ∈ discharge owed woken ↔ x ∈ owed ∧ x.w ∉ woken := by
  simp [discharge, List.mem_filter]

theorem inv_of_wakes {W W' : World} (h : Adv W.st W'.st)
    (ho : W'.owed = discharge W.owed (newlyWoken W.st W'.st)) (hi : Inv W) : Inv W' := by
  intro x hx
  obtain ⟨hxo, hxw⟩ := mem_discharge.mp (ho ▸ hx)
  exact (h.kept x.tbl x.entry (hi x hxo)).resolve_right hxw

theorem setSt_owed_subset (W : World) (s' : St) : ∀ x ∈ (W.setSt s').owed, x ∈ W.owed := by
  intro x hx; exact (mem_discharge.mp hx).1

theorem admissible_poll_spec {W : World} {r : Reg} {key w : Nat} (ha : admissible W (.poll r key w) = true)
    {y : Waiter} (hy : y ∈ W.owed) (ht : y.tbl = registersIn r) (hex : exclusive (registersIn r) = true)
    (hk : y.entry.1 = normKey r key) : y.w = w := by
  simp only [admissible, Bool.or_eq_true, Bool.not_eq_true', List.all_eq_true] at ha
  cases ha with
  | inl h => rw [hex] at h; cases h
  | inr h =>
    have := h y hy
    simp only [Bool.and_eq_false_iff, beq_iff_eq] at this
    rcases this with (h1 | h1) | h1
    · exact absurd ht (by simpa using h1)
    · exact absurd hk (by simpa using h1)
    · exact h1

theorem register_keeps_owed {W : World} {r : Reg} {key w : Nat} (hi : Inv W)
    (ha : admissible W (.poll r key w) = true) {y : Waiter} (hy : y ∈ W.owed) :
    y.entry ∈ (W.st.register r key w).tabs y.tbl := by
  by_cases ht : y.tbl = registersIn r
  · rw [ht, register_tabs_same]
    refine insertEntry_keeps (ht ▸ hi y hy) (fun hc => ?_)
    -- one waker per key and the keys clash (a slot has the single key 0): admissibility says it is the same task
    have hex : exclusive (registersIn r) = true := by
      rcases hc with h | ⟨h, _⟩ <;> simp [exclusive, h]
    have hk : y.entry.1 = normKey r key := by
      rcases hc with h | ⟨_, h⟩
      · exact (normKey_of_slot (r := y.r) ((congrArg kind ht).trans h) _).trans (normKey_of_slot h _).symm
      · exact h
    exact Prod.ext hk (admissible_poll_spec ha hy ht hex hk)
  · rw [register_tabs_other _ _ _ _ _ ht]; exact hi y hy

/-- what `St.dropStream` does for one row of `dropCleans` -/
def dropOne (owner : String) (id : Nat) (s : St) (p : String × Tbl) : St :=
  if p.1 == owner then s.setTab p.2 ((s.tabs p.2).filter (fun e => e.1 != id)) else s

theorem dropStream_eq (s : St) (owner : String) (id : Nat) :
    s.dropStream owner id = dropCleans.foldl (dropOne owner id) s := rfl

theorem dropFold_keeps (owner : String) (id : Nat) (l : List (String × Tbl)) :
    ∀ (s : St) (t : Tbl) (e : Entry), e ∈ s.tabs t →
      ¬ (l.any (fun p => p.1 == owner && p.2 == t) = true ∧ e.1 = id) →
      e ∈ (l.foldl (dropOne owner id) s).tabs t := by
  induction l with
  | nil => intro s t e he _; exact he
  | cons p rest ih =>
    intro s t e he hn
    rw [List.foldl_cons, dropOne]
    apply ih
    · split
      · rename_i hown
        by_cases hpt : t = p.2
        · subst hpt
          rw [setTab_same]
          refine List.mem_filter.mpr ⟨he, ?_⟩
          have : ¬ e.1 = id := by
            intro hid
            apply hn
            refine ⟨?_, hid⟩
            simp [List.any_cons, hown]
          simp [this]
        · rw [setTab_other _ _ _ _ hpt]; exact he
      · exact he
    · intro ⟨h1, h2⟩
      apply hn
      refine ⟨?_, h2⟩
      rw [List.any_cons, h1]; simp

theorem drop_tables_exclusive_table :
    dropCleans.all (fun p => Reg.all.all (fun r => registersIn r != p.2 || Reg.owner r == p.1)) = true := by decide

theorem drop_tables_exclusive {owner : String} {t : Tbl} (h : dropCleans.any (fun p => p.1 == owner && p.2 == t) = true)
    (r : Reg) (hr : registersIn r = t) : Reg.owner r = owner := by
  rw [List.any_eq_true] at h
  obtain ⟨p, hp, hpo⟩ := h
  simp only [Bool.and_eq_true, beq_iff_eq] at hpo
  have := List.all_eq_true.mp drop_tables_exclusive_table p hp
  have := List.all_eq_true.mp this r (reg_all_complete r)
  simp only [Bool.or_eq_true, bne_iff_ne, ne_eq, beq_iff_eq] at this
  rcases this with h1 | h1
  · exact absurd (hr.trans hpo.2.symm) h1
  · rw [h1, hpo.1]

theorem dropStream_keeps {s : St} {owner : String} {id : Nat} {r : Reg} {e : Entry} (he : e ∈ s.tabs (registersIn r))
    (h : Reg.owner r = owner → e.1 ≠ id) : e ∈ (s.dropStream owner id).tabs (registersIn r) := by
  rw [dropStream_eq]
  exact dropFold_keeps _ _ _ _ _ _ he fun ⟨h1, h2⟩ => h (drop_tables_exclusive h1 r rfl) h2

theorem dropStream_keeps_owed {W : World} {send : Bool} {id : Nat} (hi : Inv W)
    (ha : admissible W (.dropStream send id) = true) {y : Waiter} (hy : y ∈ W.owed) :
    y.entry ∈ (W.st.dropStream (if send then "SendStream" else "RecvStream") id).tabs y.tbl := by
  have hay := List.all_eq_true.mp ha y hy
  simp only [Bool.not_eq_true', Bool.and_eq_false_iff, beq_eq_false_iff_ne, ne_eq] at hay
  apply dropStream_keeps (r := y.r) (hi y hy)
  intro ho h2
  exact hay.elim (· ho) (· h2)

/-- What one operation does to the tables and to the ghost list `owed`. `wakes`: every operation of the worker, of `close`
and of `closed()`, and a poll that finds the stored error; the other three are the futures' own. -/
inductive Did (W W' : World) : Op → Prop
  | wakes {o : Op} : Adv W.st W'.st → W'.owed = discharge W.owed (newlyWoken W.st W'.st) → Did W W' o
  | parked {r : Reg} {key w : Nat} : W.st.error = none → W'.st = W.st.register r key w →
      W'.owed = W.owed.filter (· != ⟨r, key, w⟩) ++ [⟨r, key, w⟩] → Did W W' (.poll r key w)
  | cancelled {r : Reg} {key w : Nat} : W'.st = W.st → W'.owed = W.owed.filter (· != ⟨r, key, w⟩) →
      Did W W' (.cancel r key w)
  | dropped {send : Bool} {id : Nat} :
      W'.st = W.st.dropStream (if send then "SendStream" else "RecvStream") id → W'.owed = W.owed →
      Did W W' (.dropStream send id)

theorem did_step (W : World) (o : Op) : Did W (W.step o).1 o := by
  have idle : ∀ {o : Op} {W' : World}, W'.st = W.st → W'.owed = W.owed → Did W W' o := by
    intro o W' h1 h2
    refine .wakes (h1 ▸ Adv.refl _) ?_
    rw [h1, h2]
    exact (List.filter_eq_self.mpr (by simp [newlyWoken])).symm
  cases o with
  | poll r key w =>
    cases herr : W.st.error with
    | some e => simp only [World.step, pollBlocked_of_error herr]; exact idle rfl rfl
    | none => simp only [World.step, pollBlocked_of_no_error herr]; exact .parked herr rfl rfl
  | cancel r key w => exact .cancelled rfl rfl
  | dropStream send id => exact .dropped rfl rfl
  | event ev key zr e =>
    rw [World.step]
    split
    · exact .wakes (adv_onEvent ..) rfl
    · exact idle rfl rfl
  | close => exact .wakes (terminate_adv ..) rfl
  | endpointClose =>
    rw [World.step]
    split
    · exact .wakes (terminate_adv ..) rfl
    · exact idle rfl rfl
  | closedPoll w =>
    -- every branch changes at most `handleTaken` and `closedOwner`
    have : (W.step (.closedPoll w)).1.st = W.st ∧ (W.step (.closedPoll w)).1.owed = W.owed := by
      simp only [World.step, apply_ite Prod.fst, apply_ite World.st, apply_ite World.owed, ite_self, and_self]
    exact idle this.1 this.2
  | closedDrop w =>
    rw [World.step]
    split <;> exact idle rfl rfl
  | drained => exact idle rfl rfl

theorem inv_step {W : World} {op : Op} (hi : Inv W) (ha : admissible W op = true) : Inv (W.step op).1 := by
  intro y hy
  cases did_step W op with
  | wakes hadv howed => exact inv_of_wakes hadv howed hi y hy
  | cancelled hst howed => rw [hst]; exact hi y (List.mem_filter.mp (howed ▸ hy)).1
  | dropped hst howed => rw [hst]; exact dropStream_keeps_owed hi ha (howed ▸ hy)
  | parked _ hst howed =>
    rw [hst]
    rcases List.mem_append.mp (howed ▸ hy) with h | h
    · exact register_keeps_owed hi ha (List.mem_filter.mp h).1
    · rw [List.mem_singleton.mp h]; exact register_mem ..

theorem inv_run (ops : List Op) : ∀ W : World, Inv W → allAdmissible W ops = true → Inv (W.run ops) := by
  induction ops with
  | nil => intro W hi _; exact hi
  | cons o os ih =>
    intro W hi ha
    simp only [allAdmissible, Bool.and_eq_true] at ha
    exact ih _ (inv_step hi ha.1) ha.2

theorem terminate_discharges (W : World) (hi : Inv W) (e : Err) :
    let W' := W.setSt (W.st.terminate e)
    W'.owed = [] ∧ (∀ x ∈ W.owed, x.w ∈ newlyWoken W.st W'.st) ∧ (∀ t, W'.st.tabs t = []) ∧
      ∀ r k w, (W'.step (.poll r k w)).2 = .err e := by
  have hall : ∀ x ∈ W.owed, x.w ∈ newlyWoken W.st (W.st.terminate e) :=
    fun x hx => terminate_wakes (x := x.entry) (hi x hx)
  refine ⟨?_, hall, fun t => terminate_tabs W.st e t, ?_⟩
  · simp only [World.setSt]
    apply List.eq_nil_iff_forall_not_mem.mpr
    intro x hx
    rw [mem_discharge] at hx
    exact hx.2 (hall x hx.1)
  · intro r k w
    simp only [World.setSt, World.step, pollBlocked_of_error (terminate_error W.st e)]

theorem connectionLost_is_terminate : Gen.QuicWakers.onEvent .connectionLost = [.terminate] := by decide

end Compio.QuicWakers
