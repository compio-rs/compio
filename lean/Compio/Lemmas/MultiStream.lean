/- The multishot stream adapters of Model/MultiStream.lean: `SubmitMulti` through the list `SM.remaining`, which
polls and arrivals conserve; `SubmitMultiStream` through closed forms (`liveStep`, `idleStep`) of one `poll_next`;
`Incoming` through the descriptor ledger `Inc.acc`. -/
import Compio.Model.MultiStream

namespace Compio.MultiStream

/-- completions the stream still owes its consumer: queued, final, and not yet posted -/
def SM.remaining (s : SM) : List Cqe :=
  match s.st with
  | .finished => []
  | _ => s.queue ++ (match s.term with | some c => [c] | none => cut s.future)

theorem cut_cons_more (c : Cqe) (r : List Cqe) (h : c.more = true) : cut (c :: r) = c :: cut r := by
  simp [cut, h]

theorem cut_cons_term (c : Cqe) (r : List Cqe) (h : c.more = false) : cut (c :: r) = [c] := by
  simp [cut, h]

theorem remaining_arrive (s : SM) : s.arrive.remaining = s.remaining := by
  unfold SM.arrive
  split
  · next c rest hst hterm hfut =>
    cases hm : c.more
    · simp [SM.remaining, hst, hterm, hfut, cut_cons_term c rest hm]
    · simp [SM.remaining, hst, hterm, hfut, cut_cons_more c rest hm]
  · rfl

theorem poll_eq (s : SM) (h : s.st ≠ .finished) : s.poll = SM.pollSubmitted { s with st := .submitted } := by
  unfold SM.poll
  cases s with | mk st q t f => cases st <;> simp_all

theorem remaining_submitted (s : SM) (h : s.st ≠ .finished) :
    ({ s with st := .submitted } : SM).remaining = s.remaining := by
  cases hs : s.st <;> simp_all [SM.remaining]

theorem pollSubmitted_spec (s : SM) (hst : s.st ≠ .finished) :
    (∃ c s', s.pollSubmitted = (.ready (some c), s') ∧ s.remaining = c :: s'.remaining) ∨
    (s.pollSubmitted = (.pending, s) ∧ s.queue = [] ∧ s.term = none) := by
  unfold SM.pollSubmitted
  cases hq : s.queue with
  | cons c q =>
    refine .inl ⟨c, { s with queue := q }, rfl, ?_⟩
    cases hs : s.st <;> simp_all [SM.remaining]
  | nil =>
    cases ht : s.term with
    | some c =>
      refine .inl ⟨c, { s with st := .finished, term := none }, by simp [hq], ?_⟩
      cases hs : s.st <;> simp_all [SM.remaining]
    | none => exact .inr ⟨rfl, rfl, rfl⟩

theorem poll_spec (s : SM) :
    (∃ c s', s.poll = (.ready (some c), s') ∧ s.remaining = c :: s'.remaining) ∨
    (∃ s', s.poll = (.pending, s') ∧ s'.remaining = s.remaining ∧ s'.st ≠ .finished) ∨
    (s.poll = (.ready none, s) ∧ s.remaining = [] ∧ s.st = .finished) := by
  by_cases hf : s.st = .finished
  · exact .inr (.inr ⟨by simp [SM.poll, hf], by simp [SM.remaining, hf], hf⟩)
  · rw [poll_eq s hf, ← remaining_submitted s hf]
    rcases pollSubmitted_spec { s with st := .submitted } (by simp) with h | ⟨e, _⟩
    · exact .inl h
    · exact .inr (.inl ⟨_, e, rfl, by simp⟩)

def somes : List (Option Cqe) → List Cqe
  | [] => []
  | some c :: r => c :: somes r
  | none :: r => somes r

theorem run_spec (s : SM) (evs : List Ev) :
    somes (s.run evs).1 ++ (s.run evs).2.remaining = s.remaining ∧
      (none ∈ (s.run evs).1 → (s.run evs).2.remaining = []) := by
  induction evs generalizing s with
  | nil => simp [SM.run, somes]
  | cons e evs ih =>
    cases e with
    | arrive => simpa only [SM.run, remaining_arrive] using ih s.arrive
    | poll =>
      simp only [SM.run]
      rcases poll_spec s with ⟨c, s', e, r⟩ | ⟨s', e, r, _⟩ | ⟨e, r, _⟩
      · rw [e, r]; simpa [somes] using ih s'
      · rw [e, ← r]; exact ih s'
      · -- finished: nothing is owed now, so nothing is owed later
        have h := (ih s).1
        rw [r] at h ⊢
        rw [e]
        exact ⟨h, fun _ => (List.append_eq_nil_iff.mp h).2⟩

theorem run_conserves (s : SM) (evs : List Ev) :
    somes (s.run evs).1 ++ (s.run evs).2.remaining = s.remaining :=
  (run_spec s evs).1

theorem run_none_only_when_done (s : SM) (evs : List Ev) (h : none ∈ (s.run evs).1) :
    somes (s.run evs).1 = s.remaining := by
  have := (run_spec s evs).1
  rwa [(run_spec s evs).2 h, List.append_nil] at this

/-- how the driver files completions: `F_MORE` ones in the queue, the one without as final result -/
def SM.WF (s : SM) : Prop :=
  (∀ c ∈ s.queue, c.more = true) ∧ (∀ c, s.term = some c → c.more = false)

def Stream.liveStep (s : Stream) : List Cqe → Tok × Stream
  | [] => (.pending, s)
  | c :: rest => (tokOf s.fl c, { s with op := some ⟨if c.more then some rest else none⟩ })

theorem nextF_live (f : Nat) (s : Stream) (l : List Cqe) (h : s.op = some ⟨some l⟩) :
    Stream.nextF (f + 1) s = s.liveStep l := by
  unfold Stream.nextF
  rw [h]
  cases l with
  | nil => cases s; simp_all [Managed.next, Stream.liveStep]
  | cons c rest =>
    obtain ⟨res, more, buf⟩ := c
    cases more <;> cases buf <;> cases res <;>
      simp [Managed.next, Stream.liveStep, tokOf, itemOrEnd] <;> split <;> rfl

theorem tokOf_ne_fuel (fl : Fl) (c : Cqe) : tokOf fl c ≠ .fuel := by
  unfold tokOf itemOrEnd
  repeat' split
  all_goals simp

theorem liveStep_ne_fuel (s : Stream) (l : List Cqe) : (s.liveStep l).1 ≠ .fuel := by
  cases l with
  | nil => simp [Stream.liveStep]
  | cons c rest => exact tokOf_ne_fuel s.fl c

/-- nothing in flight: no op, or the previous op was taken after its terminal completion -/
def Stream.Idle (s : Stream) : Prop := s.op = none ∨ s.op = some ⟨none⟩

/-- `poll_next` with no op stored; a new submission is polled in the same call -/
def Stream.idleStep (s : Stream) : Tok × Stream :=
  if s.cancelled then (.end_, s)
  else
    match s.subs with
    | [] => (.pending, { s with op := some ⟨some []⟩, nsub := s.nsub + 1 })
    | .fail k :: rest => (.err (.factory k), { s with subs := rest })
    | .op sc :: rest => ({ s with op := some ⟨some sc⟩, subs := rest, nsub := s.nsub + 1 } : Stream).liveStep sc

theorem nextF_none (f : Nat) (s : Stream) (h : s.op = none) :
    Stream.nextF (f + 2) s = s.idleStep := by
  unfold Stream.nextF Stream.idleStep
  rw [h]
  by_cases hc : s.cancelled = true
  · simp [hc]
  · simp only [hc]
    cases hs : s.subs with
    | nil => simp only; rw [nextF_live f _ [] rfl]; rfl
    | cons x rest =>
      cases x with
      | fail k => simp
      | op sc => simp only; rw [nextF_live f _ sc rfl]

theorem nextF_taken (f : Nat) (s : Stream) (h : s.op = some ⟨none⟩) :
    Stream.nextF (f + 3) s = ({ s with op := none } : Stream).idleStep := by
  conv => lhs; unfold Stream.nextF
  rw [h]
  simp only [Managed.next]
  exact nextF_none f _ rfl

theorem next_idle (s : Stream) (h : s.Idle) : s.next = ({ s with op := none } : Stream).idleStep := by
  rcases h with h | h
  · have e : ({ s with op := none } : Stream) = s := by cases s; simp_all
    rw [e]; exact nextF_none 1 s h
  · exact nextF_taken 0 s h

theorem next_resubmit (s : Stream) (c : Cqe) (r : List Cqe) (rest : List Sub) (h : s.Idle)
    (hc : s.cancelled = false) (hs : s.subs = .op (c :: r) :: rest) :
    s.next = (tokOf s.fl c,
      { s with op := some ⟨if c.more then some r else none⟩, subs := rest, nsub := s.nsub + 1 }) := by
  rw [next_idle s h]
  simp [Stream.idleStep, Stream.liveStep, hc, hs]

theorem next_cancelled (s : Stream) (h : s.Idle) (hc : s.cancelled = true) :
    s.next = (.end_, { s with op := none }) := by
  rw [next_idle s h]
  simp [Stream.idleStep, hc]

theorem next_of_live (s : Stream) (l : List Cqe) (h : s.op = some ⟨some l⟩) : s.next = s.liveStep l :=
  nextF_live 2 s l h

theorem next_live (s : Stream) (c : Cqe) (rest : List Cqe) (h : s.op = some ⟨some (c :: rest)⟩) :
    s.next = (tokOf s.fl c, { s with op := some ⟨if c.more then some rest else none⟩ }) :=
  next_of_live s _ h

theorem take_append (a b : Nat) (s : Stream) :
    Stream.take (a + b) s =
      ((Stream.take a s).1 ++ (Stream.take b (Stream.take a s).2).1, (Stream.take b (Stream.take a s).2).2) := by
  induction a generalizing s with
  | zero => simp [Stream.take]
  | succ n ih =>
    have : n + 1 + b = (n + b) + 1 := by omega
    rw [this]
    simp only [Stream.take]
    rw [ih]
    simp

/-- a submission's script as the kernel posts it: `more … more terminal` -/
def complete : List Cqe → Bool
  | [] => false
  | [c] => !c.more
  | c :: r => c.more && complete r

theorem take_live (s : Stream) (script : List Cqe) (hc : complete script = true)
    (h : s.op = some ⟨some script⟩) :
    Stream.take script.length s = (script.map (tokOf s.fl), { s with op := some ⟨none⟩ }) := by
  induction script generalizing s with
  | nil => simp [complete] at hc
  | cons c r ih =>
    cases r with
    | nil =>
      have hm : c.more = false := by simpa [complete] using hc
      simp [Stream.take, next_live s c [] h, hm]
    | cons c' r' =>
      have ⟨hm, hr⟩ : c.more = true ∧ complete (c' :: r') = true := by simpa [complete] using hc
      show Stream.take ((c' :: r').length + 1) s = _
      simp only [Stream.take, next_live s c (c' :: r') h, hm, if_true]
      rw [ih { s with op := some ⟨some (c' :: r')⟩ } hr rfl]
      rfl

def allComplete : List Sub → Bool
  | [] => true
  | .op script :: rest => complete script && allComplete rest
  | .fail _ :: _ => false

def scriptsOf : List Sub → List Cqe
  | [] => []
  | .op script :: rest => script ++ scriptsOf rest
  | .fail _ :: rest => scriptsOf rest

theorem idle_after (s : Stream) : ({ s with op := some ⟨none⟩ } : Stream).Idle := Or.inr rfl

theorem take_all (s : Stream) (subs : List Sub) (hi : s.Idle) (hcn : s.cancelled = false)
    (hsub : s.subs = subs) (hs : allComplete subs = true) :
    (Stream.take (scriptsOf subs).length s).1 = (scriptsOf subs).map (tokOf s.fl) ∧
    (Stream.take (scriptsOf subs).length s).2.nsub = s.nsub + subs.length ∧
    (Stream.take (scriptsOf subs).length s).2.subs = [] ∧
    (Stream.take (scriptsOf subs).length s).2.fl = s.fl := by
  induction subs generalizing s with
  | nil => simp [scriptsOf, Stream.take, hsub]
  | cons x rest ih =>
    -- (a failing factory or an empty script is not complete)
    match x, hs with
    | .op (c :: r), hs =>
      have hs : complete (c :: r) = true ∧ allComplete rest = true := by simpa [allComplete] using hs
      let s' : Stream := { s with op := some ⟨some (c :: r)⟩, subs := rest, nsub := s.nsub + 1 }
      -- the first `next` submits and consumes `c`: the same as consuming `c` with that submission live
      have e1 : s.next = s'.next := by
        rw [next_resubmit s c r rest hi hcn hsub, next_live s' c r rfl]
      have e2 : Stream.take (r.length + 1) s = ((c :: r).map (tokOf s.fl), { s' with op := some ⟨none⟩ }) :=
        (show Stream.take (r.length + 1) s = Stream.take (r.length + 1) s' by simp [Stream.take, e1]).trans
          (take_live s' (c :: r) hs.1 rfl)
      obtain ⟨t1, t2, t3, t4⟩ := ih { s' with op := some ⟨none⟩ } (idle_after s') hcn rfl hs.2
      have hlen : (scriptsOf (.op (c :: r) :: rest)).length = (r.length + 1) + (scriptsOf rest).length := by
        simp [scriptsOf]; omega
      rw [hlen, take_append, e2]
      exact ⟨by simp [t1, scriptsOf, s'], by simp [t2, s']; omega, t3, by simp [t4, s']⟩

def atokOf (c : ACqe) : ATok :=
  match c.res with
  | .fd id => .conn id
  | .err e => .err e

def fdOf (c : ACqe) : List Nat :=
  match c.res with
  | .fd id => [id]
  | .err _ => []

/-- the accept op once `c` was handed out: live on `rest` under `F_MORE`, else taken after a descriptor and
`.finished` after an error -/
def afterOp (c : ACqe) (rest : List ACqe) : AOp :=
  if c.more then .live rest
  else match c.res with
    | .fd _ => .none
    | .err _ => .finished

/-- one `poll_next` with an accept op live on the completions given -/
def Inc.liveStep (s : Inc) : List ACqe → ATok × Inc
  | [] => (.pending, s)
  | c :: rest => (atokOf c, { s with op := afterOp c rest, yielded := s.yielded ++ fdOf c })

/-- submitting the next accept op; once the scripts are used up (`headD []`) the new op never completes -/
def Inc.submit (s : Inc) : Inc :=
  { s with op := .live (s.subs.headD []), subs := s.subs.tail, nsub := s.nsub + 1 }

theorem inc_nextF_live (f : Nat) (s : Inc) (l : List ACqe) (h : s.op = .live l) :
    Inc.nextF (f + 1) s = s.liveStep l := by
  unfold Inc.nextF
  rw [h]
  cases l with
  | nil => rfl
  | cons c rest =>
    obtain ⟨res, more⟩ := c
    cases more <;> cases res <;> simp [Inc.liveStep, atokOf, fdOf, afterOp]

theorem inc_nextF_none (f : Nat) (s : Inc) (h : s.op = .none) :
    Inc.nextF (f + 2) s = s.submit.liveStep (s.subs.headD []) := by
  unfold Inc.nextF
  rw [h]
  cases hs : s.subs <;> simp only [Inc.submit, hs, List.headD, List.tail] <;> exact inc_nextF_live f _ _ rfl

/-- a finished op is dropped before the next accept is submitted, hence `op := .none` in the second arm -/
theorem inc_next_eq (s : Inc) :
    s.next = match s.op with
      | .live l => s.liveStep l
      | _ => ({ s with op := .none } : Inc).submit.liveStep (s.subs.headD []) := by
  cases h : s.op with
  | live l => exact inc_nextF_live 2 s l h
  | none => exact (inc_nextF_none 1 s h).trans (by cases s; simp_all)
  | finished =>
    show Inc.nextF 3 s = _
    conv => lhs; unfold Inc.nextF
    rw [h]
    exact inc_nextF_none 0 _ rfl

/-- descriptors the current accept op holds or will still receive -/
def Inc.owed (s : Inc) : List Nat :=
  match s.op with
  | .live rest => fdsOf (acut rest)
  | _ => []

/-- descriptors of the submissions not made yet (those connections stay in the listen backlog) -/
def backlog : List (List ACqe) → List Nat
  | [] => []
  | sc :: rest => fdsOf (acut sc) ++ backlog rest

/-- every descriptor the scripts will ever hand to compio, in kernel order -/
def Inc.acc (s : Inc) : List Nat := s.yielded ++ s.owed ++ backlog s.subs

def conns : List ATok → List Nat
  | [] => []
  | .conn id :: r => id :: conns r
  | _ :: r => conns r

theorem fdsOf_acut_cons (c : ACqe) (rest : List ACqe) :
    fdsOf (acut (c :: rest)) = fdOf c ++ (if c.more then fdsOf (acut rest) else []) := by
  obtain ⟨res, more⟩ := c
  cases more <;> cases res <;> simp [acut, fdsOf, fdOf]

theorem owed_afterOp (s : Inc) (c : ACqe) (rest : List ACqe) :
    ({ s with op := afterOp c rest } : Inc).owed = (if c.more then fdsOf (acut rest) else []) := by
  obtain ⟨res, more⟩ := c
  cases more <;> cases res <;> simp [afterOp, Inc.owed]

/-- handing out a completion moves its descriptor from `owed` to `yielded` -/
theorem liveStep_ledger (s : Inc) (l : List ACqe) (h : s.op = .live l) :
    (s.liveStep l).2.acc = s.acc ∧ (s.liveStep l).2.closed = s.closed ∧
      (s.liveStep l).2.yielded = s.yielded ++ conns [(s.liveStep l).1] := by
  cases l with
  | nil => simp [Inc.liveStep, conns]
  | cons c rest =>
    refine ⟨?_, rfl, ?_⟩
    · have := owed_afterOp { s with yielded := s.yielded ++ fdOf c } c rest
      simp only [Inc.acc, Inc.liveStep]
      rw [this]
      simp [Inc.owed, h, fdsOf_acut_cons]
    · cases hr : c.res <;> simp [Inc.liveStep, atokOf, fdOf, conns, hr]

theorem inc_next_ledger (s : Inc) :
    s.next.2.acc = s.acc ∧ s.next.2.closed = s.closed ∧ s.next.2.yielded = s.yielded ++ conns [s.next.1] := by
  rw [inc_next_eq]
  split
  · next l h => exact liveStep_ledger s l h
  · next hn =>
    -- submitting moves the head script from the backlog to `owed`
    -- (`s.owed = []`: the op is not live, `hn`)
    have ha : ({ s with op := .none } : Inc).submit.acc = s.acc := by
      cases hs : s.subs <;> simp [Inc.acc, Inc.submit, Inc.owed, backlog, hs, acut, fdsOf]
    have := liveStep_ledger ({ s with op := .none } : Inc).submit _ rfl
    exact ⟨this.1.trans ha, this.2⟩

theorem conns_cons (t : ATok) (r : List ATok) : conns (t :: r) = conns [t] ++ conns r := by
  cases t <;> simp [conns]

theorem inc_take_ledger (n : Nat) (s : Inc) :
    (Inc.take n s).2.acc = s.acc ∧ (Inc.take n s).2.closed = s.closed ∧
      (Inc.take n s).2.yielded = s.yielded ++ conns (Inc.take n s).1 := by
  induction n generalizing s with
  | zero => simp [Inc.take, conns]
  | succ n ih =>
    obtain ⟨a, b, c⟩ := ih s.next.2
    obtain ⟨a', b', c'⟩ := inc_next_ledger s
    refine ⟨a.trans a', b.trans b', ?_⟩
    simp only [Inc.take]
    rw [c, c', conns_cons s.next.1 (Inc.take n s.next.2).1, List.append_assoc]

end Compio.MultiStream
