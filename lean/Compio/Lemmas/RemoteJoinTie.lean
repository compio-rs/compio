/-
Which handle program the cross-thread LTS runs is decided by the SOURCE: `pollRechecks` is computed from the
shape of `Remote::poll` as extracted into Gen/TaskOrder.lean on every run (does each
`finish_setting_waker::<true>()` call site re-examine the snapshot it returns and go round the loop again?).
`Reachable pollRechecks` = the interleavings of the code as it is; the theorems of Lemmas/RemoteJoin.lean are
transported to it through `pollRechecks_eq`, which stops holding as soon as one site loses its re-check.
-/
import Compio.Lemmas.RemoteJoin
import Compio.Gen.TaskOrder

namespace Compio.RemoteJoin
open Compio.Gen

/-- every `finish_setting_waker::<true>()` site of the extracted `Remote::poll` re-checks, and these are
exactly the two sites of the LTS (waker already up to date / new waker installed) -/
def pollRechecks : Bool :=
  ((TaskOrder.remotePollFinishSites.filter (fun s => s.1 == "::<true>")).map (fun s => s.2.2)) == [true, true]

/-- the current source re-checks at both sites (false for the code before e466077 and for seeded defect C04-2b) -/
theorem pollRechecks_eq : pollRechecks = true := by decide

theorem reachable_extracted {s : RState} (h : Reachable pollRechecks s) : Reachable true s :=
  pollRechecks_eq ▸ h

theorem reachable_extracted_iff (s : RState) : Reachable pollRechecks s ↔ Reachable true s := by
  rw [pollRechecks_eq]

end Compio.RemoteJoin
