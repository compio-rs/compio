/-
C02: the completion-slot bookkeeping (`Keys`) and its invariant `KInv`, stated over "who still owes a result"
(`queued`, `pool`, the `completed` channel) so that both driver models share the lemmas.  `KInv` speaks of each
operation separately and every primitive changes one operation: it is read through `Keys.view`, each primitive has one
equation for the view, and preservation is `KInv.update`.  Second half: the io_uring model (`Ring`); its invariant
`RInv` is `KInv` with the final CQEs in the completion queue counted as part of the channel, and the kernel-side steps
are proved for `Reserved X` (`RInv` with the operations `X` counted as owed before they are staged).
-/
import Compio.Model.Completion

namespace Compio.Completion

/-- results waiting in the `completed` channel (resp. completion queue) for `id`, oldest first -/
def chanRes (chan : List (Id × Res)) (id : Id) : List Res := (chan.filter (fun e => e.1 = id)).map (·.2)

@[simp] theorem chanRes_nil (id : Id) : chanRes [] id = [] := rfl

theorem chanRes_cons (e : Id × Res) (chan : List (Id × Res)) (id : Id) :
    chanRes (e :: chan) id = if e.1 = id then e.2 :: chanRes chan id else chanRes chan id := by
  unfold chanRes
  by_cases h : e.1 = id <;> simp [h]

theorem chanRes_append (a b : List (Id × Res)) (id : Id) :
    chanRes (a ++ b) id = chanRes a id ++ chanRes b id := by
  unfold chanRes
  simp [List.filter_append]

theorem chanRes_ne_nil_of_mem {chan : List (Id × Res)} {id : Id} {r : Res} (h : (id, r) ∈ chan) :
    chanRes chan id ≠ [] :=
  List.ne_nil_of_mem (List.mem_map.2 ⟨(id, r), List.mem_filter.2 ⟨h, by simp⟩, rfl⟩)

/-- the wakers `set_result` woke (consuming `wake()`) for operation `id`, in order -/
def finalWakers (ks : Keys) (id : Id) : List WakerId :=
  ks.wakeLog.filterMap fun r => if r.op = id ∧ r.final = true then some r.waker else none

/-- the relation between the slot of `id` and the ghost histories -/
def SlotRel (ks : Keys) (queued : Id → Prop) (pool : List Id) (id : Id) : Prop :=
  match ks.slot id with
  | .free => (ks.src id = [] ∧ ¬ queued id ∧ id ∉ pool ∧ ks.dlv id = [] ∧ ks.fin id = [])
             ∨ (ks.fin id ≠ [] ∧ ks.dlv id = ks.fin id)
  | .pending _ => ks.fin id = [] ∧ ks.dlv id = []
  | .ready r => ks.fin id = [r] ∧ ks.dlv id = []

/-- `queued id`: the driver still holds `id` in a readiness queue / the kernel
    still owns it; `pool`: blocking jobs running; `chan`: finished results not yet notified. -/
structure KInv (ks : Keys) (chan : List (Id × Res)) (queued : Id → Prop) (pool : List Id) : Prop where
  srcLen : ∀ id, (ks.src id).length ≤ 1
  qFresh : ∀ id, queued id → ks.src id = [] ∧ id ∉ pool
  poolFresh : ∀ id, id ∈ pool → ks.src id = []
  poolNodup : pool.Nodup
  link : ∀ id, ks.fin id ++ chanRes chan id = ks.src id
  slotRel : ∀ id, SlotRel ks queued pool id
  noUaf : ks.uaf = false
  wokenLe : ∀ id, ks.woken id ≤ (ks.fin id).length
  wakeReady : ∀ w ∈ ks.wakeLog, w.final = true → w.readyAtWake = true
  /-- a pending slot holds a waker iff `update_waker` was called for it -/
  wakerReg : ∀ id w, ks.slot id = .pending w → w.isSome = ks.hadWaker id
  /-- a completed operation's waker was woken exactly once if one was registered, never otherwise -/
  wokenEq : ∀ id, ks.fin id ≠ [] → ks.woken id = (if ks.hadWaker id then 1 else 0)
  freshNoWaker : ∀ id, ks.slot id = .free → ks.src id = [] → ks.hadWaker id = false
  /-- the waker held by a pending slot is the one of the latest `update_waker` -/
  lastReg : ∀ id w, ks.slot id = .pending w → w = ks.lastWaker id
  /-- `set_result` woke exactly the latest registered waker, once — and nobody before completion -/
  wakersEq : ∀ id, finalWakers ks id = if (ks.fin id).isEmpty then [] else (ks.lastWaker id).toList
  freshNoLast : ∀ id, ks.slot id = .free → ks.src id = [] → ks.lastWaker id = none

/-- what `KInv` reads of one operation -/
structure OpView where
  slot : Slot
  src : List Res
  fin : List Res
  dlv : List Res
  woken : Nat
  had : Bool
  last : Option WakerId
  woke : List WakerId

def Keys.view (ks : Keys) (id : Id) : OpView :=
  ⟨ks.slot id, ks.src id, ks.fin id, ks.dlv id, ks.woken id, ks.hadWaker id, ks.lastWaker id, finalWakers ks id⟩

/-- the clauses of `KInv` about one operation, under their names there (`slotRel`: `SlotRel` read on the view);
    `waiting`: its results not yet notified -/
structure OpView.Ok (v : OpView) (waiting : List Res) (queued inPool : Prop) : Prop where
  srcLen : v.src.length ≤ 1
  qFresh : queued → v.src = [] ∧ ¬ inPool
  poolFresh : inPool → v.src = []
  link : v.fin ++ waiting = v.src
  slotRel : match v.slot with
    | .free => (v.src = [] ∧ ¬ queued ∧ ¬ inPool ∧ v.dlv = [] ∧ v.fin = []) ∨ (v.fin ≠ [] ∧ v.dlv = v.fin)
    | .pending _ => v.fin = [] ∧ v.dlv = []
    | .ready r => v.fin = [r] ∧ v.dlv = []
  wokenLe : v.woken ≤ v.fin.length
  wakerReg : ∀ w, v.slot = .pending w → w.isSome = v.had
  wokenEq : v.fin ≠ [] → v.woken = if v.had then 1 else 0
  freshNoWaker : v.slot = .free → v.src = [] → v.had = false
  lastReg : ∀ w, v.slot = .pending w → w = v.last
  wakersEq : v.woke = if v.fin.isEmpty then [] else v.last.toList
  freshNoLast : v.slot = .free → v.src = [] → v.last = none

section
variable {ks ks' : Keys} {chan chan' : List (Id × Res)} {queued queued' : Id → Prop} {pool pool' : List Id}

theorem kinv_iff :
    KInv ks chan queued pool ↔
      (∀ id, (ks.view id).Ok (chanRes chan id) (queued id) (id ∈ pool)) ∧ pool.Nodup ∧ ks.uaf = false ∧
        ∀ w ∈ ks.wakeLog, w.final = true → w.readyAtWake = true :=
  ⟨fun h => ⟨fun id => ⟨h.srcLen id, h.qFresh id, h.poolFresh id, h.link id, h.slotRel id, h.wokenLe id,
      h.wakerReg id, h.wokenEq id, h.freshNoWaker id, h.lastReg id, h.wakersEq id, h.freshNoLast id⟩,
      h.poolNodup, h.noUaf, h.wakeReady⟩,
   fun ⟨h, poolNodup, noUaf, wakeReady⟩ =>
    { poolNodup, noUaf, wakeReady
      srcLen := fun id => (h id).srcLen
      qFresh := fun id => (h id).qFresh
      poolFresh := fun id => (h id).poolFresh
      link := fun id => (h id).link
      slotRel := fun id => (h id).slotRel
      wokenLe := fun id => (h id).wokenLe
      wakerReg := fun id => (h id).wakerReg
      wokenEq := fun id => (h id).wokenEq
      freshNoWaker := fun id => (h id).freshNoWaker
      lastReg := fun id => (h id).lastReg
      wakersEq := fun id => (h id).wakersEq
      freshNoLast := fun id => (h id).freshNoLast }⟩

theorem KInv.view (h : KInv ks chan queued pool) (id : Id) :
    (ks.view id).Ok (chanRes chan id) (queued id) (id ∈ pool) := (kinv_iff.1 h).1 id

theorem OpView.Ok.mono {v : OpView} {l : List Res} {q q' p p' : Prop} (h : v.Ok l q p) (hq : q' → q) (hp : p' → p) :
    v.Ok l q' p' :=
  { h with
    qFresh := fun x => ⟨(h.qFresh (hq x)).1, fun y => (h.qFresh (hq x)).2 (hp y)⟩
    poolFresh := fun y => h.poolFresh (hp y)
    slotRel := by
      have e := h.slotRel
      revert e
      cases v.slot with
      | free => exact Or.imp_left fun ⟨e1, e2, e3, e4⟩ => ⟨e1, fun x => e2 (hq x), fun y => e3 (hp y), e4⟩
      | _ => exact fun e => e }

theorem OpView.Ok.of_pending {v : OpView} {l : List Res} {q p : Prop} (h : v.Ok l q p) {w : Option WakerId}
    (hs : v.slot = .pending w) : v.fin = [] ∧ v.dlv = [] := by
  have := h.slotRel
  simpa only [hs] using this

theorem OpView.Ok.of_ready {v : OpView} {l : List Res} {q p : Prop} (h : v.Ok l q p) {r : Res}
    (hs : v.slot = .ready r) : v.fin = [r] ∧ v.dlv = [] := by
  have := h.slotRel
  simpa only [hs] using this

theorem KInv.update (h : KInv ks chan queued pool) {id : Id} {v : OpView}
    (hview : ∀ x, ks'.view x = if x = id then v else ks.view x)
    (hother : ∀ x, x ≠ id → chanRes chan' x = chanRes chan x ∧ (queued' x → queued x) ∧ (x ∈ pool' → x ∈ pool))
    (hid : v.Ok (chanRes chan' id) (queued' id) (id ∈ pool'))
    (hnd : pool'.Nodup) (huaf : ks'.uaf = false)
    (hlog : ∀ w ∈ ks'.wakeLog, w.final = true → w.readyAtWake = true) : KInv ks' chan' queued' pool' := by
  refine kinv_iff.2 ⟨fun x => ?_, hnd, huaf, hlog⟩
  rw [hview]
  by_cases hx : x = id
  · rw [if_pos hx, hx]; exact hid
  · obtain ⟨a, b, c⟩ := hother x hx
    rw [if_neg hx, a]; exact (h.view x).mono b c

theorem KInv.updateKeys (h : KInv ks chan queued pool) {id : Id} {v : OpView}
    (hview : ∀ x, ks'.view x = if x = id then v else ks.view x)
    (hid : v.Ok (chanRes chan id) (queued id) (id ∈ pool)) (huaf : ks'.uaf = false)
    (hlog : ∀ w ∈ ks'.wakeLog, w.final = true → w.readyAtWake = true) : KInv ks' chan queued pool :=
  h.update hview (fun _ _ => ⟨rfl, fun a => a, fun a => a⟩) hid h.poolNodup huaf hlog

theorem KInv.env (h : KInv ks chan queued pool)
    (hok : ∀ id, (ks.view id).Ok (chanRes chan id) (queued id) (id ∈ pool) →
      (ks.view id).Ok (chanRes chan' id) (queued' id) (id ∈ pool'))
    (hnd : pool'.Nodup) : KInv ks chan' queued' pool' :=
  kinv_iff.2 ⟨fun id => hok id (h.view id), hnd, h.noUaf, h.wakeReady⟩

end

theorem KInv.init {queued : Id → Prop} (hq : ∀ id, ¬ queued id) : KInv {} [] queued [] :=
  kinv_iff.2 ⟨fun id => by constructor <;> simp [Keys.view, finalWakers, hq], List.nodup_nil, rfl, by simp⟩

@[simp] theorem alloc_slot (ks : Keys) (id x : Id) :
    (ks.alloc id).slot x = if x = id then .pending none else ks.slot x := by simp [Keys.alloc, upd]
@[simp] theorem alloc_src (ks : Keys) (id : Id) : (ks.alloc id).src = ks.src := rfl
@[simp] theorem alloc_fin (ks : Keys) (id : Id) : (ks.alloc id).fin = ks.fin := rfl
@[simp] theorem alloc_dlv (ks : Keys) (id : Id) : (ks.alloc id).dlv = ks.dlv := rfl
@[simp] theorem alloc_uaf (ks : Keys) (id : Id) : (ks.alloc id).uaf = ks.uaf := rfl
@[simp] theorem alloc_hadWaker (ks : Keys) (id : Id) : (ks.alloc id).hadWaker = ks.hadWaker := rfl
@[simp] theorem alloc_woken (ks : Keys) (id : Id) : (ks.alloc id).woken = ks.woken := rfl
@[simp] theorem alloc_wakeLog (ks : Keys) (id : Id) : (ks.alloc id).wakeLog = ks.wakeLog := rfl

@[simp] theorem produce_slot (ks : Keys) (id : Id) (r : Res) : (ks.produce id r).slot = ks.slot := rfl
@[simp] theorem produce_src (ks : Keys) (id : Id) (r : Res) (x : Id) :
    (ks.produce id r).src x = if x = id then ks.src id ++ [r] else ks.src x := by simp [Keys.produce, upd]
@[simp] theorem produce_fin (ks : Keys) (id : Id) (r : Res) : (ks.produce id r).fin = ks.fin := rfl
@[simp] theorem produce_dlv (ks : Keys) (id : Id) (r : Res) : (ks.produce id r).dlv = ks.dlv := rfl
@[simp] theorem produce_uaf (ks : Keys) (id : Id) (r : Res) : (ks.produce id r).uaf = ks.uaf := rfl
@[simp] theorem produce_hadWaker (ks : Keys) (id : Id) (r : Res) : (ks.produce id r).hadWaker = ks.hadWaker := rfl
@[simp] theorem produce_woken (ks : Keys) (id : Id) (r : Res) : (ks.produce id r).woken = ks.woken := rfl
@[simp] theorem produce_wakeLog (ks : Keys) (id : Id) (r : Res) : (ks.produce id r).wakeLog = ks.wakeLog := rfl

@[simp] theorem setWaker_src (ks : Keys) (id : Id) (w : WakerId) : (ks.setWaker id w).src = ks.src := rfl
@[simp] theorem setWaker_fin (ks : Keys) (id : Id) (w : WakerId) : (ks.setWaker id w).fin = ks.fin := rfl
@[simp] theorem setWaker_dlv (ks : Keys) (id : Id) (w : WakerId) : (ks.setWaker id w).dlv = ks.dlv := rfl
@[simp] theorem setWaker_uaf (ks : Keys) (id : Id) (w : WakerId) : (ks.setWaker id w).uaf = ks.uaf := rfl
@[simp] theorem setWaker_woken (ks : Keys) (id : Id) (w : WakerId) : (ks.setWaker id w).woken = ks.woken := rfl
@[simp] theorem setWaker_wakeLog (ks : Keys) (id : Id) (w : WakerId) : (ks.setWaker id w).wakeLog = ks.wakeLog := rfl
theorem setWaker_slot (ks : Keys) (id : Id) (w : WakerId) (x : Id) :
    (ks.setWaker id w).slot x = if x = id then (ks.slot id).setWaker w else ks.slot x := by
  simp [Keys.setWaker, upd]

section
variable {ks : Keys} {chan : List (Id × Res)} {queued : Id → Prop} {pool : List Id}

theorem append_of_length_le_one {α : Type} {a b s : List α} (h : a ++ b = s) (hl : s.length ≤ 1) :
    (a = [] ∧ b = s) ∨ (b = [] ∧ a = s) := by
  subst h
  cases a with
  | nil => simp
  | cons x a => cases b with
    | nil => simp
    | cons y b => simp at hl

theorem KInv.linkCases (h : KInv ks chan queued pool) (id : Id) :
    (ks.fin id = [] ∧ chanRes chan id = ks.src id) ∨ (chanRes chan id = [] ∧ ks.fin id = ks.src id) :=
  append_of_length_le_one (h.link id) (h.srcLen id)

theorem KInv.fin_of_src_nil (h : KInv ks chan queued pool) {id : Id} (hs : ks.src id = []) :
    ks.fin id = [] ∧ chanRes chan id = [] := by
  have h1 := h.link id
  rw [hs] at h1
  simpa using h1

theorem KInv.finLen (h : KInv ks chan queued pool) (id : Id) : (ks.fin id).length ≤ 1 := by
  have h1 := h.linkCases id
  have h2 := h.srcLen id
  grind

theorem KInv.pending_of_waiting (h : KInv ks chan queued pool) {id : Id} (hw : chanRes chan id ≠ []) :
    ∃ w, ks.slot id = .pending w := by
  have hr := h.slotRel id
  have hl := h.linkCases id
  unfold SlotRel at hr
  cases hs : ks.slot id <;> simp only [hs] at hr <;> grind

theorem KInv.pending_of_chan {id : Id} {r : Res} (h : KInv ks ((id, r) :: chan) queued pool) : ∃ w, ks.slot id = .pending w :=
  h.pending_of_waiting (by simp [chanRes_cons])

theorem KInv.own_result (h : KInv ks chan queued pool) {id : Id} {r : Res} (hs : ks.slot id = .ready r) :
    ks.src id = [r] ∧ ks.fin id = [r] := by
  have hr := h.slotRel id
  have hl := h.linkCases id
  simp only [SlotRel, hs] at hr
  grind

theorem KInv.exactly_once (h : KInv ks chan queued pool) (id : Id) :
    (ks.fin id).length ≤ 1 ∧ (ks.dlv id).length ≤ 1 ∧ (ks.dlv id = [] ∨ ks.dlv id = ks.fin id) ∧ ks.uaf = false := by
  have hf := h.finLen id
  have hr := h.slotRel id
  have hu := h.noUaf
  unfold SlotRel at hr
  cases hs : ks.slot id <;> simp only [hs] at hr <;> grind

theorem KInv.finished_is_delivered (h : KInv ks chan queued pool) {id : Id} {r : Res}
    (hq : chanRes chan id = []) (hdone : ks.src id = [r]) : ks.slot id = .ready r ∨ ks.dlv id = [r] := by
  have hr := h.slotRel id
  have hl := h.linkCases id
  unfold SlotRel at hr
  cases hs : ks.slot id <;> simp only [hs] at hr <;> grind

theorem KInv.woken_spec (h : KInv ks chan queued pool) (id : Id) :
    (ks.fin id = [] → ks.woken id = 0) ∧
    (ks.fin id ≠ [] → ks.woken id = if ks.hadWaker id then 1 else 0) ∧
    (∀ w, ks.slot id = .pending w → w.isSome = ks.hadWaker id) := by
  refine ⟨fun hf => ?_, h.wokenEq id, h.wakerReg id⟩
  have := h.wokenLe id
  rw [hf] at this
  simpa using this

theorem KInv.owed_spec (h : KInv ks chan queued pool) {id : Id} (ho : queued id ∨ id ∈ pool) :
    ks.src id = [] ∧ ks.fin id = [] ∧ ∃ w, ks.slot id = .pending w := by
  have hsrc : ks.src id = [] := ho.elim (fun ho => (h.qFresh id ho).1) (h.poolFresh id)
  refine ⟨hsrc, (h.fin_of_src_nil hsrc).1, ?_⟩
  have hr := h.slotRel id
  have hl := h.linkCases id
  unfold SlotRel at hr
  cases hs : ks.slot id <;> simp only [hs] at hr <;> grind

end

theorem notify_eq (ks : Keys) (id : Id) (r : Res) :
    ks.notify id r =
      { ks with
        slot := upd ks.slot id ((ks.slot id).store r).1
        fin := upd ks.fin id (ks.fin id ++ [r])
        uaf := ks.uaf || (ks.slot id == .free)
        woken := match ((ks.slot id).store r).2 with
          | none => ks.woken
          | some _ => upd ks.woken id (ks.woken id + 1)
        wakeLog := match ((ks.slot id).store r).2 with
          | none => ks.wakeLog
          | some w => ks.wakeLog ++ [⟨id, w, true, true⟩] } := by
  unfold Keys.notify Keys.storeResult
  cases hs : ks.slot id with
  | pending w => cases w <;> simp [Slot.store, Keys.wake, Slot.isReady]
  | _ => rfl

theorem notify_slot (ks : Keys) (id : Id) (r : Res) (x : Id) :
    (ks.notify id r).slot x = if x = id then ((ks.slot id).store r).1 else ks.slot x := by rw [notify_eq]; rfl

theorem notify_fin (ks : Keys) (id : Id) (r : Res) : (ks.notify id r).fin = upd ks.fin id (ks.fin id ++ [r]) := by
  rw [notify_eq]

theorem notify_src (ks : Keys) (id : Id) (r : Res) : (ks.notify id r).src = ks.src := by rw [notify_eq]

theorem notify_slot_of_not_ready (ks : Keys) (id : Id) (r : Res) (x : Id)
    (h : ∀ r', (ks.notify id r).slot x ≠ .ready r') : (ks.notify id r).slot x = ks.slot x := by
  rw [notify_slot] at h ⊢
  split
  · next hx => subst hx; cases hs : ks.slot x <;> simp [hs, Slot.store] at h ⊢
  · rfl

theorem notify_frame (ks : Keys) (id : Id) (r : Res) (x : Id) (hx : x ≠ id) :
    (ks.notify id r).view x = ks.view x := by
  rw [notify_eq]
  cases ((ks.slot id).store r).2 <;> simp [Keys.view, finalWakers, upd, hx, List.filterMap_append, Ne.symm hx]

theorem view_notify (ks : Keys) (id : Id) (r : Res) {w : Option WakerId} (hw : ks.slot id = .pending w) (x : Id) :
    (ks.notify id r).view x =
      if x = id then { ks.view id with slot := .ready r, fin := ks.fin id ++ [r],
                                       woken := ks.woken id + w.toList.length, woke := finalWakers ks id ++ w.toList }
      else ks.view x := by
  by_cases hx : x = id
  · subst hx
    rw [notify_eq]
    cases w <;> simp [Keys.view, hw, Slot.store, finalWakers, List.filterMap_append]
  · rw [notify_frame ks id r x hx, if_neg hx]

theorem view_alloc (ks : Keys) (id x : Id) :
    (ks.alloc id).view x = if x = id then { ks.view id with slot := .pending none } else ks.view x := by
  by_cases hx : x = id <;> simp [Keys.view, Keys.alloc, upd, hx, finalWakers]

theorem view_produce (ks : Keys) (id : Id) (r : Res) (x : Id) :
    (ks.produce id r).view x = if x = id then { ks.view id with src := ks.src id ++ [r] } else ks.view x := by
  by_cases hx : x = id <;> simp [Keys.view, Keys.produce, upd, hx, finalWakers]

theorem pop_ready (ks : Keys) (id : Id) (r : Res) (h : ks.slot id = .ready r) :
    ks.pop id = ({ ks with slot := upd ks.slot id .free, dlv := upd ks.dlv id (ks.dlv id ++ [r]) }, some r) := by
  simp [Keys.pop, h]

theorem pop_not_ready (ks : Keys) (id : Id) (h : ∀ r, ks.slot id ≠ .ready r) : ks.pop id = (ks, none) := by
  unfold Keys.pop
  split
  · next r hs => exact (h r hs).elim
  · rfl

theorem KInv.pop_own {ks : Keys} {chan : List (Id × Res)} {queued : Id → Prop} {pool : List Id}
    (h : KInv ks chan queued pool) {id : Id} {r : Res} (hp : (ks.pop id).2 = some r) :
    ks.src id = [r] ∧ ks.fin id = [r] := by
  cases hs : ks.slot id with
  | ready r' => rw [pop_ready _ _ _ hs] at hp; cases hp; exact h.own_result hs
  | _ => rw [pop_not_ready _ _ (by simp [hs])] at hp; cases hp

theorem pop_slot_of_ne_free (ks : Keys) (id x : Id) (h : (ks.pop id).1.slot x ≠ .free) :
    (ks.pop id).1.slot x = ks.slot x := by
  unfold Keys.pop at h ⊢
  split
  · next r hs => by_cases hx : x = id <;> simp_all [upd]
  · rfl

theorem view_pop (ks : Keys) (id : Id) {r : Res} (h : ks.slot id = .ready r) (x : Id) :
    (ks.pop id).1.view x = if x = id then { ks.view id with slot := .free, dlv := ks.dlv id ++ [r] } else ks.view x := by
  rw [pop_ready ks id r h]
  by_cases hx : x = id <;> simp [Keys.view, upd, hx, finalWakers]

theorem view_setWaker (ks : Keys) (id : Id) (w : WakerId) (x : Id) :
    (ks.setWaker id w).view x =
      match ks.slot id with
      | .pending _ => if x = id then { ks.view id with slot := .pending (some w), had := true, last := some w }
                      else ks.view x
      | _ => ks.view x := by
  unfold Keys.setWaker
  cases hs : ks.slot id <;> by_cases hx : x = id <;> simp [Keys.view, upd, hx, hs, Slot.setWaker, finalWakers]

theorem view_setWaker_pending {ks : Keys} {id : Id} {w : WakerId} {old : Option WakerId} (h : ks.slot id = .pending old) :
    (ks.setWaker id w).view id = { ks.view id with slot := .pending (some w), had := true, last := some w } := by
  have := view_setWaker ks id w id
  simpa only [h, if_true] using this

section
variable {ks : Keys} {chan : List (Id × Res)} {queued : Id → Prop} {pool : List Id}

theorem KInv.requeue {queued' : Id → Prop} (h : KInv ks chan queued pool)
    (hq : ∀ id, queued' id → queued id ∨ (ks.src id = [] ∧ id ∉ pool ∧ ∃ w, ks.slot id = .pending w)) :
    KInv ks chan queued' pool := by
  refine h.env (fun id hv => { hv with qFresh := fun x => ?_, slotRel := ?_ }) h.poolNodup
  · rcases hq id x with y | ⟨y1, y2, _⟩
    · exact hv.qFresh y
    · exact ⟨y1, y2⟩
  · have e := hv.slotRel
    revert e
    simp only [Keys.view]
    cases hs : ks.slot id with
    | free =>
      -- a free slot is not pending, so the operation was queued before
      exact Or.imp_left fun ⟨e1, e2, e3⟩ =>
        ⟨e1, fun x => e2 ((hq id x).resolve_right fun ⟨_, _, w, hw⟩ => by rw [hs] at hw; cases hw), e3⟩
    | _ => exact fun e => e

theorem KInv.dequeue {queued' : Id → Prop} (h : KInv ks chan queued pool) (hq : ∀ id, queued' id → queued id) :
    KInv ks chan queued' pool :=
  h.requeue fun id a => .inl (hq id a)

theorem KInv.alloc (h : KInv ks chan queued pool) {id : Id} (hfree : ks.slot id = .free) (hsrc : ks.src id = []) :
    KInv (ks.alloc id) chan queued pool := by
  have hv := h.view id
  have hf := (h.fin_of_src_nil hsrc).1
  -- free with nothing produced: nothing is finished or delivered
  have hd : ks.dlv id = [] := by
    have := hv.slotRel
    simp only [Keys.view, hfree] at this
    exact this.elim (·.2.2.2.1) fun e => (e.1 hf).elim
  exact h.updateKeys (view_alloc ks id) { hv with
    slotRel := ⟨hf, hd⟩
    wakerReg := fun _ e => by cases e; exact (hv.freshNoWaker hfree hsrc).symm
    freshNoWaker := fun e => nomatch e
    lastReg := fun _ e => by cases e; exact (hv.freshNoLast hfree hsrc).symm
    freshNoLast := fun e => nomatch e } h.noUaf h.wakeReady

theorem KInv.poolAdd (h : KInv ks chan queued pool) {id : Id} (hsrc : ks.src id = [])
    (hnq : ¬ queued id) (hnp : id ∉ pool) (hpend : ∃ w, ks.slot id = .pending w) :
    KInv ks chan queued (id :: pool) := by
  refine h.env (fun x hv => ?_) (List.nodup_cons.2 ⟨hnp, h.poolNodup⟩)
  obtain ⟨w, hw⟩ := hpend
  by_cases hx : x = id
  · subst hx
    exact { hv with
      qFresh := fun q => (hnq q).elim
      poolFresh := fun _ => hsrc
      slotRel := by simp only [Keys.view, hw]; exact hv.of_pending hw }
  · simp only [List.mem_cons, hx, false_or]; exact hv

/-- a result for `id` is produced and starts waiting somewhere in the channel (at its end: thread-pool job done,
    ECANCELED entry; at its head: a direct completion) -/
theorem KInv.produce {a b : List (Id × Res)} (h : KInv ks (a ++ b) queued pool) {id : Id} (r : Res)
    (hsrc : ks.src id = []) {queued' : Id → Prop} {pool' : List Id}
    (hq : ∀ x, queued' x → queued x ∧ x ≠ id) (hp : ∀ x, x ∈ pool' → x ∈ pool ∧ x ≠ id)
    (hpn : pool'.Nodup) (hpend : ∃ w, ks.slot id = .pending w) :
    KInv (ks.produce id r) (a ++ (id, r) :: b) queued' pool' := by
  have hchan : ∀ x, chanRes (a ++ (id, r) :: b) x = if x = id then [r] else chanRes (a ++ b) x := fun x => by
    by_cases hx : x = id
    · obtain ⟨ha, hb⟩ := List.append_eq_nil_iff.1 (chanRes_append a b id ▸ (h.fin_of_src_nil hsrc).2)
      simp [chanRes_append, chanRes_cons, hx, ha, hb]
    · simp [chanRes_append, chanRes_cons, hx, Ne.symm hx]
  refine h.update (view_produce ks id r) (fun x hx => ⟨by rw [hchan, if_neg hx], fun a => (hq x a).1, fun a => (hp x a).1⟩)
    ?_ hpn h.noUaf h.wakeReady
  obtain ⟨w, hw⟩ := hpend
  have hv := h.view id
  have hf : ks.fin id = [] := (hv.of_pending hw).1
  -- the new result is produced and waiting, not finished; `id` is neither queued nor in the pool afterwards
  exact { hv with
    srcLen := by simp [hsrc]
    qFresh := fun q => ((hq id q).2 rfl).elim
    poolFresh := fun q => ((hp id q).2 rfl).elim
    link := by simp [Keys.view, hf, hsrc, hchan]
    slotRel := by simp only [Keys.view, hw]; exact hv.of_pending hw
    freshNoWaker := fun e => by simp [Keys.view, hw] at e
    freshNoLast := fun e => by simp [Keys.view, hw] at e }

theorem KInv.produceChan (h : KInv ks chan queued pool) {id : Id} (r : Res) (hsrc : ks.src id = [])
    {queued' : Id → Prop} {pool' : List Id}
    (hq : ∀ x, queued' x → queued x ∧ x ≠ id) (hp : ∀ x, x ∈ pool' → x ∈ pool ∧ x ≠ id)
    (hpn : pool'.Nodup) (hpend : ∃ w, ks.slot id = .pending w) :
    KInv (ks.produce id r) (chan ++ [(id, r)]) queued' pool' :=
  KInv.produce (b := []) (by rwa [List.append_nil]) r hsrc hq hp hpn hpend

theorem KInv.jobDone (h : KInv ks chan queued pool) {id : Id} (r : Res) (hp : id ∈ pool) :
    KInv (ks.produce id r) (chan ++ [(id, r)]) queued (pool.erase id) :=
  have hsrc := h.poolFresh id hp
  h.produceChan r hsrc (fun x hx => ⟨hx, fun e => (h.qFresh x hx).2 (e ▸ hp)⟩)
    (fun _ hx => ⟨List.mem_of_mem_erase hx, (h.poolNodup.mem_erase_iff.1 hx).1⟩)
    (h.poolNodup.erase id) (h.owed_spec (Or.inr hp)).2.2

theorem KInv.notifyHead {id : Id} {r : Res} (h : KInv ks ((id, r) :: chan) queued pool) :
    KInv (ks.notify id r) chan queued pool := by
  obtain ⟨w, hw⟩ := h.pending_of_chan
  have hnf : (ks.slot id == Slot.free) = false := by rw [hw]; rfl
  refine h.update (view_notify ks id r hw) (fun x hx => ⟨by simp [chanRes_cons, Ne.symm hx], fun a => a, fun a => a⟩)
    ?_ h.poolNodup (by rw [notify_eq]; simp [hnf, h.noUaf]) ?_
  · have hv := h.view id
    -- nothing has been notified for `id`: its one result is the entry at the head
    obtain ⟨hf, hs⟩ : ks.fin id = [] ∧ ks.src id = r :: chanRes chan id := by
      have := h.linkCases id
      simp only [chanRes_cons, if_true, reduceCtorEq, false_and, or_false] at this
      exact ⟨this.1, this.2.symm⟩
    have hd : ks.dlv id = [] := (hv.of_pending hw).2
    have hwk : ks.woken id = 0 := by have := hv.wokenLe; simp only [Keys.view, hf] at this; simpa using this
    have hwoke : finalWakers ks id = [] := by have := hv.wakersEq; simpa [Keys.view, hf] using this
    have hhad : w.isSome = ks.hadWaker id := hv.wakerReg w hw
    have hlast : w = ks.lastWaker id := hv.lastReg w hw
    -- nobody was woken so far; `w.toList` and `w.isSome` compute only once `w` is a constructor
    exact { hv with
      link := by simp [Keys.view, hf, hs]
      slotRel := ⟨by simp [hf], hd⟩
      wokenLe := by cases w <;> simp [hf, hwk]
      wakerReg := fun _ e => nomatch e
      wokenEq := fun _ => by cases w <;> simp [Keys.view, hwk, ← hhad]
      freshNoWaker := fun e => nomatch e
      lastReg := fun _ e => nomatch e
      wakersEq := by simp [Keys.view, hf, hwoke, ← hlast]
      freshNoLast := fun e => nomatch e }
  · intro rec hrec hfinal
    rw [notify_eq] at hrec
    cases w with
    | none => exact h.wakeReady rec (by simpa [hw, Slot.store] using hrec) hfinal
    | some wk =>
      simp only [hw, Slot.store, List.mem_append, List.mem_singleton] at hrec
      rcases hrec with hm | rfl
      · exact h.wakeReady rec hm hfinal
      · rfl

theorem KInv.pop (h : KInv ks chan queued pool) (id : Id) : KInv (ks.pop id).1 chan queued pool := by
  cases hs : ks.slot id with
  | ready r =>
    refine h.updateKeys (view_pop ks id hs) ?_ (by rw [pop_ready ks id r hs]; exact h.noUaf)
      (by rw [pop_ready ks id r hs]; exact h.wakeReady)
    have hv := h.view id
    obtain ⟨hf, hd⟩ : ks.fin id = [r] ∧ ks.dlv id = [] := hv.of_ready hs
    -- `fin = [r]` is a prefix of `src`, so the operation is not one with nothing produced
    have hsrc : ks.src id ≠ [] := fun e => by have := hv.link; simp [Keys.view, hf, e] at this
    -- once freed, `dlv = fin ≠ []`, the second case of the `free` clause
    exact { hv with
      slotRel := Or.inr ⟨by simp [Keys.view, hf], by simp [Keys.view, hf, hd]⟩
      wakerReg := fun _ e => nomatch e
      freshNoWaker := fun _ e => (hsrc e).elim
      lastReg := fun _ e => nomatch e
      freshNoLast := fun _ e => (hsrc e).elim }
  | _ => rw [pop_not_ready ks id (by simp [hs])]; exact h

theorem KInv.setWaker (h : KInv ks chan queued pool) (id : Id) (w : WakerId) : KInv (ks.setWaker id w) chan queued pool := by
  have hview := view_setWaker ks id w
  cases hs : ks.slot id with
  | pending w0 =>
    simp only [hs] at hview
    refine h.updateKeys hview ?_ h.noUaf h.wakeReady
    have hv := h.view id
    obtain ⟨hf, hd⟩ : ks.fin id = [] ∧ ks.dlv id = [] := hv.of_pending hs
    -- the slot stays pending, so `fin = []` and only the clauses tying `had`, `last` to the slot's waker change
    exact { hv with
      slotRel := ⟨hf, hd⟩
      wakerReg := fun _ e => by cases e; rfl
      wokenEq := fun e => (e hf).elim
      freshNoWaker := fun e => nomatch e
      lastReg := fun _ e => by cases e; rfl
      wakersEq := by have := hv.wakersEq; simp only [Keys.view, hf] at this ⊢; exact this
      freshNoLast := fun e => nomatch e }
  | _ =>
    simp only [hs] at hview
    exact kinv_iff.2 ⟨fun x => hview x ▸ h.view x, h.poolNodup, h.noUaf, h.wakeReady⟩

theorem immediate_slot (ks : Keys) (id : Id) (r : Res) (w : Option WakerId) (h : ks.slot id = .pending w) (x : Id) :
    (ks.immediate id r).slot x = if x = id then .free else ks.slot x := by
  have hn : ((ks.produce id r).notify id r).slot = upd ks.slot id (.ready r) := by
    rw [notify_eq]; simp [Keys.produce, h, Slot.store]
  unfold Keys.immediate
  rw [pop_ready _ id r (by rw [hn]; simp)]
  by_cases hx : x = id <;> simp [hn, upd, hx]

end

theorem KInv.produced_src {ks : Keys} (id : Id) (r : Res) (hsrc : ks.src id = []) :
    (ks.produce id r).src id = [r] := by simp [hsrc]

/-- direct completion: the operation leaves the queue, its result is produced and notified at once
    (`Entry::new(key, res).notify()` in `poll_one`) -/
theorem KInv.complete {ks : Keys} {chan : List (Id × Res)} {queued queued' : Id → Prop} {pool : List Id}
    (h : KInv ks chan queued pool) {id : Id} (r : Res)
    (hsrc : ks.src id = []) (hpend : ∃ w, ks.slot id = .pending w) (hnp : id ∉ pool)
    (hq : ∀ x, queued' x → queued x) (hnq : ¬ queued' id) :
    KInv ((ks.produce id r).notify id r) chan queued' pool := by
  exact KInv.notifyHead (KInv.produce (a := []) h r hsrc (fun x hx => ⟨hq x hx, fun e => hnq (e ▸ hx)⟩)
    (fun x hx => ⟨hx, fun e => hnp (e ▸ hx)⟩) h.poolNodup hpend)

theorem KInv.immediate {ks : Keys} {chan : List (Id × Res)} {queued : Id → Prop} {pool : List Id}
    (h : KInv ks chan queued pool) {id : Id} (r : Res)
    (hsrc : ks.src id = []) (hpend : ∃ w, ks.slot id = .pending w) (hnp : id ∉ pool) (hnq : ¬ queued id) :
    KInv (ks.immediate id r) chan queued pool :=
  (h.complete r hsrc hpend hnp (fun _ hx => hx) hnq).pop id

/-- operations staged in the submission queue -/
def opsOf (sq : List Sqe) : List Id := sq.filterMap fun | .op id => some id | _ => none

/-- final completions of keys waiting in the completion queue -/
def cqFinals (cq : List Cqe) : List (Id × Res) :=
  cq.filterMap fun c => match c.ud with
    | .key id => if c.more then none else some (id, c.res)
    | _ => none

theorem cqFinals_append (a b : List Cqe) : cqFinals (a ++ b) = cqFinals a ++ cqFinals b := by
  simp [cqFinals, List.filterMap_append]

/-- a multishot item touches nothing the invariant reads: the waker stays registered, the wake is not final -/
theorem view_pushMulti (ks : Keys) (id : Id) (r : Res) (x : Id) : (ks.pushMulti id r).view x = ks.view x := by
  unfold Keys.pushMulti
  split <;> simp [Keys.view, Keys.wake, finalWakers, List.filterMap_append]

theorem pushMulti_frame (ks : Keys) (id : Id) (r : Res) :
    (ks.pushMulti id r).slot = ks.slot ∧ (ks.pushMulti id r).fin = ks.fin := by
  unfold Keys.pushMulti
  split <;> exact ⟨rfl, rfl⟩

theorem handleCqe_frame (r : Ring) (c : Cqe) :
    (r.handleCqe c).kern = r.kern ∧ (r.handleCqe c).sq = r.sq ∧ (r.handleCqe c).chan = r.chan ∧
    (r.handleCqe c).pool = r.pool ∧ (r.handleCqe c).cq = r.cq ∧ (r.handleCqe c).sqCap = r.sqCap := by
  unfold Ring.handleCqe
  split
  · simp
  · split <;> simp
  · split <;> exact ⟨rfl, rfl, rfl, rfl, rfl, rfl⟩

theorem handleCqe_keys (r : Ring) (c : Cqe) (rest : List Cqe) :
    (∃ id, c.ud = .key id ∧ cqFinals (c :: rest) = (id, c.res) :: cqFinals rest ∧
      (r.handleCqe c).keys = r.keys.notify id c.res) ∨
    (cqFinals (c :: rest) = cqFinals rest ∧
      ((r.handleCqe c).keys = r.keys ∨ ∃ id, c.ud = .key id ∧ (r.handleCqe c).keys = r.keys.pushMulti id c.res)) := by
  unfold Ring.handleCqe cqFinals
  cases hud : c.ud with
  | key id => cases hm : c.more <;> simp [hud, hm]
  | cancel => simp [hud]
  | notify => cases c.more <;> simp [hud]

theorem foldl_handleCqe_fin (id : Id) : ∀ (cq : List Cqe) (acc : Ring),
    (cq.foldl Ring.handleCqe acc).keys.fin id = acc.keys.fin id ++ chanRes (cqFinals cq) id
  | [], acc => by simp [cqFinals]
  | c :: rest, acc => by
    rw [List.foldl_cons, foldl_handleCqe_fin id rest]
    rcases handleCqe_keys acc c rest with ⟨x, _, e1, e2⟩ | ⟨e1, e2 | ⟨x, _, e2⟩⟩ <;> rw [e1, e2]
    · rw [notify_fin, chanRes_cons]
      by_cases hx : x = id
      · simp [hx]
      · simp [upd, hx, Ne.symm hx]
    · rw [(pushMulti_frame _ _ _).2]

theorem mem_chanRes_cqFinals {cq : List Cqe} {c : Cqe} {id : Id} (hc : c ∈ cq) (hud : c.ud = .key id)
    (hm : c.more = false) : c.res ∈ chanRes (cqFinals cq) id :=
  List.mem_map.2 ⟨(id, c.res), List.mem_filter.2 ⟨List.mem_filterMap.2 ⟨c, hc, by simp [hud, hm]⟩, by simp⟩, rfl⟩

theorem enter_keys (r : Ring) (e : Enter) :
    (r.enter e).keys = (cqFinals e.posted).foldl (fun ks p => ks.produce p.1 p.2) r.keys := by
  show List.foldl _ r.keys e.posted = _
  generalize r.keys = ks
  induction e.posted generalizing ks with
  | nil => rfl
  | cons c rest ih =>
    rw [List.foldl_cons, ih]
    unfold cqFinals
    cases hud : c.ud with
    | key id => cases hm : c.more <;> simp [hud, hm]
    | _ => simp [hud]

theorem foldl_produce_frame (finals : List (Id × Res)) (ks : Keys) :
    (finals.foldl (fun ks p => ks.produce p.1 p.2) ks).fin = ks.fin ∧
    (finals.foldl (fun ks p => ks.produce p.1 p.2) ks).slot = ks.slot :=
  List.foldlRecOn (motive := fun b : Keys => b.fin = ks.fin ∧ b.slot = ks.slot) finals _ ⟨rfl, rfl⟩
    fun _ h _ _ => h

def overflowRound (r : Ring) (en : Enter) : Ring :=
  { (r.enter en).pollEntries with drained := (r.enter en).drained ++ (r.enter en).cq }

theorem pushRawAux_cons (e : Sqe) (en : Enter) (rest : List Enter) (r : Ring) :
    pushRawAux e (en :: rest) r =
      if r.sq.length < r.sqCap then ({ r with sq := r.sq ++ [e] }, .ok)
      else pushRawAux e rest (overflowRound r en) := rfl

theorem overflowRound_sq (r : Ring) (en : Enter) :
    (overflowRound r en).sq = r.sq.drop en.taken ∧ (overflowRound r en).sqCap = r.sqCap :=
  List.foldlRecOn (motive := fun b : Ring => b.sq = (r.enter en).sq ∧ b.sqCap = r.sqCap) (r.enter en).cq _ ⟨rfl, rfl⟩
    fun b ⟨h1, h2⟩ c _ => ⟨(handleCqe_frame b c).2.1.trans h1, (handleCqe_frame b c).2.2.2.2.2.trans h2⟩

theorem overflowRound_fin (r : Ring) (en : Enter) (id : Id) :
    (overflowRound r en).keys.fin id = r.keys.fin id ++ chanRes (cqFinals (r.enter en).cq) id := by
  refine (foldl_handleCqe_fin id _ _).trans ?_
  show (r.enter en).keys.fin id ++ _ = _
  rw [enter_keys, (foldl_produce_frame _ _).1]

/-- The overflow loop runs rounds while the queue is full and the script lasts, and ends in some ring `r0` with
    the entry staged, or spinning.  `P script r r0`: what the rounds did, shown round by round. -/
theorem pushRawAux_rounds (e : Sqe) (P : List Enter → Ring → Ring → Prop) (base : ∀ script r, P script r r)
    (step : ∀ en rest r r0, P rest (overflowRound r en) r0 → P (en :: rest) r r0) :
    ∀ (script : List Enter) (r : Ring), ∃ r0, P script r r0 ∧
      (pushRawAux e script r = ({ r0 with sq := r0.sq ++ [e] }, .ok) ∨ pushRawAux e script r = (r0, .spin))
  | [], r => ⟨r, base [] r, by unfold pushRawAux; split <;> simp⟩
  | en :: rest, r => by
    rw [pushRawAux_cons]
    by_cases hlt : r.sq.length < r.sqCap
    · exact ⟨r, base _ r, Or.inl (by simp [hlt])⟩
    · obtain ⟨r0, h0, hres⟩ := pushRawAux_rounds e P base step rest (overflowRound r en)
      exact ⟨r0, step en rest r r0 h0, by simpa [hlt] using hres⟩

/-- what overflow rounds do between `r` and `r0`: staged entries are consumed from the front only, and `set_result`
    of each operation has received exactly the final CQEs drained for its key, in order -/
def Drains (r r0 : Ring) : Prop :=
  ∃ k D, r0.sq = r.sq.drop k ∧ r0.drained = r.drained ++ D ∧
    ∀ id, r0.keys.fin id = r.keys.fin id ++ chanRes (cqFinals D) id

theorem pushRawAux_drains (e : Sqe) (script : List Enter) (r : Ring) : ∃ r0, Drains r r0 ∧
    (pushRawAux e script r = ({ r0 with sq := r0.sq ++ [e] }, .ok) ∨ pushRawAux e script r = (r0, .spin)) := by
  refine pushRawAux_rounds e (fun _ => Drains) (fun _ r => ⟨0, [], by simp, by simp, by simp [cqFinals]⟩) ?_ script r
  rintro en rest r r0 ⟨k, D, h1, h2, h3⟩
  refine ⟨en.taken + k, (r.enter en).cq ++ D, ?_, ?_, fun id => ?_⟩
  · rw [h1, (overflowRound_sq r en).1, List.drop_drop]
  · rw [h2, ← List.append_assoc]; rfl
  · rw [h3, overflowRound_fin, cqFinals_append, chanRes_append, List.append_assoc]

theorem pushRaw_keeps_sqe (e : Sqe) (script : List Enter) (r r' : Ring)
    (h : pushRawAux e script r = (r', .ok)) : ∃ k, r'.sq = r.sq.drop k ++ [e] := by
  obtain ⟨r0, ⟨k, _, hsq, _⟩, hres | hres⟩ := pushRawAux_drains e script r <;> rw [hres] at h <;> cases h
  exact ⟨k, by rw [← hsq]⟩

def notifyAll (ks : Keys) (chan : List (Id × Res)) : Keys := chan.foldl (fun ks e => ks.notify e.1 e.2) ks

theorem kinv_notifyAll_prefix {queued : Id → Prop} {pool : List Id} {b : List (Id × Res)} :
    ∀ (a : List (Id × Res)) (ks : Keys), KInv ks (a ++ b) queued pool → KInv (notifyAll ks a) b queued pool
  | [], _, h => h
  | (_, _) :: rest, _, h => kinv_notifyAll_prefix rest _ (KInv.notifyHead h)

theorem notifyAll_slot_pending (chan : List (Id × Res)) (ks : Keys) (x : Id) (w : Option WakerId) :
    (notifyAll ks chan).slot x = .pending w → ks.slot x = .pending w :=
  List.foldlRecOn (motive := fun b : Keys => b.slot x = .pending w → ks.slot x = .pending w) chan _ id
    fun b ih e _ h => ih (by rw [← h, notify_slot_of_not_ready b e.1 e.2 x (by simp [h])])

theorem notifyAll_src : ∀ (chan : List (Id × Res)) (ks : Keys), (notifyAll ks chan).src = ks.src :=
  fun chan ks => List.foldlRecOn (motive := fun b : Keys => b.src = ks.src) chan _ rfl
    fun b h e _ => (notify_src b e.1 e.2).trans h

/-- the driver / the kernel still owes `id` a final completion -/
def Ring.owed (r : Ring) (id : Id) : Prop := id ∈ r.kern ∨ id ∈ opsOf r.sq

/-- A final CQE still in the completion queue is a result produced and
    not yet notified, so the channel of `KInv` is `cqFinals r.cq` followed by the `completed` channel; `queued`
    is `Ring.owed`. -/
structure RInv (r : Ring) : Prop where
  k : KInv r.keys (cqFinals r.cq ++ r.chan) r.owed r.pool
  nod : (r.kern ++ opsOf r.sq).Nodup
  /-- a CQE in the queue names an operation still owed a completion (`Ring.owed`: kernel-owned or staged) or whose
      final CQE is queued too -/
  cqLive : ∀ c ∈ r.cq, ∀ id, c.ud = .key id → r.owed id ∨ id ∈ (cqFinals r.cq).map (·.1)

theorem RInv.finished_is_delivered {r : Ring} (h : RInv r) {id : Id} {res : Res} (hcq : r.cq = []) (hch : r.chan = [])
    (hdone : r.keys.src id = [res]) : r.keys.slot id = .ready res ∨ r.keys.dlv id = [res] :=
  h.k.finished_is_delivered (by rw [hcq, hch]; rfl) hdone

/-- The kernel contract for one `io_uring_enter` (also used for completions posted asynchronously, with
    `taken = 0`): every CQE it posts for a key echoes the user_data of an operation it owns (owned before, or among
    the `taken` staged SQEs `Ring.enter` consumes; final CQE not yet posted); at most one final CQE per key. -/
structure EnterOk (r : Ring) (e : Enter) : Prop where
  owned : ∀ c ∈ e.posted, ∀ id, c.ud = .key id → id ∈ r.kern ++ opsOf (r.sq.take e.taken)
  oneFinal : ((cqFinals e.posted).map (·.1)).Nodup

theorem EnterOk.single_final {r : Ring} {n : Nat} {id : Id} {res : Res} (hm : id ∈ r.kern ++ opsOf (r.sq.take n)) :
    EnterOk r ⟨n, [⟨.key id, res, false⟩]⟩ := by
  refine ⟨fun c hc id' hud => ?_, List.nodup_cons.2 ⟨List.not_mem_nil, List.nodup_nil⟩⟩
  cases List.mem_singleton.mp hc
  cases hud
  exact hm

theorem opsOf_append (a b : List Sqe) : opsOf (a ++ b) = opsOf a ++ opsOf b := by
  simp [opsOf, List.filterMap_append]

theorem cqFinals_cons_final (id : Id) (res : Res) (rest : List Cqe) :
    cqFinals (⟨.key id, res, false⟩ :: rest) = (id, res) :: cqFinals rest := by
  simp [cqFinals]

section
variable {ks : Keys} {chan : List (Id × Res)} {queued : Id → Prop} {pool : List Id}

/-- reordering the not-yet-notified results (they belong to pairwise different operations) -/
theorem KInv.chanSwap {a b c : List (Id × Res)}
    (h : KInv ks (a ++ b ++ c) queued pool) : KInv ks (a ++ c ++ b) queued pool := by
  refine h.env (fun id hv => ?_) h.poolNodup
  have hlen : (chanRes b id ++ chanRes c id).length ≤ 1 := by
    have h1 := congrArg List.length hv.link
    have h2 := hv.srcLen
    simp only [chanRes_append, List.length_append] at h1 ⊢
    omega
  have hl := hv.link
  exact { hv with
    link := by rcases append_of_length_le_one rfl hlen with ⟨e, _⟩ | ⟨e, _⟩ <;> simpa [chanRes_append, e] using hl }

end

theorem KInv.not_queued_of_mem {ks : Keys} {chan : List (Id × Res)} {queued : Id → Prop} {pool : List Id}
    (h : KInv ks chan queued pool) {id : Id} {r : Res} (hm : (id, r) ∈ chan) : ¬ queued id := by
  intro hq
  have hs := (h.qFresh id hq).1
  have := (h.fin_of_src_nil hs).2
  exact chanRes_ne_nil_of_mem hm this

theorem kinv_post_finals {pool : List Id} : ∀ (finals : List (Id × Res)) (ks : Keys) (chan : List (Id × Res))
    (queued : Id → Prop), KInv ks chan queued pool → (∀ p ∈ finals, queued p.1) → (finals.map (·.1)).Nodup →
    KInv (finals.foldl (fun ks p => ks.produce p.1 p.2) ks) (chan ++ finals)
      (fun id => queued id ∧ id ∉ finals.map (·.1)) pool
  | [], _, _, _, h, _, _ => by rw [List.append_nil]; exact h.dequeue fun _ a => a.1
  | (id, res) :: rest, ks, chan, queued, h, hmem, hids => by
    obtain ⟨hnotin, hids'⟩ := List.nodup_cons.1 hids
    have hq := hmem (id, res) List.mem_cons_self
    obtain ⟨hsrc, hnp⟩ := h.qFresh id hq
    have h1 := h.produceChan res hsrc (queued' := fun x => queued x ∧ x ≠ id) (fun x hx => hx)
      (fun x hx => ⟨hx, fun e => hnp (e ▸ hx)⟩) h.poolNodup (h.owed_spec (Or.inl hq)).2.2
    have h2 := kinv_post_finals rest _ _ _ h1
      (fun q hq' => ⟨hmem q (List.mem_cons_of_mem _ hq'), fun e => hnotin (e ▸ List.mem_map.2 ⟨q, hq', rfl⟩)⟩) hids'
    rw [List.append_assoc] at h2
    refine h2.dequeue fun x ⟨a, b⟩ => ?_
    simp only [List.map_cons, List.mem_cons, not_or] at b
    exact ⟨⟨a, b.1⟩, b.2⟩

theorem mem_cqFinals {cq : List Cqe} {id : Id} {res : Res} (h : (id, res) ∈ cqFinals cq) :
    ∃ c ∈ cq, c.ud = .key id ∧ c.more = false ∧ c.res = res := by
  obtain ⟨c, hc, hv⟩ := List.mem_filterMap.1 h
  refine ⟨c, hc, ?_⟩
  cases hud : c.ud <;> cases hm : c.more <;> simp_all

theorem mem_enter_kern (r : Ring) (e : Enter) (x : Id) :
    x ∈ (r.enter e).kern ↔
      x ∈ r.kern ++ opsOf (r.sq.take e.taken) ∧ x ∉ (cqFinals e.posted).map (·.1) := by
  have : (r.enter e).kern = (r.kern ++ opsOf (r.sq.take e.taken)).filter
      (fun x => !((cqFinals e.posted).map (·.1)).contains x) := by
    simp only [Ring.enter, opsOf]
    congr 1
    funext x
    congr 2
    simp only [cqFinals, List.map_filterMap]
    congr 1
    funext c
    cases c.ud with
    | key id => cases c.more <;> rfl
    | _ => rfl
  rw [this, List.mem_filter]
  simp

theorem opsOf_take_drop (sq : List Sqe) (n : Nat) : opsOf sq = opsOf (sq.take n) ++ opsOf (sq.drop n) := by
  rw [← opsOf_append, List.take_append_drop]

theorem owed_iff_take_drop (r : Ring) (n : Nat) (x : Id) :
    r.owed x ↔ x ∈ r.kern ++ opsOf (r.sq.take n) ∨ x ∈ opsOf (r.sq.drop n) := by
  unfold Ring.owed; rw [opsOf_take_drop r.sq n]; simp [or_assoc]

theorem enter_owed (r : Ring) (e : Enter) (x : Id) :
    (r.enter e).owed x ↔
      (x ∈ r.kern ++ opsOf (r.sq.take e.taken) ∧ x ∉ (cqFinals e.posted).map (·.1)) ∨
        x ∈ opsOf (r.sq.drop e.taken) := by
  unfold Ring.owed; rw [mem_enter_kern]; rfl

theorem EnterOk.finals_owned {r : Ring} {e : Enter} (hok : EnterOk r e) (p : Id × Res) (hp : p ∈ cqFinals e.posted) :
    p.1 ∈ r.kern ++ opsOf (r.sq.take e.taken) := by
  obtain ⟨c, hc, hud, _, _⟩ := mem_cqFinals (id := p.1) (res := p.2) (by simpa using hp)
  exact hok.owned c hc p.1 hud

/-- `RInv` with the operations `X` counted as owed although neither staged nor kernel-owned: `push_raw` has the key of
    the operation its entry carries, and has not staged the entry yet. -/
structure Reserved (X : Id → Prop) (r : Ring) : Prop where
  k : KInv r.keys (cqFinals r.cq ++ r.chan) (fun x => r.owed x ∨ X x) r.pool
  nod : (r.kern ++ opsOf r.sq).Nodup
  cqLive : ∀ c ∈ r.cq, ∀ id, c.ud = .key id → r.owed id ∨ id ∈ (cqFinals r.cq).map (·.1)
  apart : ∀ x, X x → ¬ r.owed x

theorem Reserved.rinv {X : Id → Prop} {r : Ring} (h : Reserved X r) : RInv r :=
  ⟨h.k.dequeue fun _ => Or.inl, h.nod, h.cqLive⟩

theorem RInv.reserve {X : Id → Prop} {r : Ring} (h : RInv r)
    (hX : ∀ x, X x → ¬ r.owed x ∧ r.keys.src x = [] ∧ x ∉ r.pool ∧ ∃ w, r.keys.slot x = .pending w) :
    Reserved X r :=
  ⟨h.k.requeue fun x hx => hx.imp_right fun a => (hX x a).2, h.nod, h.cqLive, fun x a => (hX x a).1⟩

theorem Reserved.enter {X : Id → Prop} {r : Ring} (h : Reserved X r) (e : Enter) (hok : EnterOk r e) :
    Reserved X (r.enter e) := by
  have hnod : ((r.kern ++ opsOf (r.sq.take e.taken)) ++ opsOf (r.sq.drop e.taken)).Nodup := by
    have := h.nod; rwa [opsOf_take_drop r.sq e.taken, ← List.append_assoc] at this
  have howed := owed_iff_take_drop r e.taken
  have howed' := enter_owed r e
  -- a final completion is posted for an operation the kernel owned: for none that is still staged, none reserved
  have hfin : ∀ x, x ∈ (cqFinals e.posted).map (·.1) → x ∈ r.kern ++ opsOf (r.sq.take e.taken) := fun x hm => by
    obtain ⟨p, hp, rfl⟩ := List.mem_map.1 hm
    exact hok.finals_owned p hp
  have hsub : ∀ x, (r.enter e).owed x → r.owed x ∧ x ∉ (cqFinals e.posted).map (·.1) := fun x hx => by
    rcases (howed' x).1 hx with ⟨a, b⟩ | a
    · exact ⟨(howed x).2 (Or.inl a), b⟩
    · exact ⟨(howed x).2 (Or.inr a), fun hm => (List.nodup_append.1 hnod).2.2 _ (hfin x hm) _ a rfl⟩
  refine ⟨?_, ?_, fun c hc id hud => ?_, fun x a ho => h.apart x a (hsub x ho).1⟩
  · show KInv (r.enter e).keys (cqFinals (r.cq ++ e.posted) ++ r.chan) _ r.pool
    rw [enter_keys, cqFinals_append]
    refine (kinv_post_finals _ _ _ _ h.k (fun p hp => Or.inl ((howed _).2 (Or.inl (hok.finals_owned p hp))))
      hok.oneFinal).chanSwap.dequeue fun x hx => ?_
    rcases hx with hx | hx
    · exact ⟨Or.inl (hsub x hx).1, (hsub x hx).2⟩
    · exact ⟨Or.inr hx, fun hm => h.apart x hx ((howed x).2 (Or.inl (hfin x hm)))⟩
  · show ((r.enter e).kern ++ opsOf (r.sq.drop e.taken)).Nodup
    refine List.Sublist.nodup (List.Sublist.append ?_ (List.Sublist.refl _)) hnod
    simp only [Ring.enter, opsOf]
    exact List.filter_sublist
  · show _ ∨ id ∈ (cqFinals (r.cq ++ e.posted)).map (·.1)
    rw [cqFinals_append, List.map_append, List.mem_append, howed']
    by_cases hf : id ∈ (cqFinals e.posted).map (·.1)
    · exact Or.inr (Or.inr hf)
    · rcases List.mem_append.1 hc with hc | hc
      · rcases h.cqLive c hc id hud with ho | hf'
        · exact Or.inl (((howed id).1 ho).imp_left fun a => ⟨a, hf⟩)
        · exact Or.inr (Or.inl hf')
      · exact Or.inl (Or.inl ⟨hok.owned c hc id hud, hf⟩)

theorem RInv.enter {r : Ring} (h : RInv r) (e : Enter) (hok : EnterOk r e) : RInv (r.enter e) :=
  ((h.reserve (X := fun _ => False) fun _ a => a.elim).enter e hok).rinv

theorem KInv.pushMulti {ks : Keys} {chan : List (Id × Res)} {queued : Id → Prop} {pool : List Id}
    (h : KInv ks chan queued pool) (id : Id) (r : Res) (hlive : ks.slot id ≠ .free) :
    KInv (ks.pushMulti id r) chan queued pool := by
  refine kinv_iff.2 ⟨fun x => view_pushMulti ks id r x ▸ h.view x, h.poolNodup, ?_, ?_⟩
  · have := h.noUaf
    unfold Keys.pushMulti
    split <;> simp [Keys.wake, this, hlive]
  · have := h.wakeReady
    unfold Keys.pushMulti
    split <;> simp [Keys.wake] <;> grind

theorem owed_congr {r r' : Ring} (hk : r'.kern = r.kern) (hs : r'.sq = r.sq) : r'.owed = r.owed := by
  funext id; unfold Ring.owed; rw [hk, hs]

theorem reserved_foldl_handleCqe {X : Id → Prop} : ∀ (rest : List Cqe) (acc : Ring), acc.cq = [] →
    KInv acc.keys (cqFinals rest ++ acc.chan) (fun x => acc.owed x ∨ X x) acc.pool → (acc.kern ++ opsOf acc.sq).Nodup →
    (∀ c ∈ rest, ∀ id, c.ud = .key id → acc.keys.slot id ≠ .free) → (∀ x, X x → ¬ acc.owed x) →
    Reserved X (rest.foldl Ring.handleCqe acc) := by
  intro rest
  induction rest with
  | nil =>
    intro acc hcq hk hnd _ hx
    exact ⟨by simpa [hcq, cqFinals] using hk, hnd, (by intro c hc; rw [List.foldl_nil, hcq] at hc; cases hc), hx⟩
  | cons c rest ih =>
    intro acc hcq hk hnd hlive hx
    obtain ⟨f1, f2, f3, f4, f5, _⟩ := handleCqe_frame acc c
    have key : KInv (acc.handleCqe c).keys (cqFinals rest ++ acc.chan) (fun x => acc.owed x ∨ X x) acc.pool ∧
        ∀ x, acc.keys.slot x ≠ .free → (acc.handleCqe c).keys.slot x ≠ .free := by
      rcases handleCqe_keys acc c rest with ⟨id, _, e1, e2⟩ | ⟨e1, e2 | ⟨id, hud, e2⟩⟩ <;> rw [e1] at hk <;> rw [e2]
      · exact ⟨KInv.notifyHead hk, fun x hx hf =>
          hx (by rw [← notify_slot_of_not_ready acc.keys id c.res x (by simp [hf]), hf])⟩
      · exact ⟨hk, fun _ a => a⟩
      · exact ⟨hk.pushMulti id c.res (hlive c List.mem_cons_self id hud), fun x hx => by rwa [(pushMulti_frame _ _ _).1]⟩
    exact ih _ (f5.trans hcq) (by rw [owed_congr f1 f2, f3, f4]; exact key.1) (by rw [f1, f2]; exact hnd)
      (fun c' hc' id' hud' => key.2 id' (hlive c' (List.mem_cons_of_mem _ hc') id' hud'))
      (by rw [owed_congr f1 f2]; exact hx)

theorem Reserved.slot_live {X : Id → Prop} {r : Ring} (h : Reserved X r) (c : Cqe) (hc : c ∈ r.cq) (id : Id)
    (hud : c.ud = .key id) : r.keys.slot id ≠ .free := by
  rcases h.cqLive c hc id hud with ho | hf
  · obtain ⟨w, hw⟩ := (h.k.owed_spec (Or.inl (Or.inl ho))).2.2
    rw [hw]; simp
  · obtain ⟨p, hp, rfl⟩ := List.mem_map.1 hf
    obtain ⟨w, hw⟩ := h.k.pending_of_waiting
      (chanRes_ne_nil_of_mem (id := p.1) (r := p.2) (List.mem_append.2 (Or.inl hp)))
    rw [hw]; simp

theorem Reserved.pollEntries {X : Id → Prop} {r : Ring} (h : Reserved X r) : Reserved X r.pollEntries := by
  unfold Ring.pollEntries
  exact reserved_foldl_handleCqe r.cq { r with cq := [] } rfl h.k h.nod (fun c hc id hud => h.slot_live c hc id hud)
    h.apart

theorem RInv.pollEntries {r : Ring} (h : RInv r) : RInv r.pollEntries :=
  (h.reserve (X := fun _ => False) fun _ a => a.elim).pollEntries.rinv

theorem pollBlocking_eq (r : Ring) :
    r.pollBlocking = ({ r with chan := [], keys := notifyAll r.keys r.chan }, !r.chan.isEmpty) :=
  congrArg (·, !r.chan.isEmpty) (List.foldl_hom (fun ks => { r with chan := [], keys := ks })
    (g₁ := fun ks e => ks.notify e.1 e.2) (l := r.chan) (init := r.keys) fun _ _ => rfl)

theorem RInv.pollBlocking {r : Ring} (h : RInv r) : RInv r.pollBlocking.1 := by
  rw [pollBlocking_eq]
  refine ⟨?_, h.nod, h.cqLive⟩
  show KInv (notifyAll r.keys r.chan) (cqFinals r.cq ++ []) r.owed r.pool
  rw [List.append_nil]
  exact kinv_notifyAll_prefix r.chan r.keys (KInv.chanSwap (a := []) h.k)

theorem RInv.frame {r : Ring} (h : RInv r) (d : List Cqe) (b : Bool) (l : List Id) :
    RInv { r with drained := d, needNotifier := b, inflight := l } :=
  ⟨h.k, h.nod, h.cqLive⟩

theorem Reserved.overflowRound {X : Id → Prop} {r : Ring} (h : Reserved X r) (en : Enter) (hok : EnterOk r en) :
    Reserved X (overflowRound r en) :=
  have h1 := (h.enter en hok).pollEntries
  ⟨h1.k, h1.nod, h1.cqLive, h1.apart⟩

theorem enter_slot (r : Ring) (e : Enter) : (r.enter e).keys.slot = r.keys.slot := by
  rw [enter_keys, (foldl_produce_frame _ _).2]

/-- the kernel scripts of the overflow loop honour the contract at the state they are used in -/
def ScriptOk : Ring → List Enter → Prop
  | _, [] => True
  | r, en :: rest => EnterOk r en ∧ ScriptOk (Completion.overflowRound r en) rest

/-- `id` can be handed out by `Key::new`: no RawOp yet, and nothing is known about it anywhere -/
def Fresh (r : Ring) (id : Id) : Prop :=
  r.keys.slot id = .free ∧ r.keys.src id = [] ∧ ¬ r.owed id ∧ id ∉ r.pool

theorem mem_opsOf_singleton (e : Sqe) (x : Id) : x ∈ opsOf [e] ↔ e = .op x := by
  cases e <;> simp [opsOf, eq_comm]

theorem Reserved.stage {r : Ring} {e : Sqe} (h : Reserved (fun x => e = .op x) r) :
    RInv { r with sq := r.sq ++ [e] } := by
  have howed : ∀ x, Ring.owed { r with sq := r.sq ++ [e] } x ↔ r.owed x ∨ e = .op x := fun x => by
    simp only [Ring.owed, opsOf_append, List.mem_append, mem_opsOf_singleton, or_assoc]
  refine ⟨h.k.dequeue fun x => (howed x).1, ?_, fun c hc x hud => (h.cqLive c hc x hud).imp_left fun ho => (howed x).2 (Or.inl ho)⟩
  show (r.kern ++ opsOf (r.sq ++ [e])).Nodup
  rw [opsOf_append, ← List.append_assoc]
  refine List.nodup_append.2 ⟨h.nod, by cases e <;> simp [opsOf], fun a ha b hb hab => ?_⟩
  exact h.apart b ((mem_opsOf_singleton e b).1 hb) (List.mem_append.1 (hab ▸ ha))

/-- The kernel completes only what it owns (`EnterOk`), so the reserved operation stays owed through every overflow
    round; and an owed operation is pending with nothing produced (`KInv.owed_spec`), which is what staging asks for. -/
theorem Reserved.pushRaw {r : Ring} {e : Sqe} (h : Reserved (fun x => e = .op x) r) (script : List Enter)
    (hs : ScriptOk r script) : RInv (r.pushRaw e script).1 := by
  obtain ⟨r0, h0, hres⟩ := pushRawAux_rounds e
    (fun script r r0 => Reserved (fun x => e = .op x) r → ScriptOk r script → Reserved (fun x => e = .op x) r0)
    (fun _ _ h _ => h) (fun en rest r r0 ih h ⟨hok, hrest⟩ => ih (h.overflowRound en hok) hrest) script r
  unfold Ring.pushRaw
  rcases hres with hres | hres <;> rw [hres]
  · exact (h0 h hs).stage
  · exact (h0 h hs).rinv

theorem RInv.pushOp {r : Ring} (h : RInv r) {id : Id} (hf : Fresh r id) (script : List Enter)
    (hs : ScriptOk { r with keys := r.keys.alloc id } script) : RInv (r.pushOp id script).1 := by
  have h0 : RInv { r with keys := r.keys.alloc id } := ⟨h.k.alloc hf.1 hf.2.1, h.nod, h.cqLive⟩
  have h1 := (h0.reserve (X := fun x => Sqe.op id = .op x) fun x e => by
    cases e; exact ⟨hf.2.2.1, by simpa using hf.2.1, hf.2.2.2, none, by simp⟩).pushRaw script hs
  unfold Ring.pushOp
  dsimp only
  generalize Ring.pushRaw _ (.op id) script = p at h1 ⊢
  obtain ⟨r1, _ | _⟩ := p
  · exact h1.frame _ _ _
  · exact h1

theorem RInv.pushBlocking {r : Ring} (h : RInv r) {id : Id} (hf : Fresh r id) : RInv (r.pushBlocking id) :=
  ⟨(h.k.alloc hf.1 hf.2.1).poolAdd (by simpa using hf.2.1) hf.2.2.1 hf.2.2.2 ⟨none, by simp⟩, h.nod, h.cqLive⟩

theorem RInv.jobDone {r : Ring} (h : RInv r) (id : Id) (res : Res) (hp : id ∈ r.pool) : RInv (r.jobDone id res) := by
  refine ⟨?_, h.nod, h.cqLive⟩
  show KInv (r.keys.produce id res) (cqFinals r.cq ++ (r.chan ++ [(id, res)])) r.owed (r.pool.erase id)
  rw [← List.append_assoc]
  exact h.k.jobDone res hp

theorem cancel_eq_pushRaw (r : Ring) (id : Id) : r.cancel id = (r.pushRaw (.cancelOf id) []).1 := by
  unfold Ring.pushRaw pushRawAux Ring.cancel
  split <;> rfl

theorem RInv.cancel {r : Ring} (h : RInv r) (id : Id) : RInv (r.cancel id) :=
  cancel_eq_pushRaw r id ▸ (h.reserve fun _ a => nomatch a).pushRaw [] trivial

/-- the kernel contract for the enters of one `Driver::poll` -/
def PollOk (r : Ring) (script : List Enter) (last : Enter) : Prop :=
  if r.chan.isEmpty then
    (if r.pollBlocking.1.needNotifier then
      ScriptOk r.pollBlocking.1 script ∧
        (∀ r2, (r.pollBlocking.1.pushRaw .notifier script) = (r2, .ok) →
            EnterOk { r2 with needNotifier := false } last)
     else EnterOk r.pollBlocking.1 last)
  else True

theorem RInv.poll {r : Ring} (h : RInv r) (script : List Enter) (last : Enter) (hok : PollOk r script last) :
    RInv (r.poll script last).1 := by
  have hb := h.pollBlocking
  have hbv : r.pollBlocking.2 = !r.chan.isEmpty := by rw [pollBlocking_eq]
  unfold Ring.poll
  unfold PollOk at hok
  cases hpb : r.pollBlocking with
  | mk r1 b =>
    rw [hpb] at hb hbv hok
    simp only at hb hbv hok ⊢
    subst hbv
    cases hc : r.chan.isEmpty with
    | false => simp only [Bool.not_false]; exact hb
    | true =>
      simp only [hc, Bool.not_true, if_true] at hok ⊢
      cases hn : r1.needNotifier with
      | false =>
        simp only [hn, Bool.false_eq_true, if_false] at hok ⊢
        exact (hb.enter last hok).pollEntries
      | true =>
        simp only [hn, if_true] at hok ⊢
        obtain ⟨hs, hlast⟩ := hok
        have h1 := (hb.reserve fun _ a => nomatch a).pushRaw (e := .notifier) script hs
        generalize r1.pushRaw .notifier script = p at h1 hlast ⊢
        obtain ⟨r2, _ | _⟩ := p
        · exact ((h1.frame _ false _).enter last (hlast r2 rfl)).pollEntries
        · exact h1

/-- what the environment must respect for a step (fresh keys, existing jobs, the kernel contract) -/
def RStepOk (r : Ring) : RStep → Prop
  | .pushOp id script => Fresh r id ∧ ScriptOk { r with keys := r.keys.alloc id } script
  | .pushBlocking id => Fresh r id
  | .jobDone id _ => id ∈ r.pool
  | .poll script last => PollOk r script last
  | .kernel posted => EnterOk r ⟨0, posted⟩
  | _ => True

theorem RInv.step {r : Ring} (h : RInv r) (e : RStep) (hok : RStepOk r e) : RInv (r.step e) := by
  cases e with
  | pushOp id script => exact h.pushOp hok.1 script hok.2
  | pushBlocking id => exact h.pushBlocking hok
  | jobDone id res => exact h.jobDone id res hok
  | poll script last => exact h.poll script last hok
  | kernel posted => exact h.enter _ hok
  | pop id => exact ⟨h.k.pop id, h.nod, h.cqLive⟩
  | setWaker id w => exact ⟨h.k.setWaker id w, h.nod, h.cqLive⟩
  | cancel id => exact h.cancel id

def Ring.run (r : Ring) : List RStep → Ring
  | [] => r
  | e :: rest => (r.step e).run rest

/-- every step of the list respects the environment contract at the state it is taken in -/
def RunOk : Ring → List RStep → Prop
  | _, [] => True
  | r, e :: rest => RStepOk r e ∧ RunOk (r.step e) rest

theorem RInv.run : ∀ (steps : List RStep) (r : Ring), RInv r → RunOk r steps → RInv (r.run steps) := by
  intro steps
  induction steps with
  | nil => intro r h _; exact h
  | cons e rest ih => intro r h hok; exact ih _ (h.step e hok.1) hok.2

theorem RInv.init (cap : Nat) : RInv { sqCap := cap } :=
  ⟨KInv.init (by simp [Ring.owed, opsOf]), by simp [opsOf], by intro c hc; cases hc⟩

end Compio.Completion
