/-
Words of the lifecycle automaton (`lifeStep`, `lifeRun` of Model/Actor.lean): the hooks of a log, and that handlers
are bracketed.
-/
import Compio.Model.Actor
import Compio.Lemmas.Lts
import Compio.Lemmas.ListFacts

namespace Compio.Actor

theorem lifeIsRun : IsRun lifeStep lifeRun :=
  ⟨fun _ => rfl, fun l o os => by rw [lifeRun]; cases lifeStep l o <;> rfl⟩

theorem life_snoc {log : List Obs} {l l' : Life} {o : Obs} (hl : lifeRun .fresh log = some l)
    (hs : lifeStep l o = some l') : lifeRun .fresh (log ++ [o]) = some l' := by
  rw [lifeIsRun.snoc, hl]; exact hs

def hookName : Obs → Option Hook
  | .hook h _ => some h
  | _ => none

def hookNames (log : List Obs) : List Hook := log.filterMap hookName

theorem hookNames_snoc (log : List Obs) (o : Obs) :
    hookNames (log ++ [o]) = hookNames log ++ (hookName o).toList :=
  filterMap_snoc hookName log o

theorem handler_bracketed (l l' : Life) (pre post : List Obs) (m : Nat)
    (h : lifeRun l (pre ++ .hs m :: post) = some l') :
    post = [] ∨ ∃ ok post', post = .he m ok :: post' := by
  rw [lifeIsRun.append] at h
  obtain ⟨l1, _, h⟩ := Option.bind_eq_some_iff.mp h
  obtain ⟨l2, h2, h⟩ := lifeIsRun.cons_some.mp h
  obtain rfl : l2 = .inHandler m := by
    cases l1 <;> simp [lifeStep] at h2
    exact h2.symm
  cases post with
  | nil => exact Or.inl rfl
  | cons o post' =>
    right
    obtain ⟨_, h3, _⟩ := lifeIsRun.cons_some.mp h
    cases o with
    | he m' ok =>
      by_cases hm : m = m'
      · subst hm; exact ⟨ok, post', rfl⟩
      · simp [lifeStep, hm] at h3
    | hs _ => simp [lifeStep] at h3
    | hook _ _ => simp [lifeStep] at h3

end Compio.Actor
