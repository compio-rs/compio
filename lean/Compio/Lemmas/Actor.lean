/-
Invariants of the actor transition system of Model/Actor.lean, each preserved by every step (`Step`,
Lemmas/ActorStep.lean); all of them together (`Inv`) hold after every schedule from a fresh mailbox (`inv_run`).

Most invariants tie some fields to the program point through a function of it (`tokAt`, `agree`, `hooksAt`, ...).
Their step lemmas are a `cases` on the step: an action of the other threads leaves those fields alone; an edge of
the task between two program points with the same facts is closed by evaluating the function at both; what is left
by name are the edges that matter for the invariant.
-/
import Compio.Lemmas.ActorStep
import Compio.Lemmas.ActorLife

namespace Compio.Actor

theorem isRun : IsRun step run :=
  ⟨fun _ => rfl, fun s e es => by rw [run]; cases step s e <;> rfl⟩

theorem run_append (s : St) (es fs : List Ev) :
    run s (es ++ fs) = (run s es).bind fun s' => run s' fs :=
  isRun.append s es fs

theorem run_induct {P : St → Prop} {s s' : St} {es : List Ev}
    (h0 : P s) (hstep : ∀ s e s', P s → step s e = some s' → P s') (hr : run s es = some s') : P s' :=
  isRun.invariant hstep h0 hr

theorem cap_step {s : St} {e : Ev} {s' : St} (h : Step s e s') : s'.cap = s.cap := by
  cases h with
  | env h => cases h <;> rfl
  | task h => cases h <;> rfl

def hsId : Obs → Option Nat
  | .hs m => some m
  | _ => none

/-- the messages whose handler was entered, in log order -/
def hsIds (log : List Obs) : List Nat := log.filterMap hsId

theorem hsIds_snoc (log : List Obs) (o : Obs) : hsIds (log ++ [o]) = hsIds log ++ (hsId o).toList :=
  filterMap_snoc hsId log o

/-- the mailbox: accepted = handled, then the queue in order; the bound of the channel; `handled` is what the log
shows -/
structure InvM (s : St) : Prop where
  accepted : s.accepted = s.handled ++ s.queue.map (·.id)
  bounded : s.queue.length ≤ s.cap
  logged : s.handled = hsIds s.log

theorem invM_init (cap : Nat) (named : Bool) : InvM (St.init cap named) := by
  constructor <;> simp [St.init, hsIds]

theorem pushRes_ok {s : St} (h : s.pushRes = .ok) : s.queue.length < s.cap := by
  unfold St.pushRes at h
  split at h
  · cases h
  · split at h
    · cases h
    · omega

theorem invM_step {s : St} {e : Ev} {s' : St} (hi : InvM s) (h : Step s e s') : InvM s' := by
  obtain ⟨acc, bnd, lg⟩ := hi
  cases h with
  | env h =>
    cases h with
    | sendPushOk it _ hok => exact ⟨by simp [acc], by simpa using Nat.succ_le_of_lt (pushRes_ok hok), lg⟩
    | _ => exact ⟨acc, bnd, lg⟩
  | task h =>
    cases h with
    | pollMsgTaken it q _ hq =>
      rw [hq] at acc bnd
      exact ⟨by simp [acc], Nat.le_of_succ_le bnd, by simp [hsIds_snoc, hsId, lg]⟩
    | preStartOk | preStartErr | postStartOk | postStartErr | handlerOk | handlerErr | preStop | postStop =>
      -- a hook or the end of a handler is logged
      exact ⟨acc, bnd, by rw [hsIds_snoc]; simpa [hsId] using lg⟩
    | _ => exact ⟨acc, bnd, lg⟩

def Pc.rxDropped : Pc → Bool
  | .startFailed | .finPostStop _ | .finRelease _ | .finNotify _ | .exited _ => true
  | _ => false

def Pc.afterBeginStop : Pc → Bool
  | .finPreStop _ | .finDropRx _ | .finPostStop _ | .finRelease _ | .finNotify _ | .exited _ => true
  | _ => false

/-- the channel against the program point. `rx`: the receiver is gone exactly at the program points after
`drop(receiver)`; `stopping`: set from `begin_stop` on; `chan`: the channel outlives the task, and is destroyed only when
no send or stop is under way -/
structure InvR (s : St) : Prop where
  rx : s.rxAlive = !s.pc.rxDropped
  stopping : s.pc.afterBeginStop = true → s.stopping = true
  chan : s.chanAlive = false → s.pc.terminal = true ∧ s.inflight = [] ∧ s.stopsInFlight = 0

theorem invR_init (cap : Nat) (named : Bool) : InvR (St.init cap named) := by
  constructor <;> simp [St.init, Pc.rxDropped, Pc.afterBeginStop, Pc.terminal]

theorem InvR.chanAlive {s : St} (hr : InvR s) (ht : s.pc.terminal = false) : s.chanAlive = true :=
  eq_true_of_ne_false fun hc => by rw [(hr.chan hc).1] at ht; cases ht

theorem invR_step {s : St} {e : Ev} {s' : St} (hi : InvR s) (h : Step s e s') : InvR s' := by
  obtain ⟨rx, st, ch⟩ := hi
  cases h with
  | env h =>
    refine ⟨by cases h <;> exact rx, ?_, fun hc => ?_⟩
    · cases h with
      | stopSwapFirst => exact fun _ => rfl
      | _ => exact st
    -- nothing is under way once the channel is destroyed: of the steps from there only `dropFuture` is enabled
    · cases h with
      | dropFuture => exact ch hc
      | dropSenders ht _ hin hst => exact ⟨ht, hin, hst⟩
      | sendPushOk _ hm | sendPushRefused _ _ hm => rw [(ch hc).2.1] at hm; cases hm
      | stopPush hne => exact absurd (ch hc).2.2 hne
      | _ => rw [‹s.chanAlive = true›] at hc; cases hc
  | task h =>
    have hc := InvR.chanAlive ⟨rx, st, ch⟩ h.live
    refine ⟨?_, ?_, ?_⟩
    · cases h with
      | returnFailed | dropRx => rfl
      | _ => rw [‹s.pc = _›] at rx; exact rx
    · cases h with
      | beginStop => exact fun _ => rfl
      | _ => rw [‹s.pc = _›] at st; exact st
    · cases h <;> exact fun hc' => by rw [hc] at hc'; cases hc'

/-- the registration a named actor holds at each program point -/
def tokAt : Pc → Tok
  | .init | .failRelease => .reserved
  | .failReport | .failReturn | .startFailed | .finNotify _ | .exited _ => .dropped
  | .preStarted | .postStart | .atRecv | .polledStop | .handling _ _ | .finBegin _ | .finPreStop _
  | .finDropRx _ | .finPostStop _ | .finRelease _ => .active

/-- the registration of a named actor is a function of the program point -/
def InvK (s : St) : Prop := s.tok = .unnamed ∨ s.tok = tokAt s.pc

theorem invK_init (cap : Nat) (named : Bool) : InvK (St.init cap named) := by
  cases named <;> simp [InvK, St.init, tokAt]

theorem invK_step {s : St} {e : Ev} {s' : St} (hi : InvK s) (h : Step s e s') : InvK s' := by
  unfold InvK at *
  cases h with
  | env h => cases h <;> exact hi
  | task h =>
    cases h with
    | preStartOk | releaseFailed | releaseDetached | release =>
      -- the edges that act on the registration
      rw [‹s.pc = _›] at hi
      exact hi.imp (fun h => by rw [h]; rfl) (fun h => by rw [h]; rfl)
    | _ => rw [‹s.pc = _›] at hi; exact hi

/-- the states of the lifecycle automaton the log may have reached at each program point -/
def agree (l : Life) : Pc → Bool
  | .init => l = .fresh
  | .failRelease | .failReport | .failReturn | .startFailed => l = .deadStart
  | .preStarted | .postStart => l = .started
  | .atRecv | .polledStop => l = .running
  | .handling it _ => l = .inHandler it.id
  | .finBegin _ | .finPreStop _ => l = .started ∨ l = .running ∨ l = .closing
  | .finDropRx _ | .finPostStop _ => l = .stopped1
  | .finRelease _ | .finNotify _ | .exited _ => l = .done

/-- the log is accepted by the lifecycle automaton (`lifeStep`, Model/Actor.lean), which is then in a state that fits
the program point -/
def InvL (s : St) : Prop := ∃ l, lifeRun .fresh s.log = some l ∧ agree l s.pc = true

theorem invL_init (cap : Nat) (named : Bool) : InvL (St.init cap named) :=
  ⟨.fresh, by simp [St.init, lifeRun], by simp [St.init, agree]⟩

theorem invL_step {s : St} {e : Ev} {s' : St} (hi : InvL s) (h : Step s e s') : InvL s' := by
  obtain ⟨l, hl, ha⟩ := hi
  unfold InvL
  cases h with
  | env h => cases h <;> exact ⟨l, hl, ha⟩
  | task h =>
    -- an edge that logs an observation: `agree` gives the automaton's state, which takes the observation
    cases h with
    | signalDetached hp | pollStopTaken hp =>
      rw [hp] at ha
      exact ⟨l, hl, by simp only [agree, decide_eq_true_eq] at ha ⊢; simp [ha]⟩
    | preStop _ _ hp =>
      -- `pre_stop` may follow `pre_start`, `post_start` or a handler
      rw [hp] at ha
      simp only [agree, decide_eq_true_eq] at ha
      rcases ha with rfl | rfl | rfl <;> exact ⟨_, life_snoc hl rfl, rfl⟩
    | pollMsgTaken _ _ hp =>
      rw [hp] at ha; obtain rfl := of_decide_eq_true ha
      exact ⟨_, life_snoc hl rfl, decide_eq_true rfl⟩
    | handlerOk _ _ hp | handlerErr _ _ hp =>
      rw [hp] at ha; obtain rfl := of_decide_eq_true ha
      exact ⟨_, life_snoc hl (if_pos rfl), rfl⟩
    | preStartOk hp | preStartErr hp | postStartOk hp | postStartErr hp | postStop _ _ hp =>
      rw [hp] at ha; obtain rfl := of_decide_eq_true ha
      exact ⟨_, life_snoc hl rfl, rfl⟩
    | _ => rw [‹s.pc = _›] at ha; exact ⟨l, hl, ha⟩

def callCount (l : List Item) : Nat := (l.filter (·.call)).length

@[simp] theorem callCount_nil : callCount [] = 0 := rfl

@[simp] theorem callCount_append (a b : List Item) : callCount (a ++ b) = callCount a + callCount b := by
  simp [callCount]

@[simp] theorem callCount_cons (it : Item) (l : List Item) :
    callCount (it :: l) = (if it.call then 1 else 0) + callCount l := by
  unfold callCount
  by_cases h : it.call <;> simp [h] <;> omega

theorem callCount_erase (l : List Item) (it : Item) (h : it ∈ l) :
    callCount (l.erase it) + (if it.call then 1 else 0) = callCount l := by
  have := ((List.perm_cons_erase h).filter (·.call)).length_eq
  rw [← callCount, ← callCount, callCount_cons] at this
  omega

theorem dropCalls_length (q : List Item) : (dropCalls q).length = callCount q := by
  simp [dropCalls, callCount]

theorem length_ite_snoc {α} (c : Prop) [Decidable c] (l : List α) (x : α) :
    (if c then l ++ [x] else l).length = l.length + if c then 1 else 0 := by
  split <;> simp

/-- the call being handled and not yet answered -/
def inHand : Pc → Nat
  | .handling it false => if it.call then 1 else 0
  | _ => 0

/-- every issued call is in exactly one place: answered, queued, being sent, or in the handler's hand; the queue
counts only while the channel exists, its destruction answers the queued calls -/
def InvCa (s : St) : Prop :=
  s.issued = s.resolved.length + (if s.chanAlive then callCount s.queue else 0) + callCount s.inflight + inHand s.pc

theorem invCa_init (cap : Nat) (named : Bool) : InvCa (St.init cap named) := by
  simp [InvCa, St.init, inHand]

theorem invCa_step {s : St} {e : Ev} {s' : St} (hr : InvR s) (hi : InvCa s) (h : Step s e s') : InvCa s' := by
  unfold InvCa at *
  cases h with
  | env h =>
    cases h with
    | sendCheckClosed it | sendCheckOpen it =>
      cases hcall : it.call <;> simp [hcall] at hi ⊢ <;> omega
    | sendPushOk it hm =>
      -- a send is under way, so the channel exists
      have hc : s.chanAlive = true := eq_true_of_ne_false fun hc => by rw [(hr.chan hc).2.1] at hm; cases hm
      have := callCount_erase s.inflight it hm
      simp [hc] at hi ⊢; omega
    | sendPushRefused it r hm =>
      have := callCount_erase s.inflight it hm
      simp only [length_ite_snoc]; omega
    | dropSenders _ hc => simp [hc, dropCalls_length] at hi ⊢; omega
    | _ => exact hi
  | task h =>
    have hc := hr.chanAlive h.live
    cases h with
    | pollMsgTaken it q hp hq => rw [hp] at hi; simp [hc, hq, inHand] at hi ⊢; omega
    | reply it v hp hcall => rw [hp] at hi; simp [inHand, hcall] at hi ⊢; omega
    | handlerOk it replied hp | handlerErr it replied hp =>
      rw [hp] at hi
      cases replied <;> cases hcall : it.call <;> simp [inHand, hcall] at hi ⊢ <;> omega
    | _ => rw [‹s.pc = _›] at hi; exact hi

/-- the message in the handler's hands -/
def inHandler : Pc → Option Nat
  | .handling it _ => some it.id
  | _ => none

/-- where an answer comes from: a reply only for a handled message, `noReply` only for a handled message or after the
channel was destroyed. `cur` is only there to make `reply` inductive. -/
structure InvRe (s : St) : Prop where
  cur : ∀ m ∈ inHandler s.pc, m ∈ s.handled
  reply : ∀ c v, (c, Res.reply v) ∈ s.resolved → c ∈ s.handled
  noReply : ∀ c, (c, Res.noReply) ∈ s.resolved → c ∈ s.handled ∨ s.chanAlive = false

theorem invRe_init (cap : Nat) (named : Bool) : InvRe (St.init cap named) := by
  constructor <;> simp [St.init, inHandler]

theorem Step.mono {s : St} {e : Ev} {s' : St} (h : Step s e s') :
    (∀ m ∈ s.handled, m ∈ s'.handled) ∧ (s.chanAlive = false → s'.chanAlive = false) := by
  cases h with
  | env h =>
    cases h with
    | dropSenders => exact ⟨fun _ => id, fun _ => rfl⟩
    | _ => exact ⟨fun _ => id, id⟩
  | task h =>
    cases h with
    | pollMsgTaken => exact ⟨fun _ => List.mem_append_left _, id⟩
    | _ => exact ⟨fun _ => id, id⟩

theorem invRe_step {s : St} {e : Ev} {s' : St} (hi : InvRe s) (h : Step s e s') : InvRe s' := by
  obtain ⟨cur, rep, nor⟩ := hi
  obtain ⟨hh, hc⟩ := h.mono
  refine ⟨?_, fun c v hm => ?_, fun c hm => ?_⟩
  · cases h with
    | env h => cases h <;> exact cur
    | task h =>
      cases h with
      | pollMsgTaken it => exact fun m hm => by cases hm; simp
      | handlerOk | handlerErr => exact nofun
      | _ => rw [‹s.pc = _›] at cur; exact cur
  -- the new answer, if it is one of the handler's, is for the message of the program point
  · rcases answers_step h hm with ho | ⟨hr, _⟩ | ⟨it, _, hp, rfl, _⟩ | ⟨_, hr, _⟩
    · exact hh _ (rep c v ho)
    · rcases hr with hr | hr <;> cases hr
    · exact hh _ (cur it.id (by rw [hp]; rfl))
    · cases hr
  · rcases answers_step h hm with ho | ⟨hr, _⟩ | ⟨it, _, hp, rfl, _⟩ | ⟨_, _, hca⟩
    · exact (nor c ho).imp (hh _) hc
    · rcases hr with hr | hr <;> cases hr
    · exact .inl (hh _ (cur it.id (by rw [hp]; rfl)))
    · exact .inr hca

def Pc.exit? : Pc → Option Exit
  | .finBegin e | .finPreStop e | .finDropRx e | .finPostStop e | .finRelease e | .finNotify e | .exited e => some e
  | _ => none

theorem orFail_stopped {e : Exit} {ok : Bool} {code : Nat} (h : e.orFail ok code = .stopped) : e = .stopped := by
  cases e <;> simp_all [Exit.orFail]

/-- an exit with `Stopped` needs a consumed stop request, or a dropped spawn future (`detached`); stated for all of
`finish`, where the exit value is fixed, to be inductive -/
def InvX (s : St) : Prop := s.pc.exit? = some .stopped → s.stopConsumed = true ∨ s.detached = true

theorem invX_init (cap : Nat) (named : Bool) : InvX (St.init cap named) := by
  simp [InvX, St.init, Pc.exit?]

theorem invX_step {s : St} {e : Ev} {s' : St} (hi : InvX s) (h : Step s e s') : InvX s' := by
  unfold InvX at *
  cases h with
  | env h => cases h <;> exact hi
  | task h =>
    cases h with
    | signalDetached | pollStopTaken => exact fun _ => by simp
    | postStartErr | handlerErr => exact nofun
    | preStop _ _ hp | postStop _ _ hp =>
      -- a stop hook's error never turns an exit into `Stopped`
      rw [hp] at hi
      exact fun h => hi (congrArg some (orFail_stopped (Option.some.inj h)))
    | _ => rw [‹s.pc = _›] at hi; exact hi

/-- the hooks that have run when the task is at a program point; `d`: the spawn future was found dropped, so `finish`
runs without `run` and `post_start` is skipped -/
def hooksAt : Pc → Bool → List Hook
  | .init, _ => []
  | .failRelease, _ | .failReport, _ | .failReturn, _ | .startFailed, _ | .preStarted, _ | .postStart, _ => [.preStart]
  | .atRecv, _ | .polledStop, _ | .handling _ _, _ => [.preStart, .postStart]
  | .finBegin _, d | .finPreStop _, d => .preStart :: if d then [] else [.postStart]
  | .finDropRx _, d | .finPostStop _, d => .preStart :: (if d then [] else [.postStart]) ++ [.preStop]
  | .finRelease _, d | .finNotify _, d | .exited _, d =>
    .preStart :: (if d then [] else [.postStart]) ++ [.preStop] ++ [.postStop]

/-- program points a detached task never reaches -/
def Pc.attachedOnly : Pc → Bool
  | .finBegin _ | .finPreStop _ | .finDropRx _ | .finPostStop _ | .finRelease _ | .exited _ => false
  | _ => true

/-- the hooks run so far are a function of the program point; `detached` is set only by `started_tx.send` finding the
spawn future dropped, which is before `post_start`, and a detached task goes from `release` straight to the exit -/
structure InvH (s : St) : Prop where
  hooks : hookNames s.log = hooksAt s.pc s.detached
  attached : s.pc.attachedOnly = true → s.detached = false

theorem invH_init (cap : Nat) (named : Bool) : InvH (St.init cap named) := by
  constructor <;> simp [St.init, hookNames, hooksAt]

theorem invH_step {s : St} {e : Ev} {s' : St} (hi : InvH s) (h : Step s e s') : InvH s' := by
  obtain ⟨hk, ha⟩ := hi
  cases h with
  | env h => cases h <;> exact ⟨hk, ha⟩
  | task h =>
    cases h with
    | preStartOk hp | preStartErr hp | postStartOk hp | pollMsgTaken _ _ hp | handlerOk _ _ hp | preStop _ _ hp
    | postStop _ _ hp =>
      rw [hp] at hk ha; exact ⟨by rw [hookNames_snoc, hk]; rfl, ha⟩
    | postStartErr hp | handlerErr _ _ hp =>
      -- `finish` is entered from `run`: the task is attached
      rw [hp] at hk ha; exact ⟨by rw [hookNames_snoc, hk, ha rfl]; rfl, nofun⟩
    | pollStopTaken hp => rw [hp] at hk ha; exact ⟨by rw [hk, ha rfl]; rfl, nofun⟩
    | release _ hp hd => rw [hp] at hk; exact ⟨hk, fun _ => hd⟩
    | signalDetached hp | notifyExit _ hp => rw [hp] at hk; exact ⟨hk, nofun⟩
    | _ => rw [‹s.pc = _›] at hk ha; exact ⟨hk, ha⟩

/-- `post_start` returned `Ok` -/
def startedOk (log : List Obs) : Bool := log.any (· == .hook .postStart true)

theorem startedOk_snoc (log : List Obs) (o : Obs) :
    startedOk (log ++ [o]) = (o == .hook .postStart true || startedOk log) := by
  simp [startedOk, Bool.or_comm]

theorem postStart_of_startedOk {log : List Obs} (h : startedOk log = true) : Hook.postStart ∈ hookNames log := by
  obtain ⟨o, ho, he⟩ := List.any_eq_true.mp h
  exact List.mem_filterMap.mpr ⟨o, ho, by rw [beq_iff_eq.mp he]; rfl⟩

theorem InvH.not_started {s : St} (hh : InvH s) (hn : Hook.postStart ∉ hooksAt s.pc s.detached) :
    startedOk s.log = false := by
  cases hs : startedOk s.log with
  | false => rfl
  | true => exact absurd (hh.hooks ▸ postStart_of_startedOk hs) hn

theorem InvH.detached_not_started {s : St} (hh : InvH s) (hd : s.detached = true) : startedOk s.log = false := by
  refine hh.not_started ?_
  have ha := hh.attached
  rw [hd] at ha ⊢
  revert ha
  cases s.pc <;> simp [hooksAt, Pc.attachedOnly]

/-- the exit notification, present once an attached task is past it -/
def exitNotes : Pc → Bool → List Nat
  | .exited e, false => [exitNote e]
  | _, _ => []

theorem mem_exitNotes {n : Nat} {pc : Pc} {d : Bool} (h : n ∈ exitNotes pc d) :
    (n = 1 ∨ n = 2) ∧ ∃ e, pc = .exited e := by
  unfold exitNotes at h
  split at h
  · next e => cases e <;> simp_all [exitNote]
  · cases h

/-- the spawner has been told about a failed start -/
def Pc.afterReport : Pc → Bool
  | .failReturn | .startFailed => true
  | _ => false

/-- what the supervisor is told, and the spawner only by `started_tx.send(Err(error))` -/
structure InvN (s : St) : Prop where
  shape : s.notified = (if startedOk s.log then [0] else []) ++ exitNotes s.pc s.detached
  reported : s.startReported = s.pc.afterReport

theorem Pc.afterReport_iff {pc : Pc} : pc.afterReport = true ↔ pc = .failReturn ∨ pc = .startFailed := by
  cases pc <;> simp [Pc.afterReport]

theorem invN_init (cap : Nat) (named : Bool) : InvN (St.init cap named) := by
  constructor <;> simp [St.init, startedOk, exitNotes, Pc.afterReport]

theorem invN_step {s : St} {e : Ev} {s' : St} (hh : InvH s) (hi : InvN s) (h : Step s e s') : InvN s' := by
  obtain ⟨sh, rp⟩ := hi
  cases h with
  | env h => cases h <;> exact ⟨sh, rp⟩
  | task h =>
    cases h with
    | preStartOk hp | preStartErr hp | postStartErr hp | pollMsgTaken _ _ hp | handlerOk _ _ hp | handlerErr _ _ hp
    | preStop _ _ hp | postStop _ _ hp =>
      -- `post_start` returning `Ok` is the only observation that counts for `startedOk`
      rw [hp] at sh rp; exact ⟨by simp only [startedOk_snoc]; exact sh, rp⟩
    | postStartOk hp =>
      have := hh.not_started (by rw [hp]; simp [hooksAt])
      rw [hp, this] at sh; rw [hp] at rp
      exact ⟨by simp [startedOk, sh, exitNotes], rp⟩
    | reportFailure hp => rw [hp] at sh; exact ⟨sh, rfl⟩
    | releaseDetached _ hp hd => rw [hp] at sh rp; exact ⟨by rw [hd]; exact sh, rp⟩
    | notifyExit _ hp =>
      rw [hp, hh.attached (by rw [hp]; rfl)] at sh; rw [hp] at rp
      exact ⟨by rw [hh.attached (by rw [hp]; rfl), sh]; simp [exitNotes], rp⟩
    | _ => rw [‹s.pc = _›] at sh rp; exact ⟨sh, rp⟩

structure Inv (cap : Nat) (s : St) : Prop where
  capacity : s.cap = cap
  m : InvM s
  r : InvR s
  k : InvK s
  l : InvL s
  ca : InvCa s
  re : InvRe s
  x : InvX s
  h : InvH s
  n : InvN s

theorem inv_run {cap : Nat} {named : Bool} {evs : List Ev} {s : St}
    (h : run (St.init cap named) evs = some s) : Inv cap s := by
  refine run_induct (P := Inv cap) ?_ ?_ h
  · exact ⟨rfl, invM_init cap named, invR_init cap named, invK_init cap named, invL_init cap named,
      invCa_init cap named, invRe_init cap named, invX_init cap named, invH_init cap named, invN_init cap named⟩
  · intro s e s' ⟨c, m, r, k, l, ca, re, x, hh, n⟩ hs
    have hs := step_sound hs
    exact ⟨(cap_step hs).trans c, invM_step m hs, invR_step r hs, invK_step k hs, invL_step l hs,
      invCa_step r ca hs, invRe_step re hs, invX_step x hs, invH_step hh hs, invN_step hh n hs⟩

end Compio.Actor
