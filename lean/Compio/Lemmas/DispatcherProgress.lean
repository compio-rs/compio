/-
Bounded progress for Model/Dispatcher.lean (property C18): a variant `rank` that every event strictly decreases
except new `dispatch` / `dispatch_blocking` calls and wake-ups (which leave it as it is), and absence of deadlock
once `join` was called.
-/
import Compio.Lemmas.Dispatcher

namespace Compio.Dispatcher

/-- events still ahead of a task object: be received, be started, one per suspension, end -/
def tcost (st : TStat) (b : Body) : Nat :=
  match st with
  | .queued => b.steps + 3
  | .spawned _ => b.steps + 2
  | .running _ k => k + 1
  | .pooled => 1
  | _ => 0

/-- the caller can still drop the receiver -/
def ccost : Chan → Nat
  | .pending | .value _ | .cancelled => 1
  | _ => 0

def TView.cost (v : TView) : Nat := tcost v.stat v.body + ccost v.chan

/-- a weight that each of `die`, `reap`, `exitLoop`, `teardown` lowers (in the loop > dying > draining > finished);
`idle` and `awaiting` weigh the same because `recv` and the end of the awaited task move the loop between them -/
def wcost : Main → Nat
  | .idle | .awaiting _ => 4
  | .dying _ => 3
  | .draining => 2
  | _ => 0

theorem ccost_send_le (c : Chan) (x : Nat) : ccost (c.send x) ≤ ccost c := by
  cases c <;> simp [Chan.send, ccost]
theorem ccost_cancel_le (c : Chan) : ccost c.cancel ≤ ccost c := by
  cases c <;> simp [Chan.cancel, ccost]

theorem TTrans.cost_lt {nw : Nat} {v v' : TView} (h : TTrans nw false v v') : v'.cost < v.cost := by
  cases h with
  | recv _ _ hs | start _ _ hs | resume _ _ _ hs => simp [TView.cost, hs, tcost]
  | finishOk _ _ x hs | blockingOk _ x hs =>
    have := ccost_send_le v.chan x
    simp [TView.cost, hs, tcost]; omega
  | finishPanic _ _ hs | dropQueued _ hs | blockingPanic _ hs =>
    have := ccost_cancel_le v.chan
    simp [TView.cost, hs, tcost]; omega
  | dropActive _ w ha =>
    have := ccost_cancel_le v.chan
    cases hst : v.stat <;> simp [hst, TStat.activeOn] at ha <;>
      (simp [TView.cost, hst, tcost, TStat.dropIt]; omega)
  | rxDrop _ h1 h2 =>
    cases hc : v.chan <;> simp [hc] at h1 h2 <;> simp [TView.cost, hc, ccost]

/-- the sum runs over `accepted`: every task whose view can change is there (`TInv.mem_accepted`) -/
def taskRank (s : St) : Nat := (s.accepted.map fun t => (s.view t).cost).sum
def workerRank (s : St) : Nat := ((List.range s.nw).map fun w => wcost (s.main w)).sum

/-- upper bound on the number of events other than wake-ups in a schedule without new dispatch calls
(`internal_run_bounded`); the three flags: `joinStart`, `joinReturn`, the hand-over of the joiner are still ahead -/
def rank (s : St) : Nat :=
  taskRank s + workerRank s + (if s.sender then 1 else 0) + (if s.joined.isNone then 1 else 0) +
    (if s.joiner.isNone then 1 else 0)

theorem sum_map_le {α : Type} (l : List α) (f g : α → Nat) (h : ∀ x, x ∈ l → f x ≤ g x) :
    (l.map f).sum ≤ (l.map g).sum := by
  induction l with
  | nil => exact Nat.le_refl _
  | cons a l ih =>
    simp only [List.map_cons, List.sum_cons]
    exact Nat.add_le_add (h a (List.mem_cons_self ..)) (ih fun x hx => h x (List.mem_cons_of_mem _ hx))

theorem sum_map_lt {α : Type} (l : List α) (f g : α → Nat) (h : ∀ x, x ∈ l → f x ≤ g x)
    (hs : ∃ x, x ∈ l ∧ f x < g x) : (l.map f).sum < (l.map g).sum := by
  induction l with
  | nil => obtain ⟨x, hx, _⟩ := hs; cases hx
  | cons a l ih =>
    simp only [List.map_cons, List.sum_cons]
    obtain ⟨x, hx, hlt⟩ := hs
    have hl := fun x hx => h x (List.mem_cons_of_mem a hx)
    rcases List.mem_cons.mp hx with rfl | hx'
    · exact Nat.add_lt_add_of_lt_of_le hlt (sum_map_le l f g hl)
    · exact Nat.add_lt_add_of_le_of_lt (h a (List.mem_cons_self ..)) (ih hl ⟨x, hx', hlt⟩)

theorem flag_le {a b : Bool} (h : a = true → b = true) : (if a then 1 else 0) ≤ (if b then 1 else 0) := by
  cases a
  · exact Nat.zero_le _
  · rw [h rfl]; exact Nat.le_refl _

theorem rank_lt_of {s s' : St} (hacc : s'.accepted = s.accepted) (hnw : s'.nw = s.nw)
    (htask : ∀ t, (s'.view t).cost ≤ (s.view t).cost)
    (hwork : ∀ w, w < s.nw → wcost (s'.main w) ≤ wcost (s.main w))
    (hsend : s'.sender = true → s.sender = true)
    (hjoin : s'.joined.isNone = true → s.joined.isNone = true)
    (hjr : s'.joiner.isNone = true → s.joiner.isNone = true)
    (strict : (∃ t, t ∈ s.accepted ∧ (s'.view t).cost < (s.view t).cost) ∨
              (∃ w, w < s.nw ∧ wcost (s'.main w) < wcost (s.main w)) ∨
              (s.sender = true ∧ s'.sender = false) ∨
              (s.joined.isNone = true ∧ s'.joined.isNone = false) ∨
              (s.joiner.isNone = true ∧ s'.joiner.isNone = false)) : rank s' < rank s := by
  have hwork' : ∀ w, w ∈ List.range s.nw → wcost (s'.main w) ≤ wcost (s.main w) :=
    fun w hw => hwork w (List.mem_range.mp hw)
  have ht : taskRank s' ≤ taskRank s := by
    unfold taskRank; rw [hacc]; exact sum_map_le _ _ _ (fun t _ => htask t)
  have hwk : workerRank s' ≤ workerRank s := by
    unfold workerRank; rw [hnw]; exact sum_map_le _ _ _ hwork'
  have hs1 := flag_le hsend
  have hj1 := flag_le hjoin
  have hn1 := flag_le hjr
  unfold rank
  rcases strict with ⟨t, hta, hlt⟩ | ⟨w, hw, hlt⟩ | ⟨h1, h2⟩ | ⟨h1, h2⟩ | ⟨h1, h2⟩
  · have : taskRank s' < taskRank s := by
      unfold taskRank; rw [hacc]
      exact sum_map_lt _ _ _ (fun t _ => htask t) ⟨t, hta, hlt⟩
    omega
  · have : workerRank s' < workerRank s := by
      unfold workerRank; rw [hnw]
      exact sum_map_lt _ _ _ hwork' ⟨w, List.mem_range.mpr hw, hlt⟩
    omega
  · rw [h1, h2] at hs1 ⊢; simp only [if_true, Bool.false_eq_true, if_false] at hs1 ⊢; omega
  · rw [h1, h2] at hj1 ⊢; simp only [if_true, Bool.false_eq_true, if_false] at hj1 ⊢; omega
  · rw [h1, h2] at hn1 ⊢; simp only [if_true, Bool.false_eq_true, if_false] at hn1 ⊢; omega

theorem cost_step {s s' : St} {e : Event} (hq : QInv s) (he : e.external = false) (hs : Step s e s') (t : Nat) :
    s'.view t = s.view t ∨ (s'.view t).cost < (s.view t).cost :=
  (step_view hq hs t).imp_right fun h => (he ▸ h).cost_lt

theorem wcost_upd_le {main : Nat → Main} {w : Nat} {m : Main} (h : wcost m ≤ wcost (main w)) (w' : Nat) :
    wcost (upd main w m w') ≤ wcost (main w') :=
  upd_rel (fun a b => wcost a ≤ wcost b) main h (fun _ => Nat.le_refl _) w'

/-- a wake-up of a task's waker (from any thread): not work, and not bounded in number -/
def Event.isWake : Event → Bool
  | .remoteWake _ => true
  | _ => false

theorem rank_decreases {s s' : St} {e : Event} (h : Inv s) (he : e.external = false)
    (hwk : e.isWake = false) (hs : step? s e = some s') : rank s' < rank s := by
  have hq := h.t.q
  have hf := step?_frame hs
  replace hs := step?_some hs
  have htask : ∀ t, (s'.view t).cost ≤ (s.view t).cost := fun t =>
    (cost_step hq he hs t).elim (fun h => h ▸ Nat.le_refl _) Nat.le_of_lt
  have notJoin := fun (hj : e.isJoin = false) => rank_lt_of (hf.accepted he) hf.nw htask
    (hsend := by rw [(hf.join_same hj).1]; exact id) (hjoin := by rw [(hf.join_same hj).2.2]; exact id)
    (hjr := by rw [(hf.join_same hj).2.1]; exact id)
  -- an event that is not one of `join`'s and lowers no worker: some task moves on ...
  have byTask : e.isJoin = false → (∀ w, wcost (s'.main w) ≤ wcost (s.main w)) →
      ∀ t {a x : TStat}, s.stat t = a → s'.stat = upd s.stat t x → a ≠ .absent → x ≠ a → rank s' < rank s :=
      fun hj hwork t _ _ hst hup hne hch =>
    notJoin hj (fun w _ => hwork w)
      (.inl ⟨t, (h.t.mem_accepted t).mpr (hst ▸ hne), (cost_step hq he hs t).resolve_left fun h =>
        hch (by rw [← hst, ← show s'.stat t = s.stat t from congrArg TView.stat h, hup, upd_same])⟩)
  -- ... or the loop or thread of worker `w` does
  have byWorker : e.isJoin = false → ∀ w m, w < s.nw → s'.main = upd s.main w m → wcost m < wcost (s.main w) →
      rank s' < rank s := fun hj w m hw hm hlt =>
    notJoin hj (fun w' _ => hm ▸ wcost_upd_le (Nat.le_of_lt hlt) w')
      (.inr (.inl ⟨w, hw, by rw [hm, upd_same]; exact hlt⟩))
  cases hs with
  | accept | reject | acceptBlocking | rejectBlocking => cases he
  | remoteWake => cases hwk
  | blockingOk t _ hst | blockingPanic t hst | start _ t _ _ hst =>
    exact byTask rfl (fun _ => Nat.le_refl _) t hst rfl nofun nofun
  | resume _ t _ _ _ hst => exact byTask rfl (fun _ => Nat.le_refl _) t hst rfl nofun (by simp)
  | rxDrop t h1 h2 =>
    -- the view of `t` changes in its channel, not in its place
    have hlt := (cost_step hq he (.rxDrop t h1 h2) t).resolve_left fun heq =>
      h2 (by simpa [St.view] using (congrArg TView.chan heq).symm)
    have hne : s.stat t ≠ .absent := fun ha => h1 (by have := h.t.chanOk t; rwa [ha] at this)
    exact rank_lt_of rfl rfl htask (fun _ _ => Nat.le_refl _) id id id (.inl ⟨t, (h.t.mem_accepted t).mpr hne, hlt⟩)
  | recv w t _ hi hmem =>
    have hst := (hq.mem t).mp hmem
    refine byTask rfl (fun w' => ?_) t hst rfl nofun nofun
    show wcost ((if s.conc then s.main else upd s.main w (.awaiting t)) w') ≤ _
    split
    · exact Nat.le_refl _
    · exact wcost_upd_le (by rw [hi]; exact Nat.le_refl _) w'
  | finishOk w t _ _ _ hst | finishPanic w t _ _ hst =>
    refine byTask rfl (fun w' => ?_) t hst rfl nofun nofun
    -- the loop that awaited the task is idle again
    show wcost (resume s.main w (decide (s.main w = .awaiting t)) w') ≤ _
    by_cases hk : s.main w = .awaiting t
    · rw [resume_of_awaiting hk]; exact wcost_upd_le (by rw [hk]; exact Nat.le_refl _) w'
    · rw [resume_of_not_awaiting hk]; exact Nat.le_refl _
  | die w p hlt hil =>
    exact byWorker rfl w _ hlt rfl (by cases hm : s.main w <;> rw [hm] at hil <;> first | exact Nat.lt_succ_self 3 | cases hil)
  | reap w p hlt hdy =>
    exact byWorker rfl w (.dead p) hlt (by rw [gc_main, clearExec_main]) (by rw [hdy]; exact Nat.zero_lt_succ 2)
  | exitLoop w hlt hi => exact byWorker rfl w _ hlt rfl (by rw [hi]; decide)
  | teardown w hlt hdr => exact byWorker rfl w .exited hlt rfl (by rw [hdr]; decide)
  | joinStart hsend =>
    exact rank_lt_of (gc_accepted _) (gc_nw _) htask (fun _ _ => by rw [gc_main]; exact Nat.le_refl _)
      (by rw [gc_sender]; nofun) (by rw [gc_joined]; exact id) (by rw [gc_joiner]; exact id)
      (.inr (.inr (.inl ⟨hsend, gc_sender _⟩)))
  | joinPool _ hn | joinFallbackThread _ hn =>
    exact rank_lt_of rfl rfl htask (fun _ _ => Nat.le_refl _) id id nofun
      (.inr (.inr (.inr (.inr ⟨by rw [hn]; rfl, rfl⟩))))
  | joinReturn _ _ hj =>
    exact rank_lt_of rfl rfl htask (fun _ _ => Nat.le_refl _) id nofun id
      (.inr (.inr (.inr (.inl ⟨by rw [hj]; rfl, rfl⟩))))

theorem rank_wake {s s' : St} {e : Event} (hwk : e.isWake = true) (hs : step? s e = some s') : rank s' = rank s := by
  cases step?_some hs with
  | remoteWake => rfl
  | _ => cases hwk

/-- the events of a schedule that do work (everything but wake-ups) -/
def workEvents (evs : List Event) : List Event := evs.filter fun e => !e.isWake

theorem workEvents_cons (e : Event) (es : List Event) :
    workEvents (e :: es) = if e.isWake then workEvents es else e :: workEvents es := by
  unfold workEvents; rw [List.filter_cons]; cases e.isWake <;> rfl

theorem internal_run_bounded {s s' : St} {evs : List Event} (h : Inv s)
    (hint : ∀ e, e ∈ evs → e.external = false) (hr : run? s evs = some s') :
    (workEvents evs).length + rank s' ≤ rank s := by
  induction evs generalizing s with
  | nil => cases hr; exact Nat.le_of_eq (Nat.zero_add _)
  | cons e es ih =>
    obtain ⟨s1, h1, h2⟩ := run?_cons hr
    have := ih (h.step h1) (fun e' he' => hint e' (List.mem_cons_of_mem _ he')) h2
    rw [workEvents_cons]
    cases hwk : e.isWake with
    | true => rw [if_pos rfl, ← rank_wake hwk h1]; exact this
    | false =>
      have hd := rank_decreases h (hint e (List.mem_cons_self ..)) hwk h1
      rw [if_neg Bool.false_ne_true, List.length_cons]; omega

theorem no_dispatch_after_join {s s' : St} {e : Event} (hsend : s.sender = false)
    (hs : step? s e = some s') : e.external = false ∧ s'.sender = false := by
  have hf := step?_frame hs
  cases step?_some hs with
  | accept _ _ _ h1 | reject _ _ _ h1 | acceptBlocking _ _ _ h1 | rejectBlocking _ _ _ h1 | joinStart h1 =>
    rw [hsend] at h1; cases h1
  | joinPool | joinFallbackThread | joinReturn => exact ⟨rfl, hsend⟩
  | _ => exact ⟨rfl, (hf.join_same rfl).1.trans hsend⟩

theorem run_after_join_internal {s s' : St} {evs : List Event} (hsend : s.sender = false)
    (hr : run? s evs = some s') : ∀ e, e ∈ evs → e.external = false := by
  induction evs generalizing s with
  | nil => intro e he; cases he
  | cons a es ih =>
    obtain ⟨s1, h1, h2⟩ := run?_cons hr
    obtain ⟨ha, hs1⟩ := no_dispatch_after_join hsend h1
    intro e he
    rcases List.mem_cons.mp he with rfl | he'
    · exact ha
    · exact ih hs1 h2 e he'

theorem exists_not_gone {s : St} (h : allGone s = false) : ∃ w, w < s.nw ∧ (s.main w).gone = false := by
  unfold allGone at h
  rw [List.all_eq_false] at h
  obtain ⟨w, hw, hg⟩ := h
  exact ⟨w, List.mem_range.mp hw, by simpa using hg⟩

theorem poll_enabled {s : St} {w t : Nat} (hw : w < s.nw) (hc : (s.main w).canPoll = true) (ha : s.active t w)
    (hnever : ¬ (s.stat t = .running w 0 ∧ (s.body t).out = .never)) :
    (step? s (.poll w t)).isSome = true := by
  cases hst : s.stat t <;> simp [St.active, hst, TStat.activeOn] at ha
  · subst ha; simp [step?, poll?, hw, hc, hst]
  · subst ha
    rename_i k
    cases k with
    | succ k => simp [step?, poll?, hw, hc, hst]
    | zero =>
      cases ho : (s.body t).out with
      | never => exact (hnever ⟨hst, ho⟩).elim
      | ok v => simp [step?, poll?, hw, hc, hst, ho]
      | panic => simp [step?, poll?, hw, hc, hst, ho]

/-- After `join` was called (`sender = false`) and until it returns, some event is enabled -- provided that in
sequential mode no task body hangs forever (then `join` really waits forever: it awaits the task). -/
theorem join_never_stuck {s : St} (h : Inv s) (hsend : s.sender = false) (hj : s.joined = none)
    (hterm : s.conc = false → ∀ t, (s.body t).out ≠ .never) :
    ∃ e, e.external = false ∧ (step? s e).isSome = true := by
  cases hjr : s.joiner with
  | none => exact ⟨.joinFallbackThread, rfl, by simp [step?, joinHand?, hsend, hjr]⟩
  | some onPool =>
  cases hall : allGone s with
  | true => exact ⟨.joinReturn, rfl, by simp [step?, joinReturn?, hsend, hj, hall, hjr]⟩
  | false =>
    obtain ⟨w, hw, hg⟩ := exists_not_gone hall
    cases hm : s.main w with
    | idle =>
      cases hqe : s.queue with
      | nil => exact ⟨.exitLoop w, rfl, by simp [step?, exitLoop?, hw, hm, hsend, hqe]⟩
      | cons t q => exact ⟨.recv w t, rfl, by simp [step?, recv?, hw, hm, hqe]⟩
    | awaiting t =>
      obtain ⟨hc, ha⟩ := h.w.awaiting w t hm
      exact ⟨.poll w t, rfl, poll_enabled hw (by rw [hm]; rfl) ha (fun hn => hterm hc t hn.2)⟩
    | draining => exact ⟨.teardown w, rfl, by simp [step?, teardown?, hw, hm]⟩
    | exited => rw [hm] at hg; cases hg
    | dying p => exact ⟨.reap w, rfl, by simp [step?, reap?, hw, hm]⟩
    | dead p => rw [hm] at hg; cases hg

end Compio.Dispatcher
