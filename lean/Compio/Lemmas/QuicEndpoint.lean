/-
Lemmas about the endpoint model of Model/QuicEndpoint.lean (`Ep`: the `incoming_wakers` table, the `close` flag,
the registered connections): what `Endpoint::close` does on an open and on a closed endpoint (`close_open`,
`close_closed`), and the invariant `EInv` of every history of endpoint operations (`einv_run`).
-/
import Compio.Model.QuicEndpoint

namespace Compio.QuicEndpoint
open Compio.Gen.QuicEndpoint

/-- what `Endpoint::close` does to an open endpoint `e`, as a relation between `e` and `e.close` -/
structure CloseOpen (e e' : Ep) : Prop where
  tabs : ∀ t, e'.tabs t = []
  closed : e'.closed = true
  incoming : e'.incoming = e.incoming
  woken : ∀ w t, w ∈ e.tabs t → w ∈ e'.woken
  untold : e'.untold = 0
  told : e'.told = e.told + e.untold

theorem close_open (e : Ep) (h : e.closed = false) : CloseOpen e e.close := by
  have heq : e.close = closeBody.foldl Ep.applyClose e := by simp [Ep.close, h]
  rw [heq]
  refine ⟨fun t => ?_, rfl, rfl, fun w t hw => ?_, rfl, rfl⟩
  · cases t; rfl
  · cases t; exact List.mem_append_right _ hw

theorem close_closed (e : Ep) (h : e.closed = true) : e.close = e := by
  simp [Ep.close, closeBody, h]

theorem close_sets_closed (e : Ep) : e.close.closed = true := by
  cases h : e.closed with
  | true => rw [close_closed e h]; exact h
  | false => exact (close_open e h).closed

/-- a closed endpoint has no parked waiter and no registered connection that was not sent `ConnectionEvent::Close` -/
structure EInv (e : Ep) : Prop where
  tabs : e.closed = true → ∀ t, e.tabs t = []
  untold : e.closed = true → e.untold = 0

theorem EInv.of_open {e : Ep} (h : e.closed = false) : EInv e :=
  ⟨fun hc => (Bool.false_ne_true (h.symm.trans hc)).elim, fun hc => (Bool.false_ne_true (h.symm.trans hc)).elim⟩

theorem einv_init : EInv Ep.init := .of_open rfl

theorem born_closed : newConnectionBornClosedWhenClosed = true := by decide

/-- what keeps `EInv`: `closed` and `untold` are unchanged, and if no waiter was parked none is afterwards -/
structure Quiet (e e' : Ep) : Prop where
  closed : e'.closed = e.closed
  untold : e'.untold = e.untold
  tabs : (∀ t, e.tabs t = []) → ∀ t, e'.tabs t = []

theorem Quiet.refl (e : Ep) : Quiet e e := ⟨rfl, rfl, id⟩

theorem Quiet.trans {a b c : Ep} (h1 : Quiet a b) (h2 : Quiet b c) : Quiet a c :=
  ⟨h2.closed.trans h1.closed, h2.untold.trans h1.untold, fun h => h2.tabs (h1.tabs h)⟩

theorem Quiet.einv {e e' : Ep} (h : Quiet e e') (hi : EInv e) : EInv e' :=
  ⟨fun hc => h.tabs (hi.tabs (h.closed ▸ hc)), fun hc => h.untold ▸ hi.untold (h.closed ▸ hc)⟩

theorem quiet_applyWake (e : Ep) (w : LoopWake) : Quiet e (e.applyWake w) := by
  refine ⟨by cases w <;> rfl, by cases w <;> rfl, fun h t => ?_⟩
  cases w <;> simp only [Ep.applyWake, Ep.setTab] <;> split <;> simp [h]

theorem quiet_runChain (c : List (LoopCond × LoopWake)) : ∀ e : Ep, Quiet e (e.runChain c) := by
  induction c with
  | nil => exact Quiet.refl
  | cons p rest ih =>
    intro e
    obtain ⟨c, w⟩ := p
    rw [Ep.runChain]
    split
    · exact quiet_applyWake e w
    · exact ih e

theorem quiet_loopTail (e : Ep) : Quiet e e.loopTail := by
  unfold Ep.loopTail
  generalize loopChains = cs
  induction cs generalizing e with
  | nil => exact Quiet.refl e
  | cons c rest ih => exact (quiet_runChain c e).trans (ih _)

theorem poll_after_close (e : Ep) (h : e.closed = true) (w : Nat) :
    e.pollIncoming .endpointStatePollIncoming w = (e, .none) := by
  simp [Ep.pollIncoming, eRegChecksClosed, h]

theorem pollIncoming_closed (e : Ep) (r : EReg) (w : Nat) : (e.pollIncoming r w).1.closed = e.closed := by
  unfold Ep.pollIncoming
  split
  · rfl
  · split <;> rfl

theorem einv_step (e : Ep) (hi : EInv e) (o : EOp) : EInv (e.step o).1 := by
  cases o with
  | poll w =>
    cases hcl : e.closed with
    | true => simp only [Ep.step, poll_after_close e hcl w]; exact hi
    | false => exact .of_open ((pollIncoming_closed e _ w).trans hcl)
  | close =>
    cases h : e.closed with
    | true => simp only [Ep.step]; rw [close_closed e h]; exact hi
    | false => exact ⟨fun _ => (close_open e h).tabs, fun _ => (close_open e h).untold⟩
  | datagram nc =>
    have h1 : ∀ e1 : Ep, Quiet e e1 → EInv e1.loopTail := fun e1 h => (h.trans (quiet_loopTail e1)).einv hi
    simp only [Ep.step]
    split <;> exact h1 _ ⟨rfl, rfl, id⟩
  | newConn =>
    simp only [Ep.step]
    split
    · exact Quiet.einv (e := e) ⟨rfl, rfl, id⟩ hi
    · rename_i hcond
      -- not born closed: then the endpoint is open (the regenerated flag is `true`)
      simp only [born_closed, Bool.true_and, Bool.not_eq_true] at hcond
      exact .of_open hcond

theorem einv_run (ops : List EOp) : ∀ e : Ep, EInv e → EInv (e.run ops) := by
  induction ops with
  | nil => intro e h; exact h
  | cons o os ih => intro e h; exact ih _ (einv_step e h o)

end Compio.QuicEndpoint
