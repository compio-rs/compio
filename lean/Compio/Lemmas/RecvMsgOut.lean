/- Reading back the buffer the kernel lays out for a multishot `recvmsg` (`layout`, Model/RecvMsgOut.lean):
the four header words of `io_uring_recvmsg_out` and the three areas behind them. -/
import Compio.Model.RecvMsgOut

namespace Compio.RecvMsgOut

theorem leBytes4_length (v : Nat) : (leBytes4 v).length = 4 := rfl

theorem u8_ofNat_mod (n : Nat) : (UInt8.ofNat (n % 256)).toNat = n % 256 := by
  simp [UInt8.toNat_ofNat']

theorem leU32_leBytes4 (v : Nat) (rest : Bytes) (h : v < 2 ^ 32) : leU32 (leBytes4 v ++ rest) 0 = v := by
  simp only [leU32, leBytes4, List.cons_append, List.nil_append, List.getD_cons_zero, List.getD_cons_succ,
    u8_ofNat_mod]
  omega

theorem leU32_skip (pre rest : Bytes) (off : Nat) (h : pre.length = off) :
    leU32 (pre ++ rest) off = leU32 rest 0 := by
  subst h
  simp [leU32, List.getD_eq_getElem?_getD, List.getElem?_append_right]

theorem pad_length (bs : Bytes) (n : Nat) (h : bs.length ≤ n) : (pad bs n).length = n := by
  simp [pad]; omega

theorem leU32_at (pre rest : Bytes) (v off : Nat) (ho : pre.length = off) (h : v < 2 ^ 32) :
    leU32 (pre ++ (leBytes4 v ++ rest)) off = v := by
  rw [leU32_skip pre _ _ ho, leU32_leBytes4 v rest h]

theorem readHdr_layout (name ctl payload : Bytes) (flags clen : Nat)
    (hn : name.length ≤ NLEN) (hc : ctl.length ≤ clen) (hcl : clen < 2 ^ 32) (h3 : payload.length < 2 ^ 32)
    (h4 : flags < 2 ^ 32) :
    readHdr (layout name ctl payload flags clen) = ⟨name.length, ctl.length, payload.length, flags⟩ := by
  have h1 : name.length < 2 ^ 32 := by unfold NLEN at hn; omega
  have h2 : ctl.length < 2 ^ 32 := by omega
  unfold readHdr layout
  simp only [List.append_assoc]
  -- the words in front of the one read are regrouped into the skipped prefix
  rw [leU32_leBytes4 _ _ h1, leU32_at (leBytes4 _) _ _ 4 rfl h2, ← List.append_assoc,
    leU32_at (_ ++ _) _ _ 8 rfl h3, ← List.append_assoc, leU32_at (_ ++ _ ++ _) _ _ 12 rfl h4]

theorem layout_length (name ctl payload : Bytes) (flags clen : Nat)
    (hn : name.length ≤ NLEN) (hc : ctl.length ≤ clen) :
    (layout name ctl payload flags clen).length = HDR + NLEN + clen + payload.length := by
  simp only [layout, List.length_append, leBytes4_length, pad_length _ _ hn, pad_length _ _ hc, HDR]

theorem layout_drop_hdr (name ctl payload : Bytes) (flags clen : Nat) :
    (layout name ctl payload flags clen).drop HDR = pad name NLEN ++ pad ctl clen ++ payload := by
  unfold layout
  simp only [List.append_assoc]
  have : HDR = (leBytes4 name.length ++ (leBytes4 ctl.length ++ (leBytes4 payload.length ++ leBytes4 flags))).length := rfl
  rw [← List.append_assoc (leBytes4 payload.length), ← List.append_assoc (leBytes4 ctl.length),
    ← List.append_assoc (leBytes4 name.length), this, List.drop_left]

theorem layout_name (name ctl payload : Bytes) (flags clen : Nat) :
    ((layout name ctl payload flags clen).drop HDR).take name.length = name := by
  rw [layout_drop_hdr]
  simp [pad]

theorem layout_ctl (name ctl payload : Bytes) (flags clen : Nat) (hn : name.length ≤ NLEN) :
    ((layout name ctl payload flags clen).drop (HDR + NLEN)).take ctl.length = ctl := by
  rw [← List.drop_drop, layout_drop_hdr, List.append_assoc, List.drop_left' (pad_length _ _ hn)]
  simp [pad]

theorem layout_payload (name ctl payload : Bytes) (flags clen : Nat) (hn : name.length ≤ NLEN)
    (hc : ctl.length ≤ clen) : (layout name ctl payload flags clen).drop (HDR + NLEN + clen) = payload := by
  rw [Nat.add_assoc, ← List.drop_drop, layout_drop_hdr,
    List.drop_left' (by simp [pad_length _ _ hn, pad_length _ _ hc])]

end Compio.RecvMsgOut
