/- the cmsg builder lays messages out contiguously and the iterator/decoder read them back -/
import Compio.Lemmas.Cmsg
import Compio.Lemmas.Frame
namespace Compio.Cmsg
open Compio.Frame (leBytes leVal leVal_leBytes length_leBytes)

/-- a control message: level and type as their 4 raw bytes each, then the payload -/
abbrev Msg := Bytes × Bytes × Bytes

/-- level and type are 4 bytes long and `cmsg_len` fits its 8-byte field -/
def Msg.wf (m : Msg) : Prop := m.1.length = 4 ∧ m.2.1.length = 4 ∧ cmsgLen m.2.2.length < 2 ^ 64

/-- on-the-wire form of one control message as the builder lays it out in a zeroed buffer -/
def encodeMsg (m : Msg) : Bytes :=
  leBytes 8 (cmsgLen m.2.2.length) ++ m.1 ++ m.2.1 ++ m.2.2 ++ List.replicate (align m.2.2.length - m.2.2.length) 0

theorem le_align (n : Nat) : n ≤ align n := by unfold align; omega

theorem align_cmsgLen (n : Nat) : align (cmsgLen n) = space n := by
  unfold align cmsgLen space align hdr; omega

theorem length_encodeMsg (m : Msg) (h : m.wf) : (encodeMsg m).length = space m.2.2.length := by
  have := le_align m.2.2.length
  simp only [encodeMsg, List.length_append, length_leBytes, List.length_replicate, h.1, h.2.1, space, hdr]
  omega

theorem encodeMsg_append (m : Msg) (rest : Bytes) :
    encodeMsg m ++ rest = leBytes 8 (cmsgLen m.2.2.length) ++ (m.1 ++ (m.2.1 ++ (m.2.2 ++
      (List.replicate (align m.2.2.length - m.2.2.length) 0 ++ rest)))) := by
  simp [encodeMsg]

theorem sub_append_of_length {a x b : Bytes} {off n : Nat} (ho : a.length = off) (hn : x.length = n) :
    sub (a ++ (x ++ b)) off n = x := by
  subst ho hn; simp [sub]

theorem readHeader_append (pre H l t rest : Bytes) (hH : H.length = 8) (hl : l.length = 4) (ht : t.length = 4) :
    readHeader (pre ++ (H ++ (l ++ (t ++ rest)))) pre.length = ⟨leVal H, l, t⟩ := by
  unfold readHeader
  rw [sub_append_of_length rfl hH,
    ← List.append_assoc pre, sub_append_of_length (by simp [hH]) hl,
    ← List.append_assoc (pre ++ H), sub_append_of_length (by simp [hH, hl]) ht]

theorem readHeader_at (pre : Bytes) (m : Msg) (rest : Bytes) (h : m.wf) :
    readHeader (pre ++ (encodeMsg m ++ rest)) pre.length = ⟨cmsgLen m.2.2.length, m.1, m.2.1⟩ := by
  rw [encodeMsg_append, readHeader_append pre _ _ _ _ (length_leBytes ..) h.1 h.2.1, leVal_leBytes,
    Nat.mod_eq_of_lt (by simpa using h.2.2)]

theorem nxthdr_at (pre : Bytes) (m : Msg) (rest : Bytes) (h : m.wf) (len : Nat) :
    nxthdr (pre ++ (encodeMsg m ++ rest)) len pre.length
      = if pre.length + space m.2.2.length + hdr ≤ len then some (pre.length + space m.2.2.length) else none := by
  unfold nxthdr
  simp only [readHeader_at pre m rest h, align_cmsgLen, gt_iff_lt, ← Nat.not_le, ite_not]
  rw [if_pos (by unfold cmsgLen; omega)]

theorem decodeData_at (pre : Bytes) (m : Msg) (rest : Bytes) (h : m.wf) :
    decodeData (pre ++ (encodeMsg m ++ rest)) pre.length m.2.2.length = .ok m.2.2 := by
  unfold decodeData
  simp only [readHeader_at pre m rest h]
  rw [if_neg (by unfold cmsgLen; omega), encodeMsg_append, ← List.append_assoc pre,
    ← List.append_assoc (pre ++ _), ← List.append_assoc (pre ++ _ ++ _),
    sub_append_of_length (by simp [h.1, h.2.1, hdr]) rfl]

def flat (ms : List Msg) : Bytes := (ms.map encodeMsg).flatten

theorem flat_cons (m : Msg) (ms : List Msg) : flat (m :: ms) = encodeMsg m ++ flat ms := rfl

theorem flat_snoc (acc : List Msg) (m : Msg) : flat (acc ++ [m]) = flat acc ++ encodeMsg m := by
  simp [flat]

/-- offsets and headers the iterator must produce for the accepted messages -/
def hdrsFrom : Nat → List Msg → List (Nat × Header)
  | _, [] => []
  | off, m :: r => (off, ⟨cmsgLen m.2.2.length, m.1, m.2.1⟩) :: hdrsFrom (off + space m.2.2.length) r

theorem length_flat_ge : ∀ (ms : List Msg), (∀ m ∈ ms, m.wf) → hdr * ms.length ≤ (flat ms).length := by
  intro ms
  induction ms with
  | nil => intro _; simp
  | cons m r ih =>
    intro hwf
    have := ih (fun x hx => hwf x (by simp [hx]))
    rw [flat_cons, List.length_append, length_encodeMsg m (hwf m (by simp)), List.length_cons, space]
    unfold hdr at *
    omega

/-- the start cursor is written in the form that both `firsthdr` (`pre = []`) and `nxthdr` (the induction
step) return -/
theorem iterFrom_flat : ∀ (ms : List Msg) (pre : Bytes) (fuel : Nat),
    (∀ m ∈ ms, m.wf) → ms.length ≤ fuel →
    iterFrom (pre ++ flat ms) fuel (if hdr ≤ (flat ms).length then some pre.length else none)
      = hdrsFrom pre.length ms := by
  intro ms
  induction ms with
  | nil => intro pre fuel _ _; simp [flat, hdr, iterFrom_none, hdrsFrom]
  | cons m r ih =>
    intro pre fuel hwf hfuel
    obtain ⟨k, rfl⟩ : ∃ k, fuel = k + 1 := ⟨fuel - 1, by simp at hfuel; omega⟩
    have hm := hwf m (by simp)
    have hl := length_encodeMsg m hm
    have := ih (pre ++ encodeMsg m) k (fun x hx => hwf x (by simp [hx])) (by simpa using hfuel)
    rw [List.append_assoc, List.length_append, hl] at this
    rw [flat_cons, if_pos (by rw [List.length_append, hl, space]; omega)]
    simp only [iterFrom, hdrsFrom, readHeader_at pre m _ hm, nxthdr_at pre m _ hm, List.length_append, hl,
      Nat.add_assoc, Nat.add_le_add_iff_left]
    rw [this]

def decodeAll (buf : Bytes) : Nat → List Msg → List Decoded
  | _, [] => []
  | off, m :: r => decodeData buf off m.2.2.length :: decodeAll buf (off + space m.2.2.length) r

theorem decodeAll_flat : ∀ (ms : List Msg) (pre : Bytes), (∀ m ∈ ms, m.wf) →
    decodeAll (pre ++ flat ms) pre.length ms = ms.map (fun m => Decoded.ok m.2.2) := by
  intro ms
  induction ms with
  | nil => intro _ _; rfl
  | cons m r ih =>
    intro pre hwf
    have hm := hwf m (by simp)
    have := ih (pre ++ encodeMsg m) (fun x hx => hwf x (by simp [hx]))
    rw [List.append_assoc, List.length_append, length_encodeMsg m hm] at this
    simp only [decodeAll, List.map_cons, flat_cons, decodeData_at pre m _ hm, this]

/-- the builder holds exactly `acc`, laid out from 0 with zeros after; `off` is the cursor `nxthdr` leaves at their end -/
structure BInv (b : Builder) (acc : List Msg) : Prop where
  bytes : b.bytes = flat acc ++ List.replicate (b.cap - (flat acc).length) 0
  len : b.len = (flat acc).length
  fits : (flat acc).length ≤ b.cap
  off : b.offset = if (flat acc).length + hdr ≤ b.cap then some (flat acc).length else none

theorem new_ok (cap : Nat) (b : Builder) (h : Builder.new cap = .ok b) :
    b = ⟨cap, List.replicate cap 0, 0, firsthdr cap⟩ := by
  unfold Builder.new at h
  split at h
  · cases h
  · cases h; rfl

theorem binv_new (cap : Nat) (b : Builder) (h : Builder.new cap = .ok b) : BInv b [] := by
  obtain rfl := new_ok cap b h
  constructor <;> simp [flat, firsthdr]

theorem finish_eq (b : Builder) (acc : List Msg) (hb : BInv b acc) : b.finish = flat acc := by
  unfold Builder.finish
  rw [hb.bytes, hb.len]
  simp

theorem patch_zero (A X : Bytes) (k : Nat) :
    patch (A ++ List.replicate k 0) A.length X = A ++ X ++ List.replicate (k - X.length) 0 := by
  unfold patch
  simp [List.drop_append]

theorem push_small (b : Builder) (acc : List Msg) (m : Msg) (hb : BInv b acc)
    (h : ¬ (flat acc).length + space m.2.2.length ≤ b.cap) : b.push m.1 m.2.1 m.2.2 = (b, .small) := by
  by_cases h1 : (flat acc).length + hdr ≤ b.cap <;> simp [Builder.push, hb.off, h1, h]

theorem push_cap (b : Builder) (l t d : Bytes) : (b.push l t d).1.cap = b.cap := by
  unfold Builder.push
  split
  · rfl
  · split <;> rfl

theorem push_fits (b : Builder) (acc : List Msg) (m : Msg) (hb : BInv b acc) (hm : m.wf)
    (hfit : (flat acc).length + space m.2.2.length ≤ b.cap) :
    (b.push m.1 m.2.1 m.2.2).2 = .ok ∧ BInv (b.push m.1 m.2.1 m.2.2).1 (acc ++ [m]) := by
  have h1 : (flat acc).length + hdr ≤ b.cap := by unfold space at hfit; omega
  have hp : patch b.bytes (flat acc).length (leBytes 8 (cmsgLen m.2.2.length) ++ m.1 ++ m.2.1 ++ m.2.2)
      = flat acc ++ (encodeMsg m ++ List.replicate (b.cap - ((flat acc).length + space m.2.2.length)) 0) := by
    have hal := le_align m.2.2.length
    rw [hb.bytes, patch_zero, List.append_assoc, encodeMsg, List.append_assoc _ (List.replicate _ _),
      List.replicate_append_replicate]
    simp only [List.length_append, length_leBytes, hm.1, hm.2.1]
    unfold space hdr at *
    congr 3
    omega
  have hl : (flat (acc ++ [m])).length = (flat acc).length + space m.2.2.length := by
    rw [flat_snoc, List.length_append, length_encodeMsg m hm]
  unfold Builder.push
  rw [hb.off, if_pos h1]
  simp only [if_pos hfit, true_and]
  exact ⟨by rw [hp, hl, flat_snoc, List.append_assoc], by rw [hl, hb.len], by rw [hl]; exact hfit,
    by rw [hp, nxthdr_at _ _ _ hm, hl]⟩

def accepted : List Msg → List PushResult → List Msg
  | m :: ms, .ok :: rs => m :: accepted ms rs
  | _ :: ms, .small :: rs => accepted ms rs
  | _, _ => []

theorem accepted_subset (ms : List Msg) (rs : List PushResult) (m : Msg) (h : m ∈ accepted ms rs) :
    m ∈ ms := by
  fun_induction accepted ms rs with
  | case1 x ms rs ih => exact List.mem_cons.mpr ((List.mem_cons.mp h).imp_right ih)
  | case2 x ms rs ih => exact List.mem_cons_of_mem _ (ih h)
  | case3 => cases h

theorem pushAll_cons (b : Builder) (m : Msg) (ms : List Msg) :
    b.pushAll (m :: ms) =
      (((b.push m.1 m.2.1 m.2.2).1.pushAll ms).1, (b.push m.1 m.2.1 m.2.2).2 :: ((b.push m.1 m.2.1 m.2.2).1.pushAll ms).2) := by
  obtain ⟨l, t, d⟩ := m
  simp [Builder.pushAll]

theorem pushAll_inv : ∀ (msgs : List Msg) (b : Builder) (acc : List Msg), BInv b acc →
    (∀ m ∈ msgs, m.wf) → BInv (b.pushAll msgs).1 (acc ++ accepted msgs (b.pushAll msgs).2) := by
  intro msgs
  induction msgs with
  | nil => intro b acc hb _; simpa [Builder.pushAll, accepted] using hb
  | cons m ms ih =>
    intro b acc hb hwf
    have hms : ∀ x ∈ ms, x.wf := fun x hx => hwf x (by simp [hx])
    rw [pushAll_cons]
    by_cases hfit : (flat acc).length + space m.2.2.length ≤ b.cap
    · obtain ⟨hr, hinv⟩ := push_fits b acc m hb (hwf m (by simp)) hfit
      rw [hr, accepted, List.append_cons]
      exact ih _ _ hinv hms
    · rw [push_small b acc m hb hfit]
      exact ih b acc hb hms

theorem pushAll_all_ok : ∀ (msgs : List Msg) (b : Builder) (acc : List Msg), BInv b acc →
    (∀ m ∈ msgs, m.wf) → (flat acc).length + (flat msgs).length ≤ b.cap →
    accepted msgs (b.pushAll msgs).2 = msgs := by
  intro msgs
  induction msgs with
  | nil => intro b acc _ _ _; rfl
  | cons m ms ih =>
    intro b acc hb hwf hfit
    have hm := hwf m (by simp)
    have hl := length_encodeMsg m hm
    rw [flat_cons, List.length_append, hl] at hfit
    obtain ⟨hr, hinv⟩ := push_fits b acc m hb hm (by omega)
    rw [pushAll_cons, hr, accepted,
      ih _ _ hinv (fun x hx => hwf x (by simp [hx])) (by rw [push_cap, flat_snoc, List.length_append, hl]; omega)]

theorem iter_flat (acc : List Msg) (hwf : ∀ m ∈ acc, m.wf) (hne : acc ≠ []) :
    iter (flat acc) = .msgs (hdrsFrom 0 acc) := by
  have hlen := length_flat_ge acc hwf
  have hpos : 0 < acc.length := List.length_pos_iff.mpr hne
  have := iterFrom_flat acc [] (iterFuel (flat acc)) hwf (by unfold iterFuel hdr at *; omega)
  unfold iter firsthdr
  rw [if_neg (by unfold space align hdr at *; omega)]
  simpa using congrArg IterResult.msgs this

end Compio.Cmsg
