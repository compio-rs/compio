/-
What one step of the wake-up model can do, as two relations with one constructor per branch of `rtStep` / `wStep`
(the two winning `cas` branches share `WMove.won`): each thread is a sequential program over the shared state. The
runtime thread's program point and a waker thread's record are indices, so that `cases` leaves them literal and
every predicate on them evaluates.
-/
import Compio.Lemmas.WakeTac

namespace Compio.Wake
open Compio.TaskWord Compio.Gen

/-- where the caller of `Executor::tick` goes next -/
def tickExit : Loop → RtPc
  | .own => .reset
  | .ext => .xarm

theorem afterTick_eq (s : State) : afterTick s = { s with zero := !s.hot.isEmpty, rt := tickExit s.cfg.loop } := by
  unfold afterTick; split <;> simp only [tickExit, *]

/-- One action of the runtime thread, as a sequential program over the shared state: at program point `pc`
(= `s.rt`), on event `e`, it leaves the state `s'`. One constructor per branch of `rtStep`, in its order. -/
inductive RtMove (s : State) : RtPc → RtEv → State → Prop
  | mainStart : RtMove s .mainStart .go
      { s with rt := .poll .main, mainWoken := false, mainSeq := s.mainSeq + 1, mainPolls := s.mainPolls + 1 }
  | mainPending : RtMove s (.poll .main) .go { s with rt := .drainCheck .tick }
  | taskPending {t nxt k} : RtMove s (.poll (.task t nxt k)) .go { s with rt := .run nxt k }
  | taskReady {t nxt k} : RtMove s (.poll (.task t nxt k)) .ready
      { (dropTask { s with word := upd s.word t (TaskState.finishRunning (s.word t)) } t) with rt := .run nxt k }
  | locGone {b t} : s.dropped t = true → RtMove s (.poll b) (.loc t) s
  | locWake {b t} : ¬ s.dropped t = true → RtMove s (.poll b) (.loc t) { s with rt := .drainCheck (.loc t b) }
  | pushPoll {b} : s.cfg.drv = .poll → RtMove s (.poll b) .push s
  | pushRoom {b} : s.cfg.drv = .iour → s.sq < s.cfg.sqcap → RtMove s (.poll b) .push { s with sq := s.sq + 1 }
  | pushOverflow {b} : s.cfg.drv = .iour → ¬ s.sq < s.cfg.sqcap → RtMove s (.poll b) .push (overflowPush s)
  | pushNoMore {b} : s.cfg.drv = .iour → ¬ s.sq < s.cfg.sqcap → (s.cq || (submits s && decide (s.efd > 0))) = true →
      RtMove s (.poll b) .pushNoMore { (overflowPush s) with arm := .needPush }
  | drainNone : s.pending = 0 → RtMove s (.drainCheck .tick) .go { s with rt := .run s.hot.head? s.cfg.maxInt }
  | drainNoneLoc {t b} : s.pending = 0 →
      RtMove s (.drainCheck (.loc t b)) .go { s with hot := hotPush s.dropped s.hot t, rt := .lwake b }
  | drainSome {r} : ¬ s.pending = 0 → RtMove s (.drainCheck r) .go { s with rt := .draining r 0 }
  | drainEnd : s.sync = [] → RtMove s (.draining .tick 0) .go { s with rt := .run s.hot.head? s.cfg.maxInt }
  | drainEndSub {d} : s.sync = [] → ¬ d = 0 →
      RtMove s (.draining .tick d) .go { (subPending s d) with rt := .run s.hot.head? s.cfg.maxInt }
  | drainEndLoc {t b} : s.sync = [] →
      RtMove s (.draining (.loc t b) 0) .go { s with hot := hotPush s.dropped s.hot t, rt := .lwake b }
  | drainEndSubLoc {t b d} : s.sync = [] → ¬ d = 0 →
      RtMove s (.draining (.loc t b) d) .go { (subPending s d) with hot := hotPush s.dropped s.hot t, rt := .lwake b }
  | drainPop {r d x rest} : s.sync = x :: rest →
      RtMove s (.draining r d) .go { s with sync := rest, hot := hotPush s.dropped s.hot x, rt := .draining r (d + 1) }
  | lwakeHit {b} : (AwakeFlag.wake s.flag).2 = true →
      RtMove s (.lwake b) .go { s with flag := (AwakeFlag.wake s.flag).1, rt := .poll b }
  | lwakeMissI {b} : ¬ (AwakeFlag.wake s.flag).2 = true → s.cfg.drv = .iour →
      RtMove s (.lwake b) .go { s with flag := (AwakeFlag.wake s.flag).1, rt := .lwrite b }
  | lwakeMissP {b} : ¬ (AwakeFlag.wake s.flag).2 = true → s.cfg.drv = .poll →
      RtMove s (.lwake b) .go { s with flag := (AwakeFlag.wake s.flag).1, rt := .lcas b }
  | lcasLost {b} : s.pnot = true → RtMove s (.lcas b) .go { s with rt := .poll b }
  | lcasWon {b} : ¬ s.pnot = true → RtMove s (.lcas b) .go { s with pnot := true, rt := .lwrite b }
  | lwrite {b} : RtMove s (.lwrite b) .go { (kWrite s) with rt := .poll b }
  | tickSpent {nxt} : RtMove s (.run nxt 0) .go
      { s with zero := !s.hot.isEmpty, rt := tickExit s.cfg.loop }
  | tickEmpty {k} : RtMove s (.run none (k + 1)) .go
      { s with zero := !s.hot.isEmpty, rt := tickExit s.cfg.loop }
  | tickGone {t k} : s.dropped t = true → RtMove s (.run (some t) (k + 1)) .go
      { s with zero := !s.hot.isEmpty, rt := tickExit s.cfg.loop }
  | runCancelled {t k} : ¬ s.dropped t = true → TaskState.isCancelled (s.word t) = true →
      RtMove s (.run (some t) (k + 1)) .go { (dropTask (startPoll s t) t) with rt := .run (nextHot s.hot t) k }
  | runPoll {t k} : ¬ s.dropped t = true → ¬ TaskState.isCancelled (s.word t) = true →
      RtMove s (.run (some t) (k + 1)) .go
        { (startPoll s t) with polls := upd s.polls t (s.polls t + 1), log := s.log ++ [t],
                               rt := .poll (.task t (nextHot s.hot t) k) }
  | xarmPush : (s.cfg.flushArms && armPushes s) = true → s.sq < s.cfg.sqcap →
      RtMove s .xarm .go { s with arm := .queued, sq := s.sq + 1, rt := .xsubmit }
  | xarmOverflow : (s.cfg.flushArms && armPushes s) = true → ¬ s.sq < s.cfg.sqcap →
      RtMove s .xarm .go { (overflowPush s) with arm := .queued, rt := .xsubmit }
  | xarmSkip : ¬ (s.cfg.flushArms && armPushes s) = true → RtMove s .xarm .go { s with rt := .xsubmit }
  | xsubmit : RtMove s .xsubmit .go { (doSubmit s) with rt := .xreset }
  | xreset : RtMove s .xreset .go
      { s with flag := (AwakeFlag.reset s.flag).1, zero := s.zero || (AwakeFlag.reset s.flag).2, rt := .xwait }
  | xwaitReady : (s.zero || fdReadable s) = true → RtMove s .xwait .go { s with rt := .xclear }
  | xwaitTimeout : RtMove s .xwait .timeout { s with rt := .xclear }
  | xclear : RtMove s .xclear .go { s with xfd := 0, rt := .reset }
  | reset : RtMove s .reset .go
      { s with flag := (AwakeFlag.reset s.flag).1, needWait := !(AwakeFlag.reset s.flag).2, rt := .arm }
  | armPush : armPushes s = true → s.sq < s.cfg.sqcap →
      RtMove s .arm .go { s with arm := .queued, sq := s.sq + 1, rt := .submit }
  | armOverflow : armPushes s = true → ¬ s.sq < s.cfg.sqcap →
      RtMove s .arm .go { (overflowPush s) with arm := .queued, rt := .submit }
  | armSkip : ¬ armPushes s = true → RtMove s .arm .go { s with rt := .submit }
  | submit : RtMove s .submit .go { (doSubmit s) with rt := .wait }
  | waitDoneI : s.cfg.drv = .iour → (!s.needWait || s.cq) = true → RtMove s .wait .go { s with rt := .setAwake1 }
  | waitEarlyI : s.cfg.drv = .iour → ¬ (!s.needWait || s.cq) = true → (s.zero || decide (s.cfg.loop = .ext)) = true →
      RtMove s .wait .go { s with rt := .mainStart }
  | waitDoneP : s.cfg.drv = .poll → (!s.needWait || decide (s.efd > 0) || s.zero || decide (s.cfg.loop = .ext)) = true →
      RtMove s .wait .go { s with rt := .pclear }
  | waitTimeoutI : s.cfg.drv = .iour → (s.needWait && !s.cq) = true → RtMove s .wait .timeout { s with rt := .mainStart }
  | waitTimeoutP : s.cfg.drv = .poll → RtMove s .wait .timeout { s with rt := .pclear }
  | pclear : RtMove s .pclear .go { s with efd := 0, rt := .pswap }
  | pswap : RtMove s .pswap .go { s with pnot := false, rt := .setAwake1 }
  | setAwake1I : s.cfg.drv = .iour → RtMove s .setAwake1 .go { s with flag := AwakeFlag.set s.flag, rt := .consume }
  | setAwake1P : s.cfg.drv = .poll → RtMove s .setAwake1 .go { s with flag := AwakeFlag.set s.flag, rt := .setAwake2 }
  | consumeSome : s.cq = true → RtMove s .consume .go { s with cq := false, rt := .clear }
  | consumeNone : ¬ s.cq = true → RtMove s .consume .go { s with rt := .setAwake2 }
  | consumeNoMore : s.cq = true → RtMove s .consume .noMore { s with cq := false, arm := .needPush, rt := .clear }
  | clear : RtMove s .clear .go { s with efd := 0, rt := .setAwake2 }
  | setAwake2 : RtMove s .setAwake2 .go { s with flag := AwakeFlag.set s.flag, rt := .mainStart }

theorem rtStep_move {s s' : State} {e : RtEv} (hs : rtStep s e = some s') : RtMove s s.rt e s' := by
  unfold rtStep startLocal drainDone at hs
  simp only [afterTick_eq] at hs
  generalize hpc : s.rt = pc at hs ⊢
  repeat' split at hs
  all_goals (try simp only [Option.some.injEq, reduceCtorEq] at hs)
  all_goals (try subst hs)
  · exact .mainStart
  · exact .mainPending
  · exact .taskPending
  · exact .taskReady
  · exact .locGone ‹_›
  · exact .locWake ‹_›
  · exact .pushPoll ‹_›
  · have x := RtMove.pushRoom (s := s) (b := ‹Back›) ‹_› ‹_›
    rwa [hpc] at x
  · exact .pushOverflow ‹_› ‹_›
  · exact .pushNoMore ‹_› ‹_› ‹_›
  · exact .drainNone ‹_›
  · exact .drainNoneLoc ‹_›
  · exact .drainSome ‹_›
  · subst_vars; exact .drainEnd ‹_›
  · exact .drainEndSub ‹_› ‹_›
  · subst_vars; exact .drainEndLoc ‹_›
  · exact .drainEndSubLoc ‹_› ‹_›
  · exact .drainPop ‹_›
  · exact .lwakeHit ‹_›
  · exact .lwakeMissI ‹_› ‹_›
  · exact .lwakeMissP ‹_› ‹_›
  · exact .lcasLost ‹_›
  · exact .lcasWon ‹_›
  · exact .lwrite
  · exact .tickSpent
  · exact .tickEmpty
  · exact .tickGone ‹_›
  · exact .runCancelled ‹_› ‹_›
  · exact .runPoll ‹_› ‹_›
  · exact .xarmPush ‹_› ‹_›
  · exact .xarmOverflow ‹_› ‹_›
  · exact .xarmSkip ‹_›
  · exact .xsubmit
  · exact .xreset
  · exact .xwaitReady ‹_›
  · exact .xwaitTimeout
  · exact .xclear
  · exact .reset
  · exact .armPush ‹_› ‹_›
  · exact .armOverflow ‹_› ‹_›
  · exact .armSkip ‹_›
  · exact .submit
  · exact .waitDoneI ‹_› ‹_›
  · exact .waitEarlyI ‹_› ‹_› ‹_›
  · exact .waitDoneP ‹_› ‹_›
  · exact .waitTimeoutI ‹_› ‹_›
  · exact .waitTimeoutP ‹_›
  · exact .pclear
  · exact .pswap
  · exact .setAwake1I ‹_›
  · exact .setAwake1P ‹_›
  · exact .consumeSome ‹_›
  · exact .consumeNone ‹_›
  · exact .consumeNoMore ‹_›
  · exact .clear
  · exact .setAwake2

/-- One atomic action of a waker thread, as a sequential program over the shared state: with record `k` in shared
state `s` it leaves the shared state `g` (the records of all threads untouched) and its own record `k'`. -/
inductive WMove (s : State) : Wk → State → Wk → Prop
  | coalesced {t ntf psh seq} :
    (TaskState.isScheduled (s.word t) || TaskState.isCompleted (s.word t) || TaskState.isCancelled (s.word t)) = true →
    WMove s ⟨.sched, .task t, ntf, psh, seq⟩ { s with word := upd s.word t (TaskState.startScheduling (s.word t)) }
      ⟨.fin, .task t, ntf, psh, s.pollSeq t⟩
  | claimed {t ntf psh seq} :
    (TaskState.isScheduled (s.word t) || TaskState.isCompleted (s.word t) || TaskState.isCancelled (s.word t)) = false →
    WMove s ⟨.sched, .task t, ntf, psh, seq⟩ { s with word := upd s.word t (TaskState.startScheduling (s.word t)) }
      ⟨.load, .task t, ntf, psh, s.pollSeq t⟩
  | gone {t ntf psh seq} : s.dropped t = true → WMove s ⟨.load, .task t, ntf, psh, seq⟩ s ⟨.fin, .task t, ntf, psh, seq⟩
  | alive {t ntf psh seq} : s.dropped t = false → WMove s ⟨.load, .task t, ntf, psh, seq⟩ s
      ⟨.reserve, .task t, ntf, psh, seq⟩
  | reserve {t ntf psh seq} : WMove s ⟨.reserve, .task t, ntf, psh, seq⟩ { s with pending := s.pending + 1 }
      ⟨.push, .task t, ntf, psh, seq⟩
  | pushedQuiet {t ntf psh seq} : s.sync.length < s.cfg.q → (ntf && !s.cfg.rewake) = true →
    WMove s ⟨.push, .task t, ntf, psh, seq⟩ { s with sync := s.sync ++ [t] } ⟨.fin, .task t, ntf, true, seq⟩
  | pushed {t ntf psh seq} : s.sync.length < s.cfg.q → (ntf && !s.cfg.rewake) = false →
    WMove s ⟨.push, .task t, ntf, psh, seq⟩ { s with sync := s.sync ++ [t] } ⟨.dwake, .task t, ntf, true, seq⟩
  | fullFirst {t ntf psh seq} : ¬ s.sync.length < s.cfg.q → (!ntf) = true →
    WMove s ⟨.push, .task t, ntf, psh, seq⟩ s ⟨.dwake, .task t, true, psh, seq⟩
  | fullAgain {t ntf psh seq} : ¬ s.sync.length < s.cfg.q → (!ntf) = false →
    WMove s ⟨.push, .task t, ntf, psh, seq⟩ s ⟨.spin, .task t, ntf, psh, seq⟩
  | bail {t ntf psh seq} : TaskState.isCancelled (s.word t) = true →
    WMove s ⟨.spin, .task t, ntf, psh, seq⟩ (subPending s 1) ⟨.fin, .task t, ntf, psh, seq⟩
  | retry {t ntf psh seq} : TaskState.isCancelled (s.word t) = false →
    WMove s ⟨.spin, .task t, ntf, psh, seq⟩ s ⟨.push, .task t, ntf, psh, seq⟩
  | mainHit {ntf psh seq} : (AwakeFlag.wake s.flag).2 = true →
    WMove s ⟨.dwake, .main, ntf, psh, seq⟩
      { s with flag := (AwakeFlag.wake s.flag).1, mainWoken := s.mainWoken || (s.mainSeq == s.mainSeq) }
      ⟨.idle, .main, ntf, psh, s.mainSeq⟩
  | mainMissI {ntf psh seq} : (AwakeFlag.wake s.flag).2 = false → s.cfg.drv = .iour →
    WMove s ⟨.dwake, .main, ntf, psh, seq⟩ { s with flag := (AwakeFlag.wake s.flag).1 }
      ⟨.write, .main, ntf, psh, s.mainSeq⟩
  | mainMissP {ntf psh seq} : (AwakeFlag.wake s.flag).2 = false → s.cfg.drv = .poll →
    WMove s ⟨.dwake, .main, ntf, psh, seq⟩ { s with flag := (AwakeFlag.wake s.flag).1 } ⟨.cas, .main, ntf, psh, s.mainSeq⟩
  | taskHitDone {t ntf seq} : (AwakeFlag.wake s.flag).2 = true →
    WMove s ⟨.dwake, .task t, ntf, true, seq⟩ { s with flag := (AwakeFlag.wake s.flag).1 } ⟨.fin, .task t, ntf, true, seq⟩
  | taskHitBack {t ntf seq} : (AwakeFlag.wake s.flag).2 = true →
    WMove s ⟨.dwake, .task t, ntf, false, seq⟩ { s with flag := (AwakeFlag.wake s.flag).1 }
      ⟨.push, .task t, ntf, false, seq⟩
  | taskMissI {t ntf psh seq} : (AwakeFlag.wake s.flag).2 = false → s.cfg.drv = .iour →
    WMove s ⟨.dwake, .task t, ntf, psh, seq⟩ { s with flag := (AwakeFlag.wake s.flag).1 } ⟨.write, .task t, ntf, psh, seq⟩
  | taskMissP {t ntf psh seq} : (AwakeFlag.wake s.flag).2 = false → s.cfg.drv = .poll →
    WMove s ⟨.dwake, .task t, ntf, psh, seq⟩ { s with flag := (AwakeFlag.wake s.flag).1 } ⟨.cas, .task t, ntf, psh, seq⟩
  | mainLost {ntf psh seq} : s.pnot = true →
    WMove s ⟨.cas, .main, ntf, psh, seq⟩ { s with mainWoken := s.mainWoken || (seq == s.mainSeq) }
      ⟨.idle, .main, ntf, psh, seq⟩
  | taskLostDone {t ntf seq} : s.pnot = true → WMove s ⟨.cas, .task t, ntf, true, seq⟩ s ⟨.fin, .task t, ntf, true, seq⟩
  | taskLostBack {t ntf seq} : s.pnot = true → WMove s ⟨.cas, .task t, ntf, false, seq⟩ s
      ⟨.push, .task t, ntf, false, seq⟩
  | won {κ ntf psh seq} : s.pnot = false → WMove s ⟨.cas, κ, ntf, psh, seq⟩ { s with pnot := true }
      ⟨.write, κ, ntf, psh, seq⟩
  | mainWrite {ntf psh seq} :
    WMove s ⟨.write, .main, ntf, psh, seq⟩ { (kWrite s) with mainWoken := s.mainWoken || (seq == s.mainSeq) }
      ⟨.idle, .main, ntf, psh, seq⟩
  | taskWriteDone {t ntf seq} : WMove s ⟨.write, .task t, ntf, true, seq⟩ (kWrite s) ⟨.fin, .task t, ntf, true, seq⟩
  | taskWriteBack {t ntf seq} : WMove s ⟨.write, .task t, ntf, false, seq⟩ (kWrite s) ⟨.push, .task t, ntf, false, seq⟩
  | fin {t ntf psh seq} :
    WMove s ⟨.fin, .task t, ntf, psh, seq⟩
      { s with word := upd s.word t (TaskState.finishScheduling (s.word t)),
               woken := upd s.woken t (s.woken t || (seq == s.pollSeq t)) }
      ⟨.idle, .task t, ntf, psh, seq⟩

theorem wStep_move {s s' : State} {w : Nat} (hs : wStep s w = some s') :
    ∃ g k', WMove s (s.wk w) g k' ∧ g.wk = s.wk ∧ s' = setWk g w k' := by
  unfold wStep mainDone at hs
  generalize hk : s.wk w = k at hs ⊢
  obtain ⟨pc, κ, ntf, psh, seq⟩ := k
  simp only [kWrite_wk, hk] at hs
  repeat' split at hs
  all_goals (try simp only [Option.some.injEq, reduceCtorEq] at hs)
  all_goals (try subst hs)
  all_goals (try simp only [Bool.not_eq_true] at *)
  all_goals (try subst_vars)
  · exact ⟨_, _, .coalesced ‹_›, rfl, rfl⟩
  · exact ⟨_, _, .claimed ‹_›, rfl, rfl⟩
  · exact ⟨_, _, .gone ‹_›, rfl, rfl⟩
  · exact ⟨_, _, .alive ‹_›, rfl, rfl⟩
  · exact ⟨_, _, .reserve, rfl, rfl⟩
  · exact ⟨_, _, .pushedQuiet ‹_› ‹_›, rfl, rfl⟩
  · exact ⟨_, _, .pushed ‹_› ‹_›, rfl, rfl⟩
  · exact ⟨_, _, .fullFirst ‹_› ‹_›, rfl, rfl⟩
  · exact ⟨_, _, .fullAgain ‹_› ‹_›, rfl, rfl⟩
  · exact ⟨_, _, .bail ‹_›, rfl, rfl⟩
  · exact ⟨_, _, .retry ‹_›, rfl, rfl⟩
  · exact ⟨_, _, .mainHit ‹_›, rfl, rfl⟩
  · exact ⟨_, _, .mainMissI ‹_› ‹_›, rfl, rfl⟩
  · exact ⟨_, _, .mainMissP ‹_› ‹_›, rfl, rfl⟩
  · exact ⟨_, _, .taskHitDone ‹_›, rfl, rfl⟩
  · exact ⟨_, _, .taskHitBack ‹_›, rfl, rfl⟩
  · exact ⟨_, _, .taskMissI ‹_› ‹_›, rfl, rfl⟩
  · exact ⟨_, _, .taskMissP ‹_› ‹_›, rfl, rfl⟩
  · exact ⟨_, _, .mainLost ‹_›, rfl, rfl⟩
  · exact ⟨_, _, .won ‹_›, rfl, rfl⟩
  · exact ⟨_, _, .taskLostDone ‹_›, rfl, rfl⟩
  · exact ⟨_, _, .taskLostBack ‹_›, rfl, rfl⟩
  · exact ⟨_, _, .won ‹_›, rfl, rfl⟩
  · exact ⟨_, _, .mainWrite, rfl, rfl⟩
  · exact ⟨_, _, .taskWriteDone, rfl, rfl⟩
  · exact ⟨_, _, .taskWriteBack, rfl, rfl⟩
  · exact ⟨_, _, .fin, rfl, rfl⟩

theorem RtMove.frame {s s' : State} {pc : RtPc} {e : RtEv} (hm : RtMove s pc e s') : s'.cfg = s.cfg ∧ s'.wk = s.wk := by
  cases hm <;> exact ⟨rfl, rfl⟩

theorem rtStep_cfg {s s' : State} {e : RtEv} (hs : rtStep s e = some s') : s'.cfg = s.cfg :=
  (rtStep_move hs).frame.1

theorem wStep_cfg {s s' : State} {w : Nat} (hs : wStep s w = some s') : s'.cfg = s.cfg := by
  obtain ⟨g, k', hm, -, rfl⟩ := wStep_move hs
  generalize s.wk w = k at hm
  cases hm <;> rfl

theorem step_cfg {s s' : State} {ev : Event} (hs : step s ev = some s') : s'.cfg = s.cfg := by
  cases ev with
  | rt e => exact rtStep_cfg hs
  | wStart w k =>
    simp only [step] at hs
    split at hs
    · simp only [Option.some.injEq] at hs; subst hs; rfl
    · cases hs
  | w w =>
    simp only [step] at hs
    split at hs
    · exact wStep_cfg hs
    · cases hs
  | cancel t => simp only [step, Option.some.injEq] at hs; subst hs; rfl

end Compio.Wake
