/-
`Inv` event by event: what each event does to one op (`ok_*`), the driver's `Drop` (`inv_dropStep`, under two
conditions: `GoodCfg`, i.e. the statement order extracted from `impl Drop for iour::Driver` is drain → close ring → free
in-flight keys; and `hazard = false` after the step, i.e. the drain loop turned no CQE flagged `more` into a key, finding
F13), and the cancel routes with the `push_raw` overflow round inside io_uring's `Driver::cancel`, together with what a
driver call leaves alone in every op (`Same`).
-/
import Compio.Lemmas.KeyLife

namespace Compio.KeyLife

open Compio.PollQueues

/-- a caller handle is dropped; `b` is whatever the same update writes to `cancelled`, which `OpOk` does not read
(with `b := o.cancelled` the update is the plain drop, by structure eta) -/
theorem ok_userDrop {drv ring reg} {o : Op} (ok : OpOk drv ring reg o) (hu : 0 < o.user) (b : Bool) :
    OpOk drv ring reg ({ o with cancelled := b, user := o.user - 1 }.dropRef) :=
  ok_dropRefs ok (.inl rfl) rfl (by simp only [holders, qcount]; omega) rfl

/-- a transient strong reference (token upgrade) is dropped again -/
theorem ok_clone_drop {drv ring reg} {o : Op} (ok : OpOk drv ring reg o) (hrc : 0 < o.rc) (b : Bool) :
    OpOk drv ring reg ({ o.cloneRef with cancelled := b }.dropRef) :=
  ok_dropRefs (k := 1) ok (.inr hrc) rfl (by simp only [holders, qcount, Op.cloneRef]) rfl

theorem ok_clone {drv ring reg} {o : Op} (ok : OpOk drv ring reg o) (hrc : 0 < o.rc) :
    OpOk drv ring reg { o.cloneRef with user := o.user + 1 } := by
  rw [← dropRefs_zero { o.cloneRef with user := o.user + 1 }]
  exact ok_dropRefs (k := 1) ok (.inr hrc) rfl (by simp only [holders, qcount, Op.cloneRef]; omega) rfl

theorem ok_takeResult {drv ring reg} {o : Op} (ok : OpOk drv ring reg o) (hu : 0 < o.user) (h1 : o.rc = 1) (b : Bool) :
    OpOk drv ring reg ({ o with cancelled := b }.takeResult) :=
  { ok with
    rc_eq := by
      have hh := ok.rc_eq
      simp only [Op.takeResult, holders, qcount] at hh ⊢
      omega
    rcok := rcok_takeResult (o := { o with cancelled := b }) { ok.rcok with } (by show 0 < o.rc; omega) }

theorem ok_fresh {drv ring reg} {o : Op} (hrc : o.rc = holders reg o)
    (hrel : o.freed + o.returned = if o.rc = 0 then 1 else 0) (huaf : o.uaf = false)
    (hpm : o.pendMore = []) (hpf : o.pendFinal = none)
    (hk : o.kstat = .none ∧ o.inFl = false ∨ o.inFl = true ∧ drv = .iour) : OpOk drv ring reg o := by
  refine ⟨hrc, ⟨huaf, fun h => by rw [hrel, if_pos h], fun h => by rw [hrel, if_neg (by omega)]⟩, ?_, ?_, ?_, ?_,
    fun _ => ⟨hpm, hpf⟩⟩
  · intro _ hq
    rcases hk with ⟨h1, _⟩ | ⟨h1, _⟩
    · rw [h1] at hq; simp at hq
    · exact h1
  · intro hp; rw [hpm, hpf] at hp; simp at hp
  · intro hd
    rcases hk with h | ⟨_, h2⟩
    · exact ⟨h.2, h.1⟩
    · rw [h2] at hd; cases hd
  · intro hp; rw [hpf] at hp; cases hp

theorem ok_submit {drv ring reg} {o : Op} (ok : OpOk drv ring reg o) : OpOk drv ring reg o.submit :=
  { ok with
    rcok := { ok.rcok with }
    kern := fun hr hk => ok.kern hr (by
      simp only [Op.submit] at hk
      split at hk
      · exact .inl ‹_›
      · exact hk)
    poll_sep := fun hp => ⟨(ok.poll_sep hp).1, by simp [Op.submit, (ok.poll_sep hp).2]⟩
    fin := fun hp => by simp [Op.submit, ok.fin hp] }

theorem opok_rc_pos_of_pend {drv ring reg} {o : Op} (ok : OpOk drv ring reg o)
    (hp : o.pendMore ≠ [] ∨ o.pendFinal.isSome = true) : o.inFl = true ∧ 0 < o.rc :=
  ⟨ok.pend hp, (ok.live (.inr (.inl (ok.pend hp)))).1⟩

/-- **the final CQE is consumed**: `o1` is `o` with the CQEs taken off (whatever else happened to fields `OpOk` does
not read), the re-materialised leaked key is dropped -/
theorem ok_final {drv ring reg} {o o1 : Op} {r : Res} (ok : OpOk drv ring reg o) (hpf : o.pendFinal = some r)
    (h : (o1.rc, o1.user, o1.chan, o1.poolRun, o1.fd, o1.dir, o1.id, o1.freed, o1.returned, o1.kstat) =
      (o.rc, o.user, o.chan, o.poolRun, o.fd, o.dir, o.id, o.freed, o.returned, o.kstat))
    (huaf : o1.uaf = false) (hfl : o1.inFl = false) (hpm : o1.pendMore = []) (hpf1 : o1.pendFinal = none) :
    OpOk drv ring reg o1.dropRef := by
  simp only [Prod.mk.injEq] at h
  obtain ⟨h1, h2, h3, h4, h5, h6, h7, h8, h9, h10⟩ := h
  obtain ⟨hfl0, hrc⟩ := opok_rc_pos_of_pend ok (Or.inr (by rw [hpf]; rfl))
  have hks := ok.fin (by rw [hpf]; rfl)
  exact {
    rc_eq := by
      show o1.rc - 1 = holders reg o1
      have a := ok.rc_eq
      simp only [holders, qcount, h1, h2, h3, h4, h5, h6, h7, hfl] at a ⊢
      rw [hfl0] at a
      simp only [b2n_true, b2n_false] at a ⊢
      omega
    rcok := rcok_dropRef ⟨huaf, by rw [h1, h8, h9]; exact ok.rcok.rel0, by rw [h1, h8, h9]; exact ok.rcok.rel1⟩ (h1 ▸ hrc)
    kern := fun _ hk => by
      have hk : o1.kstat = .queued ∨ o1.kstat = .inflight := hk
      rw [h10, hks] at hk; simp at hk
    pend := fun hp => by
      have hp : o1.pendMore ≠ [] ∨ o1.pendFinal.isSome = true := hp
      rw [hpm, hpf1] at hp; simp at hp
    poll_sep := fun hp => by rw [(ok.poll_sep hp).1] at hfl0; cases hfl0
    fin := fun hp => by
      have hp : o1.pendFinal.isSome = true := hp
      rw [hpf1] at hp; cases hp
    closed := fun _ => ⟨hpm, hpf1⟩ }

theorem ok_noFinal {drv ring reg} {o o1 : Op} (ok : OpOk drv ring reg o) (hpf : o.pendFinal = none)
    (h : o1.acct = { o with pendMore := [] }.acct) : OpOk drv ring reg o1 := by
  exact OpOk.congr (o := { o with pendMore := [] }) { ok with
    rcok := { ok.rcok with }
    pend := fun hp => hp.elim (fun hp => absurd rfl hp) fun hp => ok.pend (Or.inr hp)
    closed := fun _ => ⟨rfl, hpf⟩ } h

theorem keeps_drainCq (o : Op) : Keeps o o.drainCq := by
  unfold Op.drainCq
  split
  · exact .of_eq rfl
  · exact ⟨rfl, rfl, rfl, fun h => by simp [Op.dropRef, Op.dropRefs] at h, rfl, Or.inl rfl⟩

theorem ok_drainCq {drv ring reg} {o : Op} (ok : OpOk drv ring reg o) : OpOk drv ring reg o.drainCq := by
  have huaf : (o.uaf || (!o.pendMore.isEmpty && o.rc == 0)) = false := by
    rw [ok.rcok.no_uaf]
    cases hpm : o.pendMore with
    | nil => simp
    | cons x xs =>
      have := (opok_rc_pos_of_pend ok (Or.inl (by rw [hpm]; simp))).2
      simp; omega
  unfold Op.drainCq
  split
  · rename_i hpf
    exact ok_noFinal ok hpf (by simp only [Op.acct, huaf]; rw [ok.rcok.no_uaf])
  · rename_i r hpf
    exact ok_final ok hpf rfl huaf rfl rfl rfl

theorem keeps_drainChan (o : Op) : Keeps o o.drainChan := by
  unfold Op.drainChan
  split
  · exact .rfl' o
  · exact ⟨rfl, rfl, rfl, fun h => h, rfl, Or.inr rfl⟩

theorem ok_drainChan {drv ring reg} {o : Op} (ok : OpOk drv ring reg o) : OpOk drv ring reg o.drainChan := by
  unfold Op.drainChan
  split
  · exact ok
  · exact ok_dropRefs ok (.inl rfl) rfl (by simp only [holders, qcount, List.length_nil]; omega) rfl

theorem ok_dropChan {drv ring reg} {o : Op} (ok : OpOk drv ring reg o) : OpOk drv ring reg o.dropChan :=
  ok_dropRefs ok (.inl rfl) rfl (by simp only [holders, qcount, List.length_nil]; omega) rfl

theorem inv_submitAll {c : Cfg} {s : State} (hi : Inv c s) : Inv c (submitAll s) :=
  inv_frame (inv_map hi (f := Op.submit) (fun _ => .of_eq rfl) fun _ => ok_submit)

theorem inv_drainAll {c : Cfg} {s : State} (hi : Inv c s) : Inv c (drainAll s) :=
  inv_map hi keeps_drainCq fun _ => ok_drainCq

theorem inv_kPostStep {c : Cfg} {s s' : State} {id : Nat} {more : Bool} {r : Res} (hi : Inv c s)
    (h : kPostStep s id more r = some s') : Inv c s' := by
  obtain ⟨o, ho, hring, hdrv, hks, ⟨_, rfl⟩ | ⟨_, rfl⟩⟩ := kPostStep_cases h
  all_goals
    have ok := (hi.ops id o ho).1
    have hfl := ok.kern hring (Or.inr hks)
    have hcl : ∀ {p : Prop}, s.ring = false → p := fun hr => by rw [hring] at hr; cases hr
  · exact inv_modAt hi ho (.of_eq rfl) { ok with rcok := { ok.rcok with }, pend := fun _ => hfl, closed := hcl }
  · exact inv_modAt hi ho (.of_eq rfl) { ok with
      rcok := { ok.rcok with }
      kern := fun _ hk => by simp at hk
      pend := fun _ => hfl
      poll_sep := fun hp => by rw [hdrv] at hp; cases hp
      fin := fun _ => rfl
      closed := hcl }

theorem inv_push {c : Cfg} {s : State} (hi : Inv c s) (ha : s.alive = true) (o : Op) (hid : o.id = s.ops.length)
    (hnew : qcount s.reg o = 0 → OpOk s.drv s.ring s.reg o) : Inv c { s with ops := s.ops ++ [o] } :=
  inv_append hi ha o rfl rfl rfl rfl rfl rfl hid (hnew (by unfold qcount; rw [hid]; exact not_mem_queue_len hi _ _))
    (fun _ _ _ => rfl)
    (fun _ _ _ h => Or.inl h) hi.iour_reg (hi.arm_ok ha)

theorem inv_pushWait {c : Cfg} {s : State} {k : Kind} {fd : Nat} {d : Dir} (hi : Inv c s)
    (hg : s.alive ∧ s.drv = .poll ∧ k ≠ .blocking) :
    Inv c { s with
      ops := s.ops ++ [(Op.new s.ops.length k fd d).cloneRef],
      reg := upd s.reg fd ((s.reg fd).pushBack d s.ops.length),
      armed := upd s.armed fd ((s.reg fd).pushBack d s.ops.length).event } := by
  refine inv_append hi hg.1 _ rfl rfl rfl rfl rfl rfl rfl ?_ ?_ ?_ ?_ (arm_upd (hi.arm_ok hg.1) _ _)
  · refine ok_fresh ?_ rfl rfl rfl rfl (Or.inl ⟨rfl, rfl⟩)
    simp only [holders, qcount, Op.new, Op.cloneRef, upd_same, FdQ.sel_pushBack, if_true, count_append_one,
      not_mem_queue_len hi fd d]
    simp
  · intro j x hx
    have hxid := (hi.ops j x hx).2
    have hj : j < s.ops.length := (List.getElem?_eq_some_iff.mp hx).1
    unfold qcount
    by_cases hf : x.fd = fd
    · simp only [hf, upd_same, FdQ.sel_pushBack]
      split
      · rw [count_append_one, if_neg (by omega)]; rfl
      · rfl
    · simp only [upd_other _ _ _ _ hf]
  · intro fd' d' i hm
    by_cases hf : fd' = fd
    · subst hf
      simp only [upd_same, FdQ.sel_pushBack] at hm
      split at hm
      · rename_i hd
        rcases List.mem_append.mp hm with h1 | h1
        · exact Or.inl h1
        · simp at h1; exact Or.inr ⟨h1, rfl, hd.symm⟩
      · exact Or.inl hm
    · simp only [upd_other _ _ _ _ hf] at hm; exact Or.inl hm
  · intro hd; rw [hg.2.1] at hd; cases hd

theorem inv_fdIdle {c : Cfg} {s : State} (hi : Inv c s) (fd : Nat) :
    Inv c { s with armed := upd s.armed fd (s.reg fd).event } :=
  { hi with
    arm_ok := fun ha fd' => by
      show upd s.armed fd (s.reg fd).event fd' = (s.reg fd').event
      by_cases hf : fd' = fd
      · subst hf; exact upd_same _ _ _
      · rw [upd_other _ _ _ _ hf]; exact hi.arm_ok ha fd' }

theorem inv_fdDone {c : Cfg} {s : State} {fd : Nat} {rd wr : Bool} {v : Res} {k : Nat} {d : Dir} {q' : FdQ}
    (hi : Inv c s) (ha : s.alive) (hdrv : s.drv = .poll) (hpop : (s.reg fd).popInterest rd wr = some (k, d, q')) :
    Inv c { s with
      reg := upd s.reg fd q', armed := upd s.armed fd q'.event,
      ops := modAt (fun o => { o with result := some v, produced := o.produced ++ [v] }.dropRef) s.ops k } := by
  obtain ⟨hsel, hoth⟩ := FdQ.popInterest_spec hpop
  obtain ⟨o, ho, hfd, hdir⟩ := hi.qmem fd d k (by rw [hsel]; simp)
  have hid := (hi.ops k o ho).2
  refine inv_modAt_reg hi ha ho rfl rfl rfl rfl rfl rfl ⟨rfl, rfl, rfl⟩ ?_ ?_ ?_ (arm_upd (hi.arm_ok ha) _ _) ?_
  · intro j x hj hx
    have hxid := (hi.ops j x hx).2
    unfold qcount
    by_cases hf : x.fd = fd
    · simp only [hf, upd_same]
      by_cases hd : x.dir = d
      · rw [hd, hsel, List.count_cons, if_neg (by simp; omega)]; rfl
      · rw [hoth _ hd]
    · simp only [upd_other _ _ _ _ hf]
  · intro fd' d' i hm
    by_cases hf : fd' = fd
    · subst hf
      simp only [upd_same] at hm
      by_cases hd : d' = d
      · subst hd; rw [hsel]; exact List.mem_cons_of_mem _ hm
      · rw [hoth _ hd] at hm; exact hm
    · simpa only [upd_other _ _ _ _ hf] using hm
  · intro hd; rw [hdrv] at hd; cases hd
  · -- the popped key was one of the holders
    refine ok_dropRefs (hi.ops k o ho).1 (.inl rfl) rfl ?_ rfl
    simp only [holders, qcount, hfd, hdir, hid, upd_same, hsel, List.count_cons_self]
    omega

theorem dropChans_eq_map (l : List Op) :
    dropChans l = l.map (fun o => if l.any (·.poolRun) = true then o else o.dropChan) := by
  unfold dropChans
  split <;> simp [*]

theorem dropChans_chan {l : List Op}
    (hall : ∀ (i : Nat) (o : Op), (dropChans l)[i]? = some o → o.poolRun = false) :
    ∀ (i : Nat) (o : Op), (dropChans l)[i]? = some o → o.chan = [] := by
  unfold dropChans at hall ⊢
  by_cases hany : l.any (·.poolRun) = true
  · rw [if_pos hany] at hall
    obtain ⟨x, hx, hp⟩ := List.any_eq_true.mp hany
    obtain ⟨i, hi⟩ := List.getElem?_of_mem hx
    rw [hall i x hi] at hp; cases hp
  · rw [if_neg hany]
    intro i o h
    rw [List.getElem?_map, Option.map_eq_some_iff] at h
    obtain ⟨x, _, rfl⟩ := h
    rfl

theorem opsRel_dropChans {R : Nat → Op → Op → Prop} {l l' : List Op} (h : OpsRel R l l')
    (hd : ∀ i x y, R i x y → R i x y.dropChan) : OpsRel R l (dropChans l') := by
  rw [dropChans_eq_map]
  refine ⟨by rw [List.length_map]; exact h.1, fun i x z hx hz => ?_⟩
  obtain ⟨y, hy, hxy⟩ := h.get hx
  rw [List.getElem?_map, hy] at hz
  obtain rfl := Option.some.inj hz
  split
  · exact hxy
  · exact hd i x y hxy

/-- the job's key moves into the channel -/
theorem inv_poolDone {c : Cfg} {s : State} {id : Nat} {o : Op} (r : Res) (hi : Inv c s) (ho : s.ops[id]? = some o)
    (hpool : o.poolRun = true) (hco : s.chanOpen = true) :
    Inv c { s with
      ops := modAt (fun o => { o with poolRun := false, chan := o.chan ++ [r], produced := o.produced ++ [r] }) s.ops id } := by
  refine inv_rel hi (OpsRel.modAt (fun _ x => ⟨rfl, rfl, rfl, fun h => h, fun h => h⟩) fun x hx => ?_)
    rfl rfl rfl rfl rfl rfl rfl (fun h0 => by rw [show s.chanOpen = false from h0] at hco; cases hco)
  rw [ho] at hx; obtain rfl := Option.some.inj hx
  have ok := (hi.ops id o ho).1
  refine ⟨rfl, rfl, rfl, fun h => h, fun _ => { ok with rcok := { ok.rcok with }, rc_eq := ?_ }⟩
  have a := ok.rc_eq
  simp only [holders, qcount, List.length_append, List.length_cons, List.length_nil] at a ⊢
  rw [hpool] at a
  simp only [b2n_true, b2n_false] at a ⊢
  omega

theorem inv_poolLate {c : Cfg} {s : State} {id : Nat} {o : Op} (r : Res) (hi : Inv c s) (ho : s.ops[id]? = some o)
    (hpool : o.poolRun = true) :
    Inv c { s with
      ops := dropChans (modAt (fun o => { o with poolRun := false, produced := o.produced ++ [r] }.dropRef) s.ops id) } := by
  refine inv_rel hi (opsRel_dropChans (OpsRel.modAt (fun _ x => ⟨rfl, rfl, rfl, fun h => h, fun h => h⟩)
      fun x hx => ?_) fun _ x y hxy => ⟨hxy.1, hxy.2.1, hxy.2.2.1, hxy.2.2.2.1, fun ok => ok_dropChan (hxy.2.2.2.2 ok)⟩)
    rfl rfl rfl rfl rfl rfl rfl (fun _ hall => dropChans_chan hall)
  rw [ho] at hx; obtain rfl := Option.some.inj hx
  refine ⟨rfl, rfl, rfl, fun h => h, fun _ => ?_⟩
  refine ok_dropRefs (hi.ops id o ho).1 (.inl rfl) rfl ?_ rfl
  simp only [holders, qcount, hpool, b2n_true, b2n_false]
  omega

theorem dropProg_length_pos (c : Cfg) (d : Drv) : 0 < (dropProg c d).length := by
  cases d <;> simp [dropProg]

theorem inv_dropBegin {c : Cfg} {s : State} (hi : Inv c s) (ha : s.alive = true) :
    Inv c { s with alive := false, dropPc := some 0 } := by
  obtain ⟨hr, hp, hc⟩ := hi.alive_ok ha
  exact { hi with
    alive_ok := fun h => by cases h
    pc_ok := fun k hk => by
      obtain rfl : 0 = k := Option.some.inj hk
      exact ⟨rfl, hc, dropProg_length_pos c s.drv, by simp [hr], fun hf => by simp at hf⟩
    dead_ok := fun _ h => by cases h
    chan_ok := fun h => by rw [show s.chanOpen = false from h] at hc; cases hc
    arm_ok := fun h => by cases h }

theorem dropProg_iour {c : Cfg} (hc : GoodCfg c) :
    dropProg c .iour = [.drainCq, .closeRing, .freeInFlight, .fields] := by
  unfold GoodCfg at hc
  simp [dropProg, hc, DStep.ofGen]

theorem dropProg_poll (c : Cfg) : dropProg c .poll = [.pollDelete, .fields] := rfl

theorem dropProg_order {c : Cfg} (hc : GoodCfg c) {d : Drv} {k : Nat} {st : DStep} (h : (dropProg c d)[k]? = some st) :
    (k + 1 < (dropProg c d).length ↔ st ≠ .fields) ∧
    (st = .drainCq → ((dropProg c d).take k).contains .closeRing = false) ∧
    (st = .freeInFlight → ((dropProg c d).take k).contains .closeRing = true) ∧
    (st = .fields → d = .iour → ((dropProg c d).take k).contains .freeInFlight = true) := by
  cases d
  · rw [dropProg_iour hc] at h ⊢
    rcases k with _ | _ | _ | _ | k <;> simp at h <;> subst h <;> simp
  · rw [dropProg_poll] at h ⊢
    rcases k with _ | _ | k <;> simp at h <;> subst h <;> simp

theorem contains_take_succ {l : List DStep} {k : Nat} {st : DStep} (h : l[k]? = some st) (x : DStep) :
    (l.take (k + 1)).contains x = ((l.take k).contains x || x == st) := by
  rw [List.take_add_one, h, List.contains_append]
  simp only [Option.toList, List.contains_cons, List.contains_nil, Bool.or_false]

theorem qcount_empty (o : Op) : qcount Reg.empty o = 0 := by
  unfold qcount Reg.empty FdQ.empty
  cases o.dir <;> simp [FdQ.sel]

theorem inv_dropStep_map {c : Cfg} {s s' : State} {k : Nat} {st : DStep} (hi : Inv c s) (hc : GoodCfg c) (f : Op → Op)
    (hk : s.dropPc = some k) (hst : (dropProg c s.drv)[k]? = some st) (hne : st ≠ .fields)
    (hpc : s'.dropPc = if k + 1 < (dropProg c s.drv).length then some (k + 1) else none)
    (hops : s'.ops = s.ops.map f) (hdrv : s'.drv = s.drv) (hreg : s'.reg = s.reg)
    (halive : s'.alive = s.alive) (hch : s'.chanOpen = s.chanOpen)
    (hring : s'.ring = (st != .closeRing && s.ring))
    (kid : ∀ o, (f o).id = o.id ∧ (f o).fd = o.fd ∧ (f o).dir = o.dir)
    (hfl : ∀ o, (f o).inFl = true → o.inFl = true) (hfree : st = .freeInFlight → ∀ o, (f o).inFl = false)
    (hf : ∀ o, o ∈ s.ops → OpOk s.drv s.ring s.reg o → OpOk s.drv s'.ring s.reg (f o)) :
    Inv c s' := by
  obtain ⟨hal, hco, _, hrg, hfr⟩ := hi.pc_ok k hk
  have hlt := (dropProg_order hc hst).1.mpr hne
  rw [if_pos hlt] at hpc
  have key : ∀ (j : Nat) (o' : Op), s'.ops[j]? = some o' → ∃ o, s.ops[j]? = some o ∧ o' = f o := by
    intro j o' h
    rw [hops, List.getElem?_map, Option.map_eq_some_iff] at h
    obtain ⟨o, ho, rfl⟩ := h
    exact ⟨o, ho, rfl⟩
  constructor
  · intro j o' h0
    rw [hdrv, hreg]
    obtain ⟨o, ho, rfl⟩ := key j o' h0
    exact ⟨hf o (List.mem_of_getElem? ho) (hi.ops _ o ho).1, (kid o).1.trans (hi.ops _ o ho).2⟩
  · intro fd d i hm
    rw [hreg] at hm
    obtain ⟨o, ho, h1, h2⟩ := hi.qmem fd d i hm
    exact ⟨f o, by rw [hops, List.getElem?_map, ho]; rfl, (kid o).2.1.trans h1, (kid o).2.2.trans h2⟩
  · rw [hdrv, hreg]; exact hi.iour_reg
  · intro h0; rw [halive, hal] at h0; cases h0
  · intro k' hk'
    rw [hpc] at hk'
    obtain rfl := Option.some.inj hk'
    rw [halive, hch, hdrv, contains_take_succ hst, contains_take_succ hst]
    refine ⟨hal, hco, hlt, ?_, fun hfr' j o' h0 => ?_⟩
    · rw [hring, hrg]
      cases ((dropProg c s.drv).take k).contains .closeRing <;> cases st <;> rfl
    · obtain ⟨o, ho, rfl⟩ := key j o' h0
      rcases Bool.or_eq_true _ _ ▸ hfr' with h | h
      · exact inFl_false (hfl o) (hfr h j o ho)
      · exact hfree (of_decide_eq_true h).symm o
  · intro _ hp; rw [hpc] at hp; cases hp
  · intro h0; rw [hch, hco] at h0; cases h0
  · intro h0; rw [halive, hal] at h0; cases h0

theorem inv_dropStep_fields {c : Cfg} {s s' : State} (hi : Inv c s) (k : Nat) (hk : s.dropPc = some k)
    (hinfl : ∀ (i : Nat) (o : Op), s.ops[i]? = some o → o.inFl = false)
    (hops : s'.ops = dropChans (s.ops.map fun o => o.dropRefs ((s.reg o.fd).occ o.id)))
    (hdrv : s'.drv = s.drv) (hring : s'.ring = s.ring) (hreg : s'.reg = Reg.empty)
    (halive : s'.alive = s.alive) (hch : s'.chanOpen = false) (hpc : s'.dropPc = none) :
    Inv c s' := by
  obtain ⟨hal, hco, _, _, _⟩ := hi.pc_ok k hk
  -- every queue entry of an op is one of its holders
  have hrel : OpsRel (fun _ o o' => o'.id = o.id ∧ o'.inFl = o.inFl ∧
      (OpOk s.drv s.ring s.reg o ∧ o ∈ s.ops → OpOk s.drv s.ring Reg.empty o')) s.ops s'.ops := by
    rw [hops]
    refine opsRel_dropChans (OpsRel.map fun _ o hm => ⟨rfl, rfl, fun ok => ?_⟩)
      fun _ x y hxy => ⟨hxy.1, hxy.2.1, fun ok => ok_dropChan (hxy.2.2 ok)⟩
    obtain ⟨j, ho⟩ := List.getElem?_of_mem ok.2
    have hocc : (s.reg o.fd).occ o.id = qcount s.reg o := by rw [(hi.ops j o ho).2]; exact occ_eq_qcount hi ho
    rw [hocc]
    refine ok_dropRefs ok.1 (.inl rfl) rfl ?_ rfl
    unfold holders
    rw [qcount_empty]
    omega
  constructor
  · intro j o' h0
    rw [hdrv, hring, hreg]
    obtain ⟨o, ho, h1, _, h3⟩ := hrel.get' h0
    exact ⟨h3 ⟨(hi.ops _ o ho).1, List.mem_of_getElem? ho⟩, h1.trans (hi.ops _ o ho).2⟩
  · intro fd d i hm
    rw [hreg] at hm
    cases d <;> simp [Reg.empty, FdQ.empty, FdQ.sel] at hm
  · intro _ fd; rw [hreg]; rfl
  · intro h0; rw [halive, hal] at h0; cases h0
  · intro k' hk'; rw [hpc] at hk'; cases hk'
  · intro _ _
    refine ⟨hch, fun fd => by rw [hreg]; rfl, fun j o' h0 => ?_⟩
    obtain ⟨o, ho, _, h2, _⟩ := hrel.get' h0
    rw [h2]; exact hinfl j o ho
  · intro _ hall
    rw [hops] at hall ⊢
    exact dropChans_chan hall
  · intro h0; rw [halive, hal] at h0; cases h0

theorem ok_dropDrain {drv reg} {chk : Bool} {o : Op} (ok : OpOk drv true reg o)
    (hcnt : o.dropDrainCount chk = if o.pendFinal.isSome then 1 else 0) :
    OpOk drv true reg (o.dropDrain chk) := by
  unfold Op.dropDrain
  rw [hcnt]
  cases hpf : o.pendFinal with
  | none => exact ok_noFinal ok hpf (by simp [Op.acct, Op.dropRefs, hpf, ok.rcok.no_uaf]; omega)
  | some r => exact ok_final ok hpf rfl ok.rcok.no_uaf rfl rfl rfl

theorem ok_closeRing {drv ring reg} {o : Op} (ok : OpOk drv ring reg o) :
    OpOk drv false reg { o with pendMore := [], pendFinal := none } :=
  { ok with
    rcok := { ok.rcok with }
    kern := fun h => by cases h
    pend := fun h => by simp at h
    fin := fun h => by simp at h
    closed := fun _ => ⟨rfl, rfl⟩ }

theorem ok_freeInFlight {drv reg} {o : Op} (ok : OpOk drv false reg o) : OpOk drv false reg o.freeInFlight := by
  obtain ⟨hpm, hpf⟩ := ok.closed rfl
  have a := ok.rc_eq
  have hle : (if o.inFl = true then 1 else 0) ≤ o.rc := by
    rw [a]; unfold holders
    cases o.inFl <;> simp <;> omega
  exact { ok with
    rc_eq := by
      simp only [Op.freeInFlight, Op.dropRefs, holders, qcount] at a ⊢
      cases hfl : o.inFl <;> rw [hfl] at a <;> simp only [b2n_true, b2n_false] at a ⊢ <;> simp <;> omega
    rcok := rcok_dropRefs (o := { o with inFl := false }) { ok.rcok with } hle
    kern := fun h => by cases h
    pend := fun h => h.elim (fun h => absurd hpm h) fun h => by
      have h : o.pendFinal.isSome = true := h
      rw [hpf] at h; cases h
    poll_sep := fun hp => ⟨rfl, (ok.poll_sep hp).2⟩ }

theorem inv_dropStep {c : Cfg} {s : State} {k : Nat} {st : DStep} (hi : Inv c s) (hc : GoodCfg c)
    (hk : s.dropPc = some k) (hst : (dropProg c s.drv)[k]? = some st)
    (hz : (execDStep c s st).hazard = false) :
    Inv c { execDStep c s st with dropPc := if k + 1 < (dropProg c s.drv).length then some (k + 1) else none } := by
  obtain ⟨_, _, _, hrg, hfr⟩ := hi.pc_ok k hk
  obtain ⟨hlast, hdrain, hfree, hfields⟩ := dropProg_order hc hst
  cases st with
  | drainCq =>
    have hring : s.ring = true := by rw [hrg, hdrain rfl]; rfl
    refine inv_dropStep_map hi hc (Op.dropDrain c.drainChecksMore) hk hst (fun h => by cases h) rfl rfl rfl rfl rfl rfl rfl
      (fun _ => ⟨rfl, rfl, rfl⟩) (fun o h => ?_) (fun h => by cases h) (fun o hm ok => ?_)
    · simp only [Op.dropDrain, Op.dropRefs] at h
      split at h
      · exact h
      · cases h
    · -- no hazard: the loop met no CQE flagged `more`, or skips them
      have hcnt : o.dropDrainCount c.drainChecksMore = if o.pendFinal.isSome then 1 else 0 := by
        unfold Op.dropDrainCount
        cases hchk : c.drainChecksMore
        · simp [execDStep, hchk] at hz
          simp [hz.2 o hm]
        · simp
      show OpOk s.drv s.ring s.reg _
      rw [hring] at ok ⊢
      exact ok_dropDrain ok hcnt
  | closeRing =>
    exact inv_dropStep_map hi hc (fun o => { o with pendMore := [], pendFinal := none }) hk hst (fun h => by cases h) rfl
      rfl rfl rfl rfl rfl rfl (fun _ => ⟨rfl, rfl, rfl⟩) (fun _ h => h) (fun h => by cases h) (fun _ _ ok => ok_closeRing ok)
  | freeInFlight =>
    have hring : s.ring = false := by rw [hrg, hfree rfl]; rfl
    refine inv_dropStep_map hi hc Op.freeInFlight hk hst (fun h => by cases h) rfl rfl rfl rfl rfl rfl rfl
      (fun _ => ⟨rfl, rfl, rfl⟩) (fun _ h => by cases h) (fun _ _ => rfl) (fun o _ ok => ?_)
    show OpOk s.drv s.ring s.reg _
    rw [hring] at ok ⊢
    exact ok_freeInFlight ok
  | pollDelete =>
    exact inv_dropStep_map hi hc (fun o => o) hk hst (fun h => by cases h) rfl (List.map_id' _).symm rfl rfl rfl rfl rfl
      (fun _ => ⟨rfl, rfl, rfl⟩) (fun _ h => h) (fun h => by cases h) (fun _ _ ok => ok)
  | fields =>
    refine inv_dropStep_fields hi k hk (fun i o ho => ?_) rfl rfl rfl rfl rfl rfl (if_neg (fun h => hlast.mp h rfl))
    cases hd : s.drv
    · exact hfr (hd ▸ hfields rfl hd) i o ho
    · exact ((hi.ops i o ho).1.poll_sep hd).1

theorem inv_overflowDrain {c : Cfg} {s : State} (hi : Inv c s) (posts : List (Nat × Bool × Res)) :
    Inv c (overflowDrain s posts) :=
  overflowDrain_ind (P := Inv c) (fun _ => inv_submitAll) (fun _ _ _ _ _ h1 h2 => inv_kPostStep h1 h2)
    (fun _ => inv_drainAll) hi posts

theorem inv_queueCancel {c : Cfg} {s : State} (hi : Inv c s) (id : Nat) : Inv c (queueCancel s id) :=
  inv_frame (inv_plain hi id (f := fun o => { o with cancelSq := o.cancelSq + 1 }) fun _ => rfl)

theorem inv_iourCancel {c : Cfg} {s : State} (hi : Inv c s) (id : Nat) (posts : List (Nat × Bool × Res)) :
    Inv c (iourCancel c s id posts) :=
  iourCancel_ind (inv_queueCancel hi id) (inv_queueCancel (inv_overflowDrain hi posts) id) (inv_plain hi id fun _ => rfl)

/-- polling `Driver::cancel`: the key passed in is cloned for `cancel_one`, the queue entries are dropped, the
clone goes into the completed channel -/
theorem inv_pollCancel {c : Cfg} {s : State} (hi : Inv c s) (ha : s.alive = true) {id : Nat} {o o' : Op}
    (ho : s.ops[id]? = some o') (hfd : o.fd = o'.fd) (hrc : 0 < o'.rc) : Inv c (pollCancel s id o) := by
  unfold pollCancel
  split
  · exact hi
  · have hid := (hi.ops id o' ho).2
    refine inv_modAt_reg hi ha ho rfl rfl rfl rfl rfl rfl ⟨rfl, rfl, rfl⟩ ?_ ?_ ?_ (arm_upd (hi.arm_ok ha) _ _) ?_
    · intro j x hj hx
      have hxid := (hi.ops j x hx).2
      unfold qcount
      by_cases hf : x.fd = o.fd
      · simp only [hf, upd_same, FdQ.sel_remove, count_filter_ne, hxid, hj, if_false]
      · simp only [upd_other _ _ _ _ hf]
    · intro fd d i hm
      by_cases hf : fd = o.fd
      · subst hf
        simp only [upd_same, FdQ.sel_remove] at hm
        exact (mem_filter_ne.mp hm).1
      · simpa only [upd_other _ _ _ _ hf] using hm
    · intro hd fd
      by_cases hf : fd = o.fd
      · subst hf
        simp [upd_same, hi.iour_reg hd, FdQ.remove, FdQ.empty]
      · simp only [upd_other _ _ _ _ hf]; exact hi.iour_reg hd fd
    · have hocc : (s.reg o.fd).occ id = qcount s.reg o' := by rw [hfd]; exact occ_eq_qcount hi ho
      have hq0 : qcount (upd s.reg o.fd ((s.reg o.fd).remove id)) { o'.cloneRef with chan := o'.chan ++ [ECANCELED] } = 0 := by
        unfold qcount
        simp only [Op.cloneRef, ← hfd, upd_same, FdQ.sel_remove, count_filter_ne, hid, if_true]
      exact ok_dropRefs (k := 1) (o1 := { o'.cloneRef with chan := o'.chan ++ [ECANCELED] }) (hi.ops id o' ho).1 (.inr hrc) rfl
        (by unfold holders; rw [hq0, hocc]; simp only [Op.cloneRef, List.length_append, List.length_singleton]; omega) rfl

theorem inv_driverCancel {c : Cfg} {s : State} (hi : Inv c s) (ha : s.alive = true) {id : Nat} {o o' : Op}
    (ho : s.ops[id]? = some o') (hfd : o.fd = o'.fd) (hrc : 0 < o'.rc) (posts : List (Nat × Bool × Res)) :
    Inv c (driverCancel c s id o posts) := by
  unfold driverCancel
  split
  · exact inv_iourCancel hi id posts
  · exact inv_pollCancel hi ha ho hfd hrc

/-- fields of an op that neither a submit, nor a CQE, nor a drain, nor a cancel request changes; and a released op
stays released -/
structure Same (x x' : Op) : Prop where
  user : x'.user = x.user
  cancelled : x'.cancelled = x.cancelled
  id : x'.id = x.id
  fd : x'.fd = x.fd
  dir : x'.dir = x.dir
  kind : x'.kind = x.kind
  weak : x'.weak = x.weak
  dead : x.rc = 0 → x'.rc = 0

theorem Same.rfl' (x : Op) : Same x x := ⟨rfl, rfl, rfl, rfl, rfl, rfl, rfl, fun h => h⟩

theorem Same.trans {x y z : Op} (h1 : Same x y) (h2 : Same y z) : Same x z :=
  ⟨h2.user.trans h1.user, h2.cancelled.trans h1.cancelled, h2.id.trans h1.id, h2.fd.trans h1.fd,
    h2.dir.trans h1.dir, h2.kind.trans h1.kind, h2.weak.trans h1.weak, fun h => h2.dead (h1.dead h)⟩

/-- `Same`, and no cancel request of the op was dropped; the position argument is only there to fit `OpsRel` -/
def Quiet (_ : Nat) (x x' : Op) : Prop := Same x x' ∧ x'.cancelDropped = x.cancelDropped

theorem Quiet.rfl' (i : Nat) (x : Op) : Quiet i x x := ⟨Same.rfl' x, rfl⟩

theorem Quiet.trans (i : Nat) (x y z : Op) (h1 : Quiet i x y) (h2 : Quiet i y z) : Quiet i x z :=
  ⟨h1.1.trans h2.1, h2.2.trans h1.2⟩

theorem Quiet.of_eq {i : Nat} {x x' : Op}
    (h : (x'.user, x'.cancelled, x'.id, x'.fd, x'.dir, x'.kind, x'.weak, x'.rc, x'.cancelDropped) =
      (x.user, x.cancelled, x.id, x.fd, x.dir, x.kind, x.weak, x.rc, x.cancelDropped)) : Quiet i x x' := by
  simp only [Prod.mk.injEq] at h
  obtain ⟨h1, h2, h3, h4, h5, h6, h7, h8, h9⟩ := h
  exact ⟨⟨h1, h2, h3, h4, h5, h6, h7, fun h => h8 ▸ h⟩, h9⟩

theorem quiet_drainCq (i : Nat) (x : Op) : Quiet i x x.drainCq := by
  unfold Op.drainCq
  split
  · exact .of_eq rfl
  · exact ⟨⟨rfl, rfl, rfl, rfl, rfl, rfl, rfl, fun h => by simp only [Op.dropRef, Op.dropRefs]; omega⟩, rfl⟩

theorem kPostStep_some {s s' : State} {id : Nat} {more : Bool} {r : Res} (h : kPostStep s id more r = some s') :
    ∃ f : Op → Op, (∀ i x, Quiet i x (f x)) ∧ s' = { s with ops := modAt f s.ops id } := by
  obtain ⟨_, _, _, _, _, ⟨_, rfl⟩ | ⟨_, rfl⟩⟩ := kPostStep_cases h <;>
    (refine ⟨_, ?_, rfl⟩; exact fun _ _ => .of_eq rfl)

theorem overflowDrain_quiet (s : State) (posts : List (Nat × Bool × Res)) :
    OpsRel Quiet s.ops (overflowDrain s posts).ops := by
  refine overflowDrain_ind (P := fun t => OpsRel Quiet s.ops t.ops) (fun t ht => ?_) (fun t t' _ _ _ ht hk => ?_)
    (fun t ht => ?_) (OpsRel.refl Quiet.rfl' _) posts
  · exact ht.trans Quiet.trans (OpsRel.map fun i _ _ => .of_eq rfl)
  · obtain ⟨f, hf, rfl⟩ := kPostStep_some hk
    exact ht.trans Quiet.trans (OpsRel.modAt Quiet.rfl' fun x _ => hf _ x)
  · exact ht.trans Quiet.trans (OpsRel.map fun i x _ => quiet_drainCq i x)

abbrev Others (id : Nat) (j : Nat) (x x' : Op) : Prop := j ≠ id → Same x x'

theorem others_modAt (id : Nat) (f : Op → Op) (l : List Op) : OpsRel (Others id) l (modAt f l id) :=
  OpsRel.modAt (fun _ x _ => Same.rfl' x) fun _ _ hj => absurd rfl hj

/-- what a cancel aimed at op `id` spares: the other ops (`Same`), and whether the proactor is alive, its driver and
the guard flag -/
structure Spares (id : Nat) (s s' : State) : Prop where
  others : OpsRel (Others id) s.ops s'.ops
  alive : s'.alive = s.alive
  drv : s'.drv = s.drv
  hazard : s'.hazard = s.hazard

theorem Spares.trans {id : Nat} {s t u : State} (h1 : Spares id s t) (h2 : Spares id t u) : Spares id s u :=
  ⟨h1.others.trans (fun _ _ _ _ a b hj => (a hj).trans (b hj)) h2.others, h2.alive.trans h1.alive, h2.drv.trans h1.drv,
    h2.hazard.trans h1.hazard⟩

theorem Spares.of_modAt {id : Nat} {f : Op → Op} {s s' : State} (hops : s'.ops = modAt f s.ops id)
    (ha : s'.alive = s.alive) (hd : s'.drv = s.drv) (hz : s'.hazard = s.hazard) : Spares id s s' :=
  ⟨hops ▸ others_modAt id f _, ha, hd, hz⟩

theorem Spares.modAt (id : Nat) (f : Op → Op) (s : State) : Spares id s { s with ops := modAt f s.ops id } :=
  .of_modAt rfl rfl rfl rfl

theorem overflowDrain_spares (id : Nat) (s : State) (posts : List (Nat × Bool × Res)) :
    Spares id s (overflowDrain s posts) := by
  obtain ⟨h1, h2, h3⟩ := overflowDrain_ind (P := fun t => t.alive = s.alive ∧ t.drv = s.drv ∧ t.hazard = s.hazard)
    (fun _ ht => ht) (fun t t' _ _ _ ht hk => by obtain ⟨f, _, rfl⟩ := kPostStep_some hk; exact ht) (fun _ ht => ht)
    ⟨rfl, rfl, rfl⟩ posts
  exact ⟨(overflowDrain_quiet s posts).mono fun _ _ _ h _ => h.1, h1, h2, h3⟩

theorem queueCancel_same (s : State) (id : Nat) : OpsRel (fun _ => Same) s.ops (queueCancel s id).ops :=
  OpsRel.modAt (fun _ => Same.rfl') fun _ _ => ⟨rfl, rfl, rfl, rfl, rfl, rfl, rfl, fun h => h⟩

theorem iourCancel_same (c : Cfg) (s : State) (id : Nat) (posts : List (Nat × Bool × Res)) :
    OpsRel (fun _ => Same) s.ops (iourCancel c s id posts).ops :=
  iourCancel_ind (P := fun t => OpsRel (fun _ => Same) s.ops t.ops) (queueCancel_same s id)
    (((overflowDrain_quiet s posts).mono fun _ _ _ h => h.1).trans (fun _ _ _ _ => Same.trans) (queueCancel_same _ id))
    (OpsRel.modAt (fun _ => Same.rfl') fun _ _ => ⟨rfl, rfl, rfl, rfl, rfl, rfl, rfl, fun h => h⟩)

theorem driverCancel_rel (c : Cfg) (s : State) (id : Nat) (o : Op) (posts : List (Nat × Bool × Res)) :
    OpsRel (fun _ x x' => x'.user = x.user ∧ x'.cancelled = x.cancelled) s.ops (driverCancel c s id o posts).ops := by
  unfold driverCancel
  split
  · exact (iourCancel_same c s id posts).mono fun _ _ _ h => ⟨h.user, h.cancelled⟩
  · unfold pollCancel
    split
    · exact OpsRel.refl (fun _ _ => ⟨rfl, rfl⟩) _
    · exact OpsRel.modAt (fun _ _ => ⟨rfl, rfl⟩) fun _ _ => ⟨rfl, rfl⟩

theorem driverCancel_spares (c : Cfg) (s : State) (id : Nat) (o : Op) (posts : List (Nat × Bool × Res)) :
    Spares id s (driverCancel c s id o posts) := by
  unfold driverCancel
  split
  · exact iourCancel_ind (P := Spares id s) (.of_modAt rfl rfl rfl rfl)
      ((overflowDrain_spares id s posts).trans (.of_modAt rfl rfl rfl rfl)) (.of_modAt rfl rfl rfl rfl)
  · unfold pollCancel
    split
    · exact ⟨OpsRel.refl (fun _ x _ => Same.rfl' x) _, rfl, rfl, rfl⟩
    · exact .of_modAt rfl rfl rfl rfl

theorem driverCancel_alive (c : Cfg) (s : State) (id : Nat) (o : Op) (posts : List (Nat × Bool × Res)) :
    (driverCancel c s id o posts).alive = s.alive ∧ (driverCancel c s id o posts).drv = s.drv :=
  ⟨(driverCancel_spares c s id o posts).alive, (driverCancel_spares c s id o posts).drv⟩

theorem cancelIssue_spares (c : Cfg) (s : State) (id : Nat) (o : Op) (posts : List (Nat × Bool × Res)) :
    Spares id s (cancelIssue c s id o posts) :=
  ((Spares.modAt id _ s).trans (driverCancel_spares c _ id o posts)).trans (.modAt id _ _)

theorem cancelKey_spares (c : Cfg) (s : State) (id : Nat) (o : Op) (posts : List (Nat × Bool × Res)) :
    Spares id s (cancelKey c s id o posts) := by
  unfold cancelKey
  split
  · exact .modAt id _ s
  · split
    · exact .modAt id _ s
    · exact cancelIssue_spares c s id o posts

theorem cancelTok_spares (c : Cfg) (s : State) (id : Nat) (o : Op) (posts : List (Nat × Bool × Res)) :
    Spares id s (cancelTok c s id o posts) := by
  unfold cancelTok
  split
  · exact (Spares.modAt id _ s).trans (.modAt id _ _)
  · exact (Spares.modAt id _ s).trans (cancelIssue_spares c _ id _ posts)

theorem inv_cancelIssue {c : Cfg} {s : State} (hi : Inv c s) (ha : s.alive = true) {id : Nat} {o : Op}
    (ho : s.ops[id]? = some o) (hu : 0 < o.user) (posts : List (Nat × Bool × Res)) :
    Inv c (cancelIssue c s id o posts) := by
  unfold cancelIssue
  have ho1 : ({ s with ops := modAt (fun o => { o with cancelled := true }) s.ops id } : State).ops[id]?
      = some { o with cancelled := true } := modAt_get ho
  have hi2 := inv_driverCancel (o := o) (inv_plain hi id (f := fun o => { o with cancelled := true }) fun _ => rfl)
    ha ho1 rfl ((hi.ops id o ho).1.live (.inl hu)).1 posts
  obtain ⟨o2, ho2, h2, _⟩ := (driverCancel_rel c _ id o posts).get ho1
  exact inv_modAt hi2 ho2 (.of_eq rfl) (ok_userDrop (o := o2) (hi2.ops id o2 ho2).1 (by rw [h2]; exact hu) o2.cancelled)

theorem inv_cancelKey {c : Cfg} {s : State} (hi : Inv c s) (ha : s.alive = true) {id : Nat} {o : Op}
    (ho : s.ops[id]? = some o) (hu : 0 < o.user) (posts : List (Nat × Bool × Res)) :
    Inv c (cancelKey c s id o posts) := by
  have ok := (hi.ops id o ho).1
  unfold cancelKey
  split
  · exact inv_modAt hi ho (.of_eq rfl) (ok_userDrop (o := o) ok hu o.cancelled)
  · split
    · rename_i hq
      exact inv_modAt hi ho (.of_eq rfl) (ok_takeResult (o := o) ok hu hq.1 true)
    · exact inv_cancelIssue hi ha ho hu posts

theorem inv_clone {c : Cfg} {s : State} (hi : Inv c s) {id : Nat} {o : Op} (ho : s.ops[id]? = some o) (hrc : 0 < o.rc) :
    Inv c { s with ops := modAt (fun o => ({ o.cloneRef with user := o.user + 1 } : Op)) s.ops id } :=
  inv_modAt hi ho (.of_eq rfl) (ok_clone (hi.ops id o ho).1 hrc)

theorem inv_cancelTok {c : Cfg} {s : State} (hi : Inv c s) (ha : s.alive = true) {id : Nat} {o : Op}
    (ho : s.ops[id]? = some o) (hrc : 0 < o.rc) (posts : List (Nat × Bool × Res)) :
    Inv c (cancelTok c s id o posts) := by
  have hi0 := inv_clone hi ho hrc
  have ho0 : ({ s with ops := modAt (fun o => ({ o.cloneRef with user := o.user + 1 } : Op)) s.ops id } : State).ops[id]?
      = some { o.cloneRef with user := o.user + 1 } := modAt_get ho
  have hu : 0 < ({ o.cloneRef with user := o.user + 1 } : Op).user := Nat.succ_pos _
  unfold cancelTok
  split
  · exact inv_modAt hi0 ho0 (.of_eq rfl) (ok_userDrop (o := { o.cloneRef with user := o.user + 1 }) (hi0.ops id _ ho0).1 hu true)
  · exact inv_cancelIssue hi0 ha ho0 hu posts

end Compio.KeyLife
