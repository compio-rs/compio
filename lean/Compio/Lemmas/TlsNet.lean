/-
Lemmas about the scheduled duplex of `Model/TlsNet.lean` (plain transport; `astream = false`): the two-list queue
`Q` as a list, `pushTx` / `drain`, the ingredients of the progress measures of the TLS files (`ctr`, `K`), how a call
may change the wake-ups (`WakeRel`, `Mono`), and what one transport call can do (`ioWrite_spec`, `ioFlush_plain`,
`ioRead_spec`; `ioRead_any` without any assumption).
-/
import Compio.Model.TlsNet

namespace Compio.TlsNet

namespace Q
variable {α : Type}

@[simp] theorem toList_empty : (Q.empty : Q α).toList = [] := rfl

@[simp] theorem toList_push (q : Q α) (xs : List α) : (q.push xs).toList = q.toList ++ xs := by
  simp [push, toList, List.append_assoc]

theorem hasLen_iff : ∀ (l : List α) (n : Nat), hasLen l n = true ↔ n ≤ l.length
  | _, 0 => by simp [hasLen]
  | [], n + 1 => by simp [hasLen]
  | _ :: l, n + 1 => by simp [hasLen, hasLen_iff l n]

theorem pop_fst (q : Q α) (n : Nat) : (q.pop n).1 = q.toList.take n := by
  unfold pop
  split
  · rename_i h
    have h' := (hasLen_iff _ _).1 h
    simp [toList, List.take_append_of_le_length h']
  · simp [toList]

theorem pop_snd (q : Q α) (n : Nat) : (q.pop n).2.toList = q.toList.drop n := by
  unfold pop
  split
  · rename_i h
    have h' := (hasLen_iff _ _).1 h
    simp [toList, List.drop_append_of_le_length h']
  · simp [toList]

theorem isEmpty_iff (q : Q α) : q.isEmpty = true ↔ q.toList = [] := by
  cases q with
  | mk f b => cases f <;> cases b <;> simp [isEmpty, toList]

theorem length_eq (q : Q α) : q.length = q.toList.length := by
  simp [length, toList]

end Q

/-- the cells on their way from this endpoint to the peer: in the pipe, then in the endpoint's buffer -/
def View.txs (v : View) : List Cell := v.tx.q.toList ++ v.tp.wbuf.toList

/-- the cells that have arrived in the pipe this endpoint reads -/
def View.rxs (v : View) : List Cell := v.rx.q.toList

/-- the `Pending` counters of the endpoint (`cr`, `cw`, `cf`) have not passed the delays of the schedule; a call
is performed when its counter has reached the delay, and resets it -/
def CtrOk (sc : Sched) (tp : Tp) : Prop :=
  tp.cr ≤ sc.dr ∧ tp.cw ≤ sc.dw ∧ tp.cf ≤ flushDelay sc tp

/-- remaining `Pending`s before the next read / write / flush call is performed -/
def ctr (sc : Sched) (tp : Tp) : Nat :=
  (sc.dr - tp.cr) + (sc.dw - tp.cw) + (flushDelay sc tp - tp.cf)

/-- the weight of one unit of real progress in the potential: more than any run of consecutive Pendings -/
def K (sc : Sched) : Nat := sc.dr + sc.dw + sc.dfh + sc.df + 1

theorem flushDelay_lt_K (sc : Sched) (tp : Tp) : flushDelay sc tp < K sc := by
  unfold flushDelay K; split <;> omega

theorem dr_lt_K (sc : Sched) : sc.dr < K sc := by unfold K; omega
theorem dw_lt_K (sc : Sched) : sc.dw < K sc := by unfold K; omega
theorem dfh_df_lt_K (sc : Sched) : sc.dfh + sc.df < K sc := by unfold K; omega

/-- `4 * K * rank` one state down, in the form `omega` can use (`K sc` is not a literal) -/
theorem K4 (sc : Sched) (n : Nat) : 4 * K sc * (n + 1) = 4 * K sc * n + 4 * K sc := by
  rw [Nat.mul_add]; omega

theorem pushTx_q (v : View) (cs : List Cell) :
    (pushTx v cs).tx.q.toList = v.tx.q.toList ++ cs := by
  unfold pushTx
  split
  · rename_i h; simp [List.isEmpty_iff] at h; simp [h]
  · simp

theorem pushTx_other (v : View) (cs : List Cell) :
    (pushTx v cs).tp = v.tp ∧ (pushTx v cs).rx = v.rx ∧ (pushTx v cs).own = v.own
    ∧ (pushTx v cs).tx.closed = v.tx.closed := by
  unfold pushTx; split <;> simp

/-- `drain` has one equation: with an empty buffer the push is the identity -/
theorem drain_eq (v : View) :
    drain v = pushTx { v with tp := { v.tp with wbuf := Q.empty } } v.tp.wbuf.toList := by
  unfold drain
  split
  · rename_i h
    rcases v with ⟨⟨⟨f, b⟩, _, _, _, _, _⟩, _, _, _, _⟩
    cases f <;> cases b <;> simp_all [Q.isEmpty, Q.empty, Q.toList, pushTx]
  · rfl

end Compio.TlsNet

/-! `WakeRel` / `Mono` relate the view before and after a call; they are named in `TlsShim`, whose specifications use them. -/

namespace Compio.TlsShim
open Compio.TlsNet

theorem K_pos (sc : Sched) : 1 ≤ K sc := by unfold K; omega

/-- how the peer's registration evolves while `me` runs: a wake-up is never taken back, and as long as the
peer has not been woken a registered reader stays registered and sees no new cells -/
def WakeRel (v v' : View) : Prop :=
  (v.wake = true → v'.wake = true) ∧
  (v'.wake = false → v.tx.rwait = true → v'.tx.q.toList = v.tx.q.toList ∧ v'.tx.rwait = true)

theorem WakeRel.refl (v : View) : WakeRel v v := ⟨id, fun _ h => ⟨rfl, h⟩⟩

theorem WakeRel.trans {a b c : View} (h1 : WakeRel a b) (h2 : WakeRel b c) : WakeRel a c := by
  refine ⟨fun h => h2.1 (h1.1 h), fun hc ha => ?_⟩
  have hb : b.wake = false := by
    cases hbw : b.wake with
    | false => rfl
    | true => have := h2.1 hbw; simp [this] at hc
  obtain ⟨e1, r1⟩ := h1.2 hb ha
  obtain ⟨e2, r2⟩ := h2.2 hc r1
  exact ⟨e2.trans e1, r2⟩

theorem WakeRel.of_eq {v v' : View} (h1 : v'.tx = v.tx) (h2 : v'.wake = v.wake) : WakeRel v v' := by
  refine ⟨fun h => by rw [h2]; exact h, fun _ h => ?_⟩
  rw [h1]; exact ⟨rfl, h⟩

theorem WakeRel.pushTx (v : View) (cs : List Cell) : WakeRel v (pushTx v cs) := by
  unfold TlsNet.pushTx
  split
  · exact .refl v
  · exact ⟨fun h => by simp [h], fun hw hr => by simp [hr] at hw⟩

/-- `own` only ever goes from false to true, and `wake` likewise (inside `WakeRel`) -/
def Mono (v v' : View) : Prop := WakeRel v v' ∧ (v.own = true → v'.own = true)

theorem Mono.refl (v : View) : Mono v v := ⟨WakeRel.refl v, id⟩
theorem Mono.of_own {v v' : View} (hw : WakeRel v v') (ho : v'.own = v.own) : Mono v v' := ⟨hw, fun h => ho ▸ h⟩
theorem Mono.trans {a b c : View} (h1 : Mono a b) (h2 : Mono b c) : Mono a c :=
  ⟨h1.1.trans h2.1, fun h => h2.2 (h1.2 h)⟩

theorem pushTx_view (v : View) (cs : List Cell) :
    (pushTx v cs).txs = v.tx.q.toList ++ cs ++ v.tp.wbuf.toList ∧ (pushTx v cs).tp = v.tp ∧ (pushTx v cs).rx = v.rx ∧
      (pushTx v cs).own = v.own ∧ (pushTx v cs).tx.closed = v.tx.closed ∧ WakeRel v (pushTx v cs) := by
  obtain ⟨h1, h2, h3, h4⟩ := pushTx_other v cs
  exact ⟨by simp only [View.txs, pushTx_q, h1], h1, h2, h3, h4, WakeRel.pushTx v cs⟩

theorem ioWrite_spec {sc : Sched} {v : View} {cs : List Cell} (hdir : sc.astream = false) (hlim : 1 ≤ sc.lim)
    (hopen : v.tx.closed = false) (hnb : sc.buffering = false → v.tp.wbuf.toList = []) (hne : cs ≠ []) :
    (v.tp.cw < sc.dw ∧ ioWrite sc v cs =
      ({ v with tp := { v.tp with cw := v.tp.cw + 1 }, own := true }, .pending .self)) ∨
    (∃ j v' wb, 1 ≤ j ∧ j ≤ cs.length ∧ ioWrite sc v cs = (v', .ready j) ∧ v'.txs = v.txs ++ cs.take j ∧
      v'.tp = { v.tp with cw := 0, wbuf := wb } ∧ wb.length ≤ v.tp.wbuf.length + j ∧
      (sc.buffering = false → wb.toList = []) ∧ v'.rx = v.rx ∧ v'.own = v.own ∧ v'.tx.closed = false ∧
      WakeRel v v') := by
  have hemp : cs.isEmpty = false := List.isEmpty_eq_false_iff.2 hne
  simp only [ioWrite, tWrite, hdir, hemp, hopen, Bool.false_eq_true, if_false]
  by_cases hlt : v.tp.cw < sc.dw
  · exact .inl ⟨hlt, if_pos hlt⟩
  · rw [if_neg hlt]
    have hj : 1 ≤ (cs.take sc.lim).length :=
      List.length_take ▸ Nat.le_min.2 ⟨hlim, List.length_pos_iff.2 hne⟩
    have htake : cs.take (cs.take sc.lim).length = cs.take sc.lim := by
      rw [List.take_eq_take_iff, List.length_take, Nat.min_assoc, Nat.min_self]
    refine .inr ⟨(cs.take sc.lim).length, ?_⟩
    rw [htake]
    cases hb : sc.buffering with
    | true =>
      exact ⟨_, _, hj, List.length_take_le' .., rfl, by simp [View.txs], rfl, by simp [Q.length_eq], nofun, rfl, rfl,
        hopen, .of_eq rfl rfl⟩
    | false =>
      obtain ⟨h1, h2, h3, h4, h5, h6⟩ := pushTx_view { v with tp := { v.tp with cw := 0 } } (cs.take sc.lim)
      have hnb' := hnb hb
      exact ⟨_, _, hj, List.length_take_le' .., rfl, h1.trans (by simp [View.txs, hnb']), h2, Nat.le_add_right _ _,
        fun _ => hnb', h3, h4, h5.trans hopen, (WakeRel.of_eq rfl rfl).trans h6⟩

theorem ioFlush_plain {sc : Sched} (v : View) (hdir : sc.astream = false) :
    (v.tp.cf < flushDelay sc v.tp ∧ ioFlush sc v =
      ({ v with tp := { v.tp with cf := v.tp.cf + 1 }, own := true }, .pending .self)) ∨
    (∃ v', ioFlush sc v = (v', .ready ()) ∧ v'.txs = v.txs ∧ v'.tp = { v.tp with cf := 0, wbuf := Q.empty } ∧
      v'.rx = v.rx ∧ v'.own = v.own ∧ v'.tx.closed = v.tx.closed ∧ WakeRel v v') := by
  simp only [ioFlush, tFlush, hdir, Bool.false_eq_true, if_false]
  by_cases hlt : v.tp.cf < flushDelay sc v.tp
  · exact .inl ⟨hlt, if_pos hlt⟩
  · rw [if_neg hlt, drain_eq]
    obtain ⟨h1, h2, h3, h4, h5, h6⟩ :=
      pushTx_view { v with tp := { v.tp with cf := 0, wbuf := Q.empty } } v.tp.wbuf.toList
    exact .inr ⟨_, rfl, h1.trans (List.append_nil _), h2, h3, h4, h5, (WakeRel.of_eq rfl rfl).trans h6⟩

theorem ioRead_spec (sc : Sched) (v : View) (n : Nat) (hlim : 1 ≤ sc.lim) (hopen : v.rx.closed = false)
    (hn : 1 ≤ n) :
    (v.tp.cr < sc.dr ∧ ioRead sc v n =
      ({ v with tp := { v.tp with cr := v.tp.cr + 1 }, own := true }, .pending .self)) ∨
    (v.rx.q.toList = [] ∧ ioRead sc v n =
      ({ v with tp := { v.tp with cr := 0 }, rx := { v.rx with rwait := true } }, .pending .reg)) ∨
    (∃ v' k, ioRead sc v n = (v', .ready (v.rx.q.toList.take k)) ∧ 1 ≤ k ∧ k ≤ n ∧
      k ≤ v.rx.q.toList.length ∧ v'.rx.q.toList = v.rx.q.toList.drop k ∧
      v'.rx.closed = v.rx.closed ∧ v'.tx = v.tx ∧ v'.wake = v.wake ∧ v'.own = v.own ∧
      v'.tp = { v.tp with cr := 0 }) := by
  unfold ioRead tRead
  by_cases hlt : v.tp.cr < sc.dr
  · left; simp [hlt]
  · right
    simp only [hlt, if_false]
    by_cases he : v.rx.q.isEmpty = true
    · left
      have hn0 : (n == 0) = false := by simp; omega
      simp [he, hopen, hn0, (Q.isEmpty_iff _).1 he]
    · right
      have hpos : 1 ≤ v.rx.q.toList.length := List.length_pos_iff.2 (mt (Q.isEmpty_iff _).2 he)
      simp only [he, Bool.false_eq_true, if_false]
      refine ⟨{ v with tp := { v.tp with cr := 0 }, rx := { v.rx with q := (v.rx.q.pop (min sc.lim n)).2 } },
        min (min sc.lim n) v.rx.q.toList.length, ?_, Nat.le_min.2 ⟨Nat.le_min.2 ⟨hlim, hn⟩, hpos⟩,
        Nat.le_trans (Nat.min_le_left _ _) (Nat.min_le_right _ _), Nat.min_le_right _ _, ?_,
        rfl, rfl, rfl, rfl, rfl⟩
      · rw [Q.pop_fst, ← List.take_eq_take_min]
      · simp only [Q.pop_snd]; exact List.drop_eq_drop_min

theorem ioRead_any (sc : Sched) (v : View) (n : Nat) :
    (∃ v' p, ioRead sc v n = (v', .pending p) ∧ v'.tx = v.tx ∧ v'.tp.wbuf = v.tp.wbuf ∧ v.rxs = v'.rxs ∧
      (p = .self → v'.own = true) ∧ (p = .reg → v'.rx.rwait = true ∧ v'.rxs = [])) ∨
    (∃ v' cs, ioRead sc v n = (v', .ready cs) ∧ v'.tx = v.tx ∧ v'.tp.wbuf = v.tp.wbuf ∧ v.rxs = cs ++ v'.rxs ∧
      cs.length ≤ n) := by
  unfold ioRead tRead
  by_cases hlt : v.tp.cr < sc.dr
  · rw [if_pos hlt]
    exact .inl ⟨_, _, rfl, rfl, rfl, rfl, fun _ => rfl, nofun⟩
  · rw [if_neg hlt]
    dsimp only
    by_cases he : v.rx.q.isEmpty = true
    · rw [if_pos he]
      by_cases hc : (v.rx.closed || n == 0) = true
      · rw [if_pos hc]
        exact .inr ⟨_, _, rfl, rfl, rfl, rfl, Nat.zero_le _⟩
      · rw [if_neg hc]
        exact .inl ⟨_, _, rfl, rfl, rfl, rfl, nofun, fun _ => ⟨rfl, (Q.isEmpty_iff _).1 he⟩⟩
    · rw [if_neg he]
      refine .inr ⟨_, _, rfl, rfl, rfl, ?_, ?_⟩
      · simp only [View.rxs, Q.pop_fst, Q.pop_snd, List.take_append_drop]
      · rw [Q.pop_fst, List.length_take]; exact Nat.le_trans (Nat.min_le_left ..) (Nat.min_le_right ..)

end Compio.TlsShim
