/-
What each function regenerated from task/state.rs (Gen/TaskState.lean) that a model calls does on a word given by its
fields (`setHasResultTrue`, `setHasWakerFalse`, `isScheduling` are called by none). These
are `rfl`: they stop checking when a mask in state.rs changes, which is intended. The models of the home-thread
executor and of the remote join handle read the word through them (the names are those of the executor model).
-/
import Compio.Gen.TaskState

namespace Compio.Executor
open Compio.TaskWord Compio.Gen

@[simp] theorem g_new (n : Nat) : TaskState.new n =
    ⟨false, false, true, false, false, false, true, n⟩ := rfl
@[simp] theorem g_unschedule (w : Word) : TaskState.unschedule w = { w with scheduled := false } := rfl
@[simp] theorem g_setDropped (w : Word) :
    TaskState.setDropped w = { w with hasWaker := false, notCancelled := false } := rfl
@[simp] theorem g_setCancelled (w : Word) : TaskState.setCancelled w = { w with notCancelled := false } := rfl
@[simp] theorem g_finishRunning (w : Word) :
    TaskState.finishRunning w = { w with completed := true, hasResult := true } := rfl
@[simp] theorem g_setHasResultFalse (w : Word) : TaskState.setHasResultFalse w = { w with hasResult := false } := rfl
@[simp] theorem g_setHasWakerTrue (w : Word) : TaskState.setHasWakerTrue w = { w with hasWaker := true } := rfl
@[simp] theorem g_inc (w : Word) : TaskState.inc w = { w with count := w.count + 1 } := rfl
@[simp] theorem g_dec (w : Word) : TaskState.dec w = { w with count := w.count - 1 } := rfl
@[simp] theorem g_load (w : Word) : TaskState.load w = w := rfl
@[simp] theorem g_isCancelled (w : Word) : TaskState.isCancelled w = !w.notCancelled := rfl
@[simp] theorem g_isCompleted (w : Word) : TaskState.isCompleted w = w.completed := rfl
@[simp] theorem g_isSettingWaker (w : Word) : TaskState.isSettingWaker w = !w.notSettingWaker := rfl
@[simp] theorem g_hasWaker (w : Word) : TaskState.hasWaker w = w.hasWaker := rfl
@[simp] theorem g_hasResult (w : Word) : TaskState.hasResult w = w.hasResult := rfl
@[simp] theorem g_count (w : Word) : TaskState.count w = w.count := rfl
@[simp] theorem g_startScheduling (w : Word) :
    TaskState.startScheduling w = { w with scheduled := true, scheduling := true } := rfl
@[simp] theorem g_finishScheduling (w : Word) : TaskState.finishScheduling w = { w with scheduling := false } := rfl
@[simp] theorem g_isScheduled (w : Word) : TaskState.isScheduled w = w.scheduled := rfl
@[simp] theorem g_startSettingWaker (w : Word) :
    TaskState.startSettingWaker w = { w with notSettingWaker := false } := rfl
@[simp] theorem g_finishSettingWakerTrue (w : Word) :
    TaskState.finishSettingWakerTrue w = { w with notSettingWaker := true, hasWaker := true } := rfl
@[simp] theorem g_finishSettingWakerFalse (w : Word) :
    TaskState.finishSettingWakerFalse w = { w with notSettingWaker := true } := rfl

end Compio.Executor
