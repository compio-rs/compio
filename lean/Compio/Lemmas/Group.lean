/-
The `while` loop of `ProcessGroup::send` (Model/Group.lean) characterised segment by segment (`scan_seg`), and
`send` against its specification (`send_eq_spec`: the stretch up to the end of the vector followed by the
wrapped stretch).
-/
import Compio.Model.Group

namespace Compio.Group

variable {α : Type}

@[simp] theorem scan_zero (status : α → Status) (ms : List α) (i : Nat) (sf : Bool) :
    scan status 0 ms i sf = (giveUp sf, ms) := by
  simp [scan]

theorem status_cases (status : α → Status) (m : α) :
    (status m = .ok ∧ isOk status m = true ∧ isFull status m = false ∧ isClosed status m = false) ∨
    (status m = .full ∧ isOk status m = false ∧ isFull status m = true ∧ isClosed status m = false) ∨
    (status m = .closed ∧ isOk status m = false ∧ isFull status m = false ∧ isClosed status m = true) := by
  unfold isOk isFull isClosed
  cases h : status m <;> simp

theorem length_append3_pos (A T B : List α) (m : α) : A.length < (A ++ m :: T ++ B).length := by
  simp

/-- A stretch `T` of the vector scanned from its first member: `P` before it (asked already, or to be asked
after wrapping), `B` after it, `n` attempts beyond `|T|`. Either a member of `T` accepts, or the loop goes on
behind `T`. The index is written `|P| % len`: the head of `T`, resp. of `B`, or 0 after the end of the vector,
which is how the loop computes it. -/
theorem scan_seg (status : α → Status) (n : Nat) :
    ∀ (T P B : List α) (sf : Bool),
      scan status (T.length + n) (P ++ T ++ B) (P.length % (P ++ T ++ B).length) sf =
        match T.find? (isOk status) with
        | some m => (.delivered m, P ++ evictSeg status T ++ B)
        | none => scan status n (P ++ evictSeg status T ++ B)
            ((P ++ evictSeg status T).length % (P ++ evictSeg status T ++ B).length)
            (sf || T.any (isFull status)) := by
  intro T
  induction T with
  | nil => intro P B sf; simp [evictSeg, met]
  | cons m T ih =>
    intro P B sf
    have hne : (P ++ m :: T ++ B).isEmpty = false := by simp
    have hget : (P ++ m :: T ++ B)[P.length]? = some m := by simp
    rw [Nat.mod_eq_of_lt (length_append3_pos P T B m), List.length_cons, Nat.add_right_comm, scan]
    simp only [hne, hget]
    rcases status_cases status m with ⟨hs, hok, hfu, hcl⟩ | ⟨hs, hok, hfu, hcl⟩ | ⟨hs, hok, hfu, hcl⟩
    · simp [hs, evictSeg, met, hok]
    · -- full: kept, go on with the next index
      have key := ih (P ++ [m]) B true
      have e1 : P ++ [m] ++ T ++ B = P ++ m :: T ++ B := by simp
      rw [e1, List.length_append, List.length_singleton] at key
      simp only [hs, key]
      simp [evictSeg, met, hok, hfu, hcl]
    · -- closed: evicted, same index
      have herase : (P ++ m :: T ++ B).eraseIdx P.length = P ++ T ++ B := by
        rw [List.append_assoc, List.eraseIdx_append_of_length_le (Nat.le_refl _)]
        simp
      have hidx : (if (P ++ T ++ B).isEmpty then P.length else P.length % (P ++ T ++ B).length) =
          P.length % (P ++ T ++ B).length := by
        split
        · next h => simp [List.isEmpty_iff.mp h]
        · rfl
      simp only [hs, herase, hidx, ih P B sf]
      simp [evictSeg, met, hok, hfu, hcl]

theorem scan_wrap (status : α → Status) (ms : List α) (k : Nat) (hk : k < ms.length) :
    scan status ms.length ms k false =
      match (ms.drop k).find? (isOk status) with
      | some m => (.delivered m, ms.take k ++ evictSeg status (ms.drop k))
      | none =>
        match (ms.take k).find? (isOk status) with
        | some m => (.delivered m, evictSeg status (ms.take k) ++ evictSeg status (ms.drop k))
        | none => (giveUp ((ms.drop k).any (isFull status) || (ms.take k).any (isFull status)),
            evictSeg status (ms.take k) ++ evictSeg status (ms.drop k)) := by
  have htk : (ms.take k).length = k := by simp; omega
  have back := scan_seg status k (ms.drop k) (ms.take k) [] false
  have front := scan_seg status 0 (ms.take k) [] (evictSeg status (ms.drop k))
    (false || (ms.drop k).any (isFull status))
  have hlen : (ms.drop k).length + k = ms.length := by simp; omega
  rw [List.append_nil, List.take_append_drop, hlen, htk, Nat.mod_eq_of_lt hk, List.append_nil, Nat.mod_self]
    at back
  rw [Nat.add_zero, htk, List.nil_append, List.length_nil, Nat.zero_mod] at front
  rw [back]
  cases (ms.drop k).find? (isOk status) with
  | some m => simp
  | none =>
    simp only []
    rw [front]
    cases (ms.take k).find? (isOk status) <;> simp

theorem all_not_eq_find?_isNone (p : α → Bool) (l : List α) :
    l.all (fun a => !p a) = (l.find? p).isNone := by
  induction l with
  | nil => rfl
  | cons a l ih => cases h : p a <;> simp [h, ih]

theorem send_eq_spec (status : α → Status) (c : Nat) (ms : List α) :
    send status c ms = (specOutcome status (scanOrder c ms), specMembers status c ms,
      if ms = [] then c else (c + 1) % usizeMod) := by
  by_cases hne : ms = []
  · subst hne; simp [send, specOutcome, scanOrder, specMembers, evictSeg, met]
  have hemp : ms.isEmpty = false := by cases ms <;> simp_all
  unfold send select scanOrder specMembers specOutcome
  simp only [hemp, hne, Bool.false_eq_true, if_false, all_not_eq_find?_isNone, List.find?_append, List.any_append,
    scan_wrap status ms _ (Nat.mod_lt _ (List.length_pos_iff.mpr hne))]
  cases List.find? (isOk status) (ms.drop (c % ms.length)) <;>
    cases List.find? (isOk status) (ms.take (c % ms.length)) <;> simp [giveUp]

theorem scanOrder_perm (c : Nat) (ms : List α) : (scanOrder c ms).Perm ms := by
  unfold scanOrder
  exact List.perm_append_comm.trans (.of_eq (List.take_append_drop _ ms))

theorem mem_scanOrder (c : Nat) (ms : List α) (m : α) : m ∈ scanOrder c ms ↔ m ∈ ms :=
  (scanOrder_perm c ms).mem_iff

theorem evictSeg_sublist (status : α → Status) (seg : List α) : (evictSeg status seg).Sublist seg := by
  unfold evictSeg met
  conv => rhs; rw [← List.takeWhile_append_dropWhile (p := fun m => !isOk status m) (l := seg)]
  exact List.Sublist.append List.filter_sublist (List.Sublist.refl _)

theorem mem_evictSeg (status : α → Status) (seg : List α) (m : α) (hm : m ∈ seg) (hnc : status m ≠ .closed) :
    m ∈ evictSeg status seg := by
  unfold evictSeg met
  rw [← List.takeWhile_append_dropWhile (p := fun m => !isOk status m) (l := seg)] at hm
  rcases List.mem_append.mp hm with h | h
  · exact List.mem_append_left _ (List.mem_filter.mpr ⟨h, by simpa [isClosed] using hnc⟩)
  · exact List.mem_append_right _ h

theorem evictSeg_eq_self (status : α → Status) (seg : List α) (hs : ∀ m ∈ seg, status m ≠ .closed) :
    evictSeg status seg = seg := by
  unfold evictSeg met
  rw [List.filter_eq_self.mpr, List.takeWhile_append_dropWhile]
  intro m hm
  simpa [isClosed] using hs m ((List.takeWhile_sublist _).subset hm)

theorem specMembers_sublist (status : α → Status) (c : Nat) (ms : List α) :
    (specMembers status c ms).Sublist ms := by
  simp only [specMembers]
  conv => rhs; rw [← List.take_append_drop (c % ms.length) ms]
  split
  · exact List.Sublist.append (evictSeg_sublist ..) (evictSeg_sublist ..)
  · exact List.Sublist.append (List.Sublist.refl _) (evictSeg_sublist ..)

theorem send_members_sublist (status : α → Status) (c : Nat) (ms : List α) :
    (send status c ms).2.1.Sublist ms := by
  rw [send_eq_spec]; exact specMembers_sublist status c ms

theorem send_delivered_mem (status : α → Status) (c : Nat) (ms : List α) (m : α)
    (h : (send status c ms).1 = .delivered m) : m ∈ ms := by
  rw [send_eq_spec] at h
  simp only [specOutcome] at h
  split at h
  · next hf => cases h; exact (mem_scanOrder c ms _).mp (List.mem_of_find?_eq_some hf)
  · split at h <;> cases h

end Compio.Group
