/-
What a step of the actor transition system of Model/Actor.lean can do, as a relation: the actions of the other threads
(`EnvStep`) and the edges of the actor task's control flow (`TaskStep`), each with its guard and the successor as an
update of the state. The invariants (Lemmas/Actor.lean) are a `cases` on the relation through `step_sound`. The converse
is proved for the task's edges only (`TaskStep.complete`), and `batch_runs` (Lemmas/ActorProgress.lean) goes edge by edge
over it. Besides these two proofs `step` is evaluated where a short concrete schedule is run: `recv_takes_head`,
`recv_prefers_stop`, the handler's own `stop()` and reply inside `batch_runs`, `settle_one` (ActorProgress);
`unanswered_call_errors`, `stop_idempotent_when_stopping`, `stop_sets_flag` (Props/C19).
-/
import Compio.Model.Actor

namespace Compio.Actor

/-- for `h : <unfolded step> = some s'`: split every `if`/`match` of `h`; the final `cases h` closes the disabled
branches (`none = some s'`) and substitutes `s'` in the enabled ones -/
macro "step_cases" h:ident : tactic =>
  `(tactic| (repeat' (first | (split at $h:ident) | (cases $h:ident))))

@[simp] theorem resolve_eq (s : St) (it : Item) (r : Res) :
    s.resolve it r = { s with resolved := if it.call then s.resolved ++ [(it.id, r)] else s.resolved } := by
  unfold St.resolve; split <;> rfl

@[simp] theorem resolve_isClosed (s : St) (it : Item) (r : Res) : (s.resolve it r).isClosed = s.isClosed := by
  simp [St.isClosed]

def Pc.terminal : Pc → Bool
  | .startFailed | .exited _ => true
  | _ => false

/-- the actions of the other threads (senders, stoppers, the owner of the spawn future, the last handle) -/
inductive EnvStep (s : St) : Ev → St → Prop
  | sendCheckClosed (it : Item) : s.chanAlive = true → s.isClosed = true →
      EnvStep s (.sendCheck it)
        { s with issued := if it.call then s.issued + 1 else s.issued,
                 resolved := if it.call then s.resolved ++ [(it.id, .closed)] else s.resolved }
  | sendCheckOpen (it : Item) : s.chanAlive = true → s.isClosed = false →
      EnvStep s (.sendCheck it)
        { s with issued := if it.call then s.issued + 1 else s.issued, inflight := s.inflight ++ [it] }
  | sendPushOk (it : Item) : it ∈ s.inflight → s.pushRes = .ok →
      EnvStep s (.sendPush it)
        { s with inflight := s.inflight.erase it, queue := s.queue ++ [it], accepted := s.accepted ++ [it.id] }
  | sendPushRefused (it : Item) (r : Res) : it ∈ s.inflight →
      s.pushRes = .full ∧ r = .full ∨ s.pushRes = .closed ∧ r = .closed →
      EnvStep s (.sendPush it)
        { s with inflight := s.inflight.erase it,
                 resolved := if it.call then s.resolved ++ [(it.id, r)] else s.resolved }
  | stopSwapAgain : s.chanAlive = true → s.stopping = true → EnvStep s .stopSwap s
  | stopSwapFirst : s.chanAlive = true → s.stopping = false →
      EnvStep s .stopSwap { s with stopping := true, stopsInFlight := s.stopsInFlight + 1 }
  | stopPush : s.stopsInFlight ≠ 0 →
      EnvStep s .stopPush { s with stopsInFlight := s.stopsInFlight - 1, stopSlot := s.stopSlot || s.stopPushOk }
  | dropFuture : EnvStep s .dropFuture { s with futureAlive := false }
  | dropSenders : s.pc.terminal = true → s.chanAlive = true → s.inflight = [] → s.stopsInFlight = 0 →
      EnvStep s .dropSenders { s with chanAlive := false, resolved := s.resolved ++ dropCalls s.queue }

/-- the actions of the actor task, one per edge of its control flow -/
inductive TaskStep (s : St) : Ev → St → Prop
  | preStartOk : s.pc = .init →
      TaskStep s (.preStart true)
        { s with pc := .preStarted, tok := s.tok.activate, log := s.log ++ [.hook .preStart true] }
  | preStartErr : s.pc = .init →
      TaskStep s (.preStart false) { s with pc := .failRelease, log := s.log ++ [.hook .preStart false] }
  | releaseFailed : s.pc = .failRelease →
      TaskStep s .releaseFailed { s with pc := .failReport, tok := s.tok.release }
  | reportFailure : s.pc = .failReport →
      TaskStep s .reportFailure { s with pc := .failReturn, startReported := true }
  | returnFailed : s.pc = .failReturn →
      TaskStep s .returnFailed { s with pc := .startFailed, rxAlive := false }
  | signalStarted : s.pc = .preStarted → s.futureAlive = true →
      TaskStep s .signalStarted { s with pc := .postStart }
  | signalDetached : s.pc = .preStarted → s.futureAlive = false →
      TaskStep s .signalStarted { s with pc := .finBegin .stopped, detached := true }
  | postStartOk : s.pc = .postStart →
      TaskStep s (.postStart true)
        { s with pc := .atRecv, notified := s.notified ++ [0], log := s.log ++ [.hook .postStart true] }
  | postStartErr : s.pc = .postStart →
      TaskStep s (.postStart false)
        { s with pc := .finBegin (.failed 2), log := s.log ++ [.hook .postStart false] }
  | pollStopTaken : s.pc = .atRecv → s.stopSlot = true →
      TaskStep s .pollStop { s with stopSlot := false, stopConsumed := true, pc := .finBegin .stopped }
  | pollStopEmpty : s.pc = .atRecv → s.stopSlot = false →
      TaskStep s .pollStop { s with pc := .polledStop }
  | pollMsgEmpty : s.pc = .polledStop → s.queue = [] →
      TaskStep s .pollMsg { s with pc := .atRecv }
  | pollMsgTaken (it : Item) (q : List Item) : s.pc = .polledStop → s.queue = it :: q →
      TaskStep s .pollMsg
        { s with queue := q, handled := s.handled ++ [it.id], pc := .handling it false,
                 log := s.log ++ [.hs it.id] }
  | reply (it : Item) (v : Nat) : s.pc = .handling it false → it.call = true →
      TaskStep s (.reply v) { s with pc := .handling it true, resolved := s.resolved ++ [(it.id, .reply v)] }
  | handlerOk (it : Item) (replied : Bool) : s.pc = .handling it replied →
      TaskStep s (.handlerEnd true)
        { s with pc := .atRecv,
                 resolved := if it.call ∧ replied = false then s.resolved ++ [(it.id, .noReply)] else s.resolved,
                 log := s.log ++ [.he it.id true] }
  | handlerErr (it : Item) (replied : Bool) : s.pc = .handling it replied →
      TaskStep s (.handlerEnd false)
        { s with pc := .finBegin (.failed (100 + it.id)),
                 resolved := if it.call ∧ replied = false then s.resolved ++ [(it.id, .noReply)] else s.resolved,
                 log := s.log ++ [.he it.id false] }
  | beginStop (e : Exit) : s.pc = .finBegin e →
      TaskStep s .beginStop { s with stopping := true, pc := .finPreStop e }
  | preStop (e : Exit) (ok : Bool) : s.pc = .finPreStop e →
      TaskStep s (.preStop ok) { s with pc := .finDropRx (e.orFail ok 3), log := s.log ++ [.hook .preStop ok] }
  | dropRx (e : Exit) : s.pc = .finDropRx e →
      TaskStep s .dropRx { s with rxAlive := false, pc := .finPostStop e }
  | postStop (e : Exit) (ok : Bool) : s.pc = .finPostStop e →
      TaskStep s (.postStop ok) { s with pc := .finRelease (e.orFail ok 4), log := s.log ++ [.hook .postStop ok] }
  | releaseDetached (e : Exit) : s.pc = .finRelease e → s.detached = true →
      TaskStep s .release { s with tok := s.tok.release, pc := .exited e }
  | release (e : Exit) : s.pc = .finRelease e → s.detached = false →
      TaskStep s .release { s with tok := s.tok.release, pc := .finNotify e }
  | notifyExit (e : Exit) : s.pc = .finNotify e →
      TaskStep s .notifyExit { s with notified := s.notified ++ [exitNote e], pc := .exited e }

inductive Step (s : St) (e : Ev) (s' : St) : Prop
  | env (h : EnvStep s e s')
  | task (h : TaskStep s e s')

/-- `step_sound` meets the successor in the form `step` computes it -/
theorem Step.of_env {s : St} {e : Ev} {t s' : St} (h : EnvStep s e t) (ht : t = s') : Step s e s' := ht ▸ .env h

theorem Step.of_task {s : St} {e : Ev} {t s' : St} (h : TaskStep s e t) (ht : t = s') : Step s e s' := ht ▸ .task h

theorem step_sound {s : St} {e : Ev} {s' : St} (h : step s e = some s') : Step s e s' := by
  cases e with
  | sendCheck it =>
    simp only [step, resolve_eq] at h
    step_cases h
    · exact .of_env (.sendCheckClosed it (by simp_all) (by simp_all [St.isClosed])) (by simp [*])
    · exact .of_env (.sendCheckOpen it (by simp_all) (by simp_all [St.isClosed])) (by simp [*])
    · exact .of_env (.sendCheckClosed it (by simp_all) (by simp_all [St.isClosed])) (by simp [*])
    · exact .of_env (.sendCheckOpen it (by simp_all) (by simp_all [St.isClosed])) (by simp [*])
  | sendPush it =>
    simp only [step] at h
    step_cases h
    · exact .env (.sendPushOk it ‹_› ‹_›)
    · exact .of_env (.sendPushRefused it .full ‹_› (.inl ⟨‹_›, rfl⟩)) (by simp)
    · exact .of_env (.sendPushRefused it .closed ‹_› (.inr ⟨‹_›, rfl⟩)) (by simp)
  | stopSwap =>
    simp only [step] at h
    step_cases h
    · exact .env (.stopSwapAgain (by simp_all) ‹_›)
    · exact .env (.stopSwapFirst (by simp_all) (by simp_all))
  | stopPush =>
    simp only [step] at h
    step_cases h
    exact .env (.stopPush ‹_›)
  | dropFuture => cases h; exact .env .dropFuture
  | dropSenders =>
    simp only [step] at h
    step_cases h
    all_goals exact .env (.dropSenders (by simp [*, Pc.terminal]) (by simp_all) (by simp_all) (by simp_all))
  | preStart ok | postStart ok =>
    cases ok <;> simp only [step, Bool.false_eq_true, ↓reduceIte] at h <;> step_cases h <;>
      exact .task (by constructor; assumption)
  | handlerEnd ok =>
    cases ok <;> simp only [step, resolve_eq, Bool.false_eq_true, ↓reduceIte] at h <;> step_cases h <;>
      exact .of_task (by constructor; assumption) (by simp [*, St.obs])
  | signalStarted | pollStop | release =>
    simp only [step] at h; step_cases h
    · exact .task (by constructor <;> assumption)
    · exact .task (by constructor <;> simp_all)
  | _ =>
    -- one edge per event: its guard is the program point and, for `reply` and `pollMsg`, what the `match` found
    simp only [step] at h; step_cases h <;> exact .task (by constructor <;> assumption)

theorem TaskStep.complete {s : St} {e : Ev} {s' : St} (h : TaskStep s e s') : step s e = some s' := by
  cases h with
  | handlerOk _ r | handlerErr _ r => cases r <;> simp [step, St.obs, *]
  | _ => simp [step, St.obs, *]

/-- what the actor task alone writes -/
structure SameTask (s s' : St) : Prop where
  pc : s'.pc = s.pc
  log : s'.log = s.log
  tok : s'.tok = s.tok
  notified : s'.notified = s.notified
  detached : s'.detached = s.detached
  stopConsumed : s'.stopConsumed = s.stopConsumed
  startReported : s'.startReported = s.startReported

theorem EnvStep.same {s : St} {e : Ev} {s' : St} (h : EnvStep s e s') : SameTask s s' := by
  cases h <;> constructor <;> rfl

theorem TaskStep.live {s : St} {e : Ev} {s' : St} (h : TaskStep s e s') : s.pc.terminal = false := by
  cases h <;> rw [‹s.pc = _›] <;> rfl

theorem Step.env_of_terminal {s : St} {e : Ev} {s' : St} (h : Step s e s') (ht : s.pc.terminal = true) :
    EnvStep s e s' := by
  cases h with
  | env h => exact h
  | task h => rw [h.live] at ht; cases ht

theorem mem_ite_snoc {α : Type} {c : Prop} [Decidable c] {l : List α} {x y : α}
    (h : y ∈ if c then l ++ [x] else l) : y ∈ l ∨ y = x := by
  split at h
  · simpa using h
  · exact .inl h

theorem answers_step {s : St} {e : Ev} {s' : St} (h : Step s e s') {c : Nat} {r : Res} (hm : (c, r) ∈ s'.resolved) :
    (c, r) ∈ s.resolved ∨
    ((r = .closed ∨ r = .full) ∧ ∃ it, it.id = c ∧ (e = .sendCheck it ∨ e = .sendPush it)) ∨
    (∃ it rp, s.pc = .handling it rp ∧ it.id = c ∧ (r = .noReply ∨ ∃ v, r = .reply v)) ∨
    (e = .dropSenders ∧ r = .noReply ∧ s'.chanAlive = false) := by
  cases h with
  | env h =>
    cases h with
    | sendCheckClosed it =>
      exact (mem_ite_snoc hm).imp_right fun h => by cases h; exact .inl ⟨.inl rfl, it, rfl, .inl rfl⟩
    | sendPushRefused it r' _ hr =>
      refine (mem_ite_snoc hm).imp_right fun h => ?_
      cases h
      exact .inl ⟨hr.elim (fun h => .inr h.2) (fun h => .inl h.2), it, rfl, .inr rfl⟩
    | dropSenders =>
      refine (List.mem_append.mp hm).imp_right fun h => .inr (.inr ⟨rfl, ?_, rfl⟩)
      simp only [dropCalls, List.mem_map, Prod.mk.injEq] at h
      obtain ⟨_, _, _, h⟩ := h
      exact h.symm
    | _ => exact .inl hm
  | task h =>
    cases h with
    | reply it v hp =>
      refine (List.mem_append.mp hm).imp_right fun h => ?_
      cases List.mem_singleton.mp h
      exact .inr (.inl ⟨it, false, hp, rfl, .inr ⟨v, rfl⟩⟩)
    | handlerOk it rp hp | handlerErr it rp hp =>
      refine (mem_ite_snoc hm).imp_right fun h => ?_
      cases h
      exact .inr (.inl ⟨it, rp, hp, rfl, .inl rfl⟩)
    | _ => exact .inl hm

/-- what an uninterrupted `send` answers; `World.statusOf` (Model/ActorWorld.lean), a member's status as a group sees
it, is this value -/
theorem sendNow_result (s : St) (it : Item) (r : SendRes) (s' : St) (h : sendNow s it = some (r, s')) :
    r = (if s.isClosed then SendRes.closed else s.pushRes) := by
  unfold sendNow at h
  split at h
  · next hc =>
    simp only [Option.map_eq_some_iff, Prod.mk.injEq] at h
    obtain ⟨_, _, rfl, _⟩ := h
    rw [if_pos hc]
  · next hc =>
    split at h
    · cases h
    · next s1 hs =>
      simp only [Option.map_eq_some_iff, Prod.mk.injEq] at h
      obtain ⟨_, _, rfl, _⟩ := h
      rw [if_neg hc]
      -- the check changes neither the queue nor the receiver
      cases step_sound hs with
      | env h =>
        cases h with
        | sendCheckClosed _ _ hcl => exact absurd hcl hc
        | sendCheckOpen => rfl
      | task h => cases h

end Compio.Actor
