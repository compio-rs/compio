/-
Invariant of the remote-join LTS (Compio.Model.RemoteJoin) and the theorems of C04 about the
remote JoinHandle: slot / storage exclusivity, wake delivery, exactly-once accounting.

`Inv` is the invariant as the results read it. The induction over the steps runs on `Outline`, the same clauses with
every test on a program counter computed: one case per label in `outline_step`, each naming the clauses the label
touches and why they hold again; `Outline.inv` leads back to `Inv`.
-/
import Compio.Model.RemoteJoin
import Compio.Lemmas.TaskState
import Compio.Lemmas.Lts
namespace Compio.RemoteJoin
open Compio.TaskWord Compio.Gen

/-! Two closed forms stated in this namespace (`g_isScheduled` is `Compio.Executor.g_isScheduled` again); the others
are those of Lemmas/TaskState. -/
section gen
variable (w : Word)
@[simp, grind =] theorem g_new2 : TaskState.new 2 = ⟨false, false, true, false, false, false, true, 2⟩ := rfl
@[simp, grind =] theorem g_isScheduled : TaskState.isScheduled w = w.scheduled := rfl
end gen

open Compio.Executor (g_isCancelled g_isCompleted g_hasResult g_hasWaker g_isSettingWaker g_count)

/-- The invariant of the FIXED program: it holds in every reachable state (`inv_reachable`; the induction runs on
its computed form `Outline`). Groups: allocation (`uaf0`…`hLast`), the word's flags against
the program counters (`sect`…`completed`), future/result storage (`futStorage`…`resLe`), waker slot against
HAS_WAKER and the snapshots the threads decided on (`acc`…`cmpSnap`, `ft`…`ed2`, `wakeSnap`), the waker-leak
characterisation F040 (`hc2`…`lk4`), the handle's return value (`hret*`), delivery (`d1`…`d4`). The digits only tell
the clauses of a group apart: they are not consecutive and stand for nothing. `lk3`: on the completion route, once E is
past its decision whether to wake, the waker a handle finds in the slot on opening a section (`startSetting`) or
leaves there on closing one it did not use (`finishFalse`) has been woken. -/
structure Inv (s : RState) : Prop where
  uaf0 : s.uaf = 0
  bad0 : s.bad = 0
  deallocLe : s.deallocs ≤ 1
  dealloc1 : s.deallocs = 1 ↔ (s.epc = .done ∧ s.hpc = .done)
  count : s.word.count = (if s.epc = .last ∨ s.epc = .done then 0 else 1) + (if s.hpc = .last ∨ s.hpc = .done then 0 else 1)
  eLast : s.epc = .last → s.hpc = .done ∧ s.esnap.hasResult = s.word.hasResult ∧ s.esnap.hasWaker = s.word.hasWaker
  hLast : s.hpc = .last → s.epc = .done ∧ s.hsnap.hasResult = s.word.hasResult ∧ s.hsnap.hasWaker = s.word.hasWaker
  sect : s.word.notSettingWaker = false ↔ (s.hpc = .finishFalse ∨ s.hpc = .compare ∨ s.hpc = .write ∨ s.hpc = .finishTrue)
  cancelled : s.word.notCancelled = false ↔ (s.hcancelled = true ∨ s.epc = .clearShared ∨ s.epc = .dropFuture ∨ s.epc = .dropSlot ∨ s.epc = .dec ∨ s.epc = .last ∨ s.epc = .done)
  routeRun : (s.epc = .idle ∨ s.epc = .poll) ↔ s.eroute = .running
  routeFin : s.epc = .finishRunning ∨ s.epc = .wake → s.eroute = .completed
  completed : s.word.completed = true ↔ (s.eroute = .completed ∧ s.epc ≠ .finishRunning)
  futStorage : s.storage = .future ↔ (s.eroute = .running ∨ (s.eroute ≠ .completed ∧ (s.epc = .setDropped ∨ s.epc = .clearShared ∨ s.epc = .dropFuture)))
  futDrops : s.futDrops = if s.storage = .future then 0 else 1
  preResult : s.epc = .finishRunning → s.storage = .result
  clearSharedSnap : s.epc = .clearShared → (s.esnap.completed = true ↔ s.eroute = .completed)
  dropFutureRoute : s.epc = .dropFuture → s.eroute ≠ .completed
  r1 : s.word.completed = false → s.word.hasResult = false ∧ s.resTaken + s.resDrops = 0
  r2 : s.word.hasResult = true → s.deallocs = 0 → s.storage = .result ∧ s.resTaken + s.resDrops = 0
  r3 : s.word.completed = true → s.word.hasResult = false →
      ((s.hpc = .takeResult ∨ s.hpc = .cancelDrop) ∧ s.storage = .result ∧ s.resTaken + s.resDrops = 0) ∨
      ((s.hpc = .dec ∨ s.hpc = .last ∨ s.hpc = .done) ∧ s.storage = .empty ∧ s.resTaken + s.resDrops = 1)
  r4 : s.hpc = .clearResult ∨ s.hpc = .cancelClear → s.word.hasResult = true
  r5 : s.hpc = .takeResult ∨ s.hpc = .cancelDrop → s.word.completed = true ∧ s.word.hasResult = false
  r6 : s.deallocs = 1 → s.word.completed = true → s.resTaken + s.resDrops = 1
  resLe : s.resTaken + s.resDrops ≤ 1
  acc : s.slotSets = s.slotDrops + (if s.slot.isSome then 1 else 0)
  w1 : s.word.hasWaker = true → s.deallocs = 0 → s.slot.isSome = true
  w2 : s.hpc = .compare → s.slot.isSome = true
  w4 : s.hpc = .write → (s.hsnap.hasWaker = true ↔ s.slot.isSome = true)
  w5 : ¬ (s.epc = .clearShared ∨ s.epc = .dropFuture ∨ s.epc = .dropSlot ∨ s.epc = .dec ∨ s.epc = .last ∨ s.epc = .done) →
      s.hpc ≠ .write → s.hpc ≠ .finishTrue → (s.slot.isSome = true ↔ s.word.hasWaker = true)
  cmpSnap : s.hpc = .compare → s.hsnap.hasWaker = true
  wakeSnap : s.epc = .wake → s.esnap.hasWaker = true ∧ s.esnap.notSettingWaker = true
  hc2 : s.hcancelled = true → s.hpc ≠ .startSetting ∧ s.hpc ≠ .finishFalse ∧ s.hpc ≠ .compare ∧ s.hpc ≠ .write ∧ s.hpc ≠ .finishTrue
  ff : s.hpc = .finishFalse → s.word.notCancelled = true → s.word.completed = true
  ffc : s.hpc = .finishFalse → s.hsnap.hasResult = false → s.word.notCancelled = false
  lk3 : ∀ w, s.slot = some w → ePastWake s = true → s.hpc = .startSetting ∨ s.hpc = .finishFalse → w ∈ s.woken
  lk : ∀ w, s.slot = some w → s.word.hasWaker = false → s.deallocs = 0 →
      (s.hpc = .compare ∨ s.hpc = .write ∨ s.hpc = .finishTrue) ∨
      ((s.epc = .clearShared ∨ s.epc = .dropFuture ∨ s.epc = .dropSlot) ∧ s.esnap.notSettingWaker = true ∧ s.esnap.hasWaker = true) ∨
      (s.eroute = .completed ∧ w ∈ s.woken ∧ s.word.notCancelled = false)
  lk4 : ∀ w, s.slot = some w → s.deallocs = 1 → s.eroute = .completed ∧ w ∈ s.woken
  hretT : s.hret = some true ↔ s.resTaken = 1
  hretF : s.hret = some false → s.word.notCancelled = false
  hretG : s.hret ≠ none → s.hpc = .dec ∨ s.hpc = .last ∨ s.hpc = .done
  ft : s.hpc = .finishTrue → s.slot = some s.hw
  s3 : s.epc = .wake → s.slot.isSome = true ∧ ¬ (s.hpc = .compare ∨ s.hpc = .write ∨ s.hpc = .finishTrue)
  ed1 : s.epc = .dropSlot → s.esnap.hasWaker = true ∧ s.esnap.notSettingWaker = true
  ed2 : (s.epc = .clearShared ∨ s.epc = .dropFuture ∨ s.epc = .dropSlot) → s.esnap.notSettingWaker = true →
      s.word.hasWaker = false ∧ ¬ (s.hpc = .compare ∨ s.hpc = .write ∨ s.hpc = .finishTrue) ∧ (s.esnap.hasWaker = true → s.slot.isSome = true)
  d1 : s.parked.isSome = true → s.hpc = .idle ∨ s.hpc = .schedShared ∨ s.hpc = .schedFinish ∨ s.hpc = .setCancelled
  d5 : s.hpc = .schedShared ∨ s.hpc = .schedFinish ∨ s.hpc = .setCancelled → s.hdrop = true → s.parked = none
  d2 : ∀ w, s.parked = some w → s.word.completed = false →
      ¬ (s.epc = .clearShared ∨ s.epc = .dropFuture ∨ s.epc = .dropSlot ∨ s.epc = .dec ∨ s.epc = .last ∨ s.epc = .done) →
      s.slot = some w ∧ s.word.hasWaker = true
  d3 : ∀ w, s.parked = some w → s.epc = .wake → s.slot = some w
  d4 : ∀ w, s.parked = some w → ePastWake s = true → w ∈ s.woken

theorem touch_eq {s : RState} (h : s.deallocs = 0) : touch s = s := by simp [touch, h]

/-- `Inv s'` for an explicit successor by search over the clauses of `Inv s`. No proof calls it: `outline_step` goes
through `Outline`. -/
macro "inv_close" h:ident hs:ident : tactic => `(tactic| (
    obtain ⟨uaf0, bad0, deallocLe, dealloc1, count, eLast, hLast, sect, cancelled, routeRun, routeFin, completed, futStorage, futDrops, preResult, clearSharedSnap, dropFutureRoute, r1, r2, r3, r4, r5, r6, resLe, acc, w1, w2, w4, w5, cmpSnap, wakeSnap, hc2, ff, ffc, lk3, lk, lk4, hretT, hretF, hretG, ft, s3, ed1, ed2, d1, d5, d2, d3, d4⟩ := $h
    cases $hs:ident; constructor <;> (try dsimp only) <;> grind [ePastWake]))

/-! Phases: what one thread's assertions read of the other thread's program counter. -/
namespace EPc
def held : EPc → Nat | .last | .done => 0 | _ => 1
def isDone : EPc → Bool | .done => true | _ => false
/-- past `set_dropped` -/
def dropped : EPc → Bool | .clearShared | .dropFuture | .dropSlot | .dec | .last | .done => true | _ => false
/-- `Task::drop` between `set_dropped` and `dec`: acts on the snapshot `set_dropped` returned -/
def tidying : EPc → Bool | .clearShared | .dropFuture | .dropSlot => true | _ => false
/-- the future is still to be dropped by `Task::drop` -/
def preDrop : EPc → Bool | .setDropped | .clearShared | .dropFuture => true | _ => false
def finishing : EPc → Bool | .finishRunning => true | _ => false
/-- past `Task::run`'s decision whether to wake (on the completion route) -/
def pastDecision : EPc → Bool | .setDropped | .clearShared | .dropFuture | .dropSlot | .dec | .last | .done => true | _ => false
end EPc

namespace HPc
def held : HPc → Nat | .last | .done => 0 | _ => 1
def isDone : HPc → Bool | .done => true | _ => false
def inSection : HPc → Bool | .finishFalse | .compare | .write | .finishTrue => true | _ => false
/-- H uses the slot: after `will_wake` was decided on, before `finish_setting_waker::<true>` -/
def busy : HPc → Bool | .compare | .write | .finishTrue => true | _ => false
def publishing : HPc → Bool | .write | .finishTrue => true | _ => false
def arming : HPc → Bool | .startSetting | .finishFalse => true | _ => false
def setting : HPc → Bool | .startSetting | .finishFalse | .compare | .write | .finishTrue => true | _ => false
def taking : HPc → Bool | .takeResult | .cancelDrop => true | _ => false
def finished : HPc → Bool | .dec | .last | .done => true | _ => false
def resting : HPc → Bool | .idle | .schedShared | .schedFinish | .setCancelled => true | _ => false
def cancelling : HPc → Bool | .schedShared | .schedFinish | .setCancelled => true | _ => false
end HPc

/-- `P` guarded by a computed test: a step that leaves the test `false` finds `True` on both sides. -/
def On : Bool → Prop → Prop
  | true, P => P
  | false, _ => True

theorem on_iff {b : Bool} {P : Prop} : On b P ↔ (b = true → P) := by cases b <;> simp [On]

/-- `Inv` with every test on a program counter computed (`match`, Boolean phases) and every clause reading the
other thread's counter through a phase only. On an explicit successor `{ s with … }` a clause whose fields and
phases the step leaves alone is the old clause up to evaluation, so `{ h with … }` names exactly the clauses a
step touches. -/
structure Outline (e : EPc) (p : HPc) (s : RState) : Prop where
  uaf0 : s.uaf = 0
  bad0 : s.bad = 0
  dealloc : s.deallocs = (e.isDone && p.isDone).toNat
  count : s.word.count = e.held + p.held
  eLast : match (generalizing := false) e with
    | .last => p.isDone = true ∧ s.esnap.hasResult = s.word.hasResult ∧ s.esnap.hasWaker = s.word.hasWaker
    | _ => True
  hLast : match (generalizing := false) p with
    | .last => e.isDone = true ∧ s.hsnap.hasResult = s.word.hasResult ∧ s.hsnap.hasWaker = s.word.hasWaker
    | _ => True
  sect : s.word.notSettingWaker = !p.inSection
  cancelled : s.word.notCancelled = !(e.dropped || s.hcancelled)
  /-- E's own variables at each of its program points -/
  eLocal : match (generalizing := false) e with
    | .idle | .poll => s.eroute = .running
    | .finishRunning => s.eroute = .completed
    | .wake => s.eroute = .completed ∧ s.esnap.hasWaker = true ∧ s.esnap.notSettingWaker = true
    | .clearShared => s.eroute ≠ .running ∧ (s.esnap.completed = true ↔ s.eroute = .completed)
    | .dropFuture => s.eroute ≠ .running ∧ s.eroute ≠ .completed
    | .dropSlot => s.eroute ≠ .running ∧ s.esnap.hasWaker = true ∧ s.esnap.notSettingWaker = true
    | _ => s.eroute ≠ .running
  completed : s.word.completed = (!e.finishing && decide (s.eroute = .completed))
  futStorage : s.storage = .future ↔ (s.eroute = .running ∨ (s.eroute ≠ .completed ∧ e.preDrop = true))
  futDrops : s.futDrops = if s.storage = .future then 0 else 1
  preResult : On e.finishing (s.storage = .result)
  r1 : s.word.completed = false → s.word.hasResult = false ∧ s.resTaken + s.resDrops = 0
  r2 : s.word.hasResult = true → s.deallocs = 0 → s.storage = .result ∧ s.resTaken + s.resDrops = 0
  r3 : s.word.completed = true → s.word.hasResult = false →
      (p.taking = true ∧ s.storage = .result ∧ s.resTaken + s.resDrops = 0) ∨
      (p.finished = true ∧ s.storage = .empty ∧ s.resTaken + s.resDrops = 1)
  hResult : match (generalizing := false) p with
    | .clearResult | .cancelClear => s.word.hasResult = true
    | .takeResult | .cancelDrop => s.word.completed = true ∧ s.word.hasResult = false
    | _ => True
  r6 : s.deallocs = 1 → s.word.completed = true → s.resTaken + s.resDrops = 1
  acc : s.slotSets = s.slotDrops + (if s.slot.isSome then 1 else 0)
  w1 : s.word.hasWaker = true → s.deallocs = 0 → s.slot.isSome = true
  hSlot : match (generalizing := false) p with
    | .compare => s.slot.isSome = true ∧ s.hsnap.hasWaker = true
    | .write => (s.hsnap.hasWaker = true ↔ s.slot.isSome = true)
    | .finishTrue => s.slot = some s.hw
    | _ => True
  w5 : On (!e.dropped) (On (!p.publishing) (s.slot.isSome = true ↔ s.word.hasWaker = true))
  hc2 : (p.setting && s.hcancelled) = false
  ff : match (generalizing := false) p with
    | .finishFalse => (s.word.notCancelled = true → s.word.completed = true) ∧
        (s.hsnap.hasResult = false → s.word.notCancelled = false)
    | _ => True
  lk3 : On p.arming (On e.pastDecision (∀ w, s.slot = some w → s.eroute = .completed → w ∈ s.woken))
  lk : ∀ w, s.slot = some w → s.word.hasWaker = false → s.deallocs = 0 →
      p.busy = true ∨
      (e.tidying && s.esnap.notSettingWaker && s.esnap.hasWaker) = true ∨
      (s.eroute = .completed ∧ w ∈ s.woken ∧ s.word.notCancelled = false)
  lk4 : ∀ w, s.slot = some w → s.deallocs = 1 → s.eroute = .completed ∧ w ∈ s.woken
  hretT : s.hret = some true ↔ s.resTaken = 1
  hretF : s.hret = some false → s.word.notCancelled = false
  hretG : s.hret ≠ none → p.finished = true
  eWake : match (generalizing := false) e with
    | .wake => s.slot.isSome = true ∧ p.busy = false
    | _ => True
  ed2 : On e.tidying (s.esnap.notSettingWaker = true →
      s.word.hasWaker = false ∧ p.busy = false ∧ (s.esnap.hasWaker = true → s.slot.isSome = true))
  d1 : s.parked.isSome = true → p.resting = true
  d5 : On p.cancelling (s.hdrop = true → s.parked = none)
  d2 : On (!e.dropped) (∀ w, s.parked = some w → s.word.completed = false → s.slot = some w ∧ s.word.hasWaker = true)
  d3 : match (generalizing := false) e with
    | .wake => ∀ w, s.parked = some w → s.slot = some w
    | _ => True
  d4 : On e.pastDecision (∀ w, s.parked = some w → s.eroute = .completed → w ∈ s.woken)


theorem on_vac {b : Bool} {P : Prop} (h : b = false) : On b P := by subst h; trivial

theorem on_of {b : Bool} {P : Prop} (h : P) : On b P := by cases b <;> first | exact h | trivial

theorem Outline.dealloc0 {e p} {s : RState} (h : Outline e p s) (hh : e.isDone = false ∨ p.isDone = false) : s.deallocs = 0 := by
  rcases hh with hh | hh <;> simpa [hh] using h.dealloc

theorem outline_init : Outline init.epc init.hpc init := by
  constructor <;> first | trivial | rfl | exact on_of (by simp [init]) | simp [init, EPc.preDrop]

theorem ePastWake_iff (s : RState) : ePastWake s = true ↔ s.epc.pastDecision = true ∧ s.eroute = .completed := by
  unfold ePastWake; cases s.epc <;> simp [EPc.pastDecision]

namespace EPc
variable (e : EPc)
theorem held_eq : e.held = if e = .last ∨ e = .done then 0 else 1 := by cases e <;> rfl
theorem isDone_iff : e.isDone = true ↔ e = .done := by cases e <;> simp [isDone]
theorem dropped_iff : e.dropped = true ↔ e = .clearShared ∨ e = .dropFuture ∨ e = .dropSlot ∨ e = .dec ∨ e = .last ∨ e = .done := by
  cases e <;> simp [dropped]
theorem tidying_iff : e.tidying = true ↔ e = .clearShared ∨ e = .dropFuture ∨ e = .dropSlot := by cases e <;> simp [tidying]
theorem preDrop_iff : e.preDrop = true ↔ e = .setDropped ∨ e = .clearShared ∨ e = .dropFuture := by cases e <;> simp [preDrop]
theorem finishing_iff : e.finishing = true ↔ e = .finishRunning := by cases e <;> simp [finishing]
end EPc
namespace HPc
variable (p : HPc)
theorem held_eq : p.held = if p = .last ∨ p = .done then 0 else 1 := by cases p <;> rfl
theorem isDone_iff : p.isDone = true ↔ p = .done := by cases p <;> simp [isDone]
theorem inSection_iff : p.inSection = true ↔ p = .finishFalse ∨ p = .compare ∨ p = .write ∨ p = .finishTrue := by cases p <;> simp [inSection]
theorem busy_iff : p.busy = true ↔ p = .compare ∨ p = .write ∨ p = .finishTrue := by cases p <;> simp [busy]
theorem publishing_iff : p.publishing = true ↔ p = .write ∨ p = .finishTrue := by cases p <;> simp [publishing]
theorem setting_iff : p.setting = true ↔ p = .startSetting ∨ p = .finishFalse ∨ p = .compare ∨ p = .write ∨ p = .finishTrue := by cases p <;> simp [setting]
theorem taking_iff : p.taking = true ↔ p = .takeResult ∨ p = .cancelDrop := by cases p <;> simp [taking]
theorem finished_iff : p.finished = true ↔ p = .dec ∨ p = .last ∨ p = .done := by cases p <;> simp [finished]
theorem resting_iff : p.resting = true ↔ p = .idle ∨ p = .schedShared ∨ p = .schedFinish ∨ p = .setCancelled := by cases p <;> simp [resting]
end HPc

theorem Outline.inv {s : RState} (h : Outline s.epc s.hpc s) : Inv s where
  uaf0 := h.uaf0
  bad0 := h.bad0
  deallocLe := by rw [h.dealloc]; cases (s.epc.isDone && s.hpc.isDone) <;> decide
  dealloc1 := by rw [h.dealloc, ← EPc.isDone_iff, ← HPc.isDone_iff]; cases s.epc.isDone <;> cases s.hpc.isDone <;> simp
  count := by rw [h.count, EPc.held_eq, HPc.held_eq]
  eLast := fun he => by have := h.eLast; rw [he] at this; exact ⟨(HPc.isDone_iff _).1 this.1, this.2⟩
  hLast := fun he => by have := h.hLast; rw [he] at this; exact ⟨(EPc.isDone_iff _).1 this.1, this.2⟩
  sect := by rw [h.sect, ← HPc.inSection_iff]; simp
  cancelled := by rw [h.cancelled, ← EPc.dropped_iff]; cases s.epc.dropped <;> simp
  routeRun := by have := h.eLocal; revert this; cases s.epc <;> simp +contextual
  routeFin := by have := h.eLocal; revert this; cases s.epc <;> simp +contextual
  completed := by rw [h.completed, Ne, ← EPc.finishing_iff]; cases s.epc.finishing <;> simp
  futStorage := by rw [h.futStorage, EPc.preDrop_iff]
  futDrops := h.futDrops
  preResult := fun he => by have := h.preResult; rw [he] at this; exact this
  clearSharedSnap := fun he => by have := h.eLocal; rw [he] at this; exact this.2
  dropFutureRoute := fun he => by have := h.eLocal; rw [he] at this; exact this.2
  r1 := h.r1
  r2 := h.r2
  r3 := by simpa only [HPc.taking_iff, HPc.finished_iff] using h.r3
  r4 := fun he => by have := h.hResult; rcases he with he | he <;> rw [he] at this <;> exact this
  r5 := fun he => by have := h.hResult; rcases he with he | he <;> rw [he] at this <;> exact this
  r6 := h.r6
  resLe := by
    have := h.r1; have := h.r2; have := h.r3; have := h.r6; have := h.dealloc
    cases hc : s.word.completed <;> cases hr : s.word.hasResult <;> cases hd : (s.epc.isDone && s.hpc.isDone) <;> simp_all <;> omega
  acc := h.acc
  w1 := h.w1
  w2 := fun he => by have := h.hSlot; rw [he] at this; exact this.1
  w4 := fun he => by have := h.hSlot; rw [he] at this; exact this
  w5 := fun he hw hf => by
    have := h.w5
    rw [← EPc.dropped_iff, Bool.not_eq_true] at he
    have hp : s.hpc.publishing = false := by rw [← Bool.not_eq_true, HPc.publishing_iff]; exact fun h => h.elim hw hf
    rw [he, hp] at this; exact this
  cmpSnap := fun he => by have := h.hSlot; rw [he] at this; exact this.2
  wakeSnap := fun he => by have := h.eLocal; rw [he] at this; exact this.2
  hc2 := fun hc => by have := h.hc2; rw [hc, Bool.and_true, ← Bool.not_eq_true, HPc.setting_iff] at this; simpa [not_or] using this
  ff := fun he => by have := h.ff; rw [he] at this; exact this.1
  ffc := fun he => by have := h.ff; rw [he] at this; exact this.2
  lk3 := fun w hs he hp => by
    have := h.lk3; obtain ⟨he, hc⟩ := (ePastWake_iff s).1 he; rw [he] at this
    rcases hp with hp | hp <;> rw [hp] at this <;> exact this w hs hc
  lk := by simpa only [HPc.busy_iff, EPc.tidying_iff, Bool.and_eq_true, and_assoc] using h.lk
  lk4 := h.lk4
  hretT := h.hretT
  hretF := h.hretF
  hretG := by simpa only [HPc.finished_iff] using h.hretG
  ft := fun he => by have := h.hSlot; rw [he] at this; exact this
  s3 := fun he => by have := h.eWake; rw [he, ← Bool.not_eq_true, HPc.busy_iff] at this; exact this
  ed1 := fun he => by have := h.eLocal; rw [he] at this; exact this.2
  ed2 := fun he hn => by
    have := h.ed2; rw [(EPc.tidying_iff _).2 he] at this; have := this hn
    exact ⟨this.1, by rw [← HPc.busy_iff, this.2.1]; nofun, this.2.2⟩
  d1 := by simpa only [HPc.resting_iff] using h.d1
  d5 := fun he => by have := h.d5; rcases he with he | he | he <;> rw [he] at this <;> exact this
  d2 := fun w hp hc he => by
    have := h.d2; rw [← EPc.dropped_iff, Bool.not_eq_true] at he; rw [he] at this; exact this w hp hc
  d3 := fun w hp he => by have := h.d3; rw [he] at this; exact this w hp
  d4 := fun w hp he => by
    have := h.d4; obtain ⟨he, hc⟩ := (ePastWake_iff s).1 he; rw [he] at this; exact this w hp hc

/-! A table on the OTHER thread's counter is carried over entry by entry. -/
theorem EPc.atWake {e : EPc} {A B : Prop} (f : A → B) :
    (match (generalizing := false) e with | .wake => A | _ => True) →
    (match (generalizing := false) e with | .wake => B | _ => True) := by
  cases e <;> first | exact f | exact id

theorem hSlot_idle {p : HPc} (hb : p.busy = false) {P Q R : Prop} :
    (match (generalizing := false) p with | .compare => P | .write => Q | .finishTrue => R | _ => True) := by
  cases p <;> first | trivial | cases hb

theorem HPc.atFinishFalse {p : HPc} {A B : Prop} (f : A → B) :
    (match (generalizing := false) p with | .finishFalse => A | _ => True) →
    (match (generalizing := false) p with | .finishFalse => B | _ => True) := by
  cases p <;> first | exact f | exact id

theorem HPc.atResult {p : HPc} {A B A' B' : Prop} (f : A → A') (g : B → B') :
    (match (generalizing := false) p with | .clearResult | .cancelClear => A | .takeResult | .cancelDrop => B | _ => True) →
    (match (generalizing := false) p with | .clearResult | .cancelClear => A' | .takeResult | .cancelDrop => B' | _ => True) := by
  cases p <;> first | exact f | exact g | exact id

theorem On.imp {b : Bool} {P Q : Prop} (f : P → Q) : On b P → On b Q := by
  cases b <;> first | exact f | exact id

theorem EPc.tidying_of_dropped {e : EPc} (h : e.dropped = false) : e.tidying = false := by
  cases e <;> first | rfl | cases h

theorem EPc.finishing_of_pastDecision {e : EPc} : e.pastDecision = true → e.finishing = false := by
  cases e <;> first | exact fun _ => rfl | nofun

theorem wakeSlotOf_some {s : RState} {w : Nat} (h : s.slot = some w) : wakeSlotOf s = { s with woken := s.woken ++ [w] } := by
  simp only [wakeSlotOf, h]

theorem lastOf_eq (s : RState) (snap : Word) : lastOf s snap =
    { s with
      storage := if snap.hasResult then .empty else s.storage
      resDrops := if snap.hasResult then s.resDrops + 1 else s.resDrops
      slot := if snap.hasWaker then none else s.slot
      slotDrops := if snap.hasWaker then s.slotDrops + 1 else s.slotDrops
      bad :=
        let b := if snap.hasResult then (if s.storage = .result then s.bad else s.bad + 1) else s.bad
        if snap.hasWaker then (if s.slot.isSome then b else b + 1) else b
      deallocs := s.deallocs + 1 } := by
  cases hr : snap.hasResult <;> cases hw : snap.hasWaker <;>
    simp only [lastOf, dropResultOf, dropSlotOf, g_hasResult, g_hasWaker, hr, hw, if_true, if_false, Bool.false_eq_true]

theorem lastOf_pc (s : RState) (snap : Word) : (lastOf s snap).epc = s.epc ∧ (lastOf s snap).hpc = s.hpc := by
  rw [lastOf_eq]; exact ⟨rfl, rfl⟩

theorem Outline.not_busy {e p} {s : RState} (h : Outline e p s) (hn : s.word.notSettingWaker = true) : p.busy = false := by
  have := h.sect; rw [hn] at this
  revert this
  cases p <;> first | exact fun _ => rfl | nofun

theorem Outline.not_completed {e p} {s : RState} (h : Outline e p s) (hc : s.word.completed = false)
    (hpd : e.pastDecision = true) : s.eroute ≠ .completed := fun hroute => by
  have := h.completed; rw [hc, EPc.finishing_of_pastDecision hpd] at this; simp [hroute] at this

/-- a completed task keeps HAS_RESULT until H claims the result: `r3` for a handle that is neither `taking` nor `finished` -/
theorem Outline.unclaimed {e p} {s : RState} (h : Outline e p s) (ht : p.taking = false) (hf : p.finished = false)
    (hr : s.word.hasResult = false) : s.word.completed = false := by
  cases hc : s.word.completed
  · rfl
  · exact (h.r3 hc hr).elim (fun k => nomatch ht.symm.trans k.1) (fun k => nomatch hf.symm.trans k.1)

theorem Outline.completed_of_result {e p} {s : RState} (h : Outline e p s) (hr : s.word.hasResult = true) :
    s.word.completed = true := by
  cases hc : s.word.completed
  · exact nomatch (h.r1 hc).1.symm.trans hr
  · rfl

theorem Outline.not_finishing {e p} {s : RState} (h : Outline e p s) (hc : s.word.completed = true) : e.finishing = false := by
  have := h.completed; rw [hc] at this
  cases hf : e.finishing
  · rfl
  · rw [hf] at this; exact nomatch this

/-- E is at `last` only when H is done (`eLast`): while H is not, an assertion of E's at `.last` may say anything. The
same for H at `last` (`hLast`). -/
theorem Outline.eLast_vac {e p} {s : RState} (h : Outline e p s) (hp : p.isDone = false) {P : Prop} :
    (match (generalizing := false) e with | .last => P | _ => True) := by
  have := h.eLast
  revert this
  cases e <;> first | exact fun _ => trivial | exact fun this => nomatch hp.symm.trans this.1

theorem Outline.hLast_vac {e p} {s : RState} (h : Outline e p s) (he : e.isDone = false) {P : Prop} :
    (match (generalizing := false) p with | .last => P | _ => True) := by
  have := h.hLast
  revert this
  cases p <;> first | exact fun _ => trivial | exact fun this => nomatch he.symm.trans this.1

/-- `Outline e p s` reads the counters from `e`, `p` only -/
theorem Outline.setPc {e p} {s : RState} (h : Outline e p s) (x : EPc) (y : HPc) : Outline e p { s with epc := x, hpc := y } :=
  { h with }

/-- The last holder (E at `last` with H done, or H at `last` with E done) drops what its `dec` snapshot shows and
deallocates. What is claimed while allocated becomes void; what is claimed at deallocation is read off r3 and lk. -/
theorem Outline.release {e : EPc} {p : HPc} {s : RState} (h : Outline e p s)
    (hep : e = .last ∧ p = .done ∨ e = .done ∧ p = .last) {snap : Word}
    (hr : snap.hasResult = s.word.hasResult) (hw : snap.hasWaker = s.word.hasWaker) :
    Outline .done .done (lastOf s snap) := by
  rw [lastOf_eq, hr, hw]
  rcases hep with ⟨rfl, rfl⟩ | ⟨rfl, rfl⟩
  all_goals
    have hd : s.deallocs = 0 := h.dealloc
    have e1 : s.word.hasResult = true → s.storage = .result ∧ s.resTaken + s.resDrops = 0 := fun hr => h.r2 hr hd
    have e2 : s.word.hasWaker = true → s.slot.isSome = true := fun hw => h.w1 hw hd
    have hr6 : s.word.completed = true → s.word.hasResult = false → s.storage = .empty ∧ s.resTaken + s.resDrops = 1 :=
      fun hc hf => (h.r3 hc hf).elim (fun h => nomatch h.1) (·.2)
    exact { h with
      bad0 := by
        have hb : (if s.word.hasResult = true then if s.storage = .result then s.bad else s.bad + 1 else s.bad) = 0 := by
          split
          · exact (if_pos (e1 ‹_›).1).trans h.bad0
          · exact h.bad0
        dsimp only; split
        · exact (if_pos (e2 ‹_›)).trans hb
        · exact hb
      dealloc := congrArg Nat.succ hd
      eLast := trivial
      hLast := trivial
      futStorage := by
        dsimp only; split
        · exact ⟨nofun, fun hx => nomatch (e1 ‹_›).1.symm.trans (h.futStorage.2 hx)⟩
        · exact h.futStorage
      futDrops := by
        dsimp only; split
        · have hnf : s.storage ≠ .future := fun hx => nomatch (e1 ‹_›).1.symm.trans hx
          exact h.futDrops.trans (if_neg hnf)
        · exact h.futDrops
      r1 := fun hc => ⟨(h.r1 hc).1, by dsimp only; rw [if_neg (Bool.eq_false_iff.1 (h.r1 hc).1)]; exact (h.r1 hc).2⟩
      r2 := fun _ hd' => nomatch hd'
      r3 := fun hc hf => .inr ⟨rfl, by dsimp only; rw [if_neg (Bool.eq_false_iff.1 hf), if_neg (Bool.eq_false_iff.1 hf)]; exact hr6 hc hf⟩
      r6 := fun _ hc => by
        dsimp only; split
        · exact congrArg Nat.succ (e1 ‹_›).2
        · exact (hr6 hc (Bool.eq_false_iff.2 ‹_›)).2
      acc := by
        dsimp only; split
        · have := h.acc; rw [if_pos (e2 ‹_›)] at this; exact this
        · exact h.acc
      w1 := fun _ hd' => nomatch hd'
      lk := fun _ _ _ hd' => nomatch hd'
      lk4 := fun w hs _ => by
        dsimp only at hs; split at hs
        · exact nomatch hs
        · exact (h.lk w hs (Bool.eq_false_iff.2 ‹_›) hd).elim (fun h => nomatch h) (·.elim (fun h => nomatch h) (fun h => ⟨h.1, h.2.1⟩)) }

/-- `break Poll::Ready(None)`: the handle, holding nothing and not parked, has seen the cancellation. -/
theorem Outline.readyNone {e : EPc} {s : RState} (h : Outline e .idle s) (hn : s.parked = none)
    (hc : s.word.notCancelled = false) : Outline e .dec { s with hret := some false } :=
  have hret : s.hret = none := Classical.not_not.1 fun hne => nomatch h.hretG hne
  { h with
    r3 := fun hcc hf => nomatch (h.unclaimed rfl rfl hf).symm.trans hcc
    hretT := ⟨nofun, fun h1 => nomatch hret ▸ h.hretT.2 h1⟩
    hretF := fun _ => hc
    hretG := fun _ => rfl
    d1 := fun hp => nomatch hn ▸ hp }

/-- The head of the loop of `Remote::poll`, entered under the assertions of `idle`. -/
theorem outline_hLoop {s : RState} {snap : Word} (h : Outline s.epc .idle s) (hn : s.parked = none)
    (hr : snap.hasResult = s.word.hasResult) (hc : snap.notCancelled = s.word.notCancelled) :
    Outline (hLoop s snap).epc (hLoop s snap).hpc (hLoop s snap) := by
  have hd1 {p : HPc} : s.parked.isSome = true → p.resting = true := fun hp => nomatch hn ▸ hp
  unfold hLoop
  split
  · rename_i hres; rw [g_hasResult, hr] at hres
    exact { h with
      hResult := hres
      d1 := hd1 }
  rename_i hres; rw [g_hasResult, hr, Bool.not_eq_true] at hres
  split
  · rename_i hcan; rw [g_isCancelled, hc, Bool.not_eq_true'] at hcan
    exact { h.readyNone hn hcan with }
  · rename_i hcan; rw [g_isCancelled, hc] at hcan
    have hcomp := h.unclaimed rfl rfl hres
    exact { h with
      hc2 := by
        cases hh : s.hcancelled
        · rfl
        · have := h.cancelled; rw [hh, Bool.or_true] at this; simp [this] at hcan
      lk3 := show On s.epc.pastDecision _ from on_iff.2 fun hpd _ _ hroute => absurd hroute (h.not_completed hcomp hpd)
      d1 := hd1 }

/-- `set_has_result::<false>` in `Remote::poll` and in `Task::cancel`. HAS_RESULT is the handle's licence: cleared by it
alone, it leaves the result in the storage for it alone. -/
theorem Outline.claimResult {e : EPc} {p p' : HPc} {s : RState} (h : Outline e p s)
    (hp : p = .clearResult ∧ p' = .takeResult ∨ p = .cancelClear ∧ p' = .cancelDrop) :
    Outline e p' { s with word := TaskState.setHasResultFalse s.word } := by
  rcases hp with ⟨rfl, rfl⟩ | ⟨rfl, rfl⟩
  all_goals
    have hd := h.dealloc0 (.inr rfl)
    have hres : s.word.hasResult = true := h.hResult
    exact { h with
      eLast := h.eLast_vac rfl
      r1 := fun hc => ⟨rfl, (h.r1 hc).2⟩
      r2 := nofun
      r3 := fun _ _ => .inl ⟨rfl, h.r2 hres hd⟩
      hResult := ⟨h.completed_of_result hres, rfl⟩ }

/-- `Task::drop` without a poll (`Task::run` saw the cancellation, or `Executor::clear`): the route is fixed, nothing
of the task's contents has moved. -/
theorem Outline.abandon {p : HPc} {s : RState} (h : Outline .idle p s) {r : ERoute} (hr' : r = .sawCancelled ∨ r = .cleared) :
    Outline .setDropped p { s with eroute := r } := by
  have hd := h.dealloc0 (.inl rfl)
  have hr : s.eroute = .running := h.eLocal
  have hn : r ≠ .running ∧ r ≠ .completed := by rcases hr' with rfl | rfl <;> exact ⟨nofun, nofun⟩
  exact { h with
    eLocal := hn.1
    completed := h.completed.trans (by rw [hr, decide_eq_false hn.2]; rfl)
    futStorage := ⟨fun _ => .inr ⟨hn.2, rfl⟩, fun _ => h.futStorage.2 (.inl hr)⟩
    lk3 := on_of fun _ _ hc => absurd hc hn.2
    lk := fun w hs hf hd => (h.lk w hs hf hd).elim .inl (·.elim (nomatch ·) fun h => nomatch hr.symm.trans h.1)
    lk4 := fun _ _ hd' => nomatch hd.symm.trans hd'
    d4 := fun _ _ hc => absurd hc hn.2 }

/-- E is at `wake` only with COMPLETED set: before that an assertion of E's at `.wake` may say anything. -/
theorem Outline.not_wake {e p} {s : RState} (h : Outline e p s) (hc : s.word.completed = false) {P : Prop} :
    (match (generalizing := false) e with | .wake => P | _ => True) := by
  have hl := h.eLocal; have hk := h.completed
  revert hl hk
  cases e <;> first | exact fun _ _ => trivial | exact fun hl hk => by rw [hl.1, hc] at hk; exact nomatch hk

/-- the guard of the label in `hs`: it fixes the moving thread's counter (`hg`), which becomes a constructor in `h`;
`hs` is left with the successor -/
macro "step_guard" h:ident hs:ident hg:ident : tactic => `(tactic| (
  simp only [step?, Option.ite_none_right_eq_some] at $hs:ident
  obtain ⟨$hg:ident, $hs:ident⟩ := $hs:ident
  rw [$hg:ident] at $h:ident))

theorem outline_step {s s' : RState} {l : Label} (h : Outline s.epc s.hpc s) (hs : Step true s l s') :
    Outline s'.epc s'.hpc s' := by
  unfold Step at hs
  cases l
  case eUnschedule =>
    step_guard h hs hg
    rw [touch_eq (h.dealloc0 (.inl rfl))] at hs
    have h : Outline .idle s.hpc { s with word := TaskState.unschedule s.word, esnap := s.word } := { h with }
    split at hs
    · cases hs
      exact { h.abandon (.inl rfl) with }
    · cases hs
      exact { h with }
  case ePollPending =>
    step_guard h hs hg
    rw [touch_eq (h.dealloc0 (.inl rfl))] at hs
    cases hs
    exact { h with bad0 := (if_pos (h.futStorage.2 (.inl h.eLocal))).trans h.bad0 }
  case ePollReady =>
    step_guard h hs hg
    have hd := h.dealloc0 (.inl rfl)
    rw [touch_eq hd] at hs
    cases hs
    have hr : s.eroute = .running := h.eLocal
    have hfut := h.futStorage.2 (.inl hr)
    have hcomp : s.word.completed = false := h.completed.trans (by rw [hr]; rfl)
    exact { h with
      bad0 := (if_pos hfut).trans h.bad0
      eLocal := rfl
      completed := hcomp
      futStorage := ⟨nofun, fun h => h.elim nofun fun h => absurd rfl h.1⟩
      futDrops := congrArg (· + 1) (h.futDrops.trans (if_pos hfut))
      preResult := rfl
      r2 := fun _ _ => ⟨rfl, (h.r1 hcomp).2⟩
      r3 := fun hc => nomatch hcomp.symm.trans hc
      lk := fun w hs hf hd => (h.lk w hs hf hd).elim .inl (·.elim (nomatch ·) fun h => nomatch hr.symm.trans h.1)
      lk4 := fun _ _ hd' => nomatch hd.symm.trans hd' }
  case eFinishRunning =>
    step_guard h hs hg
    have hd := h.dealloc0 (.inl rfl)
    rw [touch_eq hd] at hs
    have he : s.eroute = .completed := h.eLocal
    have hst : s.storage = .result := h.preResult
    have hcomp : s.word.completed = false := h.completed
    have hsum := (h.r1 hcomp).2
    have hcompl : (true : Bool) = (true && decide (s.eroute = .completed)) := by rw [he]; rfl
    split at hs
    · -- HAS_WAKER without SETTING_WAKER: the slot is full, H is outside its section, and a parked waker is the one in it
      rename_i hc; rw [g_hasWaker, g_isSettingWaker, Bool.and_eq_true, Bool.not_not] at hc
      cases hs
      exact { h with
        hLast := h.hLast_vac rfl
        eLocal := ⟨he, hc⟩
        completed := hcompl
        preResult := trivial
        r1 := nofun
        r2 := fun _ _ => ⟨hst, hsum⟩
        r3 := fun _ => nofun
        hResult := HPc.atResult (fun _ => rfl) (fun h => absurd h.1 (Bool.eq_false_iff.1 hcomp)) h.hResult
        r6 := fun hd' => nomatch hd.symm.trans hd'
        ff := HPc.atFinishFalse (fun h => ⟨fun _ => rfl, h.2⟩) h.ff
        eWake := ⟨h.w1 hc.1 hd, h.not_busy hc.2⟩
        d2 := fun _ _ => nofun
        d3 := fun w hp => (h.d2 w hp hcomp).1 }
    · -- no wake-up: a parked handle would have left HAS_WAKER without SETTING_WAKER, and a handle about to open a
      -- section finds the slot empty (it cannot be at `finish_setting_waker::<false>` before the task has a result)
      rename_i hc; rw [g_hasWaker, g_isSettingWaker, Bool.and_eq_true, Bool.not_not] at hc
      cases hs
      exact { h with
        hLast := h.hLast_vac rfl
        eLocal := fun h => nomatch he.symm.trans h
        completed := hcompl
        futStorage := ⟨(nomatch hst.symm.trans ·), fun h => h.elim (nomatch he.symm.trans ·) (absurd he ·.1)⟩
        preResult := trivial
        r1 := nofun
        r2 := fun _ _ => ⟨hst, hsum⟩
        r3 := fun _ => nofun
        hResult := HPc.atResult (fun _ => rfl) (fun h => absurd h.1 (Bool.eq_false_iff.1 hcomp)) h.hResult
        r6 := fun hd' => nomatch hd.symm.trans hd'
        ff := HPc.atFinishFalse (fun h => ⟨fun _ => rfl, h.2⟩) h.ff
        lk3 := by
          have hw5 := h.w5; have hff := h.ff; have hsec := h.sect; have hcn := h.cancelled; have hc2 := h.hc2
          dsimp only at hw5 hff hsec hcn hc2 ⊢
          generalize s.hpc = p at hw5 hff hsec hcn hc2 ⊢
          cases p <;> first | trivial | skip
          · -- startSetting
            intro w hw _
            have : s.word.hasWaker = true := hw5.1 (by rw [hw]; rfl)
            exact absurd ⟨this, hsec⟩ hc
          · -- finishFalse
            intro w hw _
            have hcc : s.hcancelled = false := hc2
            rw [hcc] at hcn
            exact absurd (hff.1 hcn) (by rw [hcomp]; nofun)
        d2 := fun _ _ => nofun
        d4 := fun w hp _ => by
          have := h.d2 w hp hcomp
          have hrest := h.d1 (by rw [hp]; rfl)
          exact absurd ⟨this.2, by rw [h.sect]; revert hrest; cases s.hpc <;> simp [HPc.resting, HPc.inSection]⟩ hc }
  case eWake =>
    step_guard h hs hg
    have hd := h.dealloc0 (.inl rfl)
    rw [touch_eq hd] at hs
    obtain ⟨w, hw⟩ := Option.isSome_iff_exists.1 h.eWake.1
    rw [wakeSlotOf_some hw] at hs
    cases hs
    have he : s.eroute = .completed := h.eLocal.1
    have hmem : ∀ w', s.slot = some w' → w' ∈ s.woken ++ [w] := fun w' hw' => by cases hw.symm.trans hw'; simp
    -- the waker in the slot is woken: whoever is parked on it (d3) or finds it there later (lk3) has been served
    exact { h with
      eLocal := fun h => nomatch he.symm.trans h
      futStorage := ⟨fun hf => (h.futStorage.1 hf).elim .inl (absurd he ·.1), fun h => h.elim (nomatch he.symm.trans ·) (absurd he ·.1)⟩
      lk3 := on_of fun w' hw' _ => hmem w' hw'
      lk := fun w' hs hf hd => (h.lk w' hs hf hd).imp id (·.imp id fun h => ⟨h.1, List.mem_append_left _ h.2.1, h.2.2⟩)
      lk4 := fun _ _ hd' => nomatch hd.symm.trans hd'
      eWake := trivial
      d3 := trivial
      d4 := fun w' hp _ => hmem w' (h.d3 w' hp) }
  case eClear =>
    step_guard h hs hg
    cases hs
    exact { h.abandon (.inr rfl) with }
  case eSetDropped =>
    step_guard h hs hg
    have hd := h.dealloc0 (.inl rfl)
    rw [touch_eq hd] at hs
    cases hs
    exact { h with
      hLast := h.hLast_vac rfl
      cancelled := rfl
      eLocal := ⟨h.eLocal, by rw [h.completed]; simp [EPc.finishing]⟩
      w1 := nofun
      w5 := trivial
      ff := HPc.atFinishFalse (fun _ => ⟨nofun, fun _ => rfl⟩) h.ff
      -- HAS_WAKER is cleared. The waker stays in the slot: for `Task::drop` to drop, if the snapshot is free of
      -- SETTING_WAKER; with H at the slot; or, H being at `finish_setting_waker::<false>`, for good (F040): H got
      -- there on HAS_RESULT (a cancelling handle never opens a section), so the task completed and lk3 has the wake-up
      lk := fun w hw _ _ => by
        cases hhw : s.word.hasWaker
        · exact (h.lk w hw hhw hd).imp id (·.elim (nomatch ·) fun h => .inr ⟨h.1, h.2.1, rfl⟩)
        cases hn : s.word.notSettingWaker
        · have hl3 := h.lk3; have hff := h.ff; have hc2 := h.hc2; have hcn := h.cancelled; have hsc := h.sect
          have hcm := h.completed
          rw [hn] at hsc
          dsimp only at hl3 hff hc2 hcn hsc ⊢
          generalize s.hpc = p at hl3 hff hc2 hcn hsc ⊢
          cases p <;> first | exact .inl rfl | cases hsc
          have hcc : s.hcancelled = false := hc2
          rw [hcc] at hcn
          have hco := hcm.symm.trans (hff.1 hcn)
          have he : s.eroute = .completed := of_decide_eq_true hco
          exact .inr (.inr ⟨he, hl3 w hw he, rfl⟩)
        · exact .inr (.inl rfl)
      hretF := fun _ => rfl
      ed2 := fun hn => ⟨rfl, h.not_busy hn, fun hw => h.w1 hw hd⟩
      d2 := trivial }
  case eClearShared =>
    step_guard h hs hg
    simp only [eAfterShared] at hs
    rw [touch_eq (h.dealloc0 (.inl rfl))] at hs
    obtain ⟨hr, hc⟩ := h.eLocal
    split at hs
    · rename_i hn; rw [g_isCompleted, Bool.not_eq_true'] at hn
      cases hs
      exact { h with eLocal := ⟨hr, fun he => nomatch hn.symm.trans (hc.2 he)⟩ }
    all_goals
      rename_i hn; rw [g_isCompleted, Bool.not_eq_true', Bool.not_eq_false] at hn
      have he := hc.1 hn
      have hfs : s.storage = .future ↔ (s.eroute = .running ∨ (s.eroute ≠ .completed ∧ false = true)) :=
        ⟨fun hf => (h.futStorage.1 hf).elim .inl (absurd he ·.1), fun h => h.elim (absurd · hr) (absurd he ·.1)⟩
    split at hs
    · rename_i hw; rw [g_hasWaker, g_isSettingWaker, Bool.and_eq_true, Bool.not_not] at hw
      cases hs
      exact { h with
        eLocal := ⟨hr, hw⟩
        futStorage := hfs }
    · rename_i hw; rw [g_hasWaker, g_isSettingWaker, Bool.and_eq_true, Bool.not_not] at hw
      cases hs
      exact { h with
        eLocal := hr
        futStorage := hfs
        lk := fun w hs hf hd => (h.lk w hs hf hd).imp id (·.elim (fun h => (hw (by simpa [EPc.tidying, and_comm] using h)).elim) .inr)
        ed2 := trivial }
  case eDropFuture =>
    step_guard h hs hg
    simp only [eAfterFuture] at hs
    rw [touch_eq (h.dealloc0 (.inl rfl))] at hs
    obtain ⟨hr, hc⟩ := h.eLocal
    have hfut := h.futStorage.2 (.inr ⟨hc, rfl⟩)
    have hfs : Storage.empty = .future ↔ (s.eroute = .running ∨ (s.eroute ≠ .completed ∧ false = true)) :=
      ⟨nofun, fun h => h.elim (absurd · hr) (nomatch ·.2)⟩
    have hfd : s.futDrops + 1 = 1 := congrArg (· + 1) (h.futDrops.trans (if_pos hfut))
    have hr2 : s.word.hasResult = true → s.deallocs = 0 → Storage.empty = .result ∧ s.resTaken + s.resDrops = 0 :=
      fun hres hd => nomatch hfut.symm.trans (h.r2 hres hd).1
    have hcomp : s.word.completed = false := h.completed.trans (decide_eq_false hc)
    split at hs
    · rename_i hw; rw [g_hasWaker, g_isSettingWaker, Bool.and_eq_true, Bool.not_not] at hw
      cases hs
      exact { h with
        eLocal := ⟨hr, hw⟩
        futStorage := hfs
        futDrops := hfd
        r2 := hr2
        r3 := fun h => nomatch hcomp.symm.trans h }
    · rename_i hw; rw [g_hasWaker, g_isSettingWaker, Bool.and_eq_true, Bool.not_not] at hw
      cases hs
      exact { h with
        eLocal := hr
        futStorage := hfs
        futDrops := hfd
        r2 := hr2
        r3 := fun h => nomatch hcomp.symm.trans h
        lk := fun w hs hf hd => (h.lk w hs hf hd).imp id (·.elim (fun h => (hw (by simpa [EPc.tidying, and_comm] using h)).elim) .inr)
        ed2 := trivial }
  case eDropSlot =>
    step_guard h hs hg
    have hd : s.deallocs = 0 := h.dealloc
    rw [touch_eq hd] at hs
    cases hs
    -- `Task::drop` decided on a snapshot with HAS_WAKER and without SETTING_WAKER: the slot is full and H is not at it
    obtain ⟨hr, hw, hn⟩ := h.eLocal
    obtain ⟨hf, hb, hi⟩ := h.ed2 hn
    have hi := hi hw
    exact { h with
      bad0 := by simpa [dropSlotOf, hi] using h.bad0
      eLocal := hr
      acc := by simpa [dropSlotOf, hi] using h.acc
      w1 := fun hw' => by simp [dropSlotOf, hf] at hw'
      hSlot := hSlot_idle hb
      lk3 := on_of nofun
      lk := nofun
      lk4 := nofun
      ed2 := trivial }
  case eDec =>
    step_guard h hs hg
    rw [touch_eq (h.dealloc0 (.inl rfl))] at hs
    -- the count `dec` returns is the number of holders: it exceeds 1 exactly when H still holds its reference
    have hcnt : s.word.count = 1 + s.hpc.held := h.count
    unfold afterDecE at hs
    split at hs
    · rename_i hgt; rw [g_count] at hgt
      cases hs
      have hne : ¬(s.hpc = .last ∨ s.hpc = .done) := fun hh => by rw [HPc.held_eq, if_pos hh] at hcnt; omega
      have hnd : s.hpc.isDone = false := Bool.eq_false_iff.2 fun hd => hne (.inr ((HPc.isDone_iff _).1 hd))
      exact { h with
        dealloc := by dsimp only; rw [hnd]; exact h.dealloc0 (.inl rfl)
        count := by show s.word.count - 1 = 0 + s.hpc.held; omega
        hLast := h.hLast_vac rfl }
    · rename_i hle; rw [g_count] at hle
      cases hs
      have hld : s.hpc = .last ∨ s.hpc = .done := Classical.not_not.1 fun hh => by rw [HPc.held_eq, if_neg hh] at hcnt; omega
      -- H at `last` would have seen E done
      have hdone : s.hpc = .done := hld.resolve_left fun hp => by have := h.hLast; rw [hp] at this; exact nomatch this.1
      exact { h with
        count := by show s.word.count - 1 = 0 + s.hpc.held; omega
        eLast := ⟨(HPc.isDone_iff _).2 hdone, rfl, rfl⟩ }
  case eLast =>
    step_guard h hs hg
    obtain ⟨hp, hr, hw⟩ := h.eLast
    have hp := (HPc.isDone_iff _).1 hp
    rw [hp] at h
    rw [touch_eq h.dealloc] at hs
    cases hs
    show Outline .done (lastOf s s.esnap).hpc _
    rw [(lastOf_pc s s.esnap).2, hp]
    exact (h.release (.inl ⟨rfl, rfl⟩) hr hw).setPc _ _
  case hPoll w =>
    step_guard h hs hg
    rw [touch_eq (h.dealloc0 (.inr rfl))] at hs
    cases hs
    exact outline_hLoop (s := { s with hw := w, parked := none })
      { h with
        d1 := fun _ => rfl
        d2 := on_of nofun
        d3 := EPc.atWake (fun _ => nofun) h.d3
        d4 := on_of nofun } rfl rfl rfl
  case hClearResult =>
    step_guard h hs hg
    rw [touch_eq (h.dealloc0 (.inr rfl))] at hs
    cases hs
    exact { h.claimResult (.inl ⟨rfl, rfl⟩) with }
  case hTakeResult =>
    step_guard h hs hg
    have hd := h.dealloc0 (.inr rfl)
    rw [touch_eq hd] at hs
    cases hs
    obtain ⟨hcomp, hres⟩ := h.hResult
    obtain ⟨hst, hsum⟩ := (h.r3 hcomp hres).elim (·.2) (nomatch ·.1)
    have hnf : s.storage ≠ .future := fun h => nomatch hst.symm.trans h
    exact { h with
      bad0 := (if_pos hst).trans h.bad0
      futStorage := ⟨nofun, fun hx => absurd (h.futStorage.2 hx) hnf⟩
      futDrops := h.futDrops.trans (if_neg hnf)
      preResult := on_vac (h.not_finishing hcomp)
      r1 := fun hc => nomatch hcomp.symm.trans hc
      r2 := fun hr => nomatch hres.symm.trans hr
      r3 := fun _ _ => .inr ⟨rfl, rfl, by show s.resTaken + 1 + s.resDrops = 1; omega⟩
      hResult := trivial
      r6 := fun hd' => nomatch hd.symm.trans hd'
      hretT := ⟨fun _ => by show s.resTaken + 1 = 1; omega, fun _ => rfl⟩
      hretF := nofun
      hretG := fun _ => rfl }
  case hStartSetting =>
    step_guard h hs hg
    rw [touch_eq (h.dealloc0 (.inr rfl))] at hs
    split at hs
    · -- the snapshot has HAS_RESULT: the section is left at once
      rename_i hr; rw [g_hasResult] at hr
      cases hs
      exact { h with
        sect := rfl
        ff := ⟨fun _ => Bool.not_eq_false _ ▸ fun hc => by simp [(h.r1 hc).1] at hr, fun hf => by simp [hr] at hf⟩ }
    split at hs
    · rename_i hr hc; rw [g_hasResult] at hr; rw [g_isCancelled] at hc
      cases hs
      exact { h with
        sect := rfl
        ff := ⟨fun (hn : s.word.notCancelled = true) => by simp [hn] at hc, fun _ => by simpa using hc⟩ }
    -- neither result nor cancellation in the snapshot: the task has not completed, E is before `finish_running`
    -- or on its way there, and has not gone through `set_dropped`; H takes the slot
    all_goals
      rename_i hr hc; rw [g_hasResult] at hr; rw [g_isCancelled] at hc
      have hcomp := h.unclaimed rfl rfl (by simpa using hr)
      have hdrop : s.epc.dropped = false := by
        have := h.cancelled
        cases hd : s.epc.dropped <;> simp_all
      have hw5 : s.slot.isSome = true ↔ s.word.hasWaker = true := by have := h.w5; rw [hdrop] at this; exact this
    split at hs
    · rename_i hw; rw [g_hasWaker] at hw
      cases hs
      exact { h with
        sect := rfl
        hSlot := ⟨hw5.2 hw, hw⟩
        lk3 := trivial
        lk := fun _ _ _ _ => .inl rfl
        eWake := h.not_wake hcomp
        ed2 := on_vac (EPc.tidying_of_dropped hdrop) }
    · rename_i hw; rw [g_hasWaker] at hw
      cases hs
      exact { h with
        sect := rfl
        hSlot := hw5.symm
        w5 := on_of trivial
        lk3 := trivial
        lk := fun _ _ _ _ => .inl rfl
        eWake := h.not_wake hcomp
        ed2 := on_vac (EPc.tidying_of_dropped hdrop) }
  case hFinishFalse =>
    step_guard h hs hg
    rw [touch_eq (h.dealloc0 (.inr rfl))] at hs
    have hn : s.parked = none := Option.not_isSome_iff_eq_none.1 fun hp => nomatch h.d1 hp
    -- the section is closed without the slot having been touched: H is where it was before `start_setting_waker`
    have h1 : Outline s.epc .idle { s with word := TaskState.finishSettingWakerFalse s.word } :=
      { h with
        sect := rfl
        hc2 := rfl
        ff := trivial
        lk3 := trivial
        d1 := fun _ => rfl }
    split at hs
    · cases hs
      exact outline_hLoop h1 hn rfl rfl
    · rename_i hr; rw [g_hasResult, Bool.not_eq_true] at hr
      cases hs
      exact { h1.readyNone hn (h.ff.2 hr) with }
  case hCompare =>
    step_guard h hs hg
    rw [touch_eq (h.dealloc0 (.inr rfl))] at hs
    obtain ⟨hsl, hsn⟩ := h.hSlot
    split at hs
    · rename_i v hv
      split at hs
      · rename_i he
        cases hs
        exact { h with
          hSlot := hv.trans (congrArg some he)
          w5 := on_of trivial }
      · cases hs
        exact { h with
          hSlot := ⟨fun _ => hsl, fun _ => hsn⟩
          w5 := on_of trivial }
    · rename_i hn; rw [hn] at hsl; exact nomatch hsl
  case hWrite =>
    step_guard h hs hg
    have hd := h.dealloc0 (.inr rfl)
    rw [touch_eq hd] at hs
    have hsl : s.hsnap.hasWaker = true ↔ s.slot.isSome = true := h.hSlot
    have hpn : ∀ w, s.parked = some w → False := fun w hp => nomatch h.d1 (hp ▸ rfl)
    -- H is inside its section and E knows it (eWake, ed2 exclude E from the slot): the old waker is H's to drop
    split at hs <;> rename_i hw <;> rw [g_hasWaker] at hw <;> cases hs <;>
      refine { h with
        bad0 := ?_
        acc := ?_
        w1 := fun _ _ => rfl
        hSlot := rfl
        lk := fun _ _ _ _ => .inl rfl
        lk4 := fun _ _ hd' => nomatch hd.symm.trans hd'
        eWake := EPc.atWake (fun h => nomatch h.2) h.eWake
        ed2 := h.ed2.imp fun k hn => nomatch (k hn).2.1
        d2 := on_of fun w hp => (hpn w hp).elim
        d3 := EPc.atWake (fun _ w hp => (hpn w hp).elim) h.d3 }
    · exact (if_pos (hsl.1 hw)).trans h.bad0
    · have := h.acc; rw [if_pos (hsl.1 hw)] at this; exact congrArg (· + 1) this
    · exact h.bad0
    · have := h.acc; rw [if_neg fun h => hw (hsl.2 h)] at this; exact congrArg (· + 1) this
  case hFinishTrue =>
    step_guard h hs hg
    rw [touch_eq (h.dealloc0 (.inr rfl))] at hs
    -- H publishes the waker it has put in the slot; nobody else was at the slot meanwhile (`eWake`, `ed2`)
    have hslot : s.slot = some s.hw := h.hSlot
    have h1 : Outline s.epc .reload { s with word := TaskState.finishSettingWakerTrue s.word, hsnap := s.word, hpc := .reload } :=
      { h with
        eLast := h.eLast_vac rfl
        sect := rfl
        w1 := fun _ _ => hslot ▸ rfl
        hSlot := trivial
        w5 := on_of (on_of ⟨fun _ => rfl, fun _ => hslot ▸ rfl⟩)
        hc2 := rfl
        lk := nofun
        eWake := EPc.atWake (fun k => nomatch k.2) h.eWake
        ed2 := h.ed2.imp fun k hn => nomatch (k hn).2.1
        d2 := h.d2.imp fun k w hp hc => ⟨(k w hp hc).1, rfl⟩ }
    unfold hAfterFinishTrue at hs
    split at hs
    · cases hs
      exact h1
    · -- the word H saw was neither completed nor cancelled: E has not completed the task, and H parks
      rename_i hb; rw [Bool.true_and, Bool.or_eq_true, not_or, g_isCompleted, Bool.not_eq_true] at hb
      cases hs
      exact { h1 with
        d1 := fun _ => rfl
        d2 := on_of fun w hp _ => ⟨hp ▸ hslot, rfl⟩
        d3 := EPc.atWake (fun _ w hp => hp ▸ hslot) h.d3
        d4 := on_iff.2 fun hpd _ _ hroute => absurd hroute (h.not_completed hb.1 hpd) }
  case hReload =>
    step_guard h hs hg
    rw [touch_eq (h.dealloc0 (.inr rfl))] at hs
    cases hs
    have hn : s.parked = none := Option.not_isSome_iff_eq_none.1 fun hp => nomatch h.d1 hp
    exact outline_hLoop { h with d1 := fun _ => rfl } hn rfl rfl
  case hCancel b =>
    step_guard h hs hg
    rw [touch_eq (h.dealloc0 (.inr rfl))] at hs
    -- the handle forgets its parked waker if it drops the result, and keeps it otherwise: `parked` only shrinks
    have hp : ∀ w, (if b = true then none else s.parked) = some w → s.parked = some w := by cases b <;> simp
    split at hs
    all_goals
      cases hs
      exact { h with
        d1 := fun _ => rfl
        d5 := fun hb => if_pos hb
        d2 := h.d2.imp fun k w hw => k w (hp w hw)
        d3 := EPc.atWake (fun k w hw => k w (hp w hw)) h.d3
        d4 := h.d4.imp fun k w hw => k w (hp w hw) }
  case hSchedShared =>
    step_guard h hs hg
    rw [touch_eq (h.dealloc0 (.inr rfl))] at hs
    cases hs
    exact { h with }
  case hSchedFinish =>
    step_guard h hs hg
    rw [touch_eq (h.dealloc0 (.inr rfl))] at hs
    cases hs
    exact { h with }
  case hSetCancelled =>
    step_guard h hs hg
    rw [touch_eq (h.dealloc0 (.inr rfl))] at hs
    have hpk : s.hdrop = true → s.parked = none := h.d5
    have h : Outline s.epc .setCancelled { s with word := TaskState.setCancelled s.word, hsnap := s.word, hcancelled := true } :=
      { h with
        cancelled := by dsimp only; cases s.epc.dropped <;> rfl
        lk := fun w hs hf hd => (h.lk w hs hf hd).imp id (·.imp id fun ⟨hr, hw, _⟩ => ⟨hr, hw, rfl⟩)
        hretF := fun _ => rfl }
    split at hs
    · rename_i hdr; rw [Bool.and_eq_true, g_hasResult] at hdr
      cases hs
      exact { h with
        hResult := hdr.2
        d1 := fun hp => nomatch hpk hdr.1 ▸ hp
        d5 := trivial }
    split at hs
    · rename_i hres hdr; rw [hdr, Bool.true_and, g_hasResult] at hres
      cases hs
      exact { h with
        r3 := fun hc hf => nomatch (h.unclaimed rfl rfl hf).symm.trans hc
        hretG := fun _ => rfl
        d1 := fun hp => nomatch hpk hdr ▸ hp
        d5 := trivial }
    · cases hs
      exact { h with d5 := trivial }
  case hCancelClear =>
    step_guard h hs hg
    rw [touch_eq (h.dealloc0 (.inr rfl))] at hs
    cases hs
    exact { h.claimResult (.inr ⟨rfl, rfl⟩) with }
  case hCancelDrop =>
    step_guard h hs hg
    rw [touch_eq (h.dealloc0 (.inr rfl))] at hs
    cases hs
    -- H cleared HAS_RESULT of a completed task and has not dropped the result yet: it is there (`r3`)
    obtain ⟨hc, hf⟩ := h.hResult
    obtain ⟨hst, hsum⟩ : s.storage = .result ∧ s.resTaken + s.resDrops = 0 := (h.r3 hc hf).elim (·.2) (fun h => nomatch h.1)
    exact { h with
      bad0 := by simpa [dropResultOf, hst] using h.bad0
      futStorage := by have := h.futStorage; simp [dropResultOf, hst] at this ⊢; exact this
      futDrops := by have := h.futDrops; simp [dropResultOf, hst] at this ⊢; exact this
      preResult := on_vac (h.not_finishing hc)
      r1 := fun hcc => nomatch hc.symm.trans hcc
      r2 := fun hr => nomatch hf.symm.trans hr
      r3 := fun _ _ => .inr ⟨rfl, rfl, show s.resTaken + (s.resDrops + 1) = 1 by omega⟩
      hResult := trivial
      r6 := fun _ _ => show s.resTaken + (s.resDrops + 1) = 1 by omega
      hretG := fun _ => rfl }
  case hDetach =>
    step_guard h hs hg
    cases hs
    exact { h with
      r3 := fun hc hf => nomatch (h.unclaimed rfl rfl hf).symm.trans hc
      hretG := fun _ => rfl
      d1 := nofun
      d2 := on_of nofun
      d3 := EPc.atWake (fun _ => nofun) h.d3
      d4 := on_of nofun }
  case hDec =>
    step_guard h hs hg
    rw [touch_eq (h.dealloc0 (.inr rfl))] at hs
    -- the count `dec` returns is the number of holders: it exceeds 1 exactly when E still holds its reference
    have hcnt : s.word.count = s.epc.held + 1 := h.count
    unfold afterDecH at hs
    split at hs
    · rename_i hgt; rw [g_count] at hgt
      cases hs
      have hne : ¬(s.epc = .last ∨ s.epc = .done) := fun hh => by rw [EPc.held_eq, if_pos hh] at hcnt; omega
      have hnd : s.epc.isDone = false := Bool.eq_false_iff.2 fun hd => hne (.inr ((EPc.isDone_iff _).1 hd))
      exact { h with
        dealloc := by dsimp only; rw [hnd]; exact h.dealloc0 (.inr rfl)
        count := by show s.word.count - 1 = s.epc.held + 0; omega
        eLast := h.eLast_vac rfl }
    · rename_i hle; rw [g_count] at hle
      cases hs
      have hld : s.epc = .last ∨ s.epc = .done := Classical.not_not.1 fun hh => by rw [EPc.held_eq, if_neg hh] at hcnt; omega
      -- E at `last` would have seen H done
      have hdone : s.epc = .done := hld.resolve_left fun he => by have := h.eLast; rw [he] at this; exact nomatch this.1
      exact { h with
        count := by show s.word.count - 1 = s.epc.held + 0; omega
        hLast := ⟨(EPc.isDone_iff _).2 hdone, rfl, rfl⟩ }
  case hLast =>
    step_guard h hs hg
    obtain ⟨he, hr, hw⟩ := h.hLast
    have he := (EPc.isDone_iff _).1 he
    rw [he] at h
    rw [touch_eq h.dealloc] at hs
    cases hs
    show Outline (lastOf s s.hsnap).epc .done _
    rw [(lastOf_pc s s.hsnap).1, he]
    exact (h.release (.inr ⟨rfl, rfl⟩) hr hw).setPc _ _

theorem outline_reachable {s : RState} (h : Reachable true s) : Outline s.epc s.hpc s := by
  induction h with
  | init => exact outline_init
  | step _ hs ih => exact outline_step ih hs

theorem inv_reachable {s : RState} (h : Reachable true s) : Inv s := (outline_reachable h).inv

theorem isRun (fixed : Bool) : IsRun (step? fixed) (run fixed) :=
  ⟨fun _ => rfl, fun s l ls => by rw [run]; cases step? fixed s l <;> rfl⟩

theorem trace_of_run {fixed : Bool} {ls : List Label} {s s' : RState} (h : run fixed s ls = some s') :
    Trace fixed s ls s' := by
  induction ls generalizing s with
  | nil => cases h; exact Trace.nil _
  | cons l ls ih => obtain ⟨s1, h1, h2⟩ := (isRun fixed).cons_some.1 h; exact Trace.cons h1 (ih h2)

theorem run_of_trace {fixed : Bool} {ls : List Label} {s s' : RState} (h : Trace fixed s ls s') :
    run fixed s ls = some s' := by
  induction h with
  | nil => rfl
  | cons h1 _ ih => exact (isRun fixed).cons_some.2 ⟨_, h1, ih⟩

theorem reachable_of_trace {fixed : Bool} {ls : List Label} {s s' : RState} (hr : Reachable fixed s)
    (h : Trace fixed s ls s') : Reachable fixed s' := by
  induction h with
  | nil => exact hr
  | cons h1 _ ih => exact ih (Reachable.step hr h1)

theorem reachable_of_run {fixed : Bool} {ls : List Label} {s' : RState} (h : run fixed init ls = some s') :
    Reachable fixed s' := (isRun fixed).invariant (P := Reachable fixed) (fun _ _ _ hr hs => hr.step hs) .init h

theorem trace_snoc {fixed : Bool} {ls : List Label} {s s' s'' : RState} {l : Label}
    (h : Trace fixed s ls s') (hs : Step fixed s' l s'') : Trace fixed s (ls ++ [l]) s'' := by
  induction h with
  | nil => exact Trace.cons hs (Trace.nil _)
  | cons h1 _ ih => exact Trace.cons h1 (ih hs)

theorem reachable_iff_trace {fixed : Bool} {s : RState} :
    Reachable fixed s ↔ ∃ ls : List Label, Trace fixed init ls s := by
  constructor
  · intro h
    induction h with
    | init => exact ⟨[], Trace.nil _⟩
    | step _ hs ih =>
      obtain ⟨ls, hl⟩ := ih
      exact ⟨ls ++ [_], trace_snoc hl hs⟩
  · rintro ⟨ls, hl⟩; exact reachable_of_trace Reachable.init hl

theorem slot_exclusive {s : RState} (h : Reachable true s) :
    ¬ (eAccessesSlot s = true ∧ hAccessesSlot s = true) := by
  have i := inv_reachable h
  have s3 := i.s3; have ed1 := i.ed1; have ed2 := i.ed2; have eL := i.eLast; have hL := i.hLast
  simp only [eAccessesSlot, hAccessesSlot]
  grind

/-- section form, executor side: when E is about to read or drop the slot, H is not at `will_wake`, at
the write, nor before `finish_setting_waker::<true>` (if H is inside a SETTING_WAKER section at all,
it is one that started after the task finished and that leaves through `finish_setting_waker::<false>`
without touching the slot); E decided on a snapshot with HAS_WAKER and without SETTING_WAKER; the
last-holder access happens when H is gone.
NOTE: "the word has NOT_SETTING_WAKER whenever E is at a slot access" is FALSE and not needed: H may
execute `start_setting_waker` while E sits between `finish_running` and `wake_by_ref`. -/
theorem slot_section_executor {s : RState} (h : Reachable true s) (he : eAccessesSlot s = true) :
    (s.hpc ≠ .compare ∧ s.hpc ≠ .write ∧ s.hpc ≠ .finishTrue) ∧
    (s.epc = .wake ∨ s.epc = .dropSlot →
      TaskState.hasWaker s.esnap = true ∧ TaskState.isSettingWaker s.esnap = false) ∧
    (s.epc = .last → s.hpc = .done) := by
  have i := inv_reachable h
  have s3 := i.s3; have ed1 := i.ed1; have ed2 := i.ed2; have eL := i.eLast; have ws := i.wakeSnap
  simp only [eAccessesSlot] at he
  simp only [g_hasWaker, g_isSettingWaker]
  grind

theorem setting_waker_iff_in_section {s : RState} (h : Reachable true s) :
    TaskState.isSettingWaker s.word = hInSection s := by
  have sc := (inv_reachable h).sect
  simp only [hInSection, g_isSettingWaker]
  grind

theorem slot_section_handle {s : RState} (h : Reachable true s) (hh : s.hpc = .compare ∨ s.hpc = .write) :
    TaskState.isSettingWaker s.word = true ∧ eAccessesSlot s = false := by
  refine ⟨?_, Bool.eq_false_iff.2 fun he => ?_⟩
  · rw [setting_waker_iff_in_section h, hInSection]; rcases hh with hh | hh <;> rw [hh] <;> rfl
  · have := (slot_section_executor h he).1; exact hh.elim this.1 this.2.1

theorem storage_exclusive {s : RState} (h : Reachable true s) :
    ¬ (eAccessesStorage s = true ∧ hAccessesStorage s = true) := by
  have i := inv_reachable h
  have r5 := i.r5; have c := i.completed; have rr := i.routeRun; have df := i.dropFutureRoute
  have eL := i.eLast; have hL := i.hLast
  simp only [eAccessesStorage, hAccessesStorage]
  grind

theorem no_bad_access {s : RState} (h : Reachable true s) : s.bad = 0 := (inv_reachable h).bad0

/-- FIXED program: if the handle's last poll returned Pending with waker `w` and the task has completed and
the executor is past `Task::run`'s wake decision, `w` has been woken -/
theorem delivery {s : RState} (h : Reachable true s) : deliveryStatement s := by
  intro w hp _ he
  exact (inv_reachable h).d4 w hp he

theorem pending_means_slot {s : RState} (h : Reachable true s) (w : Nat) (hp : s.parked = some w)
    (hc : TaskState.isCompleted s.word = false)
    (hd : s.epc = .idle ∨ s.epc = .poll ∨ s.epc = .finishRunning ∨ s.epc = .wake ∨ s.epc = .setDropped) :
    s.slot = some w ∧ TaskState.hasWaker s.word = true ∧ TaskState.isSettingWaker s.word = false := by
  have i := inv_reachable h
  simp only [g_hasWaker, g_isSettingWaker, g_isCompleted] at *
  have := i.d2 w hp hc (by grind)
  have := i.d1 (by simp [hp])
  have := i.sect
  grind

theorem wake_reads_parked_waker {s : RState} (h : Reachable true s) (w : Nat) (hp : s.parked = some w)
    (he : s.epc = .wake) : s.slot = some w := (inv_reachable h).d3 w hp he

theorem result_once {s : RState} (h : Reachable true s) :
    s.resTaken + s.resDrops ≤ 1 ∧
    (s.deallocs = 1 → (s.resTaken + s.resDrops = 1 ↔ TaskState.isCompleted s.word = true)) := by
  have i := inv_reachable h
  refine ⟨i.resLe, fun hd => ⟨fun h1 => ?_, i.r6 hd⟩⟩
  cases hc : s.word.completed
  · have := (i.r1 hc).2; omega
  · exact hc

theorem join_result {s : RState} (h : Reachable true s) :
    (s.hret = some true ↔ s.resTaken = 1) ∧ (s.hret = some false → TaskState.isCancelled s.word = true) :=
  have i := inv_reachable h
  ⟨i.hretT, fun hf => by rw [g_isCancelled, i.hretF hf]; rfl⟩

theorem future_once {s : RState} (h : Reachable true s) :
    s.futDrops ≤ 1 ∧ (s.epc = .dec ∨ s.epc = .last ∨ s.epc = .done → s.futDrops = 1) ∧
    (s.futDrops = 0 ↔ s.storage = .future) := by
  have i := inv_reachable h
  have fd := i.futDrops; have fs := i.futStorage; have rr := i.routeRun
  grind

theorem poll_only_future {s : RState} (h : Reachable true s) (hp : s.epc = .poll) :
    s.storage = .future ∧ TaskState.isCompleted s.word = false := by
  have i := inv_reachable h
  have hr := i.routeRun.1 (.inr hp)
  refine ⟨i.futStorage.2 (.inl hr), ?_⟩
  cases hc : s.word.completed
  · exact hc
  · exact nomatch hr.symm.trans (i.completed.1 hc).1

theorem dealloc_once {s : RState} (h : Reachable true s) :
    s.deallocs ≤ 1 ∧ (s.deallocs = 1 ↔ (s.epc = .done ∧ s.hpc = .done)) ∧ s.uaf = 0 := by
  have i := inv_reachable h
  exact ⟨i.deallocLe, i.dealloc1, i.uaf0⟩

theorem count_is_holders {s : RState} (h : Reachable true s) :
    TaskState.count s.word = (if s.epc = .last ∨ s.epc = .done then 0 else 1) +
      (if s.hpc = .last ∨ s.hpc = .done then 0 else 1) := (inv_reachable h).count

theorem waker_slot_accounting {s : RState} (h : Reachable true s) :
    s.slotSets = s.slotDrops + (if s.slot.isSome then 1 else 0) := (inv_reachable h).acc

/-- HAS_WAKER and the slot: (a) HAS_WAKER ⇒ the slot is occupied (while allocated); (b) before the
executor's `set_dropped` and with H not between its write and `finish_setting_waker::<true>`,
HAS_WAKER ⇔ occupied; (c) an occupied slot without HAS_WAKER is either being handled by H (inside its
section, before `finish<true>` re-asserts the bit), or about to be dropped by E (`Task::drop` saw
HAS_WAKER ∧ ¬SETTING_WAKER), or it is the LEAK: the task completed, that waker has been woken, and
`set_dropped` cleared HAS_WAKER while H was in a section that left through `finish<false>`. -/
theorem waker_flag_slot {s : RState} (h : Reachable true s) :
    (TaskState.hasWaker s.word = true → s.deallocs = 0 → s.slot.isSome = true) ∧
    ((s.epc = .idle ∨ s.epc = .poll ∨ s.epc = .finishRunning ∨ s.epc = .wake ∨ s.epc = .setDropped) →
      s.hpc ≠ .write → s.hpc ≠ .finishTrue → (s.slot.isSome = true ↔ TaskState.hasWaker s.word = true)) ∧
    (∀ w : Nat, s.slot = some w → TaskState.hasWaker s.word = false → s.deallocs = 0 →
      (s.hpc = .compare ∨ s.hpc = .write ∨ s.hpc = .finishTrue) ∨
      ((s.epc = .clearShared ∨ s.epc = .dropFuture ∨ s.epc = .dropSlot) ∧
        TaskState.isSettingWaker s.esnap = false ∧ TaskState.hasWaker s.esnap = true) ∨
      (s.eroute = .completed ∧ w ∈ s.woken ∧ TaskState.isCancelled s.word = true)) := by
  have i := inv_reachable h
  simp only [g_hasWaker, g_isSettingWaker, g_isCancelled]
  refine ⟨i.w1, fun he => i.w5 (by grind), fun w hw hf hd => ?_⟩
  have := i.lk w hw hf hd
  grind

/-
FULL statement (FALSE on the current code, see `waker_leak_counterexample` in Cex/C04.lean, finding F040):
  theorem slot_dropped_at_dealloc {s} (h : Reachable true s) : s.deallocs = 1 → s.slot = none
What holds: a waker still in the slot at deallocation (never dropped: leaked) occurs only on the
completion path, and that waker has been woken; on the cancellation / executor-drop paths the slot is
always empty at deallocation.
-/
theorem slot_dropped_at_dealloc_partial {s : RState} (h : Reachable true s) (hd : s.deallocs = 1) :
    (∀ w : Nat, s.slot = some w → s.eroute = .completed ∧ w ∈ s.woken) ∧
    (s.eroute ≠ .completed → s.slot = none ∧ s.slotSets = s.slotDrops) := by
  have i := inv_reachable h
  refine ⟨fun w hw => i.lk4 w hw hd, fun hr => ?_⟩
  have : s.slot = none := by
    cases hs : s.slot with
    | none => rfl
    | some w => exact absurd (i.lk4 w hs hd).1 hr
  exact ⟨this, by simpa [this] using i.acc⟩

theorem touch_ghost (s : RState) : (touch s).futDrops = s.futDrops ∧ (touch s).polls = s.polls ∧
    (touch s).resTaken = s.resTaken := by
  unfold touch; split <;> simp

theorem step_foreign_counters {fixed : Bool} {s s' : RState} {l : Label} (hs : Step fixed s l s') :
    match l.actor with
    | .H => s'.futDrops = s.futDrops ∧ s'.polls = s.polls
    | .E => s'.resTaken = s.resTaken := by
  unfold Step at hs
  have ht := touch_ghost s
  cases l <;>
    (simp only [step?] at hs
     split at hs
     · try simp only [hLoop, hAfterFinishTrue, afterDecH, afterDecE, lastOf, dropSlotOf, dropResultOf, wakeSlotOf,
         eAfterShared, eAfterFuture] at hs
       (repeat' (split at hs)) <;> (cases hs; simp [Label.actor, ht])
     · cases hs)

theorem future_dropped_by_executor_only {fixed : Bool} {s s' : RState} {l : Label}
    (hs : Step fixed s l s') (hne : s'.futDrops ≠ s.futDrops ∨ s'.polls ≠ s.polls) : l.actor = .E := by
  have := step_foreign_counters hs
  cases ha : l.actor
  · rfl
  · rw [ha] at this; exact (hne.elim (· this.1) (· this.2)).elim

theorem result_taken_by_handle_only {fixed : Bool} {s s' : RState} {l : Label}
    (hs : Step fixed s l s') (hne : s'.resTaken ≠ s.resTaken) : l.actor = .H := by
  have := step_foreign_counters hs
  cases ha : l.actor
  · rw [ha] at this; exact (hne this).elim
  · rfl

theorem run_witness {fixed : Bool} {ls : List Label} {p : RState → Bool}
    (h : (run fixed init ls).any p = true) :
    ∃ s : RState, Trace fixed init ls s ∧ Reachable fixed s ∧ p s = true := by
  cases hr : run fixed init ls with
  | none => simp [hr] at h
  | some s => exact ⟨s, trace_of_run hr, reachable_of_run hr, by simpa [hr] using h⟩

end Compio.RemoteJoin
