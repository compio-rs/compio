/-
Lemmas about `Compio.MultiFd` (operations waiting on several descriptors): what the cancel loop (`cancelFds`: closed
form `cancelFds_apply`; `Multi05.cancelQueues` is the same loop, `cancelQueues_eq`) and the push loop (`pushFds`) do to
the registry, stated through `On`; the invariant `Own` ("a key sits only in queues of descriptors of its own operation")
over all event lists (`run_own`); what a `cancel` event does to the registry (`step_cancel_reg`).
-/
import Compio.Model.MultiFd
import Compio.Model.PollQueuesMulti05
import Compio.Lemmas.PollQueues
import Compio.Lemmas.Lts

namespace Compio.MultiFd

open Compio.PollQueues

/-- `key` sits in an interest queue of descriptor `fd` -/
def On (reg : Reg) (key fd : Nat) : Prop := key ∈ (reg fd).rq ∨ key ∈ (reg fd).wq

theorem not_on_empty (key fd : Nat) : ¬ On Reg.empty key fd := by
  simp [On, Reg.empty, FdQ.empty]

theorem cancelFds_apply (key : Nat) : ∀ (fds : List Nat) (reg : Reg) (fd : Nat),
    cancelFds false reg key fds fd = if fd ∈ fds then (reg fd).remove key else reg fd := by
  intro fds
  induction fds with
  | nil => intro reg fd; simp [cancelFds]
  | cons a rest ih =>
    intro reg fd
    rw [cancelFds, if_neg (by simp), ih, removeOne]
    by_cases hfa : fd = a
    · subst hfa; simp [FdQ.remove_remove]
    · simp [hfa, upd_other _ _ _ _ hfa]

theorem on_cancelFds {key k x : Nat} {fds : List Nat} {reg : Reg} :
    On (cancelFds false reg key fds) k x ↔ On reg k x ∧ ¬ (k = key ∧ x ∈ fds) := by
  unfold On
  rw [cancelFds_apply]
  by_cases hx : x ∈ fds
  · by_cases hk : k = key <;> simp [hx, hk, FdQ.remove]
  · simp [hx]

theorem on_removeOne {reg : Reg} {key fd k x : Nat} :
    On (removeOne reg key fd) k x ↔ On reg k x ∧ ¬ (k = key ∧ x = fd) := by
  simpa [cancelFds] using on_cancelFds (fds := [fd]) (reg := reg) (key := key) (k := k) (x := x)

theorem cancelQueues_eq (id : Nat) : ∀ (fds : List Nat) (reg : Reg),
    Multi05.cancelQueues reg fds id = cancelFds false reg id fds := by
  intro fds
  induction fds with
  | nil => intro reg; rfl
  | cons a rest ih => intro reg; exact ih _

theorem cancelFds_true (reg : Reg) (key : Nat) (fds : List Nat) :
    cancelFds true reg key fds = cancelFds false reg key (fds.take 1) := by
  cases fds <;> simp [cancelFds]

theorem on_cancelFds_sub {brk : Bool} {key k x : Nat} {fds : List Nat} {reg : Reg}
    (h : On (cancelFds brk reg key fds) k x) : On reg k x := by
  cases brk
  · exact (on_cancelFds.mp h).1
  · rw [cancelFds_true] at h; exact (on_cancelFds.mp h).1

theorem cancelFds_removes_all (key x : Nat) (fds : List Nat) (reg : Reg) (hx : x ∈ fds) :
    ¬ On (cancelFds false reg key fds) key x :=
  fun h => (on_cancelFds.mp h).2 ⟨rfl, hx⟩

theorem cancelFds_keeps_others (brk : Bool) (key k x : Nat) (hk : k ≠ key) (fds : List Nat) (reg : Reg)
    (h : On reg k x) : On (cancelFds brk reg key fds) k x := by
  cases brk
  · exact on_cancelFds.mpr ⟨h, fun hh => hk hh.1⟩
  · rw [cancelFds_true]; exact on_cancelFds.mpr ⟨h, fun hh => hk hh.1⟩

theorem cancelFds_other (brk : Bool) (key x : Nat) (fds : List Nat) (reg : Reg) (hx : x ∉ fds) :
    cancelFds brk reg key fds x = reg x := by
  cases brk
  · rw [cancelFds_apply, if_neg hx]
  · rw [cancelFds_true, cancelFds_apply, if_neg fun h => hx (List.mem_of_mem_take h)]

theorem on_pushFds {key k x : Nat} : ∀ {fds : List (Nat × Dir)} {reg : Reg},
    On (pushFds reg key fds) k x ↔ On reg k x ∨ (k = key ∧ x ∈ fds.map (·.1)) := by
  intro fds
  induction fds with
  | nil => intro reg; simp [pushFds]
  | cons a rest ih =>
    intro reg
    obtain ⟨fd, d⟩ := a
    have one : On (upd reg fd ((reg fd).pushBack d key)) k x ↔ On reg k x ∨ (k = key ∧ x = fd) := by
      unfold On
      by_cases hx : x = fd
      · subst hx
        cases d <;> simp [FdQ.pushBack, or_assoc, or_comm, or_left_comm]
      · rw [upd_other _ _ _ _ hx]; simp [hx]
    rw [pushFds, ih, one]
    simp only [List.map_cons, List.mem_cons, or_assoc]
    by_cases hk : k = key <;> simp [hk]

theorem pushFds_on (key : Nat) (fds : List (Nat × Dir)) (reg : Reg) (x : Nat) (hx : x ∈ fds.map (·.1)) :
    On (pushFds reg key fds) key x :=
  on_pushFds.mpr (Or.inr ⟨rfl, hx⟩)

/-- a key sits only in queues of descriptors its operation waits on -/
def Own (s : State) : Prop :=
  ∀ (id fd : Nat), On s.reg id fd → ∃ o : MOp, s.ops[id]? = some o ∧ fd ∈ o.fdList

/-- same operations with the same descriptor lists (possibly more of them) -/
def Same (l l' : List MOp) : Prop :=
  ∀ (j : Nat) (o : MOp), l[j]? = some o → ∃ o' : MOp, l'[j]? = some o' ∧ o'.fds = o.fds

theorem modAt_eq_modify {α : Type} (f : α → α) (l : List α) (i : Nat) : modAt f l i = l.modify i f := by
  induction l generalizing i with
  | nil => simp [modAt]
  | cons x xs ih => cases i <;> simp [modAt, ih]

theorem same_modAt (f : MOp → MOp) (hf : ∀ x, (f x).fds = x.fds) (l : List MOp) (i : Nat) : Same l (modAt f l i) := by
  intro j o h
  rw [modAt_eq_modify, List.getElem?_modify, h]
  by_cases hij : i = j
  · exact ⟨f o, by simp [hij], hf o⟩
  · exact ⟨o, by simp [hij], rfl⟩

theorem same_map (f : MOp → MOp) (hf : ∀ x, (f x).fds = x.fds) (l : List MOp) : Same l (l.map f) := by
  intro j o h
  exact ⟨f o, by simp [h], hf o⟩

theorem same_append (l : List MOp) (x : MOp) : Same l (l ++ [x]) := by
  intro j o h
  have hj : j < l.length := (List.getElem?_eq_some_iff.mp h).1
  exact ⟨o, by rw [List.getElem?_append_left hj]; exact h, rfl⟩

theorem own_mono {s s' : State} (ho : Own s) (hs : Same s.ops s'.ops) (hr : ∀ id fd, On s'.reg id fd → On s.reg id fd) :
    Own s' := by
  intro id fd h
  obtain ⟨o, h1, h2⟩ := ho id fd (hr id fd h)
  obtain ⟨o', h1', e⟩ := hs id o h1
  exact ⟨o', h1', by unfold MOp.fdList at *; rw [e]; exact h2⟩

theorem same_zipWith_range (f : Nat → MOp → MOp) (hf : ∀ i x, (f i x).fds = x.fds) (l : List MOp) :
    Same l ((List.range l.length).zipWith f l) := by
  intro j o h
  have hj : j < l.length := (List.getElem?_eq_some_iff.mp h).1
  refine ⟨f j o, ?_, hf j o⟩
  rw [List.getElem?_zipWith]
  simp [h, List.getElem?_range hj]

theorem own_init (d : Drv) : Own (init d) := fun id fd h => absurd h (not_on_empty id fd)

theorem own_modAt {s : State} (ho : Own s) (f : MOp → MOp) (id : Nat) (hf : ∀ x, (f x).fds = x.fds) :
    Own { s with ops := modAt f s.ops id } :=
  own_mono ho (same_modAt f hf _ _) (fun _ _ h => h)

theorem own_driverCancel {s : State} (ho : Own s) (brk : Bool) (id : Nat) (o : MOp) : Own (driverCancel brk s id o) := by
  unfold driverCancel
  cases s.drv with
  | iour => exact own_modAt ho _ id (by intro; rfl)
  | poll =>
    simp only
    split
    · exact ho
    · exact own_mono ho (same_modAt _ (by intro; rfl) _ _) (fun _ _ h => on_cancelFds_sub h)

theorem step_own {brk : Bool} {s s' : State} {e : Event} (ho : Own s) (hs : step brk s e = some s') : Own s' := by
  cases e with
  | push fds =>
    dsimp only [step] at hs
    split at hs
    · cases hd : s.drv with
      | iour =>
        rw [hd] at hs
        obtain rfl := Option.some.inj hs
        exact own_mono ho (same_append _ _) (fun _ _ h => h)
      | poll =>
        rw [hd] at hs
        obtain rfl := Option.some.inj hs
        intro id fd h
        rcases on_pushFds.mp h with h1 | ⟨rfl, hx⟩
        · obtain ⟨o, h1', h2⟩ := ho id fd h1
          exact ⟨o, by rw [List.getElem?_append_left (List.getElem?_eq_some_iff.mp h1').1]; exact h1', h2⟩
        · -- the record is the `MOp` that `step` appends for `.push fds` on the polling driver, copied literally
          exact ⟨⟨fds, 1 + fds.length, 1, false, false, 0, false, none, 0, 0, false⟩, by simp, hx⟩
    · cases hs
  | cancel id =>
    dsimp only [step] at hs
    split at hs
    · rename_i o hoo
      split at hs
      · split at hs
        · obtain rfl := Option.some.inj hs
          exact own_modAt ho _ id (by intro; rfl)
        · split at hs
          · obtain rfl := Option.some.inj hs
            exact own_modAt ho _ id (by intro; rfl)
          · obtain rfl := Option.some.inj hs
            exact own_modAt (own_driverCancel (own_modAt ho _ id (by intro; rfl)) brk id o) _ id (by intro; rfl)
      · cases hs
    · cases hs
  | drop id =>
    dsimp only [step] at hs
    split at hs
    · split at hs
      · obtain rfl := Option.some.inj hs
        exact own_modAt ho _ id (by intro; rfl)
      · cases hs
    · cases hs
  | pop id =>
    dsimp only [step] at hs
    split at hs
    · split at hs
      · split at hs
        · obtain rfl := Option.some.inj hs
          exact own_modAt ho _ id (by intro; rfl)
        · split at hs
          · cases hs
          · obtain rfl := Option.some.inj hs; exact ho
      · cases hs
    · cases hs
  | poll =>
    dsimp only [step] at hs
    split at hs
    · obtain rfl := Option.some.inj hs
      refine own_mono ho (same_map _ (fun x => ?_) _) (fun _ _ h => h)
      cases s.drv <;> simp only <;> split <;> rfl
    · cases hs
  | pdrop =>
    dsimp only [step] at hs
    split at hs
    · obtain rfl := Option.some.inj hs
      exact fun id fd h => absurd h (not_on_empty id fd)
    · cases hs

theorem step_cancel_reg {brk : Bool} {s s' : State} {id : Nat} (h : step brk s (.cancel id) = some s') :
    ∃ o, s.ops[id]? = some o ∧
      (s'.reg = s.reg ∧
          (s.drv = .poll → o.cancelled = false → ¬(o.rc = 1 ∧ o.result.isSome) → o.fds.isEmpty = true) ∨
        s'.reg = cancelFds brk s.reg id o.fdList) := by
  dsimp only [step] at h
  split at h
  · rename_i o ho
    refine ⟨o, ho, ?_⟩
    split at h
    · split at h
      · rename_i hc
        obtain rfl := Option.some.inj h
        exact .inl ⟨rfl, fun _ h0 => by rw [hc] at h0; cases h0⟩
      · split at h
        · rename_i hq
          obtain rfl := Option.some.inj h
          exact .inl ⟨rfl, fun _ _ hn => absurd hq hn⟩
        · obtain rfl := Option.some.inj h
          simp only [driverCancel]
          cases s.drv
          · exact .inl ⟨rfl, fun h => by cases h⟩
          · simp only
            split
            · exact .inl ⟨rfl, fun _ _ _ => ‹_›⟩
            · exact .inr rfl
    · cases h
  · cases h

theorem isRun (brk : Bool) : IsRun (step brk) (run brk) :=
  ⟨fun _ => rfl, fun s e es => by rw [run]; cases step brk s e <;> rfl⟩

theorem run_own {brk : Bool} : ∀ (es : List Event) (s s' : State), Own s → run brk s es = some s' → Own s' :=
  fun _ _ _ => (isRun brk).invariant fun _ _ _ ho h => step_own ho h

end Compio.MultiFd
