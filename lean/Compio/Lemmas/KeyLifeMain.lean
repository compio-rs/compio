/-
`Inv` holds along every run whose last state has `hazard = false` (the `Drop` drain loop turned no CQE flagged `more`
into a key: it met none, or it tests the flag), for every configuration whose extracted `Drop` statement order is
drain → close ring → free in-flight keys (`step_inv`, `run_inv`; `reach_inv`: from `init`, for `Cfg.gen`); the flag is
only raised by the drain step of `Drop` and never lowered (`hazard_step`). `Inv2` holds in every reached state, without
condition (`reach_inv2`).
-/
import Compio.Lemmas.KeyLifeSteps
import Compio.Lemmas.KeyLifeHonest

namespace Compio.KeyLife

open Compio.PollQueues

theorem hazard_step {c : Cfg} {s s' : State} {e : Event} (h : step c s e = some s') :
    s'.hazard = s.hazard ∨
      (e = .dropStep ∧ s'.hazard = (s.hazard || (!c.drainChecksMore && s.ops.any (fun o => !o.pendMore.isEmpty)))) := by
  cases Step.of_step h with
  | @dropStep _ st =>
    cases st
    · exact .inr ⟨rfl, rfl⟩
    all_goals exact .inl rfl
  | userCancel | cloneCancel => exact .inl (cancelKey_spares ..).hazard
  | tokenCancel => exact .inl (cancelTok_spares ..).hazard
  | kPost hk =>
    obtain ⟨f, _, rfl⟩ := kPostStep_some hk
    exact .inl rfl
  | _ => exact .inl rfl

theorem hazard_mono {c : Cfg} {s s' : State} {e : Event} (h : step c s e = some s') (hz : s.hazard = true) :
    s'.hazard = true := by
  rcases hazard_step h with h1 | ⟨_, h1⟩
  · rw [h1]; exact hz
  · rw [h1, hz]; rfl

theorem step_inv {c : Cfg} (hc : GoodCfg c) {s s' : State} {e : Event} (hi : Inv c s)
    (h : step c s e = some s') (hz : s'.hazard = false) : Inv c s' := by
  cases Step.of_step h with
  | pushSq hg =>
    exact inv_frame (hops := rfl) (inv_push hi hg.1 _ rfl
      fun hq => ok_fresh (by unfold holders; rw [hq]; rfl) rfl rfl rfl rfl (Or.inr ⟨rfl, hg.2.1⟩))
  | pushFail ha | pushBlocking ha =>
    exact inv_push hi ha _ rfl fun hq => ok_fresh (by unfold holders; rw [hq]; rfl) rfl rfl rfl rfl (Or.inl ⟨rfl, rfl⟩)
  | pushReady hg =>
    exact inv_push hi hg.1 _ rfl fun hq => ok_fresh (by unfold holders; rw [hq]; rfl) rfl rfl rfl rfl (Or.inl ⟨rfl, rfl⟩)
  | pushWait hg => exact inv_pushWait hi hg
  | userCancel ho hg => exact inv_cancelKey hi hg.1 ho hg.2 _
  | cloneCancel ho hg =>
    exact inv_cancelKey (inv_clone hi ho ((hi.ops _ _ ho).1.live (.inl hg.2)).1) hg.1 (modAt_get ho)
      (Nat.succ_pos _) _
  | userDrop ho hg => exact inv_modAt hi ho (.of_eq rfl) (ok_userDrop (hi.ops _ _ ho).1 hg.2 _)
  | popTake ho hg _ h1 => exact inv_modAt hi ho (.of_eq rfl) (ok_takeResult (hi.ops _ _ ho).1 hg.2 h1 _)
  | popPanic ho hg =>
    exact inv_frame (inv_modAt hi ho (.of_eq rfl) (ok_userDrop (hi.ops _ _ ho).1 hg.2 _))
  | popPending | tokenDead => exact hi
  | popMulti | tokenRegister | tokenDrop => exact inv_plain hi _ fun _ => rfl
  | tokenCancel ho hg h0 => exact inv_cancelTok hi hg.1 ho (Nat.pos_of_ne_zero h0) _
  | pushNotifier => exact inv_frame hi
  | submit => exact inv_submitAll hi
  | pollEntries => exact inv_drainAll hi
  | pollBlocking => exact inv_map hi keeps_drainChan fun _ => ok_drainChan
  | fdIdle => exact inv_fdIdle hi _
  | fdDone hg hp => exact inv_fdDone hi hg.1 hg.2.1 hp
  | dropBegin ha => exact inv_dropBegin hi ha
  | dropStep hk hst => exact inv_dropStep hi hc hk hst hz
  | kPost hk => exact inv_kPostStep hi hk
  | poolDone ho hp hco => exact inv_poolDone _ hi ho hp hco
  | poolLate ho hp => exact inv_poolLate _ hi ho hp

theorem run_hazard {c : Cfg} : ∀ (evs : List Event) (s s' : State), run c s evs = some s' → s'.hazard = false →
    s.hazard = false := by
  intro evs s s' h hz
  cases hs : s.hazard
  · rfl
  · rw [run_ind (P := fun s => s.hazard = true) (fun _ _ _ h1 h2 => hazard_mono h2 h1) evs s s' hs h] at hz; cases hz

theorem run_inv {c : Cfg} (hc : GoodCfg c) : ∀ (evs : List Event) (s s' : State), Inv c s →
    run c s evs = some s' → s'.hazard = false → Inv c s' := fun evs s s' hi h hz =>
  run_ind (P := fun s => s.hazard = false → Inv c s)
    (fun s s1 e hp h1 hz1 => step_inv hc (hp (run_hazard (c := c) [e] s s1 (by simp only [run, h1]) hz1)) h1 hz1)
    evs s s' (fun _ => hi) h hz

theorem gen_good : GoodCfg Cfg.gen := rfl

theorem reach_inv {d : Drv} {cap : Nat} {evs : List Event} {s : State}
    (h : run Cfg.gen (init d cap) evs = some s) (hz : s.hazard = false) : Inv Cfg.gen s :=
  run_inv gen_good evs _ _ (inv_init _ d cap) h hz

theorem reach_inv2 {c : Cfg} {d : Drv} {cap : Nat} {evs : List Event} {s : State}
    (h : run c (init d cap) evs = some s) : Inv2 s :=
  run_inv2 evs _ _ (inv2_init d cap) h

theorem run_arm {c : Cfg} (hc : GoodCfg c) : ∀ (evs : List Event) (s s' : State), Inv c s → ArmInv s →
    run c s evs = some s' → s'.hazard = false → ArmInv s' :=
  fun evs s s' hi _ h hz => (run_inv hc evs s s' hi h hz).arm_ok

end Compio.KeyLife
