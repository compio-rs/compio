/-
C12, the blocking adapter. Each half is a FIFO queue with ghost histories (`RInv`: delivered = taken ++ buffered;
`WInv`: accepted = sent ++ buffered), kept by every primitive of Model/SyncStream.lean. The flush future is a coroutine
whose state agrees with the buffer (`FutInv`) and which, once suspended in the inner `flush()`, has emptied it (`FutOK`).
What a poll does to the waker snapshot parked in the inner stream (`Settled`, `Parked`, `FlushFrame`) is used again
by Lemmas/PollAdapter.lean. Operations and runs compose through relations (`RSide.Ok`, `WSide.Ok`, `SOK`).
-/
import Compio.Model.SyncStream

namespace Compio.SyncStream

theorem Buf.compactTo_avail (b : Buf) (c m : Nat) (h : b.pos ≤ b.data.length) :
    (b.compactTo c m).avail = b.avail := by
  unfold Buf.compactTo Buf.avail
  split
  · simp
  · split
    · have : b.pos = b.data.length := by omega
      simp [this]
    · have : b.pos = 0 := by omega
      simp [this]

theorem Buf.compactTo_pos (b : Buf) (c m : Nat) : (b.compactTo c m).pos = 0 := by
  unfold Buf.compactTo
  split
  · rfl
  · split <;> rfl

theorem Buf.compactTo_lent (b : Buf) (c m : Nat) : (b.compactTo c m).lent = b.lent := by
  unfold Buf.compactTo
  split
  · rfl
  · split <;> rfl

theorem Buf.compactTo_cap_le (b : Buf) (c m : Nat) : (b.compactTo c m).cap ≤ b.cap := by
  unfold Buf.compactTo
  split
  · simp
  · split
    · simp only
      split
      · exact Nat.min_le_left _ _
      · exact Nat.le_refl _
    · simp

theorem Buf.compactTo_len_le (b : Buf) (c m : Nat) (h : b.data.length ≤ b.cap) :
    (b.compactTo c m).data.length ≤ (b.compactTo c m).cap := by
  unfold Buf.compactTo
  split
  · simp; omega
  · split
    · simp
    · simpa using h

theorem Buf.compactTo_length (b : Buf) (c m : Nat) : (b.compactTo c m).data.length = b.avail.length := by
  unfold Buf.compactTo Buf.avail
  split
  · simp
  · split
    · rename_i h; simp [List.length_drop]; omega
    · rename_i h1 h2
      have : b.pos = 0 := by omega
      simp [this]

theorem Buf.compactTo_data (b : Buf) (c m : Nat) (h : b.pos ≤ b.data.length) :
    (b.compactTo c m).data = b.avail := by
  have h1 := Buf.compactTo_avail b c m h
  have h2 := Buf.compactTo_pos b c m
  unfold Buf.avail at h1 ⊢
  rw [h2] at h1
  simpa using h1

theorem growCap_bounds (len cap base : Nat) : cap ≤ growCap len cap base ∧
    (len ≤ cap → growCap len cap base ≤ max cap (len + base)) ∧ (0 < base → len ≤ cap → len < growCap len cap base) := by
  unfold growCap
  split
  · simp only
    split <;> omega
  · omega

theorem growAmortized_ge (len cap add : Nat) (h : len ≤ cap) : len + add ≤ growAmortized len cap add := by
  unfold growAmortized
  split <;> omega

theorem Buf.advance_ok {b : Buf} {amt : Nat} (h1 : ¬ b.cap < b.pos + amt) (h2 : ¬ b.data.length < b.pos + amt) :
    b.advance amt = .ok { b with pos := b.pos + amt } (decide (b.data.length ≤ b.pos + amt)) := by
  simp [Buf.advance, h1, h2]

theorem Buf.consumed (b : Buf) (amt c m : Nat) (hp : b.pos + amt ≤ b.data.length) (hc : b.data.length ≤ b.cap) :
    ∀ b', b' = (if b.data.length ≤ b.pos + amt then ({ b with pos := b.pos + amt } : Buf).compactTo c m
              else { b with pos := b.pos + amt }) →
      b'.avail = b.avail.drop amt ∧ b'.pos ≤ b'.data.length ∧ b'.data.length ≤ b'.cap ∧ b'.cap ≤ b.cap ∧
      b'.lent = b.lent := by
  have hav : ({ b with pos := b.pos + amt } : Buf).avail = b.avail.drop amt := by
    simp [Buf.avail, List.drop_drop, Nat.add_comm]
  intro b' hb
  subst hb
  split
  · exact ⟨by rw [Buf.compactTo_avail _ _ _ hp, hav], by simp [Buf.compactTo_pos], Buf.compactTo_len_le _ _ _ hc,
      Buf.compactTo_cap_le _ _ _, Buf.compactTo_lent _ _ _⟩
  · exact ⟨hav, hp, hc, Nat.le_refl _, rfl⟩


/-- invariant of the read half; `C` is everything the inner reader delivers before its end -/
structure RInv (C : Bytes) (r : RSide) : Prop where
  /-- what the inner reader delivered = what the caller took, then what is buffered -/
  fifo : r.delivered = r.taken ++ r.buf.avail
  pos_le : r.buf.pos ≤ r.buf.data.length
  len_le : r.buf.data.length ≤ r.buf.cap
  /-- `fill_read_buf` grows the capacity only while fewer than `max` bytes are held, by at most `base`
  beyond the length (`growCap_bounds`, `RInv.started`) -/
  cap_le : r.buf.cap ≤ r.base + (r.max - 1)
  /-- the buffer lent to the inner read has room for a byte, so its `Ok(0)` means end of stream
  (`growCap_bounds`; with `base = 0` there may be no room, hence the guards `0 < r.base`) -/
  lent_space : 0 < r.base → r.buf.lent = true → r.buf.data.length < r.buf.cap
  /-- the latched EOF flag is genuine -/
  eof_inner : 0 < r.base → r.eof = true → r.innerEof = true
  inner_eof : r.innerEof = true → r.eof = true
  /-- delivered so far, then what the inner reader's script still holds, is `C` -/
  cons : r.delivered ++ (if r.innerEof then [] else content r.script) = C

theorem RInv.iff {C r} : RInv C r ↔
    (r.delivered = r.taken ++ r.buf.avail ∧ r.buf.pos ≤ r.buf.data.length ∧ r.buf.data.length ≤ r.buf.cap ∧
     r.buf.cap ≤ r.base + (r.max - 1) ∧ (0 < r.base → r.buf.lent = true → r.buf.data.length < r.buf.cap) ∧
     (0 < r.base → r.eof = true → r.innerEof = true) ∧ (r.innerEof = true → r.eof = true) ∧
     r.delivered ++ (if r.innerEof then [] else content r.script) = C) :=
  ⟨fun ⟨a, b, c, d, e, f, g, h⟩ => ⟨a, b, c, d, e, f, g, h⟩, fun ⟨a, b, c, d, e, f, g, h⟩ => ⟨a, b, c, d, e, f, g, h⟩⟩

theorem RInv.new (base max : Nat) (rs : List RItem) : RInv (content rs) (RSide.new base max rs) := by
  constructor <;> simp [RSide.new, Buf.new, Buf.avail]

theorem RInv.taken_prefix {C r} (h : RInv C r) : r.taken <+: C := by
  rw [← h.cons, h.fifo, List.append_assoc]
  exact List.prefix_append _ _

theorem RInv.eof_complete {C r} (h : RInv C r) (hb : 0 < r.base) (he : r.eof = true) (ha : r.buf.avail = []) :
    r.taken = C := by
  have := h.cons
  rwa [h.eof_inner hb he, h.fifo, ha, if_pos rfl, List.append_nil, List.append_nil] at this

theorem RInv.clearObs {C r} (h : RInv C r) : RInv C r.clearObs := by
  rw [RInv.iff] at h ⊢
  exact h

@[simp] theorem RSide.wake_fields (r : RSide) :
    r.wake.buf = r.buf ∧ r.wake.eof = r.eof ∧ r.wake.base = r.base ∧ r.wake.max = r.max ∧ r.wake.script = r.script ∧
    r.wake.delivered = r.delivered ∧ r.wake.taken = r.taken ∧ r.wake.innerEof = r.innerEof ∧ r.wake.log = r.log := by
  unfold RSide.wake
  split <;> simp

theorem RInv.wake {C r} (h : RInv C r) : RInv C r.wake := by
  rw [RInv.iff] at h ⊢
  simpa using h

theorem RSide.consume_lent {r : RSide} (amt : Nat) (hl : r.buf.lent = true) : r.consume amt = (r, .panic) := by
  simp [RSide.consume, hl]

theorem RSide.consume_cases (r : RSide) (amt : Nat) :
    (r.consume amt = (r, .panic) ∧ (r.buf.lent = true ∨ r.buf.cap < r.buf.pos + amt)) ∨
    (r.consume amt = ({ r with buf := { r.buf with lent := true } }, .panic) ∧ r.buf.lent = false ∧
      r.buf.data.length < r.buf.pos + amt ∧ r.buf.pos + amt ≤ r.buf.cap) ∨
    (r.consume amt =
      ({ r with buf := if r.buf.data.length ≤ r.buf.pos + amt
                        then ({ r.buf with pos := r.buf.pos + amt } : Buf).compactTo r.base r.max
                        else { r.buf with pos := r.buf.pos + amt },
                taken := r.taken ++ r.buf.avail.take amt }, .ok (r.buf.avail.take amt)) ∧
      r.buf.lent = false ∧ r.buf.pos + amt ≤ r.buf.data.length) := by
  unfold RSide.consume Buf.advance
  by_cases hl : r.buf.lent = true
  · exact .inl ⟨by simp [hl], .inl hl⟩
  · by_cases h1 : r.buf.cap < r.buf.pos + amt
    · exact .inl ⟨by simp [hl, h1], .inr h1⟩
    · by_cases h2 : r.buf.data.length < r.buf.pos + amt
      · exact .inr (.inl ⟨by simp [hl, h1, h2], by simpa using hl, h2, Nat.not_lt.mp h1⟩)
      · exact .inr (.inr ⟨by simp [hl, h1, h2], by simpa using hl, Nat.not_lt.mp h2⟩)

theorem RInv.consume {C r} (h : RInv C r) (amt : Nat) : RInv C (r.consume amt).1 := by
  rcases r.consume_cases amt with ⟨he, -⟩ | ⟨he, hl, h2, h1⟩ | ⟨he, hl, hp⟩ <;> rw [he]
  · exact h
  · obtain ⟨fifo, pos_le, len_le, cap_le, -, eof_inner, inner_eof, cons⟩ := h
    exact ⟨fifo, pos_le, len_le, cap_le, fun _ _ => Nat.lt_of_lt_of_le h2 h1, eof_inner, inner_eof, cons⟩
  · obtain ⟨fifo, pos_le, len_le, cap_le, -, eof_inner, inner_eof, cons⟩ := h
    obtain ⟨h1, h2, h3, h4, h5⟩ := Buf.consumed r.buf amt r.base r.max hp len_le _ rfl
    refine ⟨?_, h2, h3, Nat.le_trans h4 cap_le, fun _ hl' => ?_, eof_inner, inner_eof, cons⟩
    · show r.delivered = r.taken ++ r.buf.avail.take amt ++ _
      rw [h1, List.append_assoc, List.take_append_drop]
      exact fifo
    · rw [h5, hl] at hl'
      cases hl'

theorem RSide.consume_ne_wb (r : RSide) (amt : Nat) : (r.consume amt).2 ≠ .err .wb := by
  rcases r.consume_cases amt with ⟨he, -⟩ | ⟨he, -⟩ | ⟨he, -⟩ <;> rw [he] <;> simp

theorem RSide.consume_keeps_lent (r : RSide) (amt : Nat) (h : (r.consume amt).2 ≠ .panic) :
    (r.consume amt).1.buf.lent = r.buf.lent := by
  rcases r.consume_cases amt with ⟨he, -⟩ | ⟨he, -⟩ | ⟨he, -, hp⟩ <;> rw [he] at h
  · exact absurd rfl h
  · exact absurd rfl h
  · rw [he]
    simp only
    split
    · exact Buf.compactTo_lent _ _ _
    · rfl

theorem RSide.fillBuf_ok {r : RSide} {b : Bytes} (h : r.fillBuf = .ok b) :
    b = r.buf.avail ∧ r.buf.lent = false ∧ (r.buf.avail = [] → r.eof = true) := by
  unfold RSide.fillBuf at h
  split at h
  · cases h
  · split at h
    · cases h
    · rename_i hl hw
      cases h
      exact ⟨rfl, by simpa using hl, fun he => by simpa [he] using hw⟩

theorem RSide.read_ok {r : RSide} {n : Nat} {b : Bytes} (h : (r.read n).2 = .ok b) :
    b = r.buf.avail.take n ∧ r.buf.lent = false ∧ (r.buf.avail = [] → r.eof = true) := by
  unfold RSide.read at h
  split at h
  · rename_i av hav
    obtain ⟨rfl, hl, he⟩ := RSide.fillBuf_ok hav
    refine ⟨?_, hl, he⟩
    rcases r.consume_cases (min r.buf.avail.length n) with ⟨hc, -⟩ | ⟨hc, -⟩ | ⟨hc, -⟩ <;> rw [hc] at h <;> cases h
    rw [Nat.min_comm, ← List.take_eq_take_min]
  · cases h
  · cases h

/-- the state in which `fill_read_buf` awaits the inner read -/
def RSide.started (r : RSide) : RSide :=
  { r with buf := { r.buf.compactTo r.base r.max with
      cap := growCap (r.buf.compactTo r.base r.max).data.length (r.buf.compactTo r.base r.max).cap r.base,
      lent := true } }

theorem RSide.fillStart_cases (r : RSide) :
    (r.fillStart = (r, some (.ok 0)) ∧ r.eof = true) ∨
    (r.fillStart = (r, some .panic) ∧ r.eof = false ∧ r.buf.lent = true) ∨
    (r.fillStart = ({ r with buf := r.buf.compactTo r.base r.max }, some (.err .oom)) ∧ r.eof = false ∧
      r.buf.lent = false ∧ r.max ≤ (r.buf.compactTo r.base r.max).data.length) ∨
    (r.fillStart = (r.started, none) ∧ r.eof = false ∧ r.buf.lent = false ∧
      ¬ r.max ≤ (r.buf.compactTo r.base r.max).data.length) := by
  unfold RSide.fillStart RSide.started
  by_cases he : r.eof = true
  · exact .inl ⟨by simp [he], he⟩
  · by_cases hl : r.buf.lent = true
    · exact .inr (.inl ⟨by simp [he, hl], by simpa using he, hl⟩)
    · by_cases hm : r.max ≤ (r.buf.compactTo r.base r.max).data.length
      · exact .inr (.inr (.inl ⟨by simp [he, hl, hm], by simpa using he, by simpa using hl, hm⟩))
      · exact .inr (.inr (.inr ⟨by simp [he, hl, hm], by simpa using he, by simpa using hl, hm⟩))

theorem RInv.compact {C r} (h : RInv C r) (hl : r.buf.lent = false) :
    RInv C { r with buf := r.buf.compactTo r.base r.max } := by
  obtain ⟨fifo, pos_le, len_le, cap_le, -, eof_inner, inner_eof, cons⟩ := h
  refine ⟨?_, by simp [Buf.compactTo_pos], Buf.compactTo_len_le _ _ _ len_le,
    Nat.le_trans (Buf.compactTo_cap_le _ _ _) cap_le, fun _ hl' => ?_, eof_inner, inner_eof, cons⟩
  · show r.delivered = r.taken ++ (r.buf.compactTo r.base r.max).avail
    rw [Buf.compactTo_avail _ _ _ pos_le]
    exact fifo
  · rw [show (r.buf.compactTo r.base r.max).lent = r.buf.lent from Buf.compactTo_lent _ _ _, hl] at hl'
    cases hl'

theorem RInv.started {C r} (h : RInv C r) (hl : r.buf.lent = false)
    (hm : ¬ r.max ≤ (r.buf.compactTo r.base r.max).data.length) : RInv C r.started := by
  obtain ⟨fifo, pos_le, len_le, cap_le, -, eof_inner, inner_eof, cons⟩ := h.compact hl
  obtain ⟨hge, hle, hsp⟩ := growCap_bounds (r.buf.compactTo r.base r.max).data.length (r.buf.compactTo r.base r.max).cap r.base
  have hcap : (r.buf.compactTo r.base r.max).cap ≤ r.base + (r.max - 1) := cap_le
  have hc : _ ≤ r.base + (r.max - 1) := Nat.le_trans (hle len_le) (Nat.max_le.mpr ⟨hcap, by omega⟩)
  exact ⟨fifo, pos_le, Nat.le_trans len_le hge, hc, fun hb _ => hsp hb len_le, eof_inner, inner_eof, cons⟩

theorem RInv.fillStart {C r} (h : RInv C r) : RInv C r.fillStart.1 := by
  rcases r.fillStart_cases with ⟨he, -⟩ | ⟨he, -⟩ | ⟨he, -, hl, -⟩ | ⟨he, -, hl, hm⟩ <;> rw [he]
  · exact h
  · exact h
  · exact h.compact hl
  · exact h.started hl hm

theorem RSide.fillStart_started {r r' : RSide} (h : r.fillStart = (r', none)) :
    r'.eof = false ∧ r'.buf.lent = true := by
  rcases r.fillStart_cases with ⟨he, -⟩ | ⟨he, -⟩ | ⟨he, -⟩ | ⟨he, hf, -⟩ <;> rw [he] at h <;> cases h
  exact ⟨hf, rfl⟩

theorem RInv.fillPoll {C r} (h : RInv C r) (snap : List Nat) (he : r.eof = false) (hl : r.buf.lent = true) :
    RInv C (r.fillPoll snap).1 := by
  have hie : r.innerEof = false := by
    cases hi : r.innerEof
    · rfl
    · have := h.inner_eof hi; simp_all
  rw [RInv.iff] at h ⊢
  obtain ⟨fifo, pos_le, len_le, cap_le, lent_space, eof_inner, inner_eof, cons⟩ := h
  unfold RSide.fillPoll
  split
  · rename_i rest hs
    exact ⟨fifo, pos_le, len_le, cap_le, lent_space, eof_inner, inner_eof, by simpa [hs, content] using cons⟩
  · rename_i rest hs
    simp only [RSide.wake_fields]
    exact ⟨fifo, pos_le, len_le, cap_le, fun _ hf => (nomatch hf), eof_inner, inner_eof, by simpa [hs, content] using cons⟩
  · -- data: as much of `bs` as fits is appended; `Ok(0)` only for an empty `bs` (there is room: `lent_space`)
    rename_i bs rest hs
    simp only [RSide.wake_fields, he, hie, Bool.false_or, beq_iff_eq, List.isEmpty_iff,
      Bool.false_eq_true]
    have hsp : 0 < r.base → min bs.length (r.buf.cap - r.buf.data.length) = 0 → bs = [] := fun hb hn =>
      List.length_eq_zero_iff.mp (by have := lent_space hb hl; omega)
    refine ⟨?_, by simp; omega, by simp; omega, cap_le, by simp, hsp, fun hb => by simp [hb], ?_⟩
    · simp only [Buf.avail]
      rw [List.drop_append_of_le_length pos_le, ← List.append_assoc, ← Buf.avail, ← fifo]
    · rw [hs] at cons
      simp only [hie, content, Bool.false_eq_true, if_false] at cons
      rw [← cons]
      by_cases hbs : bs = []
      · simp [hbs]
      · have hbs' : bs.isEmpty = false := by simpa using hbs
        simp only [hbs, hbs', if_false, Bool.false_eq_true, List.append_assoc, List.append_cancel_left_eq]
        by_cases hn : min bs.length (r.buf.cap - r.buf.data.length) < bs.length
        · have hne : (bs.drop (min bs.length (r.buf.cap - r.buf.data.length))).isEmpty = false := by
            simpa using hn
          simp only [hn, if_true, content, hne, Bool.false_eq_true, if_false]
          rw [← List.append_assoc, List.take_append_drop]
        · simp only [hn, if_false, List.take_of_length_le (Nat.not_lt.mp hn)]
  · rename_i rest hs
    simp only [RSide.wake_fields]
    exact ⟨fifo, pos_le, len_le, cap_le, fun _ hf => (nomatch hf), fun _ _ => trivial, fun _ => trivial,
      by simpa [hs, hie, content] using cons⟩
  · rename_i hs
    simp only [RSide.wake_fields]
    exact ⟨fifo, pos_le, len_le, cap_le, fun _ hf => (nomatch hf), fun _ _ => trivial, fun _ => trivial,
      by simpa [hs, hie, content] using cons⟩

theorem RSide.fillPoll_pending {r r' : RSide} {snap : List Nat} (h : r.fillPoll snap = (r', none)) :
    r'.eof = r.eof ∧ r'.buf = r.buf := by
  unfold RSide.fillPoll at h
  split at h <;> simp at h
  subst h
  simp

theorem RSide.fill_succ (r : RSide) (k : Nat) :
    r.fill (k + 1) = match r.fillStart with
      | (r', some res) => (r', some res)
      | (r', none) => r'.fillDrive (k + 1) := by
  unfold RSide.fill
  rcases r.fillStart with ⟨r', _ | res⟩
  · simp only [RSide.fillDrive]
  · rfl


structure WInv (w : WSide) : Prop where
  /-- what `write` accepted = what reached the inner writer, then what is buffered -/
  fifo : w.accepted = w.sent ++ w.buf.avail
  pos_le : w.buf.pos ≤ w.buf.data.length
  /-- the unsent bytes never exceed `max` (stated without subtraction; `WInv.avail_le`) -/
  pend_le : w.buf.data.length ≤ w.max + w.buf.pos
  len_le : w.buf.data.length ≤ w.buf.cap

theorem WInv.iff {w} : WInv w ↔ (w.accepted = w.sent ++ w.buf.avail ∧ w.buf.pos ≤ w.buf.data.length ∧
    w.buf.data.length ≤ w.max + w.buf.pos ∧ w.buf.data.length ≤ w.buf.cap) :=
  ⟨fun ⟨a, b, c, d⟩ => ⟨a, b, c, d⟩, fun ⟨a, b, c, d⟩ => ⟨a, b, c, d⟩⟩

theorem WInv.new (base max : Nat) (ws : List WItem) : WInv (WSide.new base max ws) := by
  constructor <;> simp [WSide.new, Buf.new, Buf.avail]

theorem WInv.avail_le {w} (h : WInv w) : w.buf.avail.length ≤ w.max := by
  have := h.pend_le
  simp only [Buf.avail, List.length_drop]
  omega

theorem WInv.of_eq {w w' : WSide} (h : WInv w) (he : w'.buf = w.buf ∧ w'.sent = w.sent ∧ w'.accepted = w.accepted ∧
    w'.max = w.max ∧ w'.base = w.base) : WInv w' := by
  rw [WInv.iff] at h ⊢
  rw [he.1, he.2.1, he.2.2.1, he.2.2.2.1]
  exact h

theorem WInv.clearObs {w} (h : WInv w) : WInv w.clearObs := h.of_eq ⟨rfl, rfl, rfl, rfl, rfl⟩

@[simp] theorem WSide.wake_fields (w : WSide) :
    w.wake.buf = w.buf ∧ w.wake.base = w.base ∧ w.wake.max = w.max ∧ w.wake.script = w.script ∧ w.wake.sent = w.sent ∧
    w.wake.accepted = w.accepted ∧ w.wake.log = w.log := by
  unfold WSide.wake
  split <;> simp

theorem WInv.wake {w} (h : WInv w) : WInv w.wake := by
  rw [WInv.iff] at h ⊢
  simpa using h

theorem Buf.extend_avail (b : Buf) (src : Bytes) (h : b.pos ≤ b.data.length) :
    (b.extend src).avail = b.avail ++ src := by
  simp [Buf.extend, Buf.avail, List.drop_append_of_le_length h]

theorem WInv.extend {w : WSide} (h : WInv w) (part : Bytes)
    (hp : w.buf.data.length - w.buf.pos + part.length ≤ w.max) :
    WInv { w with buf := w.buf.extend part, accepted := w.accepted ++ part } := by
  obtain ⟨fifo, pos_le, pend_le, len_le⟩ := h
  constructor
  · simp only; rw [Buf.extend_avail _ _ pos_le, fifo, List.append_assoc]
  · simp [Buf.extend]; omega
  · simp [Buf.extend]; omega
  · simp only [Buf.extend, List.length_append]
    exact growAmortized_ge _ _ _ len_le

theorem WSide.write_cases (w : WSide) (src : Bytes) :
    (w.write src = (w, .err .wb) ∧
      (w.buf.lent = true ∨ w.buf.data ≠ [] ∨ w.max ≤ w.buf.data.length - w.buf.pos)) ∨
    (w.write src = ({ w with buf := { w.buf with lent := true } }, .panic) ∧ w.buf.lent = false ∧
      w.max < w.buf.data.length - w.buf.pos) ∨
    (∃ n, w.write src = ({ w with buf := w.buf.extend (src.take n), accepted := w.accepted ++ src.take n }, .ok n) ∧
      w.buf.lent = false ∧ w.buf.data.length - w.buf.pos + (src.take n).length ≤ w.max ∧ (0 < n ∨ src = [])) := by
  unfold WSide.write
  by_cases hl : w.buf.lent = true
  · exact .inl ⟨by simp [hl], .inl hl⟩
  · by_cases hf : (decide (w.buf.cap * 2 / 3 < w.buf.data.length) && decide (w.buf.data.length ≠ 0)) = true
    · exact .inl ⟨by simp only [hl, hf]; rfl, .inr (.inl (by simp at hf; exact hf.2))⟩
    · simp only [hl, hf, Bool.false_eq_true, if_false]
      by_cases h1 : w.max < w.buf.data.length - w.buf.pos + src.length
      · by_cases h2 : w.max < w.buf.data.length - w.buf.pos
        · exact .inr (.inl ⟨by simp only [h1, h2, if_true], trivial, h2⟩)
        · by_cases h3 : w.max - (w.buf.data.length - w.buf.pos) = 0
          · exact .inl ⟨by simp only [h1, h2, h3, if_true, if_false], .inr (.inr (by omega))⟩
          · refine .inr (.inr ⟨w.max - (w.buf.data.length - w.buf.pos),
              by simp only [h1, h2, h3, if_true, if_false], trivial, ?_, .inl (by omega)⟩)
            rw [List.length_take]; omega
      · refine .inr (.inr ⟨src.length, by simp only [h1, if_false, List.take_length], trivial, ?_, ?_⟩)
        · rw [List.take_length]; omega
        · cases src <;> simp

/-- the bytes of `src` an answer of `write` reports as accepted -/
def resAccepted (src : Bytes) : Res Nat → Bytes
  | .ok n => src.take n
  | _ => []

theorem WSide.write_nopanic {w} (h : WInv w) (src : Bytes) :
    (w.write src).2 ≠ .panic ∧ (w.write src).1.buf.lent = w.buf.lent := by
  have := h.pend_le
  rcases w.write_cases src with ⟨he, -⟩ | ⟨he, -, hm⟩ | ⟨n, he, -⟩ <;> rw [he]
  · exact ⟨by simp, rfl⟩
  · omega
  · exact ⟨by simp, rfl⟩

theorem WSide.write_wb_same (w : WSide) (src : Bytes) (h : (w.write src).2 = .err .wb) : (w.write src).1 = w := by
  rcases w.write_cases src with ⟨he, -⟩ | ⟨he, -⟩ | ⟨n, he, -⟩ <;> rw [he] at h ⊢ <;> cases h

/-- the write buffer is empty and everything accepted has been sent -/
def Flushed (w : WSide) : Prop := w.sent = w.accepted ∧ w.buf.data = [] ∧ w.buf.pos = 0

theorem WSide.write_flushed_ok {w : WSide} (hf : Flushed w) (hl : w.buf.lent = false) (hm : 0 < w.max) (src : Bytes) :
    ∃ n, (w.write src).2 = .ok n := by
  obtain ⟨-, hd, -⟩ := hf
  rcases w.write_cases src with ⟨-, h | h | h⟩ | ⟨-, -, h⟩ | ⟨n, he, -⟩
  · rw [hl] at h; cases h
  · exact absurd hd h
  · rw [hd] at h; simp at h; omega
  · rw [hd] at h; simp at h
  · exact ⟨n, by rw [he]⟩

theorem WSide.write_flushed (w : WSide) (src : Bytes) (hg : resAccepted src (w.write src).2 = []) (hf : Flushed w) :
    Flushed (w.write src).1 := by
  rcases w.write_cases src with ⟨he, -⟩ | ⟨he, -⟩ | ⟨n, he, -⟩ <;> rw [he] at hg ⊢
  · exact hf
  · exact hf
  · simp only [resAccepted] at hg
    simpa [Flushed, Buf.extend, hg] using hf

theorem WSide.write_max0 {w : WSide} (h : WInv w) (hm : w.max = 0) {src : Bytes} (hs : src ≠ []) :
    w.write src = (w, .err .wb) := by
  have hp := h.pend_le
  rcases w.write_cases src with ⟨he, -⟩ | ⟨-, -, h⟩ | ⟨n, -, -, hn, h0⟩
  · exact he
  · omega
  · have : n = 0 := by
      rcases Nat.eq_zero_or_pos n with h | h
      · exact h
      · have := List.length_pos_iff.mpr hs
        rw [List.length_take] at hn
        omega
    rcases h0 with h0 | h0
    · omega
    · exact absurd h0 hs


theorem Flushed.of_eq {w w' : WSide} (hf : Flushed w) (he : w'.buf = w.buf ∧ w'.sent = w.sent ∧ w'.accepted = w.accepted ∧
    w'.max = w.max ∧ w'.base = w.base) : Flushed w' := by
  unfold Flushed at *
  rw [he.1, he.2.1, he.2.2.1]
  exact hf

/-- what the state of a flush future guarantees about the buffer -/
def FutInv (w : WSide) : WFut → Prop
  | .idle => w.buf.lent = false
  | .writing _ => w.buf.lent = true ∧ w.buf.avail ≠ []
  | .flushing _ => w.buf.lent = false

theorem FutInv.of_buf_eq {w w' : WSide} {fut : WFut} (h : FutInv w fut) (hb : w'.buf = w.buf) : FutInv w' fut := by
  cases fut <;> simp_all [FutInv, Buf.avail]

theorem WSide.write_futinv {w} (h : WInv w) (src : Bytes) (fut : WFut) (hf : FutInv w fut) :
    FutInv (w.write src).1 fut := by
  have hl := (WSide.write_nopanic h src).2
  cases fut with
  | idle => exact hl.trans hf
  | flushing t => exact hl.trans hf
  | writing t =>
    have : w.write src = (w, .err .wb) := by simp [WSide.write, hf.1]
    rw [this]; exact hf

theorem WSide.flushTail_same (w : WSide) (snap : List Nat) (t : Nat) :
    (w.flushTail snap t).1.buf = w.buf ∧ (w.flushTail snap t).1.sent = w.sent ∧
    (w.flushTail snap t).1.accepted = w.accepted ∧ (w.flushTail snap t).1.max = w.max ∧
    (w.flushTail snap t).1.base = w.base := by
  unfold WSide.flushTail
  split <;> simp

theorem WSide.flushTail_fut (w : WSide) (snap : List Nat) (t : Nat) :
    ((w.flushTail snap t).2.2 = none → (w.flushTail snap t).2.1 = .flushing t) ∧
    ((w.flushTail snap t).2.2 ≠ none → (w.flushTail snap t).2.1 = .idle) ∧
    (w.flushTail snap t).2.2 ≠ some .panic := by
  unfold WSide.flushTail
  split <;> simp

theorem WInv.compact {w} (h : WInv w) : WInv { w with buf := w.buf.compactTo w.base w.max } := by
  obtain ⟨fifo, pos_le, pend_le, len_le⟩ := h
  constructor
  · simp only; rw [Buf.compactTo_avail _ _ _ pos_le]; exact fifo
  · simp [Buf.compactTo_pos]
  · simp only [Buf.compactTo_pos, Buf.compactTo_length, Buf.avail, List.length_drop]; omega
  · exact Buf.compactTo_len_le _ _ _ len_le

theorem WInv.afterFlushTo {w} (h : WInv w) (snap : List Nat) (t : Nat) : WInv (w.afterFlushTo snap t).1 := by
  unfold WSide.afterFlushTo
  exact h.compact.of_eq (WSide.flushTail_same _ snap t)

theorem WSide.afterFlushTo_flushed {w : WSide} (hi : WInv w) (he : w.buf.avail = []) (snap : List Nat) (t : Nat) :
    Flushed (w.afterFlushTo snap t).1 := by
  unfold WSide.afterFlushTo
  refine Flushed.of_eq ⟨?_, ?_, ?_⟩ (WSide.flushTail_same { w with buf := w.buf.compactTo w.base w.max } snap t)
  · show w.sent = w.accepted
    rw [hi.fifo, he, List.append_nil]
  · show (w.buf.compactTo w.base w.max).data = []
    rw [Buf.compactTo_data _ _ _ hi.pos_le]; exact he
  · exact Buf.compactTo_pos _ _ _

theorem WSide.afterFlushTo_nopanic (w : WSide) (snap : List Nat) (t : Nat) :
    (w.afterFlushTo snap t).2.2 ≠ some .panic ∧ (w.afterFlushTo snap t).1.buf.lent = w.buf.lent := by
  unfold WSide.afterFlushTo
  have hs := WSide.flushTail_same { w with buf := w.buf.compactTo w.base w.max } snap t
  exact ⟨(WSide.flushTail_fut _ snap t).2.2, by rw [hs.1]; exact Buf.compactTo_lent _ _ _⟩

theorem WSide.flushTail_futinv (w : WSide) (snap : List Nat) (t : Nat) (hl : w.buf.lent = false) :
    FutInv (w.flushTail snap t).1 (w.flushTail snap t).2.1 := by
  have hs := WSide.flushTail_same w snap t
  have hf := WSide.flushTail_fut w snap t
  have hl' : (w.flushTail snap t).1.buf.lent = false := by rw [hs.1]; exact hl
  cases ho : (w.flushTail snap t).2.2 with
  | none => rw [hf.1 ho]; exact hl'
  | some r => rw [hf.2.1 (by simp [ho])]; exact hl'

theorem WSide.afterFlushTo_futinv (w : WSide) (snap : List Nat) (t : Nat) (hl : w.buf.lent = false) :
    (w.afterFlushTo snap t).2.2 ≠ some .panic ∧ FutInv (w.afterFlushTo snap t).1 (w.afterFlushTo snap t).2.1 :=
  ⟨(WSide.afterFlushTo_nopanic w snap t).1,
    WSide.flushTail_futinv _ snap t ((Buf.compactTo_lent _ _ _).trans hl)⟩

/-- the state after the inner writer accepted `n` bytes of the offered slice -/
def WSide.afterSend (w : WSide) (n : Nat) : WSide :=
  { w.wake with sent := w.wake.sent ++ w.buf.avail.take n, buf := { w.wake.buf with lent := false },
                log := w.wake.log ++ [.w w.buf.avail.length n] }

theorem WSide.accepted_n_zero (w : WSide) (snap : List Nat) (total : Nat) :
    w.accepted_n snap total 0 = (some (w.afterSend 0, .idle, some (.err .wz)), w.afterSend 0) := by
  simp [WSide.accepted_n, WSide.afterSend]

theorem WSide.accepted_n_adv (w : WSide) (snap : List Nat) (total n : Nat) (hn : n ≠ 0)
    (h : w.buf.pos + n ≤ w.buf.data.length) (hc : w.buf.data.length ≤ w.buf.cap) :
    w.accepted_n snap total n =
      if w.buf.data.length ≤ w.buf.pos + n then
        (some (({ w.afterSend n with buf := ({ (w.afterSend n).buf with pos := w.buf.pos + n } : Buf).reset }).afterFlushTo snap (total + n)),
         w.afterSend n)
      else (none, { w.afterSend n with buf := { (w.afterSend n).buf with pos := w.buf.pos + n } }) := by
  have h1 : ¬ w.buf.cap < w.buf.pos + n := by omega
  have h2 : ¬ w.buf.data.length < w.buf.pos + n := by omega
  have hadv := Buf.advance_ok (b := { w.wake.buf with lent := false }) (amt := n) (by simpa using h1) (by simpa using h2)
  simp only [WSide.accepted_n, hn, if_false, hadv, WSide.afterSend]
  simp

theorem WInv.afterSend_adv {w} (h : WInv w) (n : Nat) (hn : w.buf.pos + n ≤ w.buf.data.length) :
    WInv { w.afterSend n with buf := { (w.afterSend n).buf with pos := w.buf.pos + n } } := by
  obtain ⟨fifo, pos_le, pend_le, len_le⟩ := h
  constructor
  · simp only [WSide.afterSend, WSide.wake_fields, Buf.avail]
    rw [fifo, Buf.avail, List.append_assoc]
    congr 1
    rw [← List.drop_drop, List.take_append_drop]
  · simpa [WSide.afterSend] using hn
  · simp [WSide.afterSend]; omega
  · simpa [WSide.afterSend] using len_le

theorem WInv.afterSend_zero {w} (h : WInv w) : WInv (w.afterSend 0) :=
  (h.afterSend_adv 0 (by have := h.pos_le; omega)).of_eq ⟨by simp [WSide.afterSend], rfl, rfl, rfl, rfl⟩

theorem WInv.afterSend_reset {w} (h : WInv w) (n : Nat) (hn : w.buf.pos + n = w.buf.data.length) :
    WInv { w.afterSend n with buf := ({ (w.afterSend n).buf with pos := w.buf.pos + n } : Buf).reset } ∧
    ({ w.afterSend n with buf := ({ (w.afterSend n).buf with pos := w.buf.pos + n } : Buf).reset } : WSide).buf.avail = [] := by
  have hi := h.afterSend_adv n (by omega)
  obtain ⟨fifo, pos_le, pend_le, len_le⟩ := hi
  have hav : ({ (w.afterSend n).buf with pos := w.buf.pos + n } : Buf).avail = [] := by
    simp [Buf.avail, WSide.afterSend]; omega
  refine ⟨?_, by simp [Buf.reset, Buf.avail]⟩
  constructor
  · simp only [Buf.reset, Buf.avail, List.drop_nil, List.append_nil]
    simp only [hav, List.append_nil] at fifo
    exact fifo
  · simp [Buf.reset]
  · simp [Buf.reset]
  · simp [Buf.reset]

/-- postcondition of a poll of the flush future -/
def FlushPost (x : WSide × WFut × Option (Res Nat)) : Prop :=
  ((∃ m, x.2.2 = some (.ok m)) ∨ (∃ t, x.2.1 = .flushing t)) → Flushed x.1

theorem WInv.accepted_n_all {w : WSide} (h : WInv w) (snap : List Nat) (total n : Nat) (hn : n ≠ 0)
    (hd : w.buf.pos + n = w.buf.data.length) :
    ∃ x, (w.accepted_n snap total n).1 = some x ∧ WInv x.1 ∧ Flushed x.1 ∧ x.2.2 ≠ some .panic ∧ FutInv x.1 x.2.1 := by
  rw [WSide.accepted_n_adv _ _ _ _ hn (Nat.le_of_eq hd) h.len_le, if_pos (Nat.le_of_eq hd.symm)]
  obtain ⟨hr, he⟩ := h.afterSend_reset n hd
  exact ⟨_, rfl, hr.afterFlushTo _ _, WSide.afterFlushTo_flushed hr he _ _, WSide.afterFlushTo_futinv _ snap _ rfl⟩

theorem WInv.writeLoop (snap : List Nat) : ∀ (script : List WItem) {w : WSide} (total : Nat), WInv w →
    WInv (w.writeLoop snap total script).1 ∧ FlushPost (w.writeLoop snap total script) ∧
    (w.buf.avail ≠ [] → (w.writeLoop snap total script).2.2 ≠ some .panic ∧
      FutInv (w.writeLoop snap total script).1 (w.writeLoop snap total script).2.1)
  | [], w, total, h => by
    unfold WSide.writeLoop
    have hw : WInv { w with script := [] } := h.of_eq ⟨rfl, rfl, rfl, rfl, rfl⟩
    by_cases h0 : w.buf.avail.length = 0
    · rw [h0, WSide.accepted_n_zero]
      exact ⟨hw.afterSend_zero, by simp [FlushPost], fun hne => absurd (List.length_eq_zero_iff.mp h0) hne⟩
    · have hlen : w.buf.pos + w.buf.avail.length = w.buf.data.length := by
        have := h.pos_le; simp [Buf.avail]; omega
      obtain ⟨x, hx, h1, h2, h3⟩ := hw.accepted_n_all snap total _ h0 hlen
      rw [show ({ w with script := [] } : WSide).accepted_n snap total w.buf.avail.length = (some x, _) from
        Prod.ext hx rfl]
      exact ⟨h1, fun _ => h2, fun _ => h3⟩
  | .p :: rest, w, total, h => by
    unfold WSide.writeLoop
    exact ⟨by rw [WInv.iff] at h ⊢; exact h, by simp [FlushPost], fun hne => ⟨by simp, rfl, hne⟩⟩
  | .e :: rest, w, total, h => by
    unfold WSide.writeLoop
    exact ⟨by rw [WInv.iff] at h ⊢; simpa [Buf.avail] using h, by simp [FlushPost], fun _ => ⟨by simp, by simp [FutInv]⟩⟩
  | .w k :: rest, w, total, h => by
    unfold WSide.writeLoop
    have hw : WInv { w with script := rest } := h.of_eq ⟨rfl, rfl, rfl, rfl, rfl⟩
    by_cases h0 : min k w.buf.avail.length = 0
    · rw [h0, WSide.accepted_n_zero]
      exact ⟨hw.afterSend_zero, by simp [FlushPost], fun _ => ⟨by simp, by simp [WSide.afterSend, FutInv]⟩⟩
    · have hav : w.buf.avail.length = w.buf.data.length - w.buf.pos := by simp [Buf.avail]
      have hle : w.buf.pos + min k w.buf.avail.length ≤ w.buf.data.length := by have := h.pos_le; omega
      by_cases hd : w.buf.pos + min k w.buf.avail.length = w.buf.data.length
      · obtain ⟨x, hx, h1, h2, h3⟩ := hw.accepted_n_all snap total _ h0 hd
        rw [show ({ w with script := rest } : WSide).accepted_n snap total (min k w.buf.avail.length) = (some x, _) from
          Prod.ext hx rfl]
        exact ⟨h1, fun _ => h2, fun _ => h3⟩
      · rw [WSide.accepted_n_adv _ _ _ _ h0 (by exact hle) (by simpa using h.len_le), if_neg (by simp only; omega)]
        have ih := WInv.writeLoop snap rest (total + min k w.buf.avail.length) (hw.afterSend_adv _ hle)
        refine ⟨ih.1, ih.2.1, fun _ => ih.2.2 ?_⟩
        simp only [Buf.avail, WSide.afterSend, WSide.wake_fields, ne_eq, List.drop_eq_nil_iff, Nat.not_le]
        omega

theorem WInv.flushBegin {w} (h : WInv w) (snap : List Nat) :
    WInv (w.flushBegin snap).1 ∧ FlushPost (w.flushBegin snap) ∧
    (w.buf.lent = false → (w.flushBegin snap).2.2 ≠ some .panic ∧ FutInv (w.flushBegin snap).1 (w.flushBegin snap).2.1) := by
  unfold WSide.flushBegin
  split
  · rename_i hl
    exact ⟨h, by simp [FlushPost], fun hf => by rw [hl] at hf; cases hf⟩
  · split
    · rename_i he
      exact ⟨h.afterFlushTo _ _, fun _ => WSide.afterFlushTo_flushed h (by simpa using he) _ _,
        fun hl => WSide.afterFlushTo_futinv w snap 0 hl⟩
    · rename_i hne
      have := WInv.writeLoop snap w.script 0 h
      exact ⟨this.1, this.2.1, fun _ => this.2.2 (by simpa using hne)⟩

/-- a future suspended in the inner `flush()` has emptied the buffer -/
def FutOK (w : WSide) (fut : WFut) : Prop := ∀ t, fut = .flushing t → Flushed w

theorem WInv.flushResume {w} (h : WInv w) (snap : List Nat) (fut : WFut) :
    WInv (w.flushResume snap fut).1 ∧ (FutOK w fut → FlushPost (w.flushResume snap fut)) := by
  cases fut with
  | idle => exact ⟨(h.flushBegin snap).1, fun _ => (h.flushBegin snap).2.1⟩
  | writing t => exact ⟨(WInv.writeLoop snap w.script t h).1, fun _ => (WInv.writeLoop snap w.script t h).2.1⟩
  | flushing t =>
    have hs := WSide.flushTail_same w snap t
    exact ⟨h.of_eq hs, fun hf _ => (hf t rfl).of_eq hs⟩

theorem WSide.flushResume_nopanic {w} (h : WInv w) (snap : List Nat) (fut : WFut) (hf : FutInv w fut) :
    (w.flushResume snap fut).2.2 ≠ some .panic ∧ FutInv (w.flushResume snap fut).1 (w.flushResume snap fut).2.1 := by
  cases fut with
  | idle => exact (h.flushBegin snap).2.2 hf
  | writing t => exact (WInv.writeLoop snap w.script t h).2.2 hf.2
  | flushing t => exact ⟨(WSide.flushTail_fut w snap t).2.2, WSide.flushTail_futinv w snap t hf⟩

theorem WSide.flushResume_flushing_buf (w : WSide) (snap : List Nat) (t : Nat) :
    (w.flushResume snap (.flushing t)).1.buf = w.buf ∧ (w.flushResume snap (.flushing t)).1.sent = w.sent ∧
    (w.flushResume snap (.flushing t)).1.accepted = w.accepted := by
  have := WSide.flushTail_same w snap t
  exact ⟨this.1, this.2.1, this.2.2.1⟩


/-- the wake-related observations of a half: the snapshot parked in the inner stream, the tasks
woken during the current call, whether the parked future completed during the current call -/
structure Obs where
  parked : Option (List Nat)
  woken : List Nat
  event : Bool

def robs (r : RSide) : Obs := ⟨r.parked, r.woken, r.event⟩
def wobs (w : WSide) : Obs := ⟨w.parked, w.woken, w.event⟩

def Obs.wake (o : Obs) : Obs :=
  match o.parked with
  | some s => ⟨none, o.woken ++ s, true⟩
  | none => o

theorem robs_wake (r : RSide) : robs r.wake = (robs r).wake := by
  cases h : r.parked <;> simp [RSide.wake, Obs.wake, robs, h]

theorem wobs_wake (w : WSide) : wobs w.wake = (wobs w).wake := by
  cases h : w.parked <;> simp [WSide.wake, Obs.wake, wobs, h]

/-- during a call that started with snapshot `P0` parked: nothing parked anew; either nothing
happened to the inner future yet, or it completed once and woke `P0` -/
inductive Settled (P0 : Option (List Nat)) : Obs → Prop where
  | untouched : Settled P0 ⟨P0, [], false⟩
  | completed : Settled P0 ⟨none, P0.getD [], P0.isSome⟩

/-- the inner future has just been parked with snapshot `snap` (and the call returns Pending) -/
inductive Parked (P0 : Option (List Nat)) (snap : List Nat) : Obs → Prop where
  | fresh : Parked P0 snap ⟨some snap, [], false⟩
  | again : Parked P0 snap ⟨some snap, P0.getD [], P0.isSome⟩

theorem Settled.wake {P0 o} (h : Settled P0 o) : Settled P0 o.wake := by
  cases h with
  | untouched =>
    cases P0 with
    | none => exact Settled.untouched
    | some s => simpa [Obs.wake] using (Settled.completed (P0 := some s))
  | completed => simpa [Obs.wake] using (Settled.completed (P0 := P0))

theorem Settled.park {P0 o} (h : Settled P0 o) (snap : List Nat) :
    Parked P0 snap ⟨some snap, o.woken, o.event⟩ := by
  cases h with
  | untouched => exact Parked.fresh
  | completed => exact Parked.again

/-- outcome of something that polls the inner stream: Pending ⇒ parked with `snap`, otherwise settled -/
def PollOutcome (P0 : Option (List Nat)) (snap : List Nat) (pending : Bool) (o : Obs) : Prop :=
  if pending then Parked P0 snap o else Settled P0 o

theorem PollOutcome.true_iff {P0 snap o} : PollOutcome P0 snap true o ↔ Parked P0 snap o := Iff.rfl

theorem PollOutcome.false_iff {P0 snap o} : PollOutcome P0 snap false o ↔ Settled P0 o := Iff.rfl


/-- `accepted` and the configuration are untouched; a poll that produces a result leaves no future
behind; it returns Pending exactly when the inner writer was parked with `snap` -/
def FlushFrame (snap : List Nat) (w : WSide) (x : WSide × WFut × Option (Res Nat)) : Prop :=
  x.1.accepted = w.accepted ∧ x.1.max = w.max ∧ x.1.base = w.base ∧ (x.2.2 ≠ none → x.2.1 = .idle) ∧
  ∀ P0, Settled P0 (wobs w) → PollOutcome P0 snap x.2.2.isNone (wobs x.1)

theorem FlushFrame.of_eq {snap} {w w' : WSide} {x} (h : FlushFrame snap w' x) (ha : w'.accepted = w.accepted)
    (hm : w'.max = w.max) (hb : w'.base = w.base) (ho : ∀ P0, Settled P0 (wobs w) → Settled P0 (wobs w')) :
    FlushFrame snap w x :=
  ⟨h.1.trans ha, h.2.1.trans hm, h.2.2.1.trans hb, h.2.2.2.1, fun P0 hs => h.2.2.2.2 P0 (ho P0 hs)⟩

theorem Settled.wwake {P0} {w : WSide} (h : Settled P0 (wobs w)) : Settled P0 (wobs w.wake) := by
  rw [wobs_wake]
  exact h.wake

theorem WSide.flushTail_frame (w : WSide) (snap : List Nat) (t : Nat) : FlushFrame snap w (w.flushTail snap t) := by
  have hs := WSide.flushTail_same w snap t
  refine ⟨hs.2.2.1, hs.2.2.2.1, hs.2.2.2.2, (WSide.flushTail_fut w snap t).2.1, fun P0 h => ?_⟩
  have hw := h.wwake
  unfold WSide.flushTail
  split
  · exact PollOutcome.true_iff.2 (h.park snap)
  · exact PollOutcome.false_iff.2 hw
  · exact PollOutcome.false_iff.2 hw
  · exact PollOutcome.false_iff.2 hw

theorem WSide.afterFlushTo_frame (w : WSide) (snap : List Nat) (t : Nat) : FlushFrame snap w (w.afterFlushTo snap t) :=
  WSide.flushTail_frame { w with buf := w.buf.compactTo w.base w.max } snap t

theorem WSide.afterSend_frame (w : WSide) (n : Nat) :
    (w.afterSend n).accepted = w.accepted ∧ (w.afterSend n).max = w.max ∧ (w.afterSend n).base = w.base := by
  simp [WSide.afterSend]

/-- a state that differs from `w` only in what `FlushFrame` does not look at, the inner writer having completed -/
def SentFrom (w w' : WSide) : Prop :=
  w'.accepted = w.accepted ∧ w'.max = w.max ∧ w'.base = w.base ∧ wobs w' = wobs w.wake

theorem SentFrom.done {snap} {w w' : WSide} (h : SentFrom w w') (res : Res Nat) : FlushFrame snap w (w', .idle, some res) :=
  ⟨h.1, h.2.1, h.2.2.1, fun _ => rfl, fun _ hs => PollOutcome.false_iff.2 (h.2.2.2 ▸ hs.wwake)⟩

theorem WSide.accepted_n_frame (w : WSide) (snap : List Nat) (total n : Nat) :
    (∀ x, (w.accepted_n snap total n).1 = some x → FlushFrame snap w x) ∧ SentFrom w (w.accepted_n snap total n).2 := by
  have key : ∀ b : Buf, SentFrom w ({ w.wake with
      sent := w.wake.sent ++ w.buf.avail.take n, buf := b, log := w.wake.log ++ [Io.w w.buf.avail.length n] } : WSide) :=
    fun b => ⟨by simp, by simp, by simp, rfl⟩
  unfold WSide.accepted_n
  simp only
  split
  · exact ⟨fun x hx => by cases hx; exact (key _).done _, key _⟩
  · split
    · exact ⟨fun x hx => by cases hx; exact (key _).done _, key _⟩
    · exact ⟨fun x hx => by cases hx; exact (key _).done _, key _⟩
    · split
      · refine ⟨fun x hx => ?_, key _⟩
        cases hx
        obtain ⟨h1, h2, h3, h4⟩ := key (Buf.reset _)
        exact (WSide.afterFlushTo_frame _ snap _).of_eq h1 h2 h3 (fun P0 hs => h4 ▸ hs.wwake)
      · exact ⟨fun x hx => (nomatch hx), key _⟩

theorem WSide.writeLoop_frame (snap : List Nat) : ∀ (script : List WItem) (w : WSide) (total : Nat),
    FlushFrame snap w (w.writeLoop snap total script)
  | [], w, total => by
    unfold WSide.writeLoop
    have := WSide.accepted_n_frame ({ w with script := [] }) snap total w.buf.avail.length
    rcases hq : ({ w with script := [] } : WSide).accepted_n snap total w.buf.avail.length with ⟨_ | r, w'⟩ <;>
      rw [hq] at this
    · exact SentFrom.done this.2 _
    · exact this.1 r rfl
  | .p :: rest, w, total => by
    unfold WSide.writeLoop
    exact ⟨rfl, rfl, rfl, fun h => absurd rfl h, fun P0 hs => PollOutcome.true_iff.2 (hs.park snap)⟩
  | .e :: rest, w, total => by
    unfold WSide.writeLoop
    exact SentFrom.done (w := w) ⟨by simp, by simp, by simp, by simp [wobs]⟩ _
  | .w k :: rest, w, total => by
    unfold WSide.writeLoop
    have := WSide.accepted_n_frame ({ w with script := rest }) snap total (min k w.buf.avail.length)
    rcases hq : ({ w with script := rest } : WSide).accepted_n snap total (min k w.buf.avail.length) with ⟨_ | r, w'⟩ <;>
      rw [hq] at this
    · exact (WSide.writeLoop_frame snap rest w' _).of_eq this.2.1 this.2.2.1 this.2.2.2.1
        (fun P0 hs => this.2.2.2.2 ▸ Settled.wwake (w := { w with script := rest }) hs)
    · exact this.1 r rfl

theorem WSide.flushResume_frame (w : WSide) (snap : List Nat) (fut : WFut) : FlushFrame snap w (w.flushResume snap fut) := by
  cases fut with
  | idle =>
    simp only [WSide.flushResume, WSide.flushBegin]
    split
    · exact ⟨rfl, rfl, rfl, fun _ => rfl, fun P0 hs => PollOutcome.false_iff.2 hs⟩
    · split
      · exact WSide.afterFlushTo_frame w snap 0
      · exact WSide.writeLoop_frame snap w.script w 0
  | writing t => exact WSide.writeLoop_frame snap w.script w t
  | flushing t => exact WSide.flushTail_frame w snap t

theorem WSide.flushResume_idle (w : WSide) (snap : List Nat) (fut : WFut) :
    (w.flushResume snap fut).2.2 ≠ none → (w.flushResume snap fut).2.1 = .idle :=
  (WSide.flushResume_frame w snap fut).2.2.2.1

theorem WInv.flushDrive : ∀ (k : Nat) {w : WSide} (fut : WFut), WInv w → FutOK w fut →
    WInv (w.flushDrive fut k).1 ∧ (∀ m, (w.flushDrive fut k).2 = some (.ok m) → Flushed (w.flushDrive fut k).1) ∧
    (FutInv w fut → (w.flushDrive fut k).2 ≠ some .panic ∧
      ((w.flushDrive fut k).2 ≠ none → (w.flushDrive fut k).1.buf.lent = false))
  | 0, w, fut, h, _ => by simpa [WSide.flushDrive] using h
  | k + 1, w, fut, h, hf => by
    unfold WSide.flushDrive
    have hp := h.flushResume [driverTask] fut
    have hn := WSide.flushResume_nopanic h [driverTask] fut
    have hidle := WSide.flushResume_idle w [driverTask] fut
    rcases hq : w.flushResume [driverTask] fut with ⟨w', fut', _ | res⟩ <;> rw [hq] at hp hn hidle
    · have ih := WInv.flushDrive k fut' hp.1 (fun t ht => hp.2 hf (.inr ⟨t, ht⟩))
      exact ⟨ih.1, ih.2.1, fun hfi => ih.2.2 (hn hfi).2⟩
    · refine ⟨hp.1, fun m hm => hp.2 hf (.inl ⟨m, by simpa using hm⟩), fun hfi => ⟨by simpa using (hn hfi).1, fun _ => ?_⟩⟩
      have := (hn hfi).2
      rw [show fut' = .idle from hidle (by simp)] at this
      exact this

theorem WSide.shutdownPoll_same (w : WSide) (snap : List Nat) :
    (w.shutdownPoll snap).1.buf = w.buf ∧ (w.shutdownPoll snap).1.sent = w.sent ∧
    (w.shutdownPoll snap).1.accepted = w.accepted ∧ (w.shutdownPoll snap).1.max = w.max ∧
    (w.shutdownPoll snap).1.base = w.base := by
  unfold WSide.shutdownPoll
  split <;> simp

theorem WSide.shutdownPoll_nopanic (w : WSide) (snap : List Nat) : (w.shutdownPoll snap).2 ≠ some .panic := by
  unfold WSide.shutdownPoll
  split <;> simp


theorem WInv.flush {w} (h : WInv w) (budget : Nat) :
    WInv (w.flush budget).1 ∧ (∀ m, (w.flush budget).2 = some (.ok m) → Flushed (w.flush budget).1) :=
  have := h.flushDrive budget .idle (by intro t ht; cases ht)
  ⟨this.1, this.2.1⟩


def resBytes : Res Bytes → Bytes
  | .ok b => b
  | _ => []

/-- `r'` is reached from `r` by calls of the read half that handed the bytes `got` to the caller: the
invariant is kept (whatever the stream content `C`), `taken` grows by `got`, the configuration is constant -/
structure RSide.Ok (r r' : RSide) (got : Bytes := []) : Prop where
  inv : ∀ {C}, RInv C r → RInv C r'
  taken : r'.taken = r.taken ++ got
  base : r'.base = r.base
  max : r'.max = r.max

theorem RSide.Ok.of {r r' : RSide} {got} (hi : ∀ {C}, RInv C r → RInv C r')
    (h : r'.taken = r.taken ++ got ∧ r'.base = r.base ∧ r'.max = r.max) : RSide.Ok r r' got := ⟨hi, h.1, h.2.1, h.2.2⟩

theorem RSide.Ok.refl (r : RSide) : RSide.Ok r r := ⟨id, (List.append_nil _).symm, rfl, rfl⟩

theorem RSide.Ok.trans {a b c : RSide} {g1 g2} (h1 : RSide.Ok a b g1) (h2 : RSide.Ok b c g2) : RSide.Ok a c (g1 ++ g2) :=
  ⟨fun h => h2.inv (h1.inv h), by rw [h2.taken, h1.taken, List.append_assoc], h2.base.trans h1.base, h2.max.trans h1.max⟩

theorem RSide.Ok.cleared {r r' : RSide} {got} (f : RSide.Ok r.clearObs r' got) : RSide.Ok r r' got :=
  ⟨fun h => f.inv h.clearObs, f.taken, f.base, f.max⟩

theorem RSide.Ok.consume (r : RSide) (amt : Nat) : RSide.Ok r (r.consume amt).1 (resBytes (r.consume amt).2) := by
  refine .of (fun h => h.consume amt) ?_
  rcases r.consume_cases amt with ⟨he, -⟩ | ⟨he, -⟩ | ⟨he, -⟩ <;> rw [he]
  · exact ⟨(List.append_nil _).symm, rfl, rfl⟩
  · exact ⟨(List.append_nil _).symm, rfl, rfl⟩
  · exact ⟨rfl, rfl, rfl⟩

theorem RSide.Ok.read (r : RSide) (n : Nat) : RSide.Ok r (r.read n).1 (resBytes (r.read n).2) := by
  unfold RSide.read
  split
  · exact .consume r _
  · exact .refl r
  · exact .refl r

theorem RSide.fillStart_frame (r : RSide) :
    r.fillStart.1.taken = r.taken ∧ r.fillStart.1.base = r.base ∧ r.fillStart.1.max = r.max ∧ robs r.fillStart.1 = robs r := by
  rcases r.fillStart_cases with ⟨he, -⟩ | ⟨he, -⟩ | ⟨he, -⟩ | ⟨he, -⟩ <;> rw [he] <;> exact ⟨rfl, rfl, rfl, rfl⟩

theorem RSide.fillPoll_frame (r : RSide) (snap : List Nat) :
    (r.fillPoll snap).1.taken = r.taken ∧ (r.fillPoll snap).1.base = r.base ∧ (r.fillPoll snap).1.max = r.max := by
  unfold RSide.fillPoll
  split <;> simp

theorem RSide.fillPoll_nopanic (r : RSide) (snap : List Nat) :
    (r.fillPoll snap).2 ≠ some .panic ∧ ((r.fillPoll snap).2 ≠ none → (r.fillPoll snap).1.buf.lent = false) := by
  unfold RSide.fillPoll
  split <;> simp

theorem RSide.Ok.fillStart (r : RSide) : RSide.Ok r r.fillStart.1 :=
  have h := r.fillStart_frame
  ⟨fun hi => hi.fillStart, by rw [List.append_nil]; exact h.1, h.2.1, h.2.2.1⟩

theorem RSide.fillDrive_ok : ∀ (k : Nat) (r : RSide),
    (r.eof = false → r.buf.lent = true → RSide.Ok r (r.fillDrive k).1) ∧
    (r.fillDrive k).2 ≠ some .panic ∧ ((r.fillDrive k).2 ≠ none → (r.fillDrive k).1.buf.lent = false)
  | 0, r => ⟨fun _ _ => .refl r, by simp [RSide.fillDrive]⟩
  | k + 1, r => by
    unfold RSide.fillDrive
    have hp : r.eof = false → r.buf.lent = true → RSide.Ok r (r.fillPoll [driverTask]).1 := fun he hl =>
      .of (fun h => h.fillPoll _ he hl) (by rw [List.append_nil]; exact r.fillPoll_frame _)
    have hn := RSide.fillPoll_nopanic r [driverTask]
    rcases hq : r.fillPoll [driverTask] with ⟨r', _ | res⟩ <;> rw [hq] at hp hn
    · have hpe := RSide.fillPoll_pending hq
      have ih := RSide.fillDrive_ok k r'
      exact ⟨fun he hl => (hp he hl).trans (ih.1 (hpe.1.trans he) (by rw [hpe.2]; exact hl)), ih.2⟩
    · exact ⟨hp, hn⟩

theorem RSide.Ok.fill (r : RSide) (budget : Nat) : RSide.Ok r (r.fill budget).1 := by
  cases budget with
  | zero => exact .refl r
  | succ k =>
    rw [RSide.fill_succ]
    have hs := RSide.Ok.fillStart r
    rcases hq : r.fillStart with ⟨r', _ | res⟩ <;> rw [hq] at hs
    · exact hs.trans ((RSide.fillDrive_ok (k + 1) r').1 (RSide.fillStart_started hq).1 (RSide.fillStart_started hq).2)
    · exact hs

/-- the same for the write half and the bytes `got` accepted from the caller -/
structure WSide.Ok (w w' : WSide) (got : Bytes := []) : Prop where
  inv : WInv w → WInv w'
  acc : w'.accepted = w.accepted ++ got
  base : w'.base = w.base
  max : w'.max = w.max

theorem WSide.Ok.of {w w' : WSide} {got} (hi : WInv w → WInv w')
    (h : w'.accepted = w.accepted ++ got ∧ w'.base = w.base ∧ w'.max = w.max) : WSide.Ok w w' got := ⟨hi, h.1, h.2.1, h.2.2⟩

theorem WSide.Ok.refl (w : WSide) : WSide.Ok w w := ⟨id, (List.append_nil _).symm, rfl, rfl⟩

theorem WSide.Ok.trans {a b c : WSide} {g1 g2} (h1 : WSide.Ok a b g1) (h2 : WSide.Ok b c g2) : WSide.Ok a c (g1 ++ g2) :=
  ⟨fun h => h2.inv (h1.inv h), by rw [h2.acc, h1.acc, List.append_assoc], h2.base.trans h1.base, h2.max.trans h1.max⟩

theorem WSide.Ok.cleared {w w' : WSide} {got} (f : WSide.Ok w.clearObs w' got) : WSide.Ok w w' got :=
  ⟨fun h => f.inv h.clearObs, f.acc, f.base, f.max⟩

theorem WSide.Ok.write (w : WSide) (src : Bytes) : WSide.Ok w (w.write src).1 (resAccepted src (w.write src).2) := by
  rcases w.write_cases src with ⟨he, -⟩ | ⟨he, -⟩ | ⟨n, he, -, hn, -⟩ <;> rw [he]
  · exact .refl w
  · exact ⟨fun h => by rw [WInv.iff] at h ⊢; exact h, (List.append_nil _).symm, rfl, rfl⟩
  · exact ⟨fun h => h.extend _ hn, rfl, rfl, rfl⟩

theorem WSide.flushDrive_frame : ∀ (k : Nat) (w : WSide) (fut : WFut),
    (w.flushDrive fut k).1.accepted = w.accepted ∧ (w.flushDrive fut k).1.max = w.max ∧
    (w.flushDrive fut k).1.base = w.base
  | 0, w, fut => ⟨rfl, rfl, rfl⟩
  | k + 1, w, fut => by
    unfold WSide.flushDrive
    have hp := WSide.flushResume_frame w [driverTask] fut
    rcases hq : w.flushResume [driverTask] fut with ⟨w', fut', _ | res⟩ <;> rw [hq] at hp
    · have := WSide.flushDrive_frame k w' fut'
      exact ⟨this.1.trans hp.1, this.2.1.trans hp.2.1, this.2.2.trans hp.2.2.1⟩
    · exact ⟨hp.1, hp.2.1, hp.2.2.1⟩

theorem WSide.Ok.flush (w : WSide) (budget : Nat) : WSide.Ok w (w.flush budget).1 :=
  have := WSide.flushDrive_frame budget w .idle
  ⟨fun h => (h.flush budget).1, by rw [List.append_nil]; exact this.1, this.2.2, this.2.1⟩

theorem RSide.consume_nopanic {C r} (h : RInv C r) (amt : Nat) (hl : r.buf.lent = false)
    (ha : amt ≤ r.buf.avail.length) :
    (r.consume amt).2 ≠ .panic ∧ (r.consume amt).1.buf.lent = false := by
  have hp := h.pos_le
  have hc := h.len_le
  simp only [Buf.avail, List.length_drop] at ha
  have hne : (r.consume amt).2 ≠ .panic := by
    rcases r.consume_cases amt with ⟨-, h1 | h1⟩ | ⟨-, -, h1, -⟩ | ⟨he, -⟩
    · rw [hl] at h1; cases h1
    · omega
    · omega
    · rw [he]; simp
  exact ⟨hne, (r.consume_keeps_lent amt hne).trans hl⟩

theorem RSide.read_nopanic {C r} (h : RInv C r) (n : Nat) (hl : r.buf.lent = false) :
    (r.read n).2 ≠ .panic ∧ (r.read n).1.buf.lent = false := by
  unfold RSide.read RSide.fillBuf
  simp only [hl, Bool.false_eq_true, if_false]
  split
  · rename_i av hav
    split at hav
    · simp at hav
    · simp only [Res.ok.injEq] at hav
      subst hav
      exact RSide.consume_nopanic h _ hl (Nat.min_le_left _ _)
  · exact ⟨by simp, hl⟩
  · rename_i hav
    split at hav <;> simp at hav

theorem RSide.fill_nopanic (r : RSide) (budget : Nat) (hl : r.buf.lent = false) :
    (r.fill budget).2 ≠ some .panic ∧ ((r.fill budget).2 ≠ none → (r.fill budget).1.buf.lent = false) := by
  cases budget with
  | zero => simp [RSide.fill]
  | succ k =>
    rw [RSide.fill_succ]
    rcases r.fillStart_cases with ⟨he, -⟩ | ⟨he, -, hl'⟩ | ⟨he, -⟩ | ⟨he, -⟩ <;> rw [he]
    · exact ⟨by simp, fun _ => hl⟩
    · rw [hl] at hl'; cases hl'
    · exact ⟨by simp, fun _ => (Buf.compactTo_lent _ _ _).trans hl⟩
    · exact (RSide.fillDrive_ok (k + 1) r.started).2


/-- invariant of a whole `SyncStream`; `C` = what the inner reader delivers before its end -/
def Inv (C : Bytes) (s : State) : Prop := RInv C s.r ∧ WInv s.w

theorem Inv.new (base max : Nat) (rs : List RItem) (ws : List WItem) :
    Inv (content rs) (State.new base max rs ws) :=
  ⟨RInv.new base max rs, WInv.new base max ws⟩

theorem Out.taken_ofBytes (n : Nat) (res : Res Bytes) :
    Out.taken (.read n) (Out.ofBytes res) = resBytes res ∧ Out.taken (.rbu n) (Out.ofBytes res) = resBytes res ∧
    Out.taken (.consume n) (Out.ofBytes res) = resBytes res := by
  cases res <;> exact ⟨rfl, rfl, rfl⟩

theorem Out.acceptedOf_ofNum (bs : Bytes) (res : Res Nat) :
    Out.acceptedOf (.write bs) (Out.ofNum res) = resAccepted bs res := by
  cases res <;> rfl

/-- `s'` is reached from `s` by operations in which the caller received the bytes `tk` and the stream accepted `ac` -/
structure SOK (s s' : State) (tk ac : Bytes) : Prop where
  r : RSide.Ok s.r s'.r tk
  w : WSide.Ok s.w s'.w ac

theorem SOK.trans {s1 s2 s3 : State} {t1 t2 a1 a2} (h1 : SOK s1 s2 t1 a1) (h2 : SOK s2 s3 t2 a2) :
    SOK s1 s3 (t1 ++ t2) (a1 ++ a2) := ⟨h1.r.trans h2.r, h1.w.trans h2.w⟩

theorem step_ok (s : State) (op : Op) : SOK s (step s op).1 (Out.taken op (step s op).2) (Out.acceptedOf op (step s op).2) := by
  have same : SOK s { s with r := s.r.clearObs, w := s.w.clearObs } [] [] := ⟨.cleared (.refl _), .cleared (.refl _)⟩
  unfold SyncStream.step
  simp only
  split
  · cases op <;> exact same
  · cases op with
    | read n => exact ⟨by rw [(Out.taken_ofBytes n _).1]; exact .cleared (.read _ n), same.w⟩
    | rbu n => exact ⟨by rw [(Out.taken_ofBytes n _).2.1]; exact .cleared (.read _ n), same.w⟩
    | fillbuf => exact same
    | consume n => exact ⟨by rw [(Out.taken_ofBytes n _).2.2]; exact .cleared (.consume _ n), same.w⟩
    | write bs => exact ⟨same.r, by rw [Out.acceptedOf_ofNum]; exact .cleared (.write _ bs)⟩
    | flush => exact same
    | fill k => exact ⟨.cleared (.fill _ k), same.w⟩
    | wflush k => exact ⟨same.r, .cleared (.flush _ k)⟩
    | st => exact same
    | parts => exact ⟨same.r, same.w⟩

theorem Inv.step {C s} (h : Inv C s) (op : Op) : Inv C (SyncStream.step s op).1 :=
  ⟨(step_ok s op).r.inv h.1, (step_ok s op).w.inv h.2⟩

/-- bytes handed to the caller / accepted from the caller over a whole run, read off the outputs -/
def takenOf : List Op → List Out → Bytes
  | op :: ops, o :: os => Out.taken op o ++ takenOf ops os
  | _, _ => []

def acceptedOf : List Op → List Out → Bytes
  | op :: ops, o :: os => Out.acceptedOf op o ++ acceptedOf ops os
  | _, _ => []

theorem run_ok : ∀ (ops : List Op) (s : State), SOK s (run s ops).1 (takenOf ops (run s ops).2) (acceptedOf ops (run s ops).2)
  | [], _ => ⟨.refl _, .refl _⟩
  | op :: ops, s => (step_ok s op).trans (run_ok ops (step s op).1)

theorem Inv.run {C} (ops : List Op) {s : State} (h : Inv C s) : Inv C (SyncStream.run s ops).1 :=
  ⟨(run_ok ops s).r.inv h.1, (run_ok ops s).w.inv h.2⟩

theorem run_frame (ops : List Op) (s : State) :
    (run s ops).1.r.taken = s.r.taken ++ takenOf ops (run s ops).2 ∧
    (run s ops).1.w.accepted = s.w.accepted ++ acceptedOf ops (run s ops).2 ∧
    (run s ops).1.r.base = s.r.base ∧ (run s ops).1.r.max = s.r.max ∧
    (run s ops).1.w.base = s.w.base ∧ (run s ops).1.w.max = s.w.max :=
  have h := run_ok ops s
  ⟨h.r.taken, h.w.acc, h.r.base, h.r.max, h.w.base, h.w.max⟩

theorem run_new (base max : Nat) (rs : List RItem) (ws : List WItem) (ops : List Op) :
    ∀ x, x = run (State.new base max rs ws) ops → Inv (content rs) x.1 ∧ x.1.r.taken = takenOf ops x.2 ∧
      x.1.w.accepted = acceptedOf ops x.2 ∧ x.1.r.base = base ∧ x.1.r.max = max ∧ x.1.w.max = max := by
  rintro _ rfl
  have h := run_ok ops (State.new base max rs ws)
  exact ⟨(Inv.new base max rs ws).run ops, h.r.taken, h.w.acc, h.r.base, h.r.max, h.w.max⟩


/-- the caller's side of the contracts for one operation: `BufRead::consume(amt)` only with
`amt ≤` what `fill_buf` shows -/
def Contract (s : State) : Op → Prop
  | .consume n => n ≤ s.r.buf.avail.length
  | _ => True

/-- both buffers are in place (no future was dropped while Pending, no earlier panic) -/
def Intact (s : State) : Prop := s.r.buf.lent = false ∧ s.w.buf.lent = false

theorem Out.ofBytes_bytes {res : Res Bytes} {b : Bytes} (h : Out.ofBytes res = .bytes b) : res = .ok b := by
  cases res <;> cases h
  rfl

theorem Out.ofBytes_panic {res : Res Bytes} (h : Out.ofBytes res = .panic) : res = .panic := by
  cases res <;> first | rfl | cases h

theorem Out.ofNum_panic {res : Res Nat} (h : Out.ofNum res = .panic) : res = .panic := by
  cases res <;> first | rfl | cases h

theorem Out.ofDrive_panic {o : Option (Res Nat)} :
    (Out.ofDrive o = .panic → o = some .panic) ∧ (Out.ofDrive o ≠ .cancel → o ≠ none) := by
  cases o with
  | none => exact ⟨fun h => (nomatch h), fun h => absurd rfl h⟩
  | some res => exact ⟨fun h => congrArg some (Out.ofNum_panic h), fun _ => by simp⟩

theorem Out.ofDrive_num {o : Option (Res Nat)} {n : Nat} (h : Out.ofDrive o = .num n) : o = some (.ok n) := by
  rcases o with _ | _ | _ | _ <;> cases h
  rfl

theorem step_nopanic {C s} (hi : Inv C s) (hl : Intact s) (op : Op) (hc : Contract s op) :
    (step s op).2 ≠ .panic ∧ ((step s op).2 ≠ .cancel → Intact (step s op).1) := by
  obtain ⟨hr, hw⟩ := hi
  have hr' := hr.clearObs
  have hw' := hw.clearObs
  have hlr : s.r.clearObs.buf.lent = false := hl.1
  have hlw : s.w.clearObs.buf.lent = false := hl.2
  unfold SyncStream.step
  simp only
  split
  · exact ⟨by simp, fun _ => hl⟩
  · cases op with
    | read n | rbu n =>
      have := RSide.read_nopanic hr' n hlr
      exact ⟨fun h => this.1 (Out.ofBytes_panic h), fun _ => ⟨this.2, hlw⟩⟩
    | fillbuf =>
      refine ⟨fun h => ?_, fun _ => ⟨hlr, hlw⟩⟩
      have := Out.ofBytes_panic h
      unfold RSide.fillBuf at this
      simp only [hlr, Bool.false_eq_true, if_false] at this
      split at this <;> cases this
    | consume n =>
      have := RSide.consume_nopanic hr' n hlr hc
      exact ⟨fun h => this.1 (Out.ofBytes_panic h), fun _ => ⟨this.2, hlw⟩⟩
    | write bs =>
      have := WSide.write_nopanic hw' bs
      exact ⟨fun h => this.1 (Out.ofNum_panic h), fun _ => ⟨hlr, this.2.trans hlw⟩⟩
    | flush => exact ⟨by simp, fun _ => ⟨hlr, hlw⟩⟩
    | fill k =>
      have := RSide.fill_nopanic s.r.clearObs k hlr
      exact ⟨fun h => this.1 (Out.ofDrive_panic.1 h), fun h => ⟨this.2 (Out.ofDrive_panic.2 h), hlw⟩⟩
    | wflush k =>
      have := (hw'.flushDrive k .idle (by intro t ht; cases ht)).2.2 hlw
      exact ⟨fun h => this.1 (Out.ofDrive_panic.1 h), fun h => ⟨hlr, this.2 (Out.ofDrive_panic.2 h)⟩⟩
    | st => exact ⟨by simp, fun _ => ⟨hlr, hlw⟩⟩
    | parts => exact ⟨by simp, fun _ => ⟨hlr, hlw⟩⟩

/-- a caller that keeps the `consume` contract and never drops a Pending `fill_read_buf` /
`flush_write_buf` future (no operation answers `cancel`) -/
def Disciplined : State → List Op → Prop
  | _, [] => True
  | s, op :: ops => Contract s op ∧ (step s op).2 ≠ .cancel ∧ Disciplined (step s op).1 ops

instance (s : State) (op : Op) : Decidable (Contract s op) := by
  cases op <;> unfold Contract <;> infer_instance

instance Disciplined.dec : (s : State) → (ops : List Op) → Decidable (Disciplined s ops)
  | _, [] => isTrue trivial
  | s, op :: ops => by
    unfold Disciplined
    exact @instDecidableAnd _ _ _ (@instDecidableAnd _ _ _ (Disciplined.dec _ ops))

theorem run_nopanic {C} : ∀ (ops : List Op) {s : State}, Inv C s → Intact s → Disciplined s ops →
    Out.panic ∉ (run s ops).2
  | [], s, _, _, _ => by simp [SyncStream.run]
  | op :: ops, s, hi, hl, hd => by
    simp only [SyncStream.run, List.mem_cons, not_or]
    have := step_nopanic hi hl op hd.1
    exact ⟨fun h => this.1 h.symm, run_nopanic ops (hi.step op) (this.2 hd.2.1) hd.2.2⟩


theorem RSide.fillStart_max0 {r : RSide} (hm : r.max = 0) (he : r.eof = false) (hl : r.buf.lent = false) :
    r.fillStart.2 = some (.err .oom) := by
  simp [RSide.fillStart, he, hl, hm]

theorem RSide.lost_sticky (r : RSide) (hl : r.buf.lent = true) (n k : Nat) :
    r.read n = (r, .err .wb) ∧ r.fillBuf = .err .wb ∧ r.consume n = (r, .panic) ∧ r.intoParts = [] ∧
    (r.eof = false → r.fill (k + 1) = (r, some .panic)) ∧ (r.eof = true → r.fill (k + 1) = (r, some (.ok 0))) := by
  refine ⟨by simp [RSide.read, RSide.fillBuf, hl], by simp [RSide.fillBuf, hl], RSide.consume_lent n hl,
    by simp [RSide.intoParts, hl], ?_, ?_⟩
  · intro he; simp [RSide.fill, RSide.fillStart, he, hl]
  · intro he; simp [RSide.fill, RSide.fillStart, he]

theorem WSide.lost_sticky (w : WSide) (hl : w.buf.lent = true) (src : Bytes) (k : Nat) :
    w.write src = (w, .err .wb) ∧ w.flush (k + 1) = (w, some .panic) ∧ w.hasPending = none := by
  refine ⟨by simp [WSide.write, hl], ?_, by simp [WSide.hasPending, hl]⟩
  simp [WSide.flush, WSide.flushDrive, WSide.flushResume, WSide.flushBegin, hl]


end Compio.SyncStream
