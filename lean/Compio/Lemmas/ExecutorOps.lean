/-
What a call of the model does to a state satisfying the invariant: `Eff` (the invariant holds again, every task has
evolved by primitive steps, a dropped executor stays dropped), closed under composition. The eleven operations that go
through a join handle or a kept waker clone of one task have ONE form (`Op.simple`, `apply_simple`: a guard, a
scheduling call, a rewrite of the task) and one proof; spawn, executor drop, a whole `tick` and the remote wake while the
executor ticks (`remoteWakeB`) have their own. `apply_eff` is the statement for every operation, `foldl_eff` for every
program; `InvB` (`Inv` + no blocked pusher) is the invariant between operations.
-/
import Compio.Lemmas.ExecutorTick
import Compio.Lemmas.ListFacts

namespace Compio.Executor
open Compio.TaskWord Compio.Gen

theorem Inv.setTask {e : Exec} (h : Inv e) {id : Nat} {t t' : TaskSt} (hg : e.get? id = some t)
    (ht : TInv (inMap e id) t')
    (hr : t'.word.notCancelled = false ∨ t'.word.scheduled = true → id ∈ e.cold →
      id ∈ e.sync ∨ e.inflight = some id) :
    Inv (e.setTask id t') :=
  h.update hg (QStep.refl h.q id) (inMap e id) (by rw [inMap_iff]) ht (tasks := rfl) (hot := rfl) (cold := rfl) (alive := rfl) hr
    (fun _ _ _ hx => hx) h.p

/-- the invariant between the operations of a program: no blocked pusher -/
structure InvB (e : Exec) : Prop where
  inv : Inv e
  idle : e.inflight = none

theorem remoteSchedule_inflight (e : Exec) (id : Nat) : (remoteSchedule e id).inflight = e.inflight :=
  (remoteSchedule_books e id).inflight

theorem setTask_inflight (e : Exec) (id : Nat) (t : TaskSt) : (e.setTask id t).inflight = e.inflight := rfl

theorem InvB.hot_or_sync {e : Exec} (h : InvB e) {id : Nat} {t : TaskSt} (hg : e.get? id = some t)
    (hw : t.word.notCancelled = false ∨ t.word.scheduled = true) (hq : inMap e id = true) :
    id ∈ e.hot ∨ id ∈ e.sync := by
  rcases (inMap_iff e id).mp hq with h1 | h1
  · exact Or.inl h1
  · rcases h.inv.reach hg hw h1 with h2 | h2
    · exact Or.inr h2
    · rw [h.idle] at h2; cases h2

/-- what a call of the model does to a state satisfying `Inv`: the invariant holds again, every task has evolved by
primitive steps (`Task::run` steps only if `r`), a dropped executor stays dropped -/
structure Eff (r : Bool) (e e' : Exec) : Prop where
  inv : Inv e'
  steps : ∀ x t, e.get? x = some t → ∃ t', e'.get? x = some t' ∧ TaskSteps r t t'
  dead : e.alive = false → e'.alive = false

theorem Eff.refl {r : Bool} {e : Exec} (h : Inv e) : Eff r e e := ⟨h, fun _ t hx => ⟨t, hx, .refl t⟩, id⟩

theorem Eff.trans {r : Bool} {a b c : Exec} (h1 : Eff r a b) (h2 : Eff r b c) : Eff r a c :=
  ⟨h2.inv, fun x t hx =>
    have ⟨t1, g1, s1⟩ := h1.steps x t hx
    have ⟨t2, g2, s2⟩ := h2.steps x t1 g1
    ⟨t2, g2, s1.trans s2⟩, fun hd => h2.dead (h1.dead hd)⟩

theorem Eff.weaken {r : Bool} {a b : Exec} (h : Eff r a b) : Eff true a b :=
  ⟨h.inv, fun x t hx => have ⟨t', g, s⟩ := h.steps x t hx; ⟨t', g, s.weaken⟩, h.dead⟩

theorem Eff.of_tasks {r : Bool} {e e' : Exec} (h : Inv e') (ht : e'.tasks = e.tasks) (ha : e'.alive = e.alive) :
    Eff r e e' :=
  ⟨h, fun x t hx => ⟨t, by simpa [Exec.get?, ht] using hx, .refl t⟩, fun hd => ha.trans hd⟩

theorem Eff.set {r : Bool} {e e' : Exec} (h : Inv e') {id : Nat} {t t' : TaskSt} (hg : e.get? id = some t)
    (hs : TaskSteps r t t') (ht : e'.tasks = e.tasks.set id t') (ha : e'.alive = e.alive) : Eff r e e' :=
  ⟨h, fun x tx hx => by
    have he : ∀ y, e'.get? y = (e.setTask id t').get? y := fun y => by simp [Exec.get?, Exec.setTask, ht]
    by_cases hxi : x = id
    · subst hxi; rw [hg] at hx; cases hx; exact ⟨t', (he x).trans (get?_setTask_self _ hg), hs⟩
    · exact ⟨tx, by rw [he, get?_setTask_ne _ _ hxi]; exact hx, .refl tx⟩, fun hd => ha.trans hd⟩

theorem Eff.task {r : Bool} {e : Exec} (h : Inv e) {id : Nat} {t t' : TaskSt} (hg : e.get? id = some t)
    (hs : TaskSteps r t t') (ht : TInv (inMap e id) t')
    (hr : t'.word.notCancelled = false ∨ t'.word.scheduled = true → id ∈ e.cold →
      id ∈ e.sync ∨ e.inflight = some id) : Eff r e (e.setTask id t') :=
  .set (h.setTask hg ht hr) hg hs rfl rfl

theorem scheduleLocal_eff {r : Bool} {e : Exec} (h : Inv e) (id : Nat) : Eff r e (scheduleLocal e id) :=
  .of_tasks (scheduleLocal_inv h id) (scheduleLocal_tasks e id) (scheduleLocal_books h id).alive

/-- `Remote::schedule` through a live holder of the task: `start_scheduling` / `finish_scheduling` are one step -/
theorem remoteSchedule_eff {r : Bool} {e : Exec} (h : Inv e) (id : Nat) (hl : ∀ t, e.get? id = some t → Live t) :
    Eff r e (remoteSchedule e id) := by
  cases hg : e.get? id with
  | none => rw [remoteSchedule_none hg]; exact .refl h
  | some t =>
    have hi := remoteSchedule_inv h id
    rcases remoteSchedule_cases hg with ⟨_, he⟩ | ⟨_, _, _, _, he⟩ <;> rw [he] at hi ⊢ <;>
      exact .set hi hg (.single (.sched t true false (hl t hg))) rfl rfl

theorem handlePoll_held {e : Exec} {id : Nat} {t : TaskSt} (w : Nat) (hg : e.get? id = some t)
    (hh : t.handle = true) : handlePoll e id w = (e.setTask id (pollTask t w).1, (pollTask t w).2) := by
  simp [handlePoll, hg, hh]

theorem remoteHandlePoll_held {e : Exec} {id : Nat} {t : TaskSt} (w : Nat) (hg : e.get? id = some t)
    (hh : t.handle = true) :
    remoteHandlePoll e id w = (e.setTask id (remotePollTask t w).1, (remotePollTask t w).2) := by
  simp [remoteHandlePoll, hg, hh]

theorem handleDrop_held {e : Exec} {id : Nat} {t : TaskSt} (hg : e.get? id = some t) (hh : t.handle = true) :
    handleDrop e id = ((scheduleLocal e id).setTask id (dropRef { cancelWord t true with handle := false }), true) := by
  simp [handleDrop, hg, hh]

theorem handleDetach_held {e : Exec} {id : Nat} {t : TaskSt} (hg : e.get? id = some t) (hh : t.handle = true) :
    handleDetach e id = (e.setTask id (dropRef { t with handle := false }), true) := by
  simp [handleDetach, hg, hh]

theorem handleCancel_held {e : Exec} {id : Nat} {t : TaskSt} (hg : e.get? id = some t) (hh : t.handle = true) :
    handleCancel e id = ((scheduleLocal e id).setTask id (cancelWord t false), true) := by
  simp [handleCancel, cancelTask, hg, hh]

theorem hcancel_held {e : Exec} {id : Nat} {t : TaskSt} (hg : e.get? id = some t) (hh : t.handle = true) :
    applyR e (.hcancel id) =
      ((scheduleLocal e id).setTask id (pollTask (cancelWord t false) noopWaker).1,
       .cancel (pollTask (cancelWord t false) noopWaker).2) := by
  have hg2 : ((scheduleLocal e id).setTask id (cancelWord t false)).get? id = some (cancelWord t false) :=
    get?_setTask_self _ ((scheduleLocal_get? e id id).trans hg)
  simp only [applyR, handleCancel_held hg hh]
  rw [handlePoll_held _ hg2 (by rw [cancelWord_handle]; exact hh)]
  simp [Exec.setTask]

theorem wakeLocal_held {e : Exec} {id : Nat} {t : TaskSt} (hg : e.get? id = some t) (hw : t.wakers ≠ 0) :
    wakeLocal e id = (scheduleLocal e id, true) := by
  simp [wakeLocal, hg, hw]

theorem wakerDrop_held {e : Exec} {id : Nat} {t : TaskSt} (hg : e.get? id = some t) (hw : t.wakers ≠ 0) :
    wakerDrop e id = (e.setTask id (dropRef { t with wakers := t.wakers - 1 }), true) := by
  simp [wakerDrop, hg, hw]

theorem hasHandle_iff (e : Exec) (id : Nat) : hasHandle e id = true ↔ ∃ t, e.get? id = some t ∧ t.handle = true := by
  unfold hasHandle; cases e.get? id <;> simp

theorem hasWakerClone_iff (e : Exec) (id : Nat) :
    hasWakerClone e id = true ↔ ∃ t, e.get? id = some t ∧ t.wakers ≠ 0 := by
  unfold hasWakerClone; cases e.get? id <;> simp

/-- the scheduling call an operation starts with: none, `Local::schedule`, or `Remote::schedule` (which is charged to the
protocol budget) -/
inductive Sched where
  | none | home | remote
  deriving DecidableEq

def Sched.charge : Sched → Exec → Exec
  | .remote, e => chargeBudget e
  | _, e => e

def Sched.run : Sched → Exec → Nat → Exec
  | .none, e, _ => e
  | .home, e, id => scheduleLocal e id
  | .remote, e, id => remoteSchedule e id

/-- rewrite task `id` as it is found -/
def Exec.modTask (e : Exec) (id : Nat) (f : TaskSt → TaskSt) : Exec :=
  match e.get? id with
  | none => e
  | some t => e.setTask id (f t)

/-- the eleven operations that go through the join handle (`true`) or a kept waker clone (`false`) of ONE task: the
task, the object used, the scheduling call made first, and what is then done to the task -/
def Op.simple : Op → Option (Nat × Bool × Sched × (TaskSt → TaskSt))
  | .hpoll id w => some (id, true, .none, fun t => (pollTask t w).1)
  | .rhpoll id w => some (id, true, .none, fun t => (remotePollTask t w).1)
  | .hdetach id => some (id, true, .none, fun t => dropRef { t with handle := false })
  | .wdrop id | .rwdrop id => some (id, false, .none, fun t => dropRef { t with wakers := t.wakers - 1 })
  | .hdrop id => some (id, true, .home, fun t => dropRef { cancelWord t true with handle := false })
  | .hcancel id => some (id, true, .home, fun t => (pollTask (cancelWord t false) noopWaker).1)
  | .wake id => some (id, false, .home, fun t => t)
  | .rhdrop id => some (id, true, .remote, fun t => dropRef { cancelWord t true with handle := false })
  | .rhcancel id => some (id, true, .remote, fun t => (remotePollTask (cancelWord t false) noopWaker).1)
  | .rwake id => some (id, false, .remote, fun t => t)
  | _ => none

/-- the object the operation goes through is there: the handle not yet consumed, a waker clone kept -/
def held : Bool → TaskSt → Prop
  | true, t => t.handle = true
  | false, t => t.wakers ≠ 0

theorem held_cases (e : Exec) (id : Nat) (v : Bool) :
    (∀ t, e.get? id = some t → ¬ held v t) ∨ ∃ t, e.get? id = some t ∧ held v t := by
  cases hg : e.get? id with
  | none => exact Or.inl fun _ h => nomatch h
  | some t =>
    by_cases hv : held v t
    · exact Or.inr ⟨t, rfl, hv⟩
    · exact Or.inl fun t' ht' => by cases ht'; exact hv

theorem held_sched {v : Bool} {t : TaskSt} (a b : Bool) (hv : held v t) :
    held v { t with word := { t.word with scheduled := a, scheduling := b } } := by
  cases v <;> exact hv

theorem held_live {v : Bool} {t : TaskSt} (hv : held v t) : Live t := by
  cases v
  · exact Or.inr (Or.inl hv)
  · exact Or.inl hv

theorem modTask_of_get {e : Exec} {id : Nat} {t : TaskSt} (hg : e.get? id = some t) (f : TaskSt → TaskSt) :
    e.modTask id f = e.setTask id (f t) := by
  simp [Exec.modTask, hg]

theorem modTask_same {e : Exec} {id : Nat} : e.modTask id (fun t => t) = e := by
  unfold Exec.modTask
  cases hg : e.get? id with
  | none => rfl
  | some t => simp [Exec.setTask, tasks_set_same hg]

variable {op : Op} {id : Nat} {v : Bool} {s : Sched} {f : TaskSt → TaskSt}

/-- what the caller of one of the eleven observes when the object it goes through is gone -/
def Op.refused : Op → Resp
  | .hpoll _ _ | .rhpoll _ _ => .join .invalid
  | .hdrop _ | .hdetach _ | .wake _ | .wdrop _ | .rwdrop _ => .done false
  | _ => .invalid

theorem applyR_unheld (hs : op.simple = some (id, v, s, f)) {e : Exec} (hd : ∀ t, e.get? id = some t → ¬ held v t) :
    applyR e op = (e, op.refused) := by
  cases op with
  | spawn _ | tick _ | xdrop | rwakeb _ _ => cases hs
  | _ =>
    cases hs
    simp only [held, Bool.not_eq_true, Decidable.not_not] at hd
    cases hg : e.get? id with
    | none =>
      simp [applyR, Op.refused, handlePoll, remoteHandlePoll, handleDetach, handleDrop, wakerDrop, wakeLocal,
        handleCancel, hasHandle, hasWakerClone, hg]
    | some t =>
      simp [applyR, Op.refused, handlePoll, remoteHandlePoll, handleDetach, handleDrop, wakerDrop, wakeLocal,
        handleCancel, hasHandle, hasWakerClone, hg, hd t hg]

theorem apply_unheld (hs : op.simple = some (id, v, s, f)) {e : Exec} (hd : ∀ t, e.get? id = some t → ¬ held v t) :
    apply e op = e :=
  congrArg Prod.fst (applyR_unheld hs hd)

/-- the guards of a remote scheduling operation in `applyR` (object held? admitted by the protocol budget?): with the
object held the state stays as it is or is that of the operation, `x` -/
theorem budgeted {α : Type} {g : Bool} (hg : g = true) (e x : Exec) (a b c : α) :
    (if !g then (e, a) else if !(e.outstanding < e.cap) then (e, b) else (x, c)).1 = e ∨
    (if !g then (e, a) else if !(e.outstanding < e.cap) then (e, b) else (x, c)).1 = x := by
  subst hg; by_cases hb : e.outstanding < e.cap <;> simp [hb]

theorem apply_held (hs : op.simple = some (id, v, s, f)) {e : Exec} {t : TaskSt} (hg : e.get? id = some t)
    (hv : held v t) : apply e op = e ∨ apply e op = (s.run (s.charge e) id).modTask id f := by
  have hgl := (scheduleLocal_get? e id id).trans hg
  cases op with
  | spawn _ | tick _ | xdrop | rwakeb _ _ => cases hs
  | hpoll _ w =>
    cases hs; right
    show (handlePoll e id w).1 = e.modTask id _
    rw [handlePoll_held w hg hv, modTask_of_get hg]
  | rhpoll _ w =>
    cases hs; right
    show (remoteHandlePoll e id w).1 = e.modTask id _
    rw [remoteHandlePoll_held w hg hv, modTask_of_get hg]
  | hdetach _ =>
    cases hs; right
    show (handleDetach e id).1 = e.modTask id _
    rw [handleDetach_held hg hv, modTask_of_get hg]
  | wdrop _ | rwdrop _ =>
    cases hs; right
    show (wakerDrop e id).1 = e.modTask id _
    rw [wakerDrop_held hg hv, modTask_of_get hg]
  -- `Local::schedule`, which touches no task, comes first
  | hdrop _ =>
    cases hs; right
    show (handleDrop e id).1 = (scheduleLocal e id).modTask id _
    rw [handleDrop_held hg hv, modTask_of_get hgl]
  | hcancel _ =>
    cases hs; right
    show (applyR e (.hcancel id)).1 = (scheduleLocal e id).modTask id _
    rw [hcancel_held hg hv, modTask_of_get hgl]
  | wake _ =>
    cases hs; right
    show (wakeLocal e id).1 = (scheduleLocal e id).modTask id _
    rw [wakeLocal_held hg hv, modTask_same]
  | rhdrop _ =>
    cases hs; exact budgeted ((hasHandle_iff e id).mpr ⟨t, hg, hv⟩) e _ _ _ _
  | rhcancel _ =>
    cases hs
    refine (budgeted ((hasHandle_iff e id).mpr ⟨t, hg, hv⟩) e _ _ _ _).imp_right fun h => h.trans ?_
    simp only [remoteHandleCancel, Sched.run, Sched.charge, Exec.modTask]
    cases (remoteSchedule (chargeBudget e) id).get? id <;> rfl
  | rwake _ =>
    cases hs
    exact (budgeted ((hasWakerClone_iff e id).mpr ⟨t, hg, hv⟩) e _ _ _ _).imp_right fun h => h.trans modTask_same.symm

theorem apply_simple (hs : op.simple = some (id, v, s, f)) (e : Exec) :
    apply e op = e ∨
    ((∃ t, e.get? id = some t ∧ held v t) ∧ apply e op = (s.run (s.charge e) id).modTask id f) := by
  rcases held_cases e id v with hd | ⟨t, hg, hv⟩
  · exact Or.inl (apply_unheld hs hd)
  · exact (apply_held hs hg hv).imp_right fun he => ⟨⟨t, hg, hv⟩, he⟩

theorem simple_task (hs : op.simple = some (id, v, s, f)) {t : TaskSt} (hv : held v t) :
    TaskSteps false t (f t) ∧ (∀ q, TInv q t → TInv q (f t)) ∧
    (s = .none → (f t).word.notCancelled = t.word.notCancelled ∧ (f t).word.scheduled = t.word.scheduled) := by
  cases op with
  | spawn _ | tick _ | xdrop | rwakeb _ _ => cases hs
  | hpoll _ w =>
    cases hs
    exact ⟨.single (.poll t w hv), fun q h => pollTask_inv q t w h hv,
      fun _ => ⟨(pollTask_keeps t w).1, (pollTask_keeps t w).2.1⟩⟩
  | rhpoll _ w =>
    cases hs
    exact ⟨.single (.rpoll t w hv), fun q h => remotePollTask_inv q t w h hv,
      fun _ => ⟨(remotePollTask_keeps t w).1, (remotePollTask_keeps t w).2.1⟩⟩
  | hdetach _ =>
    cases hs
    exact ⟨.single (.detach t hv), fun q h => detachedTask_inv q t h hv, fun _ => ⟨dropRef_nc _, dropRef_sched _⟩⟩
  | wdrop _ | rwdrop _ =>
    cases hs
    exact ⟨.single (.wdrop t hv), fun q h => wakerDropTask_inv q t h hv, fun _ => ⟨dropRef_nc _, dropRef_sched _⟩⟩
  | hdrop _ | rhdrop _ =>
    cases hs
    exact ⟨.single (.hdrop t hv), fun q h => handleDropTask_inv q t h hv, nofun⟩
  | hcancel _ =>
    cases hs
    have hh := (cancelWord_handle t false).trans hv
    exact ⟨(TaskSteps.single (.cancel t hv)).tail (.poll _ _ hh),
      fun q h => pollTask_inv q _ _ (cancelWord_inv q t h) hh, nofun⟩
  | rhcancel _ =>
    cases hs
    have hh := (cancelWord_handle t false).trans hv
    exact ⟨(TaskSteps.single (.cancel t hv)).tail (.rpoll _ _ hh),
      fun q h => remotePollTask_inv q _ _ (cancelWord_inv q t h) hh, nofun⟩
  | wake _ | rwake _ =>
    cases hs
    exact ⟨.refl t, fun _ h => h, nofun⟩

theorem InvB.scharge {e : Exec} (h : InvB e) (s : Sched) : InvB (s.charge e) := by
  cases s
  · exact h
  · exact h
  · exact ⟨h.inv.outstanding _, h.idle⟩

/-- after `Local::schedule` the task is not cold, after `Remote::schedule` a cold task waits in the sync queue, so
whatever the rewrite does to the cancellation flag, the next tick reaches the task -/
theorem norm_eff (hs : op.simple = some (id, v, s, f)) {e : Exec} (h : InvB e) {t : TaskSt} (hg : e.get? id = some t)
    (hv : held v t) :
    Eff false e ((s.run e id).modTask id f) ∧ ((s.run e id).modTask id f).inflight = none := by
  have ht := h.inv.t id t hg
  cases s with
  | none =>
    obtain ⟨st, ti, keep⟩ := simple_task hs hv
    rw [Sched.run, modTask_of_get hg]
    exact ⟨.task h.inv hg st (ti _ ht) fun hw => h.inv.reach hg ((keep rfl).1 ▸ (keep rfl).2 ▸ hw), h.idle⟩
  | home =>
    obtain ⟨st, ti, _⟩ := simple_task hs hv
    have hg1 := (scheduleLocal_get? e id id).trans hg
    rw [Sched.run, modTask_of_get hg1]
    exact ⟨(scheduleLocal_eff h.inv id).trans (.task (scheduleLocal_inv h.inv id) hg1 st
        (by rw [scheduleLocal_inMap h.inv]; exact ti _ ht) fun _ hc => absurd hc (scheduleLocal_not_cold h.inv hg)),
      (scheduleLocal_books h.inv id).inflight.trans h.idle⟩
  | remote =>
    have hg1 := remoteSchedule_get?_self hg
    obtain ⟨st, ti, _⟩ := simple_task hs (held_sched true false hv)
    rw [Sched.run, modTask_of_get hg1]
    exact ⟨(remoteSchedule_eff h.inv id fun _ hg' => by rw [hg] at hg'; cases hg'; exact held_live hv).trans
        (.task (remoteSchedule_inv h.inv id) hg1 st (by rw [remoteSchedule_inMap]; exact ti _ (ht.frame_sched true false))
          fun _ hc => (remoteSchedule_inv h.inv id).s id _ hg1 rfl hc),
      (remoteSchedule_inflight e id).trans h.idle⟩

theorem simple_eff (hs : op.simple = some (id, v, s, f)) {e : Exec} (h : InvB e) :
    Eff false e (apply e op) ∧ (apply e op).inflight = none := by
  rcases apply_simple hs e with he | ⟨⟨t, hg, hv⟩, he⟩ <;> rw [he]
  · exact ⟨.refl h.inv, h.idle⟩
  · have hg' : (s.charge e).get? id = some t := by cases s <;> exact hg
    have := norm_eff hs (h.scharge s) hg' hv
    exact ⟨(Eff.of_tasks (e := e) (h.scharge s).inv (by cases s <;> rfl) (by cases s <;> rfl)).trans this.1, this.2⟩

theorem finishSched_eff {r : Bool} {e : Exec} (h : Inv e) (id : Nat) (hl : ∀ t, e.get? id = some t → Live t) :
    Eff r e (finishSched e id) := by
  unfold finishSched
  cases hg : e.get? id with
  | none => exact .refl h
  | some t =>
    exact .task h hg (.single (.sched t t.word.scheduled false (hl t hg)))
      ((h.t id t hg).frame_sched t.word.scheduled false) fun hw => h.reach hg (by simpa using hw)

theorem spawn_inv {e : Exec} (h : Inv e) (ha : e.alive = true) (sc : List Outcome) : Inv (spawn e sc).1 := by
  have hnh : e.tasks.length ∉ e.hot := fun hm => Nat.lt_irrefl _ (h.q.hval _ hm)
  have hnc : e.tasks.length ∉ e.cold := fun hm => Nat.lt_irrefl _ (h.q.cval _ hm)
  -- a cold task is an old task
  have old : ∀ x t, (spawn e sc).1.get? x = some t → x ∈ e.cold → e.get? x = some t := by
    intro x t hx hcold
    simp only [spawn, Exec.get?] at hx
    rwa [List.getElem?_append_left (h.q.cval x hcold)] at hx
  refine ⟨⟨nodup_snoc h.q.hnd hnh, h.q.cnd, ?_, ?_, ?_⟩, ?_, ?_, ?_, ?_, h.p⟩
  · intro x hx hx'
    simp [spawn] at hx hx'
    rcases hx with hx | hx
    · exact h.q.disj x hx hx'
    · subst hx; exact hnc hx'
  · intro x hx
    simp [spawn] at hx ⊢
    rcases hx with hx | hx
    · have := h.q.hval x hx; omega
    · omega
  · intro x hx
    simp [spawn] at hx ⊢
    have := h.q.cval x hx; omega
  · intro x t hx
    simp only [spawn, Exec.get?] at hx
    by_cases hl : x < e.tasks.length
    · rw [List.getElem?_append_left hl] at hx
      have hne : x ≠ e.tasks.length := by omega
      have : inMap (spawn e sc).1 x = inMap e x := by
        apply inMap_eq_of_iff
        simp [spawn, hne]
      rw [this]; exact h.t x t hx
    · rw [List.getElem?_append_right (by omega)] at hx
      have hxe : x = e.tasks.length := by
        rcases Nat.lt_or_ge (x - e.tasks.length) 1 with h1 | h1
        · omega
        · rw [List.getElem?_eq_none (by simpa using h1)] at hx; cases hx
      subst hxe
      simp at hx; subst hx
      have : inMap (spawn e sc).1 e.tasks.length = true := by
        rw [inMap_iff]; simp [spawn]
      rw [this]; exact spawnedTask_inv sc
  · exact fun x t hx hc hcold => h.c x t (old x t hx hcold) hc hcold
  · exact fun x t hx hc hcold => h.s x t (old x t hx hcold) hc hcold
  · intro hd
    simp [spawn, ha] at hd

theorem spawn_eff {e : Exec} (h : Inv e) (ha : e.alive = true) (sc : List Outcome) : Eff false e (spawn e sc).1 :=
  ⟨spawn_inv h ha sc, fun x t hx => ⟨t, by
    simp only [spawn, Exec.get?, List.getElem?_append_left (get?_lt hx)]; exact hx, .refl t⟩, fun hd => hd⟩

theorem clearTask_get? (e : Exec) (id x : Nat) :
    (clearTask e id).get? x = if x = id then (e.get? id).map clearedTask else e.get? x := by
  unfold clearTask
  cases hg : e.get? id with
  | none =>
    by_cases hx : x = id
    · subst hx; simp [hg]
    · simp [hx]
  | some t =>
    by_cases hx : x = id
    · subst hx; simp [get?_setTask_self _ hg, clearedTask]
    · simp [hx, get?_setTask_ne e _ hx]

theorem clearTask_books (e : Exec) (id : Nat) :
    SameBooks e (clearTask e id) ∧ (clearTask e id).pending = e.pending := by
  unfold clearTask
  cases e.get? id <;> exact ⟨⟨rfl, rfl, rfl, rfl, rfl⟩, rfl⟩

theorem foldl_clearTask (l : List Nat) : ∀ (e : Exec), l.Nodup →
    (∀ x, (l.foldl clearTask e).get? x = if x ∈ l then (e.get? x).map clearedTask else e.get? x) ∧
    SameBooks e (l.foldl clearTask e) ∧ (l.foldl clearTask e).pending = e.pending := by
  induction l with
  | nil => intro e _; exact ⟨by simp, .refl e, rfl⟩
  | cons a l ih =>
    intro e hnd
    rw [List.nodup_cons] at hnd
    obtain ⟨ih1, ihb, ihp⟩ := ih (clearTask e a) hnd.2
    refine ⟨?_, (clearTask_books e a).1.trans ihb, ihp.trans (clearTask_books e a).2⟩
    intro x
    rw [List.foldl_cons, ih1, clearTask_get?]
    by_cases hxa : x = a
    · subst hxa; simp [hnd.1]
    · simp [hxa]

theorem execDrop_inv {e : Exec} (h : Inv e) : Inv (execDrop e) := by
  obtain ⟨f1, fb, fp⟩ := foldl_clearTask (e.hot ++ e.cold) e h.q.nodup_append
  -- the queues of `execDrop e` are literally empty
  have hin : ∀ x, inMap (execDrop e) x = false := fun x => rfl
  have nil : ∀ {p : Prop} {x : Nat}, x ∈ ([] : List Nat) → p := fun h' => nomatch h'
  refine ⟨⟨List.nodup_nil, List.nodup_nil, fun _ => nil, fun _ => nil, fun _ => nil⟩,
    ?_, fun _ _ _ _ => nil, fun _ _ _ _ => nil, fun _ => ⟨rfl, rfl⟩, ?_⟩
  rotate_left
  · have hp := h.p
    show (0 : Nat) + (if ((e.hot ++ e.cold).foldl clearTask e).inflight.isSome then 1 else 0) ≤
      ((e.hot ++ e.cold).foldl clearTask e).pending
    rw [fp, fb.inflight]; omega
  intro x t hx
  rw [hin x]
  have hx' : ((e.hot ++ e.cold).foldl clearTask e).get? x = some t := hx
  rw [f1] at hx'
  by_cases hm : x ∈ e.hot ++ e.cold
  · rw [if_pos hm] at hx'
    obtain ⟨t0, hg0, ht0⟩ := h.get_of_mem (id := x) (by simpa using hm)
    rw [hg0] at hx'
    simp at hx'; subst hx'
    exact clearedTask_inv t0 ht0
  · rw [if_neg hm] at hx'
    have := h.t x t hx'
    rwa [(inMap_false_iff e x).mpr (by simpa using hm)] at this

theorem execDrop_eff {e : Exec} (h : Inv e) : Eff false e (execDrop e) :=
  ⟨execDrop_inv h, fun x t hx => by
    have := (foldl_clearTask (e.hot ++ e.cold) e h.q.nodup_append).1 x
    by_cases hm : x ∈ e.hot ++ e.cold
    · rw [if_pos hm, hx] at this
      exact ⟨clearedTask t, this, .single (.clear t ((h.t x t hx).inq_fd ((inMap_iff e x).mpr (by simpa using hm))))⟩
    · rw [if_neg hm, hx] at this
      exact ⟨t, this, .refl t⟩, fun _ => rfl⟩

theorem tickLoop_fields (n : Nat) (e : Exec) (h : Inv e) :
    (tickLoop n e.hot.head? e []).1.alive = e.alive ∧ (tickLoop n e.hot.head? e []).1.inflight = e.inflight ∧
    (tickLoop n e.hot.head? e []).1.cap = e.cap :=
  tickLoop_lift (fun a b => b.alive = a.alive ∧ b.inflight = a.inflight ∧ b.cap = a.cap) (fun _ => ⟨rfl, rfl, rfl⟩)
    (fun _ _ _ f g => ⟨g.1.trans f.1, g.2.1.trans f.2.1, g.2.2.trans f.2.2⟩) (fun _ _ _ _ _ _ _ sf => sf.fields) n e h

theorem tickFrom_inv {e : Exec} (h : Inv e) (n : Nat) : Inv (tickFrom e n).1 :=
  tickLoop_inv n (drainSync e) (drainSync_inv h)

theorem tickFrom_fields {e : Exec} (h : Inv e) (n : Nat) :
    (tickFrom e n).1.alive = e.alive ∧ (tickFrom e n).1.inflight = e.inflight ∧ (tickFrom e n).1.cap = e.cap := by
  have f := tickLoop_fields n (drainSync e) (drainSync_inv h)
  have d := drainSync_facts h
  exact ⟨f.1.trans d.alive, f.2.1.trans d.inflight, f.2.2.trans d.cap⟩

theorem tick_inv {e : Exec} (h : Inv e) (n : Nat) : Inv (tick e n).1 := tickFrom_inv (h.outstanding 0) n

theorem tickFrom_eff {e : Exec} (h : Inv e) (n : Nat) : Eff true e (tickFrom e n).1 :=
  ⟨tickFrom_inv h n,
    fun x t hx => tickLoop_steps n (drainSync e) (drainSync_inv h) x t ((drainSync_get? e x).trans hx),
    fun hd => (tickFrom_fields h n).1.trans hd⟩

theorem tick_eff {e : Exec} (h : Inv e) (n : Nat) : Eff true e (tick e n).1 :=
  (Eff.of_tasks (e := e) (h.outstanding 0) rfl rfl).trans (tickFrom_eff (h.outstanding 0) n)

theorem remoteWakeB_early {e : Exec} {id : Nat} {t : TaskSt} (n : Nat) (hg : e.get? id = some t)
    (he : t.word.scheduled = true ∨ t.word.completed = true ∨ t.word.notCancelled = false ∨ t.shared = false) :
    remoteWakeB e id n = (remoteSchedule e id, none) := by
  rcases remoteSchedTask_cases t with ⟨_, hr⟩ | ⟨h1, h2, h3, h4, _⟩
  · simp [remoteWakeB, remoteSchedule, hg, hr]
  · rcases he with he | he | he | he <;> simp_all

/-- the state in which the executor runs its tick when the blocking pusher found room: the id is in the sync queue -/
def pushedB (e : Exec) (id : Nat) (t : TaskSt) : Exec :=
  { e.setTask id { t with word := { t.word with scheduled := true, scheduling := true } } with
      pending := e.pending + 1, sync := e.sync ++ [id], outstanding := 1 }

/-- ... and when it found the queue full: the id is reserved (`inflight`), not yet in the sync queue -/
def reservedB (e : Exec) (id : Nat) (t : TaskSt) : Exec :=
  { e.setTask id { t with word := { t.word with scheduled := true, scheduling := true } } with
      pending := e.pending + 1, outstanding := 1, inflight := some id }

theorem remoteWakeB_push {e : Exec} {id : Nat} {t : TaskSt} (n : Nat) (hg : e.get? id = some t)
    (h1 : t.word.scheduled = false) (h2 : t.word.completed = false) (h3 : t.word.notCancelled = true)
    (h4 : t.shared = true) :
    (e.sync.length < e.cap ∧
      remoteWakeB e id n = (finishSched (tickFrom (pushedB e id t) n).1 id, some (tickFrom (pushedB e id t) n).2)) ∨
    (¬ e.sync.length < e.cap ∧
      remoteWakeB e id n =
        (finishSched { (tickFrom (reservedB e id t) n).1 with
            sync := (tickFrom (reservedB e id t) n).1.sync ++ [id], inflight := none } id,
         some (tickFrom (reservedB e id t) n).2)) := by
  rcases remoteSchedTask_cases t with ⟨he, _⟩ | ⟨_, _, _, _, hr⟩
  · rcases he with he | he | he | he <;> simp_all
  · by_cases hl : e.sync.length < e.cap
    · exact Or.inl ⟨hl, by simp [remoteWakeB, hg, hr, Exec.setTask, hl, pushedB]⟩
    · exact Or.inr ⟨hl, by simp [remoteWakeB, hg, hr, Exec.setTask, hl, reservedB]⟩

theorem reserve_inv {e : Exec} (h : Inv e) (hi : e.inflight = none) {id : Nat} {t : TaskSt}
    (hg : e.get? id = some t) : Inv (reservedB e id t) := by
  refine h.update hg (QStep.refl h.q id) (inMap e id) (by rw [inMap_iff]) ((h.t id t hg).frame_sched true true)
    (tasks := rfl) (hot := rfl) (cold := rfl) (alive := rfl) (fun _ _ => Or.inr rfl) ?_ ?_
  · intro x _ _ hx
    rcases hx with hx | hx
    · exact Or.inl hx
    · rw [hi] at hx; cases hx
  · have := h.p
    simp [reservedB, Exec.setTask, hi] at this ⊢; omega

theorem unreserve_inv {e : Exec} (h : Inv e) {id : Nat} (hi : e.inflight = some id) :
    Inv ({ e with sync := e.sync ++ [id], inflight := none } : Exec) := by
  have pushed : ∀ x, x ∈ e.sync ∨ e.inflight = some x → x ∈ e.sync ++ [id] ∨ (none : Option Nat) = some x := by
    rintro x (h1 | h1)
    · exact Or.inl (by simp [h1])
    · rw [hi] at h1; cases h1; exact Or.inl (by simp)
  refine ⟨⟨h.q.hnd, h.q.cnd, h.q.disj, h.q.hval, h.q.cval⟩, h.t, fun x t hx hn hc => pushed x (h.c x t hx hn hc),
    fun x t hx hn hc => pushed x (h.s x t hx hn hc), h.dead, ?_⟩
  have := h.p
  simp [hi] at this ⊢; omega

theorem remoteWakeB_eff {e : Exec} (h : InvB e) {id : Nat} (n : Nat) (hw : hasWakerClone e id = true) :
    Eff true e (remoteWakeB e id n).1 ∧ (remoteWakeB e id n).1.inflight = none := by
  obtain ⟨t, hg, hw⟩ := (hasWakerClone_iff e id).mp hw
  have live : ∀ t', e.get? id = some t' → Live t' := fun _ hg' => by
    rw [hg] at hg'; cases hg'; exact Or.inr (Or.inl hw)
  rcases remoteSchedTask_cases t with ⟨he, _⟩ | ⟨h1, h2, h3, h4, _⟩
  · rw [remoteWakeB_early n hg he]
    exact ⟨remoteSchedule_eff h.inv id live, (remoteSchedule_inflight e id).trans h.idle⟩
  -- the tick runs in a state `eA` in which the task has SCHEDULED | SCHEDULING set and still its waker clone; the
  -- clone survives the tick (`tickLoop_wakers`), so the closing `finish_scheduling` is a step of a live task
  have run : ∀ eA : Exec, Inv eA →
      eA.tasks = e.tasks.set id { t with word := { t.word with scheduled := true, scheduling := true } } →
      eA.alive = e.alive → ∀ eC : Exec, Inv eC → eC.tasks = (tickFrom eA n).1.tasks →
      eC.alive = (tickFrom eA n).1.alive → Eff true e (finishSched eC id) := by
    intro eA hA tA aA eC hC tC aC
    have hgA : eA.get? id = some { t with word := { t.word with scheduled := true, scheduling := true } } := by
      simp [Exec.get?, tA, List.getElem?_set_self (get?_lt hg)]
    obtain ⟨t2, hg2, hw2⟩ := tickLoop_wakers n (drainSync eA) (drainSync_inv hA) id _ ((drainSync_get? eA id).trans hgA)
    refine (Eff.set hA hg (.single (.sched t true true (live t hg))) tA aA).trans ((tickFrom_eff hA n).trans
      ((Eff.of_tasks hC tC aC).trans (finishSched_eff hC id fun t' hg' => ?_)))
    have : eC.get? id = some t2 := by unfold Exec.get?; rw [tC]; exact hg2
    rw [this] at hg'; cases hg'
    exact Or.inr (Or.inl (by have : t.wakers ≤ t2.wakers := hw2; omega))
  have fin_inflight : ∀ e' : Exec, (finishSched e' id).inflight = e'.inflight := by
    intro e'; unfold finishSched; cases e'.get? id <;> rfl
  rcases remoteWakeB_push n hg h1 h2 h3 h4 with ⟨_, hr⟩ | ⟨_, hr⟩ <;> rw [hr]
  · have hA : Inv (pushedB e id t) := push_inv h.inv hg true 1
    exact ⟨run _ hA rfl rfl _ (tickFrom_inv hA n) rfl rfl,
      by rw [fin_inflight, (tickFrom_fields hA n).2.1]; exact h.idle⟩
  · have hB := reserve_inv h.inv h.idle hg
    exact ⟨run _ hB rfl rfl _ (unreserve_inv (tickFrom_inv hB n) (tickFrom_fields hB n).2.1) rfl rfl,
      by rw [fin_inflight]⟩

/-- does the operation run tasks -/
def Op.ticks : Op → Bool
  | .tick _ => true
  | .rwakeb _ _ => true
  | _ => false

theorem apply_eff {e : Exec} (h : InvB e) (op : Op) :
    Eff op.ticks e (apply e op) ∧ (apply e op).inflight = none := by
  have same : ∀ {r : Bool}, Eff r e e ∧ e.inflight = none := ⟨.refl h.inv, h.idle⟩
  cases hs : op.simple with
  | some p =>
    have := simple_eff (id := p.1) (v := p.2.1) (s := p.2.2.1) (f := p.2.2.2) hs h
    cases op <;> first | exact this | cases hs
  | none =>
    cases op with
    | spawn sc =>
      cases ha : e.alive <;> simp only [apply, applyR, ha]
      · exact same
      · exact ⟨spawn_eff h.inv ha sc, h.idle⟩
    | tick n =>
      cases ha : e.alive <;> simp only [apply, applyR, ha]
      · exact same
      · exact ⟨tick_eff h.inv n, (tickFrom_fields (h.inv.outstanding 0) n).2.1.trans h.idle⟩
    | xdrop =>
      cases ha : e.alive <;> simp only [apply, applyR, ha]
      · exact same
      · refine ⟨execDrop_eff h.inv, ?_⟩
        show ((e.hot ++ e.cold).foldl clearTask e).inflight = none
        rw [(foldl_clearTask (e.hot ++ e.cold) e h.inv.q.nodup_append).2.1.inflight]; exact h.idle
    | rwakeb id n =>
      simp only [apply, applyR]
      cases hw : hasWakerClone e id
      · exact same
      · exact remoteWakeB_eff h n hw
    | _ => cases hs

theorem apply_invB {e : Exec} (h : InvB e) (op : Op) : InvB (apply e op) :=
  ⟨(apply_eff h op).1.inv, (apply_eff h op).2⟩

theorem apply_inv {e : Exec} (h : InvB e) (op : Op) : Inv (apply e op) := (apply_invB h op).inv

theorem new_invB (q : Nat) : InvB (Exec.new q) :=
  have nil : ∀ {p : Prop} {x : Nat}, x ∈ ([] : List Nat) → p := fun h => nomatch h
  ⟨⟨⟨List.nodup_nil, List.nodup_nil, fun _ => nil, fun _ => nil, fun _ => nil⟩,
    fun x t hx => by simp [Exec.new, Exec.get?] at hx, fun _ _ _ _ => nil, fun _ _ _ _ => nil,
    fun h => Bool.noConfusion h, Nat.le_refl 0⟩, rfl⟩

theorem run_foldl (q : Nat) (ops more : List Op) : run q (ops ++ more) = more.foldl apply (run q ops) :=
  List.foldl_append

theorem run_append (q : Nat) (ops : List Op) (op : Op) : run q (ops ++ [op]) = apply (run q ops) op :=
  run_foldl q ops [op]

theorem foldl_eff (ops : List Op) : ∀ {e : Exec}, InvB e →
    Eff true e (ops.foldl apply e) ∧ (ops.foldl apply e).inflight = none := by
  induction ops with
  | nil => exact fun h => ⟨.refl h.inv, h.idle⟩
  | cons op ops ih =>
    intro e h
    have h1 := apply_eff h op
    have h2 := ih ⟨h1.1.inv, h1.2⟩
    exact ⟨h1.1.weaken.trans h2.1, h2.2⟩

theorem run_invB (q : Nat) (ops : List Op) : InvB (run q ops) :=
  ⟨(foldl_eff ops (new_invB q)).1.inv, (foldl_eff ops (new_invB q)).2⟩

theorem run_inv (q : Nat) (ops : List Op) : Inv (run q ops) := (run_invB q ops).inv

theorem run_eff (q : Nat) (ops more : List Op) : Eff true (run q ops) (run q (ops ++ more)) :=
  run_foldl q ops more ▸ (foldl_eff more (run_invB q ops)).1

end Compio.Executor
