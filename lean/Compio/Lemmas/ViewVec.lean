/-
The vectored view model (Compio/Model/ViewVec.lean): a vectored fill of a packed container is the member-wise
single-buffer fill of consecutive chunks. The write phase (`distribute`, then `applyWrites`) is `writeMembers`; the
record phase, `set_len` of each container kind, turns the written members into the filled ones. A `VectoredSlice`
starts some bytes into one member behind full ones (where, is what `skipCount` answers): that member is treated with
the offset, the members after it as in a container. A fill at the first position of a fresh `owned_iter()` is one round
of `default_set_len`.
-/
import Compio.Lemmas.View
import Compio.Model.ViewVec

namespace Compio.View

/-- a member a vectored fill treats correctly: fresh view over a well-formed root whose initialised part
ends where the root's does (`o + li = root.len`; automatic for fresh views that are not full, an extra
condition — excluding end-bounded slices of longer buffers, finding V2 — for full ones) -/
def GoodM (m : Buf) (o li c : Nat) : Prop :=
  m.getRoot.WF ∧ m.Fresh ∧ m.asInit = .ok (o, li) ∧ m.asUninit = .ok (o, c) ∧ o + li = m.getRoot.len

/-- the single-buffer fill (`Buf.fill_law`) of `m` with as much of `d` as fits -/
def fillMember (m : Buf) (d : Bytes) : Buf :=
  match m.asUninit with
  | .ok (o, c) => m.setRoot (fillRoot o m.getRoot (d.take c))
  | .error _ => m

/-- the same with the chunk stored `off` bytes into `m`'s writable region (the offset of a `VectoredSlice`) -/
def fillMemberAt (m : Buf) (off : Nat) (d : Bytes) : Buf :=
  match m.asUninit with
  | .ok (o, c) => m.setRoot (fillRoot (o + off) m.getRoot (d.take (c - off)))
  | .error _ => m

def memberCap (m : Buf) : Nat :=
  match m.asUninit with
  | .ok (_, c) => c
  | .error _ => 0

def memberLen (m : Buf) : Nat :=
  match m.asInit with
  | .ok (_, l) => l
  | .error _ => 0

def fillMembers : List Buf → Bytes → List Buf
  | [], _ => []
  | m :: rest, d => fillMember m d :: fillMembers rest (d.drop (memberCap m))

def lenSum : List Buf → Nat
  | [] => 0
  | m :: rest => memberLen m + lenSum rest

def capSum : List Buf → Nat
  | [] => 0
  | m :: rest => memberCap m + capSum rest

def GoodAll : List Buf → Prop
  | [] => True
  | m :: rest => (∃ o li c, GoodM m o li c) ∧ GoodAll rest

def AllEmpty : List Buf → Prop
  | [] => True
  | m :: rest => (∃ o c, GoodM m o 0 c) ∧ AllEmpty rest

def AllFull : List Buf → Prop
  | [] => True
  | m :: rest => (∃ o c, GoodM m o c c) ∧ AllFull rest

/-- packed: full members, then at most one partially filled member, then empty members -/
def Packed : List Buf → Prop
  | [] => True
  | m :: rest => (∃ o c, GoodM m o c c ∧ Packed rest) ∨ (∃ o li c, GoodM m o li c ∧ AllEmpty rest)

theorem length_take_drop (c : Nat) (d : Bytes) :
    (d.take c).length + (d.drop c).length = d.length ∧ (d.take c).length ≤ c ∧
      ((d.drop c).length = 0 ∨ (d.take c).length = c) := by
  simp only [List.length_take, List.length_drop]
  omega

/-- the two lengths one round of `default_set_len` / `SetLen for (T, Rest)` computes: `min(capacity, len)` for the
member, `len -` that for the rest -/
theorem chunk_lengths {c off : Nat} (hoff : off ≤ c) (d : Bytes) :
    min c (off + d.length) = off + (d.take (c - off)).length ∧
    off + d.length - (off + (d.take (c - off)).length) = (d.drop (c - off)).length := by
  simp only [List.length_take, List.length_drop]
  omega

theorem fillMemberAt_zero (m : Buf) (d : Bytes) : fillMemberAt m 0 d = fillMember m d := rfl

section
variable {m : Buf} {o li c : Nat} (h : GoodM m o li c)
include h

theorem GoodM.wf : m.getRoot.WF := h.1
theorem GoodM.fresh : m.Fresh := h.2.1
theorem GoodM.asInit : m.asInit = .ok (o, li) := h.2.2.1
theorem GoodM.asUninit : m.asUninit = .ok (o, c) := h.2.2.2.1
theorem GoodM.tight : o + li = m.getRoot.len := h.2.2.2.2
theorem GoodM.le : li ≤ c := (Buf.fresh_window h.fresh h.wf.le h.asInit h.asUninit).2.1
theorem GoodM.fits : o + c ≤ m.getRoot.cap := (Buf.asUninit_inside h.asUninit).2
theorem GoodM.off : o = m.off := (Buf.asInit_inside h.asInit).1

theorem GoodM.memberCap_eq : memberCap m = c := by simp only [memberCap, h.asUninit]
theorem GoodM.memberLen_eq : memberLen m = li := by simp only [memberLen, h.asInit]

theorem GoodM.setLen_self : m.setLen li = .ok m := by
  have := h.le; have := h.fits; have := h.tight
  rw [Buf.setLen_of_ge h.wf (by rw [← h.off]; omega) (by rw [← h.off]; omega), ← h.off, h.tight]
  exact congrArg _ (Buf.setRoot_getRoot m)

theorem GoodM.asUninit_write {o' : Nat} {d : Bytes} (hd : o' + d.length ≤ o + c) :
    (m.write o' d).asUninit = .ok (o, c) := by
  rw [Buf.asUninit_write _ _ _ (by have := h.fits; omega)]
  exact h.asUninit

theorem GoodM.write_at_eq_fillMemberAt (off : Nat) (d : Bytes) (hd : off + (d.take (c - off)).length ≤ li) :
    m.write (o + off) (d.take (c - off)) = fillMemberAt m off d := by
  simp only [fillMemberAt, h.asUninit]
  exact Buf.write_eq_fillRoot m (by have := h.tight; omega)

theorem GoodM.setLen_write_at (off : Nat) (d : Bytes) (hoffc : off ≤ c)
    (hd : li ≤ off + (d.take (c - off)).length) :
    (m.write (o + off) (d.take (c - off))).setLen (off + (d.take (c - off)).length) =
      .ok (fillMemberAt m off d) := by
  have := h.fits; have := h.tight
  have hk := (length_take_drop (c - off) d).2.1
  simp only [fillMemberAt, h.asUninit]
  exact Buf.setLen_write_eq_fillRoot h.wf (by rw [← h.off]; omega) (by omega) (by omega)

theorem GoodM.write_eq_fillMember (d : Bytes) (hd : (d.take c).length ≤ li) :
    m.write o (d.take c) = fillMember m d :=
  h.write_at_eq_fillMemberAt 0 d (by rw [Nat.zero_add]; exact hd)

theorem GoodM.setLen_write_eq_fillMember (d : Bytes) (hd : li ≤ (d.take c).length) :
    (m.write o (d.take c)).setLen (d.take c).length = .ok (fillMember m d) := by
  have := h.setLen_write_at 0 d (Nat.zero_le _) (by rw [Nat.zero_add]; exact hd)
  rwa [Nat.zero_add] at this

theorem GoodM.fillMemberAt_nil {off : Nat} (hoff : off ≤ li) : fillMemberAt m off [] = m := by
  rw [← h.write_at_eq_fillMemberAt off [] (by simpa using hoff)]
  simp only [List.take_nil, Buf.write, splice_nil]
  exact Buf.setRoot_getRoot m

theorem GoodM.fillMember_nil : fillMember m [] = m := h.fillMemberAt_nil (Nat.zero_le _)

end

theorem GoodAll.forall {ms : List Buf} (h : GoodAll ms) : ∀ m ∈ ms, ∃ o li c, GoodM m o li c := by
  induction ms with
  | nil => intro m hm; cases hm
  | cons a rest ih =>
    intro m hm
    rcases List.mem_cons.mp hm with rfl | hm
    · exact h.1
    · exact ih h.2 m hm

theorem AllEmpty.packed {ms : List Buf} (h : AllEmpty ms) : Packed ms := by
  cases ms with
  | nil => trivial
  | cons m rest =>
    obtain ⟨⟨o, c, hg⟩, hr⟩ := h
    exact Or.inr ⟨o, 0, c, hg, hr⟩

theorem AllEmpty.lenSum {ms : List Buf} (h : AllEmpty ms) : lenSum ms = 0 := by
  induction ms with
  | nil => rfl
  | cons m rest ih =>
    obtain ⟨⟨o, c, hg⟩, hr⟩ := h
    simp only [View.lenSum, hg.memberLen_eq, ih hr]

theorem AllFull.good {ms : List Buf} (h : AllFull ms) : GoodAll ms := by
  induction ms with
  | nil => trivial
  | cons m rest ih =>
    obtain ⟨⟨o, c, hg⟩, hr⟩ := h
    exact ⟨⟨o, c, c, hg⟩, ih hr⟩

theorem AllFull.lenSum {ms : List Buf} (h : AllFull ms) : lenSum ms = capSum ms := by
  induction ms with
  | nil => rfl
  | cons m rest ih =>
    obtain ⟨⟨o, c, hg⟩, hr⟩ := h
    simp only [View.lenSum, View.capSum, hg.memberLen_eq, hg.memberCap_eq, ih hr]

theorem Packed.cons_inv {m : Buf} {rest : List Buf} (h : Packed (m :: rest)) :
    ∃ o li c, GoodM m o li c ∧ Packed rest ∧ (li = c ∨ AllEmpty rest) := by
  rcases h with ⟨o, c, hg, hr⟩ | ⟨o, li, c, hg, hr⟩
  · exact ⟨o, c, c, hg, hr, .inl rfl⟩
  · exact ⟨o, li, c, hg, hr.packed, .inr hr⟩

theorem Packed.good {ms : List Buf} (h : Packed ms) : GoodAll ms := by
  induction ms with
  | nil => trivial
  | cons m rest ih =>
    obtain ⟨o, li, c, hg, hr, _⟩ := h.cons_inv
    exact ⟨⟨o, li, c, hg⟩, ih hr⟩

theorem chunk_beyond {li c : Nat} (hle : li ≤ c) {rest : List Buf} (hshape : li = c ∨ AllEmpty rest) {d : Bytes}
    (hlt : li + lenSum rest < d.length) (hc : d.length ≤ c + capSum rest) :
    li ≤ (d.take c).length ∧ (d.drop c).length ≤ capSum rest ∧
      (lenSum rest < (d.drop c).length ∨ (d.drop c = [] ∧ AllEmpty rest)) := by
  obtain ⟨t1, t2, t3⟩ := length_take_drop c d
  refine ⟨by omega, by omega, ?_⟩
  rcases hshape with rfl | he
  · exact .inl (by omega)
  · by_cases h0 : d.drop c = []
    · exact .inr ⟨h0, he⟩
    · exact .inl (he.lenSum ▸ List.length_pos_iff.mpr h0)

theorem chunk_inside {li c : Nat} (hle : li ≤ c) {rest : List Buf} (hshape : li = c ∨ AllEmpty rest) {d : Bytes}
    (hd : d.length ≤ li + lenSum rest) : (d.take c).length ≤ li ∧ (d.drop c).length ≤ lenSum rest := by
  obtain ⟨t1, t2, t3⟩ := length_take_drop c d
  have hs : li = c ∨ lenSum rest = 0 := hshape.imp id AllEmpty.lenSum
  omega

theorem sumItems_asUninit (ms : List Buf) (k : Nat) (hg : GoodAll ms) :
    sumItems (indexFrom k (ms.map Buf.asUninit)) = .ok (capSum ms) := by
  induction ms generalizing k with
  | nil => rfl
  | cons m rest ih =>
    obtain ⟨⟨o, li, c, hm⟩, hr⟩ := hg
    simp only [List.map_cons, indexFrom, hm.asUninit, sumItems, ih (k + 1) hr, capSum, hm.memberCap_eq]

theorem sumItems_asInit (ms : List Buf) (k : Nat) (hg : GoodAll ms) :
    sumItems (indexFrom k (ms.map Buf.asInit)) = .ok (lenSum ms) := by
  induction ms generalizing k with
  | nil => rfl
  | cons m rest ih =>
    obtain ⟨⟨o, li, c, hm⟩, hr⟩ := hg
    simp only [List.map_cons, indexFrom, hm.asInit, sumItems, ih (k + 1) hr, lenSum, hm.memberLen_eq]

theorem fillMembers_nil {ms : List Buf} (hg : GoodAll ms) : fillMembers ms [] = ms := by
  induction ms with
  | nil => rfl
  | cons m rest ih =>
    obtain ⟨⟨o, li, c, hm⟩, hr⟩ := hg
    simp only [fillMembers, hm.fillMember_nil, List.drop_nil, ih hr]

/-- the members after the write phase of a vectored fill: `distribute`, then `applyWrites`
(`distribute_applyWrites`) -/
def writeMembers : List Buf → Bytes → List Buf
  | [], _ => []
  | m :: rest, d =>
    if d.isEmpty then m :: rest
    else
      match m.asUninit with
      | .ok (o, c) => m.write o (d.take c) :: writeMembers rest (d.drop c)
      | .error _ => m :: rest

theorem writeMembers_nil (ms : List Buf) : writeMembers ms [] = ms := by
  cases ms <;> simp [writeMembers]

theorem writeMembers_cons {m : Buf} {o li c : Nat} (h : GoodM m o li c) (rest : List Buf) {d : Bytes}
    (hd : d ≠ []) : writeMembers (m :: rest) d = m.write o (d.take c) :: writeMembers rest (d.drop c) := by
  simp only [writeMembers, List.isEmpty_iff, hd, if_false, h.asUninit]

theorem writeMembers_length (ms : List Buf) (d : Bytes) : (writeMembers ms d).length = ms.length := by
  induction ms generalizing d with
  | nil => rfl
  | cons m rest ih =>
    simp only [writeMembers]
    split
    · rfl
    · split <;> simp only [List.length_cons, ih]

theorem writeMembers_asInit (ms : List Buf) (d : Bytes) :
    (writeMembers ms d).map Buf.asInit = ms.map Buf.asInit := by
  induction ms generalizing d with
  | nil => rfl
  | cons m rest ih =>
    simp only [writeMembers]
    split
    · rfl
    · split
      · simp only [List.map_cons, Buf.asInit_write, ih]
      · rfl

theorem modifyAt_append (f : Buf → Buf) (pre : List Buf) (m : Buf) (rest : List Buf) :
    modifyAt f (pre ++ m :: rest) pre.length = pre ++ f m :: rest := by
  induction pre with
  | nil => rfl
  | cons p t ih => simp [modifyAt, ih]

/-- the head range `(o, c)` is a variable: the member's own writable range in `distribute_applyWrites`, that range
cut by the slice's offset in `VBuf.fill_slice_packed` -/
theorem distribute_cons {rest : List Buf}
    (hrest : ∀ (pre : List Buf) (d : Bytes),
      ∃ cs, distribute (indexFrom pre.length (rest.map Buf.asUninit)) d = .ok cs ∧
        applyWrites (pre ++ rest) cs = pre ++ writeMembers rest d)
    (pre : List Buf) (m : Buf) (o c : Nat) {d : Bytes} (hd : d ≠ []) :
    ∃ cs, distribute ((pre.length, .ok (o, c)) :: indexFrom (pre.length + 1) (rest.map Buf.asUninit)) d = .ok cs ∧
      applyWrites (pre ++ m :: rest) cs = pre ++ m.write o (d.take c) :: writeMembers rest (d.drop c) := by
  obtain ⟨cs, h1, h2⟩ := hrest (pre ++ [m.write o (d.take c)]) (d.drop c)
  simp only [List.length_append, List.length_singleton, List.append_assoc, List.singleton_append] at h1 h2
  refine ⟨(pre.length, o, d.take c) :: cs, ?_, ?_⟩
  · simp only [distribute, List.isEmpty_iff, hd, if_false]
    rw [h1]
  · simp only [applyWrites, modifyAt_append]
    exact h2

theorem distribute_applyWrites (ms : List Buf) (hg : GoodAll ms) (pre : List Buf) (d : Bytes) :
    ∃ cs, distribute (indexFrom pre.length (ms.map Buf.asUninit)) d = .ok cs ∧
      applyWrites (pre ++ ms) cs = pre ++ writeMembers ms d := by
  induction ms generalizing pre d with
  | nil => exact ⟨[], rfl, rfl⟩
  | cons m rest ih =>
    obtain ⟨⟨o, li, c, hm⟩, hr⟩ := hg
    by_cases hd : d = []
    · subst hd
      exact ⟨[], by simp [indexFrom, distribute], by rw [writeMembers_nil]; rfl⟩
    · rw [writeMembers_cons hm rest hd, List.map_cons, indexFrom, hm.asUninit]
      exact distribute_cons (ih hr) pre m o c hd

theorem writeMembers_eq_fillMembers (ms : List Buf) (d : Bytes) (hp : Packed ms) (hd : d.length ≤ lenSum ms) :
    writeMembers ms d = fillMembers ms d := by
  induction ms generalizing d with
  | nil => rfl
  | cons m rest ih =>
    by_cases hde : d = []
    · subst hde
      rw [writeMembers_nil, fillMembers_nil hp.good]
    · obtain ⟨o, li, c, hg, hr, hshape⟩ := hp.cons_inv
      simp only [lenSum, hg.memberLen_eq] at hd
      obtain ⟨a1, a2⟩ := chunk_inside hg.le hshape hd
      rw [writeMembers_cons hg rest hde, fillMembers, hg.memberCap_eq, hg.write_eq_fillMember d a1,
        ih (d.drop c) hr a2]

theorem defaultSetLen_zero (l : List Buf) : defaultSetLen l 0 = .ok l := by
  cases l <;> simp [defaultSetLen]

theorem defaultSetLen_cons_write {m : Buf} {o li c : Nat} (h : GoodM m o li c) {off : Nat} {d : Bytes}
    (hoff : off ≤ c) (hne : d ≠ []) (hd : li ≤ off + (d.take (c - off)).length) {n : Nat}
    (hn : n = off + d.length) {R R' : List Buf} (hR : defaultSetLen R (d.drop (c - off)).length = .ok R') :
    defaultSetLen (m.write (o + off) (d.take (c - off)) :: R) n = .ok (fillMemberAt m off d :: R') := by
  subst hn
  obtain ⟨hmin, hrem⟩ := chunk_lengths hoff d
  have hpos : off + d.length ≠ 0 := fun h0 => hne (List.length_eq_zero_iff.mp (Nat.add_eq_zero_iff.mp h0).2)
  have huw := h.asUninit_write (o' := o + off) (d := d.take (c - off))
    (by have := (length_take_drop (c - off) d).2.1; omega)
  simp only [defaultSetLen, hpos, if_false, huw, hmin, h.setLen_write_at off d hoff hd, hrem, hR]

theorem defaultSetLen_writeMembers (ms : List Buf) (d : Bytes) (hp : Packed ms)
    (hl : lenSum ms < d.length ∨ d = []) (hc : d.length ≤ capSum ms) :
    defaultSetLen (writeMembers ms d) d.length = .ok (fillMembers ms d) := by
  induction ms generalizing d with
  | nil => rfl
  | cons m rest ih =>
    by_cases hde : d = []
    · subst hde
      rw [writeMembers_nil, fillMembers_nil hp.good]
      exact defaultSetLen_zero _
    · obtain ⟨o, li, c, hg, hr, hshape⟩ := hp.cons_inv
      simp only [lenSum, hg.memberLen_eq, capSum, hg.memberCap_eq] at hl hc
      obtain ⟨a1, a2, a3⟩ := chunk_beyond hg.le hshape (hl.resolve_right hde) hc
      rw [writeMembers_cons hg rest hde, fillMembers, hg.memberCap_eq]
      exact defaultSetLen_cons_write hg (off := 0) (Nat.zero_le _) hde (by rw [Nat.zero_add]; exact a1)
        (Nat.zero_add _).symm (ih (d.drop c) hr (a3.imp id (·.1)) a2)

theorem tupleSetLen_cons_of_ne (unit : Bool) (m : Buf) (l : List Buf) (n : Nat) (hl : l ≠ []) :
    tupleSetLen unit (m :: l) n =
      match m.asUninit with
      | .error f => .error f
      | .ok (_, c) =>
        match m.setLen (min n c) with
        | .error f => .error f
        | .ok m' =>
          match tupleSetLen unit l (n - min n c) with
          | .ok rest' => .ok (m' :: rest')
          | .error f => .error f := by
  cases l with
  | nil => exact absurd rfl hl
  | cons m2 rest => rfl

theorem tupleSetLen_allEmpty (unit : Bool) (ms : List Buf) (h : AllEmpty ms) :
    tupleSetLen unit ms 0 = .ok ms := by
  induction ms with
  | nil => cases unit <;> rfl
  | cons m rest ih =>
    obtain ⟨⟨o, c, hg⟩, hr⟩ := h
    cases rest with
    | nil => cases unit <;> simp [tupleSetLen, hg.asUninit, hg.setLen_self]
    | cons m2 rest' =>
      simp only [tupleSetLen, hg.asUninit, Nat.zero_min, hg.setLen_self, Nat.sub_self, ih hr]

/-- `(T, Rest)` calls `set_len` on its head also with 0: hence `AllEmpty ms` where there is no data -/
theorem tupleSetLen_writeMembers (unit : Bool) (ms : List Buf) (d : Bytes) (hp : Packed ms)
    (hl : lenSum ms < d.length ∨ (d = [] ∧ AllEmpty ms)) (hc : d.length ≤ capSum ms) :
    tupleSetLen unit (writeMembers ms d) d.length = .ok (fillMembers ms d) := by
  induction ms generalizing d with
  | nil =>
    have : d = [] := List.length_eq_zero_iff.mp (Nat.le_zero.mp hc)
    subst this
    cases unit <;> rfl
  | cons m rest ih =>
    by_cases hde : d = []
    · subst hde
      rw [writeMembers_nil, fillMembers_nil hp.good]
      exact tupleSetLen_allEmpty unit _ (hl.elim (fun h => absurd h (Nat.not_lt_zero _)) (·.2))
    · obtain ⟨o, li, c, hg, hr, hshape⟩ := hp.cons_inv
      simp only [lenSum, hg.memberLen_eq, capSum, hg.memberCap_eq] at hl hc
      obtain ⟨a1, a2, hrest⟩ := chunk_beyond hg.le hshape (hl.resolve_right fun h => hde h.1) hc
      obtain ⟨t1, t2, t3⟩ := length_take_drop c d
      have hmin : min d.length c = (d.take c).length := by omega
      have hrem : d.length - (d.take c).length = (d.drop c).length := by omega
      have hset := hg.setLen_write_eq_fillMember d a1
      have huw := hg.asUninit_write (o' := o) (d := d.take c) (Nat.add_le_add_left t2 o)
      have ih' := ih (d.drop c) hr hrest a2
      rw [writeMembers_cons hg rest hde, fillMembers, hg.memberCap_eq]
      cases rest with
      | nil =>
        -- the last member: `(T,)` takes the whole remaining length unclamped, `()` checks that nothing is left
        have htake : (d.take c).length = d.length := by
          have := Nat.le_zero.mp a2
          omega
        rw [htake] at hset hmin
        cases unit
        · simp only [writeMembers, fillMembers, tupleSetLen, Bool.false_eq_true, if_false, hset]
        · simp only [writeMembers, fillMembers, tupleSetLen, huw, hmin, hset, Nat.sub_self, if_true]
      | cons m2 rest' =>
        rw [tupleSetLen_cons_of_ne unit _ _ _ (fun h => by
          have := congrArg List.length h
          simp [writeMembers_length] at this)]
        simp only [huw, hmin, hset, hrem, ih']

/-- the `if` is the comparison `advance_vec_to` makes -/
theorem VBuf.fill_base (k : VKind) (ms : List Buf) (d : Bytes) (hg : GoodAll ms) (hc : d.length ≤ capSum ms) :
    (VBuf.base k ms).fill d =
      if d.length > lenSum ms then (VBuf.base k (writeMembers ms d)).setLen d.length
      else .ok (.base k (writeMembers ms d)) := by
  obtain ⟨cs, h1, h2⟩ := distribute_applyWrites ms hg [] d
  simp only [List.length_nil, List.nil_append] at h1 h2
  simp only [VBuf.fill, VBuf.totalCap, VBuf.iterUninit, sumItems_asUninit ms 0 hg, hc, if_true, h1,
    VBuf.members, h2, VBuf.setMembers, VBuf.advanceVecTo, VBuf.totalLen, VBuf.iterSlice, writeMembers_asInit,
    sumItems_asInit ms 0 hg]

theorem VBuf.fill_base_packed (k : VKind) (ms : List Buf) (d : Bytes) (hp : Packed ms)
    (hc : d.length ≤ capSum ms) : (VBuf.base k ms).fill d = .ok (.base k (fillMembers ms d)) := by
  rw [VBuf.fill_base k ms d hp.good hc]
  split
  · rename_i hgt
    cases k <;> simp only [VBuf.setLen, defaultSetLen_writeMembers ms d hp (.inl hgt) hc,
      tupleSetLen_writeMembers _ ms d hp (.inl hgt) hc]
  · rw [writeMembers_eq_fillMembers ms d hp (by omega)]

theorem skipCount_asUninit (ms : List Buf) :
    ∀ (k off idx : Nat), GoodAll ms →
      ∃ j off', skipCount (indexFrom k (ms.map Buf.asUninit)) off idx = .ok (idx + j, off') ∧
        j ≤ ms.length ∧ capSum (ms.take j) + off' = off ∧
        (∀ m, ms[j]? = some m → off' < memberCap m) := by
  induction ms with
  | nil =>
    intro k off idx _
    exact ⟨0, off, rfl, Nat.le_refl _, by simp [capSum], by simp⟩
  | cons m rest ih =>
    intro k off idx hg
    obtain ⟨⟨o, li, c, hm⟩, hr⟩ := hg
    simp only [List.map_cons, indexFrom, skipCount, hm.asUninit]
    by_cases hc : c > off
    · simp only [hc, if_true]
      refine ⟨0, off, rfl, Nat.zero_le _, by simp [capSum], ?_⟩
      intro m' hm'
      simp only [List.getElem?_cons_zero, Option.some.injEq] at hm'
      subst hm'
      rwa [hm.memberCap_eq]
    · simp only [hc, if_false]
      obtain ⟨j, off', h1, h2, h3, h4⟩ := ih (k + 1) (off - c) (idx + 1) hr
      refine ⟨j + 1, off', ?_, ?_, ?_, ?_⟩
      · rw [h1]; congr 2; omega
      · simp only [List.length_cons]; omega
      · simp only [List.take_succ_cons, capSum, hm.memberCap_eq]; omega
      · intro m' hm'
        simp only [List.getElem?_cons_succ] at hm'
        exact h4 m' hm'

theorem skipCount_full_prefix (pre : List Buf) (m : Buf) (rest : List Buf) (o li c off k idx : Nat)
    (hpre : AllFull pre) (hm : GoodM m o li c) (hoff : off < c) :
    skipCount (indexFrom k ((pre ++ m :: rest).map Buf.asUninit)) (capSum pre + off) idx =
      .ok (idx + pre.length, off) := by
  induction pre generalizing k idx with
  | nil =>
    simp only [List.nil_append, List.map_cons, indexFrom, skipCount, hm.asUninit, capSum, Nat.zero_add,
      List.length_nil, Nat.add_zero]
    rw [if_pos hoff]
  | cons a t ih =>
    obtain ⟨⟨oa, ca, ha⟩, ht⟩ := hpre
    simp only [List.cons_append, List.map_cons, indexFrom, skipCount, ha.asUninit, capSum, ha.memberCap_eq]
    rw [if_neg (by omega), show ca + capSum t + off - ca = capSum t + off by omega, ih (k + 1) (idx + 1) ht]
    simp only [List.length_cons]
    congr 2
    omega

theorem defaultSetLen_full_prefix (pre : List Buf) (l : List Buf) (n : Nat) (hp : AllFull pre)
    (hn : capSum pre ≤ n) :
    defaultSetLen (pre ++ l) n =
      match defaultSetLen l (n - capSum pre) with
      | .ok l' => .ok (pre ++ l')
      | .error f => .error f := by
  induction pre generalizing n with
  | nil => simp only [List.nil_append, capSum, Nat.sub_zero]; cases defaultSetLen l n <;> rfl
  | cons m rest ih =>
    obtain ⟨⟨o, c, hg⟩, hr⟩ := hp
    simp only [capSum, hg.memberCap_eq] at hn ⊢
    by_cases h0 : n = 0
    · subst h0
      simp only [List.cons_append, defaultSetLen, if_true, Nat.zero_sub]
      rw [defaultSetLen_zero]
    · simp only [List.cons_append, defaultSetLen, h0, if_false, hg.asUninit]
      rw [Nat.min_eq_left (by omega), hg.setLen_self]
      simp only
      rw [ih (n - c) hr (by omega), show n - c - capSum rest = n - (c + capSum rest) by omega]
      cases defaultSetLen l (n - (c + capSum rest)) <;> rfl

theorem dropEval_indexFrom (pre l : List Buf) (f : Buf → Res (Nat × Nat)) (k : Nat)
    (hok : ∀ m ∈ pre, ∃ p, f m = .ok p) :
    dropEval pre.length (indexFrom k ((pre ++ l).map f)) = indexFrom (k + pre.length) (l.map f) := by
  induction pre generalizing k with
  | nil => simp [dropEval]
  | cons m rest ih =>
    obtain ⟨p, hp⟩ := hok m (by simp)
    simp only [List.cons_append, List.map_cons, indexFrom, List.length_cons, dropEval, hp]
    rw [ih (k + 1) (fun x hx => hok x (by simp [hx]))]
    congr 1
    omega

/-- `f` is `Buf.asInit` (`iter_slice`) or `Buf.asUninit` (`iter_uninit_slice`) -/
theorem iter_vslice (f : Buf → Res (Nat × Nat)) (pre : List Buf) (m : Buf) (rest : List Buf) {o l off : Nat}
    (hpre : ∀ x ∈ pre, ∃ p, f x = .ok p) (hm : f m = .ok (o, l)) (hoff : off ≤ l) :
    applyOffset off (dropEval pre.length (indexFrom 0 ((pre ++ m :: rest).map f))) =
      (pre.length, .ok (o + off, l - off)) :: indexFrom (pre.length + 1) (rest.map f) := by
  rw [dropEval_indexFrom pre (m :: rest) f 0 hpre]
  simp only [List.map_cons, indexFrom, Nat.zero_add, applyOffset, hm, if_pos hoff]

/-- index `pre.length` and offset `off` are where `slice_mut(capSum pre + off)` starts in `pre ++ m :: rest` when
`off < c` (`skipCount_full_prefix`); at `off = c` it starts at the next member -/
theorem VBuf.fill_slice_packed (pre : List Buf) (m : Buf) (rest : List Buf) (o li c off : Nat) (d : Bytes)
    (hpre : AllFull pre) (hm : GoodM m o li c) (hoff : off ≤ li)
    (hshape : (li = c ∧ Packed rest) ∨ AllEmpty rest)
    (hd : d.length ≤ (c - off) + capSum rest) :
    (VBuf.vslice (.base .list (pre ++ m :: rest)) (capSum pre + off) pre.length off).fill d =
      .ok (.vslice (.base .list (pre ++ fillMemberAt m off d :: fillMembers rest (d.drop (c - off))))
        (capSum pre + off) pre.length off) := by
  have hlc := hm.le
  have hrestP : Packed rest := hshape.elim (·.2) AllEmpty.packed
  have hrg := hrestP.good
  have hitU := iter_vslice Buf.asUninit pre m rest (off := off)
    (fun x hx => let ⟨_, _, _, h⟩ := hpre.good.forall x hx; ⟨_, h.asUninit⟩) hm.asUninit (by omega)
  have hitI : ∀ (m' : Buf) (rest' : List Buf), m'.asInit = .ok (o, li) → _ := fun m' rest' h' =>
    iter_vslice Buf.asInit pre m' rest'
      (fun x hx => let ⟨_, _, _, h⟩ := hpre.good.forall x hx; ⟨_, h.asInit⟩) h' hoff
  simp only [VBuf.fill, VBuf.totalCap, VBuf.iterUninit, hitU, sumItems, sumItems_asUninit rest _ hrg, hd, if_true]
  by_cases hde : d = []
  · subst hde
    simp only [distribute, List.isEmpty_nil, if_true, applyWrites, VBuf.members, VBuf.setMembers,
      VBuf.advanceVecTo, VBuf.totalLen, VBuf.iterSlice, hitI m rest hm.asInit, sumItems,
      sumItems_asInit rest _ hrg, List.length_nil, Nat.not_lt_zero, gt_iff_lt, if_false, List.drop_nil,
      fillMembers_nil hrg, hm.fillMemberAt_nil hoff]
  · obtain ⟨cs, hcs, happly⟩ := distribute_cons (distribute_applyWrites rest hrg) pre m (o + off) (c - off) hde
    -- behind the slice's offset the member counts `li - off` of `c - off` bytes
    have hshape' : li - off = c - off ∨ AllEmpty rest := hshape.imp (fun h => by rw [h.1]) id
    have hlc' : li - off ≤ c - off := Nat.sub_le_sub_right hlc off
    simp only [hcs, VBuf.members, happly, VBuf.setMembers, VBuf.advanceVecTo, VBuf.totalLen, VBuf.iterSlice,
      hitI _ _ ((Buf.asInit_write _ _ _).trans hm.asInit), sumItems, writeMembers_asInit,
      sumItems_asInit rest _ hrg]
    split
    · -- recorded: `set_len(begin + |d|)` on the wrapped container passes `pre` and reaches `m` with `off + |d|`
      rename_i hgt
      obtain ⟨a1, a2, a3⟩ := chunk_beyond hlc' hshape' hgt hd
      simp only [VBuf.setLen]
      rw [defaultSetLen_full_prefix pre _ _ hpre (Nat.le_add_right_of_le (Nat.le_add_right _ _)),
        Nat.add_assoc, Nat.add_sub_cancel_left,
        defaultSetLen_cons_write hm (Nat.le_trans hoff hlc) hde (Nat.sub_le_iff_le_add'.mp a1) rfl
          (defaultSetLen_writeMembers rest (d.drop (c - off)) hrestP (a3.imp id (·.1)) a2)]
    · -- the data ends inside the initialised part: the writes are the whole effect
      rename_i hgt
      obtain ⟨b1, b2⟩ := chunk_inside hlc' hshape' (Nat.le_of_not_gt hgt)
      rw [hm.write_at_eq_fillMemberAt off d (Nat.add_le_of_le_sub' hoff b1),
        writeMembers_eq_fillMembers rest (d.drop (c - off)) hrestP b2]

/-- `VIter.mk _ 0 0 n 0` is a freshly created `owned_iter()` (`VBuf.ownedIter`); the other members need no
hypothesis -/
theorem VIter.fill_first (m : Buf) (rest : List Buf) (o li c : Nat) (hg : GoodM m o li c) (d : Bytes)
    (hd : d.length ≤ c) (n : Nat) :
    (VIter.mk (.base .list (m :: rest)) 0 0 n 0).fill d =
      .ok (VIter.mk (.base .list (fillMember m d :: rest)) 0 0 n (if d.length > li then d.length else 0)) := by
  have htake : d.take c = d := List.take_of_length_le hd
  have hui : (VIter.mk (.base .list (m :: rest)) 0 0 n 0).asUninit = .ok (0, o, c) := by
    simp [VIter.asUninit, VBuf.iterUninit, indexFrom, nthItem, hg.asUninit]
  have hii : ∀ m' : Buf, m'.asInit = .ok (o, li) →
      (VIter.mk (.base .list (m' :: rest)) 0 0 n 0).asInit = .ok (0, o, li) := by
    intro m' h
    simp [VIter.asInit, VBuf.iterSlice, indexFrom, nthItem, h]
  simp only [VIter.fill, hui, hd, if_true, hii m hg.asInit, VBuf.members, VBuf.setMembers, modifyAt,
    VIter.advanceTo, hii _ ((Buf.asInit_write _ _ _).trans hg.asInit)]
  split
  · -- one round of `default_set_len` on member 0, nothing left for the others
    rename_i hgt
    have hne : d ≠ [] := fun h => by simp [h] at hgt
    have := defaultSetLen_cons_write hg (off := 0) (Nat.zero_le _) hne
      (show li ≤ 0 + (d.take c).length by rw [htake]; omega) (Nat.zero_add _).symm
      (show defaultSetLen rest (d.drop c).length = .ok rest by
        rw [List.drop_of_length_le hd]; exact defaultSetLen_zero rest)
    simp only [Nat.add_zero, Nat.sub_zero, htake] at this
    simp only [VIter.setLen, Nat.zero_add, VBuf.setLen, this, ← fillMemberAt_zero]
  · rw [← hg.write_eq_fillMember d (by rw [htake]; omega), htake]

end Compio.View
