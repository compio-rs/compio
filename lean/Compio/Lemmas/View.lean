/-
The single-buffer view model (Compio/Model/View.lean) in closed form. A stack of `Slice` / `Uninit` layers is one
window of its root: `Buf.off` is where it starts and where `set_len` counts from, `Buf.stop` where it ends at the
latest; `as_init` of every stack is that window cut from `len`, `as_uninit` of a fresh one the same window cut from
`cap`; the range laws are arithmetic on the two cuts. A re-used `Uninit` has no such form (finding F6) and keeps its
own induction. A store is a `splice` of the root's memory, a fill a change of the root alone (`fillRoot`); `Root.WF`,
what real containers guarantee of a root, is kept by every step of a program; `flatten` reports the ranges and
forwards `set_len` like the nested slice it replaces.
-/
import Compio.Model.View

namespace Compio.View

/-- what every real root container guarantees: `len ≤ cap`, fixed-size kinds are always full -/
structure Root.WF (r : Root) : Prop where
  le : r.len ≤ r.cap
  full : r.kind = .arr ∨ r.kind = .boxed → r.len = r.cap

/-- the clamp `min n cap` is only visible for `pool`: the other kinds fault beyond the capacity -/
theorem Root.setLen_cases {r r' : Root} {n : Nat} (h : r.setLen n = .ok r') :
    r' = r ∨ (r' = { r with len := min n r.cap } ∧ r.kind ≠ .arr ∧ r.kind ≠ .boxed) := by
  unfold Root.setLen at h
  split at h <;> (repeat' split at h) <;> cases h <;> simp [*, Nat.min_eq_left]

theorem Root.setLen_mem {r r' : Root} {n : Nat} (h : r.setLen n = .ok r') :
    r'.mem = r.mem ∧ r'.kind = r.kind := by
  rcases Root.setLen_cases h with rfl | ⟨rfl, _⟩ <;> exact ⟨rfl, rfl⟩

theorem Root.setLen_cap {r r' : Root} {n : Nat} (h : r.setLen n = .ok r') : r'.cap = r.cap := by
  unfold Root.cap; rw [(Root.setLen_mem h).1]

theorem Root.setLen_wf_of_ok {r r' : Root} {n : Nat} (hw : r.WF) (h : r.setLen n = .ok r') : r'.WF := by
  rcases Root.setLen_cases h with rfl | ⟨rfl, ha, hb⟩
  · exact hw
  · exact ⟨Nat.min_le_right _ _, fun hk => (hk.elim ha hb).elim⟩

theorem Root.setLen_ok (r : Root) (n : Nat) (hn : n ≤ r.cap) : ∃ r', r.setLen n = .ok r' := by
  unfold Root.setLen
  cases r.kind <;> simp only [hn, if_true]
  case arrayvec | smallvec => split <;> exact ⟨_, rfl⟩
  all_goals exact ⟨_, rfl⟩

theorem Root.setLen_of_ge (r : Root) (n : Nat) (hge : r.len ≤ n) (hn : n ≤ r.cap)
    (hfix : r.kind = .arr ∨ r.kind = .boxed → r.len = n) : r.setLen n = .ok { r with len := n } := by
  obtain ⟨kind, len, mem⟩ := r
  have hnot : ¬ len < n → len = n := fun h => by simp only at hge; omega
  cases kind <;> simp only [Root.setLen, hn, if_true, Nat.min_eq_left]
  · rw [← hfix (.inl rfl)]
  · rw [← hfix (.inr rfl)]
  · split
    · rfl
    · rw [hnot ‹_›]
  · split
    · rfl
    · rw [hnot ‹_›]

theorem Root.WF.setLen_of_ge {r : Root} (hw : r.WF) {n : Nat} (hge : r.len ≤ n) (hn : n ≤ r.cap) :
    r.setLen n = .ok { r with len := n } :=
  Root.setLen_of_ge r n hge hn fun hk => by have := hw.full hk; omega

theorem subRange_of_le {p : Nat × Nat} {b : Nat} {e : Option Nat}
    (hb : b ≤ min (e.getD p.2) p.2) :
    subRange p b e = .ok (p.1 + b, min (e.getD p.2) p.2 - b) :=
  if_pos hb

theorem subRange_of_not_le {p : Nat × Nat} {b : Nat} {e : Option Nat}
    (hb : ¬ b ≤ min (e.getD p.2) p.2) : subRange p b e = .error .panic :=
  if_neg hb

theorem subRange_ok {p : Nat × Nat} {b : Nat} {e : Option Nat} {q : Nat × Nat}
    (h : subRange p b e = .ok q) : q.1 = p.1 + b ∧ q.2 + b = min (e.getD p.2) p.2 := by
  by_cases hb : b ≤ min (e.getD p.2) p.2
  · rw [subRange_of_le hb] at h
    cases h
    exact ⟨rfl, Nat.sub_add_cancel hb⟩
  · rw [subRange_of_not_le hb] at h
    cases h

theorem subRange_inside {p : Nat × Nat} {b : Nat} {e : Option Nat} {q : Nat × Nat}
    (h : subRange p b e = .ok q) : p.1 ≤ q.1 ∧ q.1 + q.2 ≤ p.1 + p.2 := by
  have := subRange_ok h
  omega

theorem subRange_zero_ok {L b : Nat} {e : Option Nat} {q : Nat × Nat} (h : subRange (0, L) b e = .ok q) :
    q.1 = b ∧ q.1 + q.2 = min (e.getD L) L := by
  have := subRange_ok h
  simp only [Nat.zero_add] at this
  omega

/-- the `match` is the end `Buf.flatten` gives the merged slice -/
theorem flatten_end_clamp (lb : Nat) (le e : Option Nat) (l : Nat) :
    min ((match e, le with
      | some se, some le => some (min (lb + se) le)
      | some se, none => some (lb + se)
      | none, le => le).getD l) l =
      min (lb + e.getD (min (le.getD l) l - lb)) (min (le.getD l) l) := by
  cases e with
  | none => simp only [Option.getD_none]; omega
  | some se => cases le <;> simp only [Option.getD_none, Option.getD_some, Nat.min_self, Nat.min_assoc]

theorem subRange_subRange (p : Nat × Nat) (lb : Nat) (le : Option Nat) (b : Nat) (e : Option Nat) :
    (match subRange p lb le with
      | .ok q => subRange q b e
      | .error f => .error f) =
    subRange p (lb + b) (match e, le with
      | some se, some le => some (min (lb + se) le)
      | some se, none => some (lb + se)
      | none, le => le) := by
  obtain ⟨o, l⟩ := p
  by_cases h1 : lb ≤ min (le.getD l) l
  · rw [subRange_of_le (p := (o, l)) h1]
    simp only [subRange, flatten_end_clamp]
    generalize min (le.getD l) l = E at h1 ⊢
    generalize e.getD (E - lb) = x
    have hm : min (lb + x) E = lb + min x (E - lb) := by omega
    simp only [hm, Nat.add_le_add_iff_left, Nat.add_assoc, Nat.add_sub_add_left]
  · rw [subRange_of_not_le (p := (o, l)) h1]
    simp only [subRange, flatten_end_clamp]
    rw [if_neg (by omega)]

theorem Buf.asUninit_slice_ok {i : Buf} {b : Nat} {e : Option Nat} {q : Nat × Nat}
    (h : (Buf.slice i b e).asUninit = .ok q) : ∃ p, i.asUninit = .ok p ∧ subRange p b e = .ok q := by
  simp only [Buf.asUninit] at h
  cases hi : i.asUninit with
  | error f => simp [hi] at h
  | ok p => exact ⟨p, rfl, by simpa [hi] using h⟩

/-- `Uninit` wraps `Slice { buffer, begin, None }` (uninit.rs) and forwards everything to it except
`as_uninit`, which skips the `buf_len()` bytes of that slice -/
theorem Buf.asUninit_uninit (i : Buf) (b : Nat) :
    (Buf.uninit i b).asUninit =
      match (Buf.slice i b none).asInit with
      | .error f => .error f
      | .ok (_, li) =>
        match (Buf.slice i b none).asUninit with
        | .error f => .error f
        | .ok (o, c) => if li ≤ c then .ok (o + li, c - li) else .error .panic := by
  simp only [Buf.asUninit, Buf.asInit]
  cases i.asInit with
  | error f => rfl
  | ok pi =>
    simp only
    cases subRange pi b none with
    | error f => rfl
    | ok q =>
      simp only
      cases i.asUninit with
      | error f => rfl
      | ok pu =>
        simp only
        cases subRange pu b none <;> rfl

theorem Buf.asUninit_uninit_ok {i : Buf} {b : Nat} {q : Nat × Nat} (h : (Buf.uninit i b).asUninit = .ok q) :
    ∃ oi li o c, (Buf.slice i b none).asInit = .ok (oi, li) ∧ (Buf.slice i b none).asUninit = .ok (o, c) ∧
      li ≤ c ∧ q = (o + li, c - li) := by
  rw [Buf.asUninit_uninit] at h
  split at h
  · cases h
  · split at h
    · cases h
    · split at h <;> cases h
      exact ⟨_, _, _, _, ‹_›, ‹_›, ‹_›, rfl⟩

@[simp] theorem Buf.getRoot_setRoot (v : Buf) (r : Root) : (v.setRoot r).getRoot = r := by
  induction v <;> simp_all [Buf.setRoot, Buf.getRoot]

@[simp] theorem Buf.setRoot_setRoot (v : Buf) (r r' : Root) : (v.setRoot r).setRoot r' = v.setRoot r' := by
  induction v <;> simp_all [Buf.setRoot]

@[simp] theorem Buf.setRoot_getRoot (v : Buf) : v.setRoot v.getRoot = v := by
  induction v <;> simp_all [Buf.setRoot, Buf.getRoot]

/-- where the view starts in the root allocation -/
def Buf.off : Buf → Nat
  | .root _ => 0
  | .slice i b _ => i.off + b
  | .uninit i b => i.off + b

@[simp] theorem Buf.off_setRoot (v : Buf) (r : Root) : (v.setRoot r).off = v.off := by
  induction v <;> simp_all [Buf.setRoot, Buf.off]

theorem Buf.setLen_eq (v : Buf) (n : Nat) :
    v.setLen n = match v.getRoot.setLen (v.off + n) with
      | .ok r' => .ok (v.setRoot r')
      | .error f => .error f := by
  induction v generalizing n with
  | root r =>
    simp only [Buf.setLen, Buf.getRoot, Buf.off, Nat.zero_add]
    cases r.setLen n <;> rfl
  | slice i b e ih | uninit i b ih =>
    simp only [Buf.setLen, Buf.getRoot, Buf.off, ih, Nat.add_assoc]
    cases i.getRoot.setLen (i.off + (b + n)) <;> rfl

/-- where the view ends in the root allocation at the latest: the end `Buf.flatten` computes for two slices,
in root coordinates; `none`: no `Slice` in the stack has an end, the window runs to `len` resp. `cap` -/
def Buf.stop : Buf → Option Nat
  | .root _ => none
  | .slice i _ e =>
    match e, i.stop with
    | some se, some le => some (min (i.off + se) le)
    | some se, none => some (i.off + se)
    | none, le => le
  | .uninit i _ => i.stop

@[simp] theorem Buf.stop_setRoot (v : Buf) (r : Root) : (v.setRoot r).stop = v.stop := by
  induction v <;> simp_all [Buf.setRoot, Buf.stop]

theorem Buf.asInit_eq (v : Buf) : v.asInit = subRange (0, v.getRoot.len) v.off v.stop := by
  induction v with
  | root r => simp [Buf.asInit, subRange, Buf.off, Buf.stop, Buf.getRoot]
  | slice i b e ih =>
    simp only [Buf.asInit, ih, Buf.getRoot, Buf.off, Buf.stop]
    exact subRange_subRange _ _ _ _ _
  | uninit i b ih =>
    simp only [Buf.asInit, ih, Buf.getRoot, Buf.off, Buf.stop]
    exact subRange_subRange _ _ _ _ none

theorem Buf.asInit_inside {v : Buf} {p : Nat × Nat} (h : v.asInit = .ok p) :
    p.1 = v.off ∧ p.1 + p.2 ≤ v.getRoot.len := by
  have := subRange_zero_ok (v.asInit_eq ▸ h)
  omega

theorem Buf.asUninit_inside {v : Buf} {p : Nat × Nat} (h : v.asUninit = .ok p) :
    v.off ≤ p.1 ∧ p.1 + p.2 ≤ v.getRoot.cap := by
  induction v generalizing p with
  | root r => cases h; exact ⟨Nat.le_refl _, Nat.le_of_eq (Nat.zero_add _)⟩
  | slice i b e ih =>
    obtain ⟨q, hq, hs⟩ := Buf.asUninit_slice_ok h
    have := subRange_ok hs
    have := ih hq
    simp only [Buf.off, Buf.getRoot]
    omega
  | uninit i b ih =>
    obtain ⟨oi, li, o, c, _, hu, hle, rfl⟩ := Buf.asUninit_uninit_ok h
    obtain ⟨q, hq, hs⟩ := Buf.asUninit_slice_ok hu
    have := subRange_ok hs
    have := ih hq
    simp only [Buf.off, Buf.getRoot]
    omega

theorem Buf.asInit_setRoot_mem (v : Buf) (r' : Root) (hl : r'.len = v.getRoot.len) :
    (v.setRoot r').asInit = v.asInit := by
  rw [Buf.asInit_eq, Buf.asInit_eq, Buf.getRoot_setRoot, Buf.off_setRoot, Buf.stop_setRoot, hl]

theorem Buf.asUninit_setRoot_mem (v : Buf) (r' : Root) (hl : r'.len = v.getRoot.len)
    (hc : r'.cap = v.getRoot.cap) : (v.setRoot r').asUninit = v.asUninit := by
  induction v with
  | root r => simpa [Buf.setRoot, Buf.asUninit, Buf.getRoot] using hc
  | slice i b e ih => simp only [Buf.setRoot, Buf.asUninit, ih hl hc]
  | uninit i b ih =>
    simp only [Buf.setRoot, Buf.asUninit, ih hl hc, Buf.asInit_setRoot_mem i r' hl]

/-- every `Uninit` layer still sits exactly at the end of the initialised part of what it wraps
(true when it was just created by `uninit()`, and for every stack without `Uninit` layers) -/
def Buf.Fresh : Buf → Prop
  | .root _ => True
  | .slice i _ _ => i.Fresh
  | .uninit i b => i.Fresh ∧ ∃ o, i.asInit = .ok (o, b)

/-- no `Uninit` layer in the stack. The model's `Buf.noUninit : Buf → Bool` (Model/ViewAppend.lean, the guard of
`Buf.fillAdv`) has the same clauses; no lemma relates the two. -/
def Buf.NoUninit : Buf → Prop
  | .root _ => True
  | .slice i _ _ => i.NoUninit
  | .uninit _ _ => False

theorem Buf.NoUninit.fresh {v : Buf} (h : v.NoUninit) : v.Fresh := by
  induction v with
  | root _ => trivial
  | slice i b e ih => exact ih h
  | uninit i b ih => exact h.elim

theorem Buf.NoUninit_setRoot {v : Buf} (r : Root) (h : v.NoUninit) : (v.setRoot r).NoUninit := by
  induction v with
  | root _ => trivial
  | slice i b e ih => exact ih h
  | uninit i b ih => exact h.elim

theorem Buf.Fresh.asUninit_uninit {i : Buf} {b : Nat} (hf : (Buf.uninit i b).Fresh) :
    (Buf.uninit i b).asUninit = (Buf.slice i b none).asUninit := by
  obtain ⟨_, o, hib⟩ := hf
  have hi : (Buf.slice i b none).asInit = .ok (o + b, 0) := by
    simp only [Buf.asInit, hib, subRange, Option.getD_none, Nat.min_self, Nat.le_refl, if_true, Nat.sub_self]
  simp only [Buf.asUninit_uninit, hi]
  cases (Buf.slice i b none).asUninit <;> simp

theorem Buf.Fresh.asUninit_eq {v : Buf} (hf : v.Fresh) :
    v.asUninit = subRange (0, v.getRoot.cap) v.off v.stop := by
  induction v with
  | root r => simp [Buf.asUninit, subRange, Buf.off, Buf.stop, Buf.getRoot]
  | slice i b e ih =>
    simp only [Buf.asUninit, ih hf, Buf.getRoot, Buf.off, Buf.stop]
    exact subRange_subRange _ _ _ _ _
  | uninit i b ih =>
    rw [hf.asUninit_uninit]
    simp only [Buf.asUninit, ih hf.1, Buf.getRoot, Buf.off, Buf.stop]
    exact subRange_subRange _ _ _ _ none

theorem Buf.NoUninit.asUninit_setRoot {v : Buf} (h : v.NoUninit) (r' : Root)
    (hc : r'.cap = v.getRoot.cap) : (v.setRoot r').asUninit = v.asUninit := by
  rw [(Buf.NoUninit_setRoot r' h).fresh.asUninit_eq, h.fresh.asUninit_eq, Buf.getRoot_setRoot, Buf.off_setRoot,
    Buf.stop_setRoot, hc]

theorem Buf.fresh_window {v : Buf} (hf : v.Fresh) (hw : v.getRoot.len ≤ v.getRoot.cap) {oi li o c : Nat}
    (hi : v.asInit = .ok (oi, li)) (hu : v.asUninit = .ok (o, c)) :
    oi = o ∧ li ≤ c ∧ (li < c → o + li = v.getRoot.len) ∧ o + li ≤ v.getRoot.len ∧ o + c ≤ v.getRoot.cap := by
  have h1 := subRange_zero_ok (v.asInit_eq ▸ hi)
  have h2 := subRange_zero_ok (hf.asUninit_eq ▸ hu)
  cases hs : v.stop <;> simp only [hs, Option.getD_none, Option.getD_some] at h1 h2 <;> omega

theorem Buf.Fresh.asInit_setRoot {v : Buf} (hf : v.Fresh) {o li c k : Nat} (hi : v.asInit = .ok (o, li))
    (hu : v.asUninit = .ok (o, c)) (hk : k ≤ c) (r' : Root) (hl : r'.len = o + k) :
    (v.setRoot r').asInit = .ok (o, k) := by
  have h1 := subRange_zero_ok (v.asInit_eq ▸ hi)
  have h2 := subRange_zero_ok (hf.asUninit_eq ▸ hu)
  rw [Buf.asInit_eq, Buf.getRoot_setRoot, Buf.off_setRoot, Buf.stop_setRoot, hl]
  simp only at h1 h2
  -- `o + k ≤ o + c`, where the stop does not bite
  have hm : min (v.stop.getD (o + k)) (o + k) = o + k := by
    cases hs : v.stop <;> simp only [hs, Option.getD_none, Option.getD_some] at h2 ⊢ <;> omega
  rw [subRange_of_le (by rw [hm]; omega), hm, ← h1.1, Nat.zero_add, Nat.add_sub_cancel_left]

theorem splice_length (mem : Bytes) (off : Nat) (data : Bytes) (h : off + data.length ≤ mem.length) :
    (splice mem off data).length = mem.length := by
  unfold splice
  simp only [List.length_append, List.length_take, List.length_drop]
  omega

theorem splice_read (mem : Bytes) (off : Nat) (data : Bytes) (h : off + data.length ≤ mem.length) :
    ((splice mem off data).drop off).take data.length = data := by
  unfold splice
  have h1 : (mem.take off).length = off := by simp only [List.length_take]; omega
  rw [List.append_assoc, List.drop_append, h1]
  have h2 : List.drop off (List.take off mem) = [] := by
    apply List.drop_eq_nil_of_le; omega
  simp [h2]

theorem splice_other (mem : Bytes) (off : Nat) (data : Bytes) (h : off + data.length ≤ mem.length)
    (j : Nat) (hj : j < off ∨ off + data.length ≤ j) : (splice mem off data)[j]? = mem[j]? := by
  unfold splice
  have h1 : (mem.take off).length = off := by simp only [List.length_take]; omega
  rcases hj with hj | hj
  · rw [List.append_assoc, List.getElem?_append_left (by omega)]
    simp [hj]
  · rw [List.getElem?_append_right (by simp only [List.length_append, h1]; omega)]
    simp only [List.length_append, h1, List.getElem?_drop]
    congr 1
    omega

theorem splice_nil (mem : Bytes) (off : Nat) : splice mem off [] = mem := by
  unfold splice
  simp

theorem splice_splice (m : Bytes) (o : Nat) (d1 d2 : Bytes) (h : o + d1.length ≤ m.length) :
    splice (splice m o d1) (o + d1.length) d2 = splice m o (d1 ++ d2) := by
  unfold splice
  have h1 : (m.take o ++ d1).length = o + d1.length := by
    simp only [List.length_append, List.length_take]; omega
  have ht : List.take (o + d1.length) (m.take o ++ d1 ++ m.drop (o + d1.length)) = m.take o ++ d1 := by
    rw [← h1]; exact List.take_left
  have hd : List.drop (o + d1.length + d2.length) (m.take o ++ d1 ++ m.drop (o + d1.length))
      = m.drop (o + (d1 ++ d2).length) := by
    rw [List.drop_append, h1, List.drop_drop]
    have hn : List.drop (o + d1.length + d2.length) (m.take o ++ d1) = [] := by
      apply List.drop_eq_nil_of_le; omega
    rw [hn, List.nil_append, List.length_append]
    congr 1; omega
  rw [ht, hd]
  simp [List.append_assoc]

/-- the root after one fill that stores `d` at `o` (`Buf.fill_law`) -/
def fillRoot (o : Nat) (r : Root) (d : Bytes) : Root :=
  { r with len := max r.len (o + d.length), mem := splice r.mem o d }

@[simp] theorem Buf.getRoot_write (v : Buf) (o : Nat) (d : Bytes) :
    (v.write o d).getRoot = { v.getRoot with mem := splice v.getRoot.mem o d } := by
  simp [Buf.write]

@[simp] theorem Buf.off_write (v : Buf) (o : Nat) (d : Bytes) : (v.write o d).off = v.off := by
  simp [Buf.write]

theorem Buf.asInit_write (v : Buf) (o : Nat) (d : Bytes) : (v.write o d).asInit = v.asInit :=
  Buf.asInit_setRoot_mem v _ rfl

theorem Buf.asUninit_write (v : Buf) (o : Nat) (d : Bytes) (h : o + d.length ≤ v.getRoot.cap) :
    (v.write o d).asUninit = v.asUninit :=
  Buf.asUninit_setRoot_mem v _ rfl (by simp only [Root.cap]; exact splice_length _ _ _ h)

theorem Buf.write_spec (v : Buf) (o : Nat) (d : Bytes) (h : o + d.length ≤ v.getRoot.cap) :
    ((v.write o d).getRoot.mem.drop o).take d.length = d ∧
    (∀ j, j < o ∨ o + d.length ≤ j → (v.write o d).getRoot.mem[j]? = v.getRoot.mem[j]?) ∧
    (v.write o d).getRoot.len = v.getRoot.len ∧ (v.write o d).getRoot.cap = v.getRoot.cap := by
  rw [Buf.getRoot_write]
  exact ⟨splice_read _ _ _ h, splice_other _ _ _ h, rfl, splice_length _ _ _ h⟩

theorem Buf.write_wf {v : Buf} (hw : v.getRoot.WF) (o : Nat) (d : Bytes)
    (h : o + d.length ≤ v.getRoot.cap) : (v.write o d).getRoot.WF := by
  rw [Buf.getRoot_write]
  have hc : (splice v.getRoot.mem o d).length = v.getRoot.cap := splice_length _ _ _ h
  exact ⟨Nat.le_trans hw.le (Nat.le_of_eq hc.symm), fun hk => (hw.full hk).trans hc.symm⟩

theorem Buf.setLen_of_ge {v : Buf} (hw : v.getRoot.WF) {n : Nat} (hge : v.getRoot.len ≤ v.off + n)
    (hn : v.off + n ≤ v.getRoot.cap) : v.setLen n = .ok (v.setRoot { v.getRoot with len := v.off + n }) := by
  rw [Buf.setLen_eq, hw.setLen_of_ge hge hn]

theorem Buf.write_eq_fillRoot (v : Buf) {o : Nat} {d : Bytes} (h : o + d.length ≤ v.getRoot.len) :
    v.write o d = v.setRoot (fillRoot o v.getRoot d) := by
  rw [Buf.write, fillRoot, Nat.max_eq_left h]

theorem Buf.setLen_write_eq_fillRoot {v : Buf} (hw : v.getRoot.WF) {o n : Nat} {d : Bytes}
    (hend : v.off + n = o + d.length) (hge : v.getRoot.len ≤ o + d.length)
    (hfit : o + d.length ≤ v.getRoot.cap) :
    (v.write o d).setLen n = .ok (v.setRoot (fillRoot o v.getRoot d)) := by
  have hc := (Buf.write_spec v o d hfit).2.2.2
  rw [Buf.setLen_of_ge (Buf.write_wf hw o d hfit) (by simpa [hend] using hge) (by rw [hc]; simpa [hend] using hfit)]
  simp only [Buf.write, Buf.setRoot_setRoot, Buf.getRoot_setRoot, Buf.off_setRoot, fillRoot, hend,
    Nat.max_eq_right hge]

theorem Buf.advanceTo_write_eq_fillRoot {v : Buf} (hw : v.getRoot.WF) {oi li o n : Nat} {d : Bytes}
    (hi : v.asInit = .ok (oi, li)) (hend : oi + n = o + d.length) (hfit : o + d.length ≤ v.getRoot.cap)
    (htight : li < n → oi + li = v.getRoot.len) :
    (v.write o d).advanceTo n = .ok (v.setRoot (fillRoot o v.getRoot d)) := by
  obtain ⟨hi1, hi2⟩ := Buf.asInit_inside hi
  simp only at hi1 hi2
  simp only [Buf.advanceTo, Buf.asInit_write, hi]
  split
  · exact Buf.setLen_write_eq_fillRoot hw (by omega) (by have := htight ‹_›; omega) hfit
  · rw [Buf.write_eq_fillRoot v (by omega)]

theorem Buf.fill_law {v : Buf} (hw : v.getRoot.WF) (hf : v.Fresh) {pi pu : Nat × Nat}
    (hi : v.asInit = .ok pi) (hu : v.asUninit = .ok pu) (data : Bytes) (hk : data.length ≤ pu.2) :
    v.fill data = .ok (v.setRoot (fillRoot pu.1 v.getRoot data)) := by
  obtain ⟨oi, li⟩ := pi
  obtain ⟨o, c⟩ := pu
  obtain ⟨rfl, -, ha3, -, hcap⟩ := Buf.fresh_window hf hw.le hi hu
  simp only at hk
  simp only [Buf.fill, hu, hk, if_true]
  exact Buf.advanceTo_write_eq_fillRoot hw hi rfl (by omega) fun h => ha3 (by omega)

theorem Buf.setLen_wf_of_ok {v v' : Buf} {n : Nat} (hw : v.getRoot.WF) (h : v.setLen n = .ok v') :
    v'.getRoot.WF := by
  rw [Buf.setLen_eq] at h
  split at h <;> cases h
  simpa using Root.setLen_wf_of_ok hw ‹_›

/-- `n ≤ as_uninit().len()` is the documented safety contract of `SetLen::set_len` (io_buf.rs) -/
theorem Buf.setLen_ok_of_contract {v : Buf} {p : Nat × Nat} {n : Nat} (hw : v.getRoot.WF)
    (hu : v.asUninit = .ok p) (hn : n ≤ p.2) : ∃ v', v.setLen n = .ok v' ∧ v'.getRoot.WF := by
  obtain ⟨h1, h2⟩ := Buf.asUninit_inside hu
  obtain ⟨r', hr⟩ := Root.setLen_ok v.getRoot (v.off + n) (by omega)
  have h : v.setLen n = .ok (v.setRoot r') := by rw [Buf.setLen_eq, hr]
  exact ⟨_, h, Buf.setLen_wf_of_ok hw h⟩

theorem Buf.advanceTo_wf {v v' : Buf} {n : Nat} (hw : v.getRoot.WF) (h : v.advanceTo n = .ok v') :
    v'.getRoot.WF := by
  unfold Buf.advanceTo at h
  split at h
  · cases h
  · split at h
    · exact Buf.setLen_wf_of_ok hw h
    · cases h; exact hw

theorem Buf.advance_wf {v v' : Buf} {n : Nat} (hw : v.getRoot.WF) (h : v.advance n = .ok v') :
    v'.getRoot.WF := by
  unfold Buf.advance at h
  split at h
  · cases h
  · exact Buf.setLen_wf_of_ok hw h

theorem Buf.fill_wf {v v' : Buf} {d : Bytes} (hw : v.getRoot.WF) (h : v.fill d = .ok v') :
    v'.getRoot.WF := by
  unfold Buf.fill at h
  split at h
  · cases h
  · rename_i o c hu
    have := (Buf.asUninit_inside hu).2
    split at h
    · exact Buf.advanceTo_wf (Buf.write_wf hw o d (by simp only at this; omega)) h
    · cases h

theorem Buf.checked_ok {v v' : Buf} {n : Nat} {k : Res Buf} (h : v.checked n k = .ok v') : k = .ok v' := by
  unfold Buf.checked at h
  split at h
  · cases h
  · split at h
    · exact h
    · cases h

theorem Buf.mkSlice_ok {v s : Buf} {b : Nat} {e : Option Nat} (h : v.mkSlice b e = .ok s) :
    s = .slice v b e ∧ ∃ p, v.asInit = .ok p ∧ b ≤ p.2 ∧ (∀ x, e = some x → b ≤ x) := by
  unfold Buf.mkSlice at h
  split at h
  · cases h
  · rename_i o li hi
    split at h
    · split at h
      · cases h
        exact ⟨rfl, _, hi, ‹_›, fun _ hx => nomatch hx⟩
      · split at h <;> cases h
        exact ⟨rfl, _, hi, ‹_›, fun _ hx => Option.some.inj hx ▸ ‹_›⟩
    · cases h

theorem Buf.mkUninit_ok {v u : Buf} (h : v.mkUninit = .ok u) :
    ∃ o li, v.asInit = .ok (o, li) ∧ u = .uninit v li := by
  unfold Buf.mkUninit at h
  split at h <;> cases h
  exact ⟨_, _, ‹_›, rfl⟩

@[simp] theorem Buf.getRoot_flatten (v : Buf) : v.flatten.getRoot = v.getRoot := by
  unfold Buf.flatten
  split <;> rfl

theorem Buf.getRoot_peel (v : Buf) : v.peel.getRoot = v.getRoot := by
  cases v <;> rfl

theorem Buf.step_wf {v v' : Buf} {op : Op} (hw : v.getRoot.WF) (h : v.step op = .ok v') :
    v'.getRoot.WF := by
  cases op with
  | slice b e =>
    obtain ⟨rfl, _⟩ := Buf.mkSlice_ok h
    exact hw
  | uninit =>
    obtain ⟨o, li, _, rfl⟩ := Buf.mkUninit_ok h
    exact hw
  | flat b1 e1 b2 e2 =>
    simp only [Buf.step] at h
    split at h
    · cases h
    · rename_i s h1
      split at h <;> cases h
      rename_i s2 h2
      obtain ⟨rfl, _⟩ := Buf.mkSlice_ok h1
      obtain ⟨rfl, _⟩ := Buf.mkSlice_ok h2
      rw [Buf.getRoot_flatten]
      exact hw
  | peel =>
    cases h
    rw [Buf.getRoot_peel]
    exact hw
  | fill d => exact Buf.fill_wf hw h
  | setLen n => exact Buf.setLen_wf_of_ok hw (Buf.checked_ok h)
  | advanceTo n => exact Buf.advanceTo_wf hw (Buf.checked_ok h)
  | advance n =>
    simp only [Buf.step] at h
    split at h
    · cases h
    · exact Buf.advance_wf hw (Buf.checked_ok h)
  | clear => exact Buf.setLen_wf_of_ok hw h

theorem Buf.run_wf {v v' : Buf} {ops : List Op} (hw : v.getRoot.WF) (h : v.run ops = .ok v') :
    v'.getRoot.WF := by
  induction ops generalizing v with
  | nil => cases h; exact hw
  | cons op rest ih =>
    simp only [Buf.run] at h
    split at h
    · exact ih (Buf.step_wf hw ‹_›) h
    · cases h

/-- `g` is `Buf.asInit` or `Buf.asUninit`: at a `Slice` both cut the range of what it wraps -/
theorem Buf.flatten_range (g : Buf → Res (Nat × Nat))
    (hg : ∀ i b e, g (.slice i b e) = match g i with
      | .ok p => subRange p b e
      | .error f => .error f) (v : Buf) : g v.flatten = g v := by
  unfold Buf.flatten
  split
  · rename_i i lb le b e
    simp only [hg]
    cases g i with
    | error f => rfl
    | ok p => exact (subRange_subRange p lb le b e).symm
  · rfl

theorem Buf.flatten_asInit (v : Buf) : v.flatten.asInit = v.asInit :=
  Buf.flatten_range Buf.asInit (fun _ _ _ => rfl) v

theorem Buf.flatten_asUninit (v : Buf) : v.flatten.asUninit = v.asUninit :=
  Buf.flatten_range Buf.asUninit (fun _ _ _ => rfl) v

theorem Buf.flatten_off (v : Buf) : v.flatten.off = v.off := by
  unfold Buf.flatten
  split
  · simp only [Buf.off]; omega
  · rfl

end Compio.View
