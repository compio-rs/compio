/- `AncillaryIter` on arbitrary bytes (Model/Cmsg.lean): `CMSG_NXTHDR` moves on by at least a header and stays inside
the buffer (`nxthdr_some`), so every header the iterator reads lies in the buffer (`iterFrom_in_bounds`) and
`iterFuel` steps are all it can take (`iterFrom_fuel`, `iterFrom_stable`). -/
import Compio.Model.Cmsg
namespace Compio.Cmsg
theorem iterFrom_none (buf : Bytes) (n : Nat) : iterFrom buf n none = [] := by
  cases n <;> rfl

theorem nxthdr_some (buf : Bytes) (len off next : Nat) (h : nxthdr buf len off = some next) :
    off + hdr ≤ next ∧ next + hdr ≤ len := by
  unfold nxthdr at h
  simp only at h
  split at h
  · cases h
  · split at h
    · cases h
    · cases h
      have : hdr ≤ align (readHeader buf off).len := by
        unfold align hdr at *
        omega
      omega

theorem iterFrom_in_bounds (buf : Bytes) : ∀ (fuel : Nat) (o : Option Nat),
    (∀ off, o = some off → off + hdr ≤ buf.length) →
    ∀ x ∈ iterFrom buf fuel o, x.1 + hdr ≤ buf.length := by
  intro fuel
  induction fuel with
  | zero => intro o _ x hx; simp [iterFrom] at hx
  | succ n ih =>
    intro o ho x hx
    cases o with
    | none => simp [iterFrom] at hx
    | some off =>
      simp only [iterFrom, List.mem_cons] at hx
      rcases hx with rfl | hx
      · exact ho off rfl
      · exact ih _ (fun nx hnx => (nxthdr_some buf _ off nx hnx).2) x hx

/-- every step moves on by at least a header, so fuel beyond `(len - off) / hdr` is never used -/
theorem iterFrom_fuel (buf : Bytes) : ∀ (fuel fuel' off : Nat),
    buf.length < off + hdr * fuel → fuel ≤ fuel' → off + hdr ≤ buf.length →
    iterFrom buf fuel' (some off) = iterFrom buf fuel (some off) := by
  intro fuel
  induction fuel with
  | zero => intro _ off h _ hb; omega
  | succ k ih =>
    intro fuel' off h hle hb
    obtain ⟨k', rfl⟩ : ∃ k', fuel' = k' + 1 := ⟨fuel' - 1, by omega⟩
    simp only [iterFrom]
    congr 1
    cases hn : nxthdr buf buf.length off with
    | none => rw [iterFrom_none, iterFrom_none]
    | some next =>
      have := nxthdr_some buf _ off next hn
      exact ih k' next (by unfold hdr at *; omega) (by omega) this.2

theorem iterFrom_stable (buf : Bytes) (fuel : Nat) (h : iterFuel buf ≤ fuel) :
    iterFrom buf fuel (firsthdr buf.length) = iterFrom buf (iterFuel buf) (firsthdr buf.length) := by
  unfold firsthdr
  split
  · exact iterFrom_fuel buf (iterFuel buf) fuel 0 (by unfold iterFuel hdr; omega) h (by omega)
  · rw [iterFrom_none, iterFrom_none]

end Compio.Cmsg
