/-
The native-tls shim after the handshake, over the plain scheduled transport: what `pushOut`, a flush through the shim
and `SSL_read` do to the cells, and the plaintext of a sequence of records (`plainOf_records`). The specifications of
`poll_write` / `poll_close` / `poll_read` that rest on them are `Compio.Props.C15.tls_write_spec`, `tls_close_spec`,
`tls_read_spec`, stated over `committed`: what is in the pipe, in the endpoint buffer and in the pending record.
-/
import Compio.Lemmas.TlsNet
import Compio.Model.TlsShim

namespace Compio.TlsShim
open Compio.TlsNet

/-- the endpoint of an established stream over the plain transport -/
structure App (sc : Sched) (v : View) : Prop where
  direct : sc.astream = false
  lim : 1 ≤ sc.lim
  open_tx : v.tx.closed = false
  nobuf : sc.buffering = false → v.tp.wbuf.toList = []

/-- `v'` is `v` after the transport has taken the cells `cs` (in the pipe, or in the endpoint buffer behind what was
there) and is still the endpoint of an established stream -/
structure Sent (sc : Sched) (v v' : View) (cs : List Cell) : Prop where
  app : App sc v'
  txs : v'.txs = v.txs ++ cs
  rx : v'.rx = v.rx
  hsd : v'.tp.hsDone = v.tp.hsDone

theorem Sent.of_eq {sc : Sched} {v v' : View} (ha : App sc v) (htx : v'.tx = v.tx) (hrx : v'.rx = v.rx)
    (hw : v'.tp.wbuf = v.tp.wbuf) (hh : v'.tp.hsDone = v.tp.hsDone) : Sent sc v v' [] :=
  ⟨⟨ha.direct, ha.lim, htx ▸ ha.open_tx, hw ▸ ha.nobuf⟩, by simp only [View.txs, htx, hw, List.append_nil], hrx, hh⟩

theorem Sent.trans {sc : Sched} {a b c : View} {cs ds : List Cell} (h1 : Sent sc a b cs) (h2 : Sent sc b c ds) :
    Sent sc a c (cs ++ ds) :=
  ⟨h2.app, by rw [h2.txs, h1.txs, List.append_assoc], h2.rx.trans h1.rx, h2.hsd.trans h1.hsd⟩

theorem ioWrite_direct {sc : Sched} {v : View} (ha : App sc v) {cs : List Cell} (hne : cs ≠ []) :
    (∃ v', ioWrite sc v cs = (v', .pending .self) ∧ v'.own = true ∧ Sent sc v v' []) ∨
    (∃ v' j, ioWrite sc v cs = (v', .ready j) ∧ 1 ≤ j ∧ Sent sc v v' (cs.take j)) := by
  rcases ioWrite_spec ha.direct ha.lim ha.open_tx ha.nobuf hne with
    ⟨_, heq⟩ | ⟨j, v', wb, hj, _, heq, htx, htp, _, hnb, hrx, _, hcl, _⟩
  · exact .inl ⟨_, heq, rfl, .of_eq ha rfl rfl rfl rfl⟩
  · exact .inr ⟨v', j, heq, hj, ⟨ha.direct, ha.lim, hcl, by rw [htp]; exact hnb⟩, htx, hrx, by rw [htp]⟩

theorem pushOut_spec (sc : Sched) : ∀ (fuel : Nat) (o : Ossl) (v : View), App sc v → o.ctx = true →
    o.out.length < fuel →
    ∃ sent rest w v', o.out = sent ++ rest ∧ Sent sc v v' sent ∧ v'.txs ++ rest = v.txs ++ o.out ∧
      (pushOut sc fuel o v = ({ o with out := rest, written := w }, v', .ok ()) ∧ rest = [] ∨
       pushOut sc fuel o v = ({ o with out := rest, written := w }, v', .wouldBlock .self) ∧ v'.own = true) := by
  intro fuel
  induction fuel with
  | zero => intro o v _ _ h; exact absurd h (Nat.not_lt_zero _)
  | succ fuel ih =>
    intro o v ha hc hf
    rw [pushOut]
    by_cases he : o.out = []
    · rw [if_pos (by rw [he]; rfl)]
      exact ⟨[], o.out, o.written, v, rfl, .of_eq ha rfl rfl rfl rfl, rfl, .inl ⟨rfl, he⟩⟩
    · rw [if_neg (by rw [List.isEmpty_iff]; exact he), bioWrite, if_neg (by rw [hc]; decide)]
      rcases ioWrite_direct ha he with ⟨v1, heq, hown, hs⟩ | ⟨v1, j, heq, hj, hs⟩ <;> rw [heq]
      · exact ⟨[], o.out, o.written, v1, rfl, hs, by rw [hs.txs, List.append_nil], .inr ⟨rfl, hown⟩⟩
      · dsimp only
        rw [if_neg (Nat.ne_of_gt hj)]
        have hlen : (o.out.drop j).length < fuel := by
          rw [List.length_drop]
          exact Nat.lt_of_lt_of_le (Nat.sub_lt (List.length_pos_iff.2 he) hj) (Nat.le_of_lt_succ hf)
        obtain ⟨sent, rest, w, v2, hsplit, hs2, hcat, hres⟩ :=
          ih { o with written := true, out := o.out.drop j } v1 hs.app hc hlen
        exact ⟨o.out.take j ++ sent, rest, w, v2,
          by rw [List.append_assoc, ← hsplit]; exact (List.take_append_drop j o.out).symm, hs.trans hs2,
          by rw [hcat, hs.txs, List.append_assoc, List.take_append_drop], hres⟩

/-- `22`: the 5 + 17 overhead cells of `record` -/
theorem length_record (p : List UInt8) : (record p).length = p.length + 22 := by
  simp only [record, List.length_append, List.length_replicate, List.length_map]; omega

/-- the cells committed towards the peer: in the pipe, in the endpoint buffer, in the pending record -/
def committed (o : Ossl) (v : View) : List Cell := v.txs ++ o.out

theorem bioFlush_app {sc : Sched} {o : Ossl} {v : View} (ha : App sc v) (hc : o.ctx = true)
    (hh : o.handshaken = true) :
    ∃ v' r, bioFlush sc o v = (o, v', r) ∧ Sent sc v v' [] ∧ (flushDelay sc v.tp = 0 → v'.tp.wbuf.toList = []) := by
  simp only [bioFlush, hc, hh, Bool.not_true, Bool.false_eq_true, if_false, if_true]
  rcases ioFlush_plain v ha.direct with ⟨hlt, heq⟩ | ⟨v', heq, htx, htp, hrx, _, hcl, _⟩ <;> rw [heq]
  · exact ⟨_, _, rfl, .of_eq ha rfl rfl rfl rfl, fun h0 => absurd hlt (by rw [h0]; exact Nat.not_lt_zero _)⟩
  · exact ⟨_, _, rfl, ⟨⟨ha.direct, ha.lim, hcl.trans ha.open_tx, fun _ => by rw [htp]; rfl⟩,
      by rw [htx, List.append_nil], hrx, by rw [htp]⟩, fun _ => by rw [htp]; rfl⟩

theorem plainOf_append (a b : List Cell) :
    plainOf (a ++ b) = if (plainOf a).2 then plainOf a else ((plainOf a).1 ++ (plainOf b).1, (plainOf b).2) := by
  fun_induction plainOf a with
  | case1 => rfl
  | case2 => rfl
  | case3 x cs p al h ih => rw [List.cons_append, plainOf, ih, h]; cases al <;> rfl
  | case4 c cs h1 h2 ih => rw [List.cons_append, plainOf.eq_4 _ _ h1 h2, ih]

theorem plainOf_length_le (l : List Cell) : (plainOf l).1.length ≤ l.length := by
  fun_induction plainOf l with
  | case1 => exact Nat.le_refl 0
  | case2 => exact Nat.zero_le _
  | case3 x cs p al h ih => rw [h] at ih; exact Nat.succ_le_succ ih
  | case4 c cs h1 h2 ih => exact Nat.le_succ_of_le ih

@[simp] theorem plainOf_pad (n : Nat) : plainOf (List.replicate n Cell.pad) = ([], false) := by
  induction n with
  | zero => rfl
  | succ n ih => exact ih

@[simp] theorem plainOf_apps (p : List UInt8) : plainOf (p.map Cell.app) = (p, false) := by
  induction p with
  | nil => rfl
  | cons x xs ih => rw [List.map_cons, plainOf, ih]

theorem plainOf_record (p : List UInt8) : plainOf (record p) = (p, false) := by
  simp only [record, plainOf_append, plainOf_pad, plainOf_apps, Bool.false_eq_true, if_false, List.nil_append,
    List.append_nil]

theorem plainOf_alertRecord : plainOf alertRecord = ([], true) := by
  simp only [alertRecord, plainOf_append, plainOf_pad, plainOf, Bool.false_eq_true, if_false, if_true, List.nil_append]

theorem plainOf_records : ∀ (ps : List (List UInt8)) (rest : List Cell),
    plainOf ((ps.map record).flatten ++ rest) = (ps.flatten ++ (plainOf rest).1, (plainOf rest).2)
  | [], rest => rfl
  | p :: ps, rest => by
    rw [List.map_cons, List.flatten_cons, List.append_assoc, plainOf_append, plainOf_record, plainOf_records ps rest]
    exact congrArg (·, _) (List.append_assoc ..).symm

/-- what `SSL_read` through the shim does to the incoming cells -/
structure ReadPost (n : Nat) (o : Ossl) (v : View) (o' : Ossl) (v' : View) (r : BioR (List UInt8)) : Prop where
  tx : v'.tx = v.tx
  wbuf : v'.tp.wbuf = v.tp.wbuf
  consumed : ∃ C, v.rxs = C ++ v'.rxs ∧
    match r with
    | .ok bs => plainOf C = (bs, o'.rcvdClose) ∧ bs.length ≤ n ∧ (bs = [] → o'.rcvdClose = true)
    | .wouldBlock p => plainOf C = ([], false) ∧ o'.rcvdClose = false ∧
        (p = .self → v'.own = true) ∧ (p = .reg → v'.rx.rwait = true ∧ v'.rxs = [])
    | .err => True
    | .panic => False

theorem sslRead_spec (sc : Sched) (n : Nat) (hn : n ≠ 0) : ∀ (fuel : Nat) (o : Ossl) (v : View),
    o.ctx = true → o.handshaken = true → o.rcvdClose = false →
    ReadPost n o v (sslRead sc n fuel o v).1 (sslRead sc n fuel o v).2.1 (sslRead sc n fuel o v).2.2 := by
  intro fuel
  induction fuel with
  | zero => intro o v _ _ _; exact ⟨rfl, rfl, [], rfl, trivial⟩
  | succ fuel ih =>
    intro o v hc hh hrc
    rw [sslRead, if_neg (by simp [hrc, hn]), bioRead, if_neg (by simp [hc])]
    dsimp only
    rw [if_neg (by simp [hh])]
    rcases ioRead_any sc v n with ⟨v1, p, heq, htx, hw, hrx, hp⟩ | ⟨v1, cs, heq, htx, hw, hrx, hlen⟩ <;>
      simp only [heq]
    · exact ⟨htx, hw, [], hrx, rfl, hrc, hp⟩
    · by_cases hemp : cs.isEmpty = true
      · rw [if_pos hemp]
        exact ⟨htx, hw, cs, hrx, trivial⟩
      · rw [if_neg hemp]
        rcases hpl : plainOf cs with ⟨_ | ⟨x, xs⟩, al⟩
        · cases al with
          | true => exact ⟨htx, hw, cs, hrx, hpl, Nat.zero_le _, fun _ => rfl⟩
          | false =>
            -- only overhead so far: read on
            show ReadPost n o v (sslRead sc n fuel o v1).1 (sslRead sc n fuel o v1).2.1 (sslRead sc n fuel o v1).2.2
            obtain ⟨g1, g2, C, g3, g4⟩ := ih o v1 hc hh hrc
            refine ⟨g1.trans htx, g2.trans hw, cs ++ C, by rw [hrx, g3, List.append_assoc], ?_⟩
            have hcat : plainOf (cs ++ C) = plainOf C := by rw [plainOf_append, hpl]; rfl
            rw [hcat]
            exact g4
        · have hle := plainOf_length_le cs
          rw [hpl] at hle
          exact ⟨htx, hw, cs, hrx, hpl, Nat.le_trans hle hlen, nofun⟩

end Compio.TlsShim
