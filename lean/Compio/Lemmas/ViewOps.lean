/-
`reserve` / `reserve_exact` and the growing `extend_from_slice` of Compio/Model/ViewOps.lean: what a `.done` answer of
the root says (`Root.reserveWith_done`) and that a view only hands it through (`Buf.reserveWith_done`); `extendWith` is
the growth-free `extend` of Model/View.lean, on the buffer itself when there is room (`Buf.extendWith_eq_extend`), on
the grown one otherwise (`Buf.extendWith_after_growth`). `ensure_init`, `as_mut_slice`, `copy_within` and `is_filled`
need no lemma of their own: Props/C10.lean unfolds them.
-/
import Compio.Lemmas.View
import Compio.Model.ViewOps

namespace Compio.View

theorem Root.grown_facts (r : Root) (nc n : Nat) (hle : r.len ≤ r.cap) (hc : r.len + n ≤ nc ∧ r.cap ≤ nc) :
    let r' : Root := { r with mem := r.mem.take r.len ++ List.replicate (nc - r.len) freshByte }
    r'.mem.take r.len = r.mem.take r.len ∧ r'.cap = nc := by
  simp only [Root.cap] at hle hc ⊢
  have hl : (List.take r.len r.mem).length = r.len := by
    simp only [List.length_take]; omega
  refine ⟨?_, ?_⟩
  · rw [List.take_append_of_le_length (by omega)]
    simp [List.take_take]
  · simp only [List.length_append, hl, List.length_replicate]; omega

theorem Root.reserveWith_done {r r' : Root} {n : Nat} {exact : Bool} {ans : Option Nat} {out : ResOut}
    (hle : r.len ≤ r.cap) (h : r.reserveWith n exact ans = .done r' out) :
    r'.kind = r.kind ∧ r'.len = r.len ∧ r'.mem.take r.len = r.mem.take r.len ∧ r.cap ≤ r'.cap ∧
    (out = .ok → r.len + n ≤ r'.cap) ∧ r'.len ≤ r'.cap ∧ (exact = false → out = .ok) := by
  unfold Root.reserveWith at h
  by_cases hn : n ≤ r.cap - r.len
  · -- there is room: every kind answers `Ok` and stays as it is
    have h' : RootReserve.done r .ok = .done r' out := by simpa only [hn, if_true, ite_self] using h
    cases h'
    exact ⟨rfl, rfl, rfl, Nat.le_refl _, fun _ => by omega, hle, fun _ => rfl⟩
  · by_cases hg : r.kind = .vec ∨ r.kind = .smallvec ∨ r.kind = .bytesmut
    · simp only [hg, if_true, hn, if_false] at h
      by_cases hh : hugeRequest ≤ n
      · simp only [hh, if_true] at h
        split at h <;> cases h
      · simp only [hh, if_false] at h
        cases ans with
        | none => cases h
        | some nc =>
          simp only at h
          by_cases hc : r.len + n ≤ nc ∧ r.cap ≤ nc
          · simp only [hc, and_self, if_true] at h
            obtain ⟨f1, f2⟩ := Root.grown_facts r nc n hle hc
            simp only at f1 f2
            have hl : r.len ≤ nc := by omega
            by_cases hx : exact = true ∧ nc - r.len ≠ n
            · rw [if_pos hx] at h
              cases h
              exact ⟨rfl, rfl, f1, by rw [f2]; exact hc.2, nofun, by rw [f2]; exact hl,
                fun he => by simp [he] at hx⟩
            · rw [if_neg hx] at h
              cases h
              exact ⟨rfl, rfl, f1, by rw [f2]; exact hc.2, fun _ => by rw [f2]; exact hc.1, by rw [f2]; exact hl,
                fun _ => rfl⟩
          · simp only [hc, if_false] at h
            cases h
    · simp only [hg, if_false, hn] at h
      cases h

theorem Buf.reserveWith_done {v v' : Buf} {n : Nat} {exact : Bool} {ans : Option Nat} {out : ResOut}
    (h : v.reserveWith n exact ans = .done v' out) :
    v.reserveReaches = true ∧ ∃ r', v.getRoot.reserveWith n exact ans = .done r' out ∧ v' = v.setRoot r' := by
  unfold Buf.reserveWith at h
  split at h
  · rename_i hr
    cases hrr : v.getRoot.reserveWith n exact ans <;> simp only [hrr] at h <;> try cases h
    exact ⟨hr, _, rfl, rfl⟩
  · cases h

theorem Buf.reserve_eq_reaches (v : Buf) (n : Nat) :
    v.reserve n = .ok (some true) ↔
      (v.reserveReaches = true ∧ n ≤ v.getRoot.cap - v.getRoot.len) := by
  induction v with
  | root r =>
    simp only [Buf.reserve, Buf.reserveReaches, Buf.getRoot, true_and]
    cases r.kind <;> simp <;> (try split) <;> simp_all
  | slice i b e ih =>
    simp only [Buf.reserve, Buf.reserveReaches, Buf.getRoot]
    cases e <;> simp [ih]
  | uninit i b ih =>
    simp only [Buf.reserve, Buf.reserveReaches, Buf.getRoot]
    exact ih

theorem Buf.reserveReaches_setRoot (v : Buf) (r : Root) : (v.setRoot r).reserveReaches = v.reserveReaches := by
  induction v with
  | root _ => rfl
  | slice i b e ih => simp [Buf.setRoot, Buf.reserveReaches, ih]
  | uninit i b ih => simp [Buf.setRoot, Buf.reserveReaches, ih]

theorem Buf.reserveWith_of_room {v : Buf} {n : Nat} (h : v.reserve n = .ok (some true)) (exact : Bool)
    (ans : Option Nat) : v.reserveWith n exact ans = .done v .ok := by
  obtain ⟨hr, hn⟩ := (Buf.reserve_eq_reaches v n).mp h
  have hroot : v.getRoot.reserveWith n exact ans = .done v.getRoot .ok := by
    unfold Root.reserveWith
    by_cases hg : v.getRoot.kind = .vec ∨ v.getRoot.kind = .smallvec ∨ v.getRoot.kind = .bytesmut
    · simp only [hg, if_true, hn]
    · simp only [hg, if_false, hn, if_true]
  unfold Buf.reserveWith
  simp only [hr, if_true, hroot, Buf.setRoot_getRoot]

theorem Buf.extendWith_eq_extend {v : Buf} {d : Bytes} (h : v.reserve d.length = .ok (some true))
    (ans : Option Nat) : v.extendWith d ans = v.extend d := by
  unfold Buf.extendWith Buf.extend
  cases hi : v.asInit with
  | error f => rfl
  | ok p =>
    simp only [Buf.reserveWith_of_room h false ans, h]
    rfl

theorem Buf.reserveWith_done_room {v v1 : Buf} {n : Nat} {ans : Option Nat} {out : ResOut}
    (hle : v.getRoot.len ≤ v.getRoot.cap) (h : v.reserveWith n false ans = .done v1 out) :
    v1.asInit = v.asInit ∧ v1.reserve n = .ok (some true) := by
  obtain ⟨hr, r', hroot, rfl⟩ := Buf.reserveWith_done h
  obtain ⟨_, hl, _, _, hcap, _, hout⟩ := Root.reserveWith_done hle hroot
  refine ⟨Buf.asInit_setRoot_mem v r' hl, (Buf.reserve_eq_reaches _ n).mpr ⟨?_, ?_⟩⟩
  · rw [Buf.reserveReaches_setRoot]; exact hr
  · have := hcap (hout rfl)
    rw [Buf.getRoot_setRoot]
    omega

theorem Buf.extendWith_after_growth {v v1 : Buf} {d : Bytes} {ans : Option Nat} {out : ResOut}
    (hle : v.getRoot.len ≤ v.getRoot.cap) (h : v.reserveWith d.length false ans = .done v1 out) :
    v.extendWith d ans = v1.extend d := by
  obtain ⟨hi, hres⟩ := Buf.reserveWith_done_room hle h
  unfold Buf.extendWith Buf.extend
  rw [hi]
  cases v.asInit with
  | error f => rfl
  | ok p =>
    simp only [h, hres]
    rfl

end Compio.View
