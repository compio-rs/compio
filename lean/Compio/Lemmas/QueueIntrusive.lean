/-
Refinement of the intrusive hot/cold queue of compio-executor/src/queue.rs (Compio.Model.QueueIntrusive) to the
abstract pair of id lists used by the executor model (Compio.Executor): representation predicate `Rep`,
preservation by every operation, the abstraction function `abs`, removed keys. Every program of queue operations
simulates the abstract queue with its key counter (`Spec`, `Sim`, `sim_run`: what QueueRefine.lean builds on). Last,
calls outside the preconditions (`debug_assert!` off) and how they corrupt the structure.
-/
import Compio.Model.QueueIntrusive
import Compio.Model.Executor
import Compio.Lemmas.Lts
namespace Compio.QueueIntrusive

/-- successor of `k` in `l` -/
def succIn : List Nat → Nat → Option Nat
  | [], _ => none
  | x :: rest, k => if x = k then rest.head? else succIn rest k

/-- predecessor of `k` in `l` -/
def predIn (l : List Nat) (k : Nat) : Option Nat := succIn l.reverse k

theorem succIn_eq_nextHot (l : List Nat) (k : Nat) : succIn l k = Compio.Executor.nextHot l k := by
  induction l with
  | nil => rfl
  | cons x rest ih => simp [succIn, Compio.Executor.nextHot, ih]

theorem nodup_reverse {l : List Nat} : l.reverse.Nodup ↔ l.Nodup := (List.reverse_perm l).nodup_iff

theorem succIn_not_mem {l : List Nat} {k : Nat} (h : k ∉ l) : succIn l k = none := by
  induction l with
  | nil => rfl
  | cons x rest ih =>
    simp only [List.mem_cons, not_or] at h
    simp [succIn, Ne.symm h.1, ih h.2]

theorem succIn_split_of {l : List Nat} {k j : Nat} (h : succIn l k = some j) :
    ∃ pre post, l = pre ++ k :: j :: post := by
  induction l with
  | nil => simp [succIn] at h
  | cons x rest ih =>
    simp only [succIn] at h
    split at h
    · next hx =>
      obtain ⟨post, rfl⟩ : ∃ post, rest = j :: post := by cases rest <;> simp_all
      exact ⟨[], post, by rw [hx]; rfl⟩
    · obtain ⟨pre, post, rfl⟩ := ih h
      exact ⟨x :: pre, post, rfl⟩

theorem succIn_mem {l : List Nat} {k j : Nat} (h : succIn l k = some j) : k ∈ l ∧ j ∈ l := by
  obtain ⟨pre, post, rfl⟩ := succIn_split_of h; simp

theorem succIn_ne {l : List Nat} (hn : l.Nodup) {k j : Nat} (h : succIn l k = some j) : j ≠ k := by
  obtain ⟨pre, post, rfl⟩ := succIn_split_of h
  rintro rfl
  simp [List.nodup_append] at hn

theorem succIn_concat {l : List Nat} {x k : Nat} (hn : l.Nodup) (hx : x ∉ l) :
    succIn (l ++ [x]) k = if k = x then none else if l.getLast? = some k then some x else succIn l k := by
  induction l with
  | nil => simp [succIn, eq_comm]
  | cons y rest ih =>
    rw [List.nodup_cons] at hn
    simp only [List.mem_cons, not_or] at hx
    simp only [List.cons_append, succIn, ih hn.2 hx.2]
    by_cases hy : y = k
    · subst hy
      have : rest.getLast? ≠ some y := fun e => hn.1 (List.mem_of_getLast? e)
      cases rest <;> simp_all [List.getLast?_cons_cons, Ne.symm hx.1]
    · have : (y :: rest).getLast? = some k ↔ rest.getLast? = some k := by
        cases rest <;> simp [List.getLast?_cons_cons, hy]
      simp only [hy, if_false, this]

theorem head?_erase {l : List Nat} {x : Nat} :
    (l.erase x).head? = if l.head? = some x then succIn l x else l.head? := by
  cases l with
  | nil => simp
  | cons y r =>
    by_cases hy : y = x
    · subst hy; simp [succIn]
    · simp [hy]

theorem succIn_erase {l : List Nat} {x k : Nat} (hn : l.Nodup) (hk : k ≠ x) :
    succIn (l.erase x) k = if succIn l k = some x then succIn l x else succIn l k := by
  induction l with
  | nil => simp [succIn]
  | cons y rest ih =>
    rw [List.nodup_cons] at hn
    have ih := ih hn.2
    by_cases hy : y = x
    · subst hy
      have h1 : ∀ j, succIn rest j ≠ some y := fun j e => hn.1 (succIn_mem e).2
      simp [succIn, Ne.symm hk, h1]
    · have he : (y :: rest).erase x = y :: rest.erase x := by simp [hy]
      rw [he]
      simp only [succIn]
      by_cases hyk : y = k
      · subst hyk; simp [head?_erase, hy]
      · simp [hyk, ih, hy]

theorem succIn_split {pre rest : List Nat} {k : Nat} (hn : (pre ++ k :: rest).Nodup) :
    succIn (pre ++ k :: rest) k = rest.head? := by
  induction pre with
  | nil => simp [succIn]
  | cons y p ih =>
    rw [List.cons_append, List.nodup_cons] at hn
    have : y ≠ k := by intro e; subst e; exact hn.1 (by simp)
    simp [succIn, this, ih hn.2]

theorem reverse_erase {l : List Nat} (hn : l.Nodup) (x : Nat) : (l.erase x).reverse = l.reverse.erase x := by
  rw [hn.erase_eq_filter, (nodup_reverse.2 hn).erase_eq_filter, List.filter_reverse]

theorem predIn_not_mem {l : List Nat} {k : Nat} (h : k ∉ l) : predIn l k = none :=
  succIn_not_mem (by simpa using h)

theorem predIn_mem {l : List Nat} {k j : Nat} (h : predIn l k = some j) : k ∈ l ∧ j ∈ l := by
  have := succIn_mem h; simpa using this

theorem predIn_erase {l : List Nat} {x k : Nat} (hn : l.Nodup) (hk : k ≠ x) :
    predIn (l.erase x) k = if predIn l k = some x then predIn l x else predIn l k := by
  unfold predIn; rw [reverse_erase hn, succIn_erase (nodup_reverse.2 hn) hk]

theorem predIn_concat {l : List Nat} {x k : Nat} :
    predIn (l ++ [x]) k = if x = k then l.getLast? else predIn l k := by
  simp [predIn, succIn, List.head?_reverse]

theorem getLast?_erase {l : List Nat} {x : Nat} (hn : l.Nodup) :
    (l.erase x).getLast? = if l.getLast? = some x then predIn l x else l.getLast? := by
  rw [← List.head?_reverse, reverse_erase hn, head?_erase, List.head?_reverse]; rfl

theorem succIn_last {l : List Nat} {k : Nat} (hn : l.Nodup) (h : l.getLast? = some k) : succIn l k = none := by
  obtain ⟨pre, rfl⟩ := List.getLast?_eq_some_iff.mp h
  rw [succIn_split hn]; rfl

theorem succIn_eq_some_iff {l : List Nat} (hn : l.Nodup) {k j : Nat} :
    succIn l k = some j ↔ ∃ pre post, l = pre ++ k :: j :: post :=
  ⟨succIn_split_of, by rintro ⟨pre, post, rfl⟩; rw [succIn_split hn]; rfl⟩

theorem succIn_eq_some_iff_predIn {l : List Nat} (hn : l.Nodup) {k j : Nat} :
    succIn l k = some j ↔ predIn l j = some k := by
  rw [predIn, succIn_eq_some_iff hn, succIn_eq_some_iff (nodup_reverse.2 hn)]
  constructor
  · rintro ⟨pre, post, rfl⟩; exact ⟨post.reverse, pre.reverse, by simp⟩
  · rintro ⟨pre, post, h⟩
    exact ⟨post.reverse, pre.reverse, by rw [← List.reverse_reverse l, h]; simp⟩

theorem get_eq_some_iff {c : IQ} {k : Nat} {it : Item} : c.get k = some it ↔ c.map[k]? = some (some it) := by
  unfold IQ.get
  split
  · next h1 => simp [h1]
  · next h1 => exact ⟨nofun, fun h => absurd h (h1 it)⟩

theorem get_lt {c : IQ} {k : Nat} {it : Item} (h : c.get k = some it) : k < c.map.length :=
  (List.getElem?_eq_some_iff.1 (get_eq_some_iff.1 h)).1

theorem get_setItem {c : IQ} {k j : Nat} {it : Item} (hk : k < c.map.length) :
    (c.setItem k it).get j = if j = k then some it else c.get j := by
  unfold IQ.get IQ.setItem
  simp only [List.getElem?_set, hk, if_true]
  by_cases h : k = j
  · subst h; simp
  · simp [h, Ne.symm h]

@[simp] theorem map_setItem_length {c : IQ} {k : Nat} {it : Item} : (c.setItem k it).map.length = c.map.length := by
  simp [IQ.setItem]

@[simp] theorem get_setHead {c : IQ} {f : Bool} {v : Option Nat} {j : Nat} : (c.setHead f v).get j = c.get j := by
  cases f <;> rfl
@[simp] theorem get_setTail {c : IQ} {f : Bool} {v : Option Nat} {j : Nat} : (c.setTail f v).get j = c.get j := by
  cases f <;> rfl
@[simp] theorem map_setHead {c : IQ} {f : Bool} {v : Option Nat} : (c.setHead f v).map = c.map := by
  cases f <;> rfl
@[simp] theorem map_setTail {c : IQ} {f : Bool} {v : Option Nat} : (c.setTail f v).map = c.map := by
  cases f <;> rfl
@[simp] theorem head_setHead {c : IQ} {f g : Bool} {v : Option Nat} :
    (c.setHead f v).head g = if g = f then v else c.head g := by
  cases f <;> cases g <;> simp [IQ.setHead, IQ.head]
@[simp] theorem tail_setHead {c : IQ} {f g : Bool} {v : Option Nat} : (c.setHead f v).tail g = c.tail g := by
  cases f <;> cases g <;> simp [IQ.setHead, IQ.tail]
@[simp] theorem head_setTail {c : IQ} {f g : Bool} {v : Option Nat} : (c.setTail f v).head g = c.head g := by
  cases f <;> cases g <;> simp [IQ.setTail, IQ.head]
@[simp] theorem tail_setTail {c : IQ} {f g : Bool} {v : Option Nat} :
    (c.setTail f v).tail g = if g = f then v else c.tail g := by
  cases f <;> cases g <;> simp [IQ.setTail, IQ.tail]
@[simp] theorem head_setItem {c : IQ} {k : Nat} {it : Item} {g : Bool} : (c.setItem k it).head g = c.head g := rfl
@[simp] theorem tail_setItem {c : IQ} {k : Nat} {it : Item} {g : Bool} : (c.setItem k it).tail g = c.tail g := rfl

/-- the shape `setNextOf` and `setPrevOf` share: rewrite the item under `o`, if `o` is a live key -/
def IQ.updOf (c : IQ) (o : Option Nat) (g : Item → Item) : IQ :=
  match o with
  | none => c
  | some k =>
    match c.get k with
    | none => c
    | some it => c.setItem k (g it)

theorem get_updOf {c : IQ} {o : Option Nat} {g : Item → Item} {j : Nat} :
    (c.updOf o g).get j = (c.get j).map fun ij => if o = some j then g ij else ij := by
  unfold IQ.updOf
  split
  · simp
  · next k =>
    by_cases hjk : k = j
    · subst hjk
      split
      · next hk => simp [hk]
      · next it hk => simp [get_setItem (get_lt hk), hk]
    · split
      · simp [hjk]
      · next it hk => simp [get_setItem (get_lt hk), hjk, Ne.symm hjk]

@[simp] theorem length_updOf {c : IQ} {o : Option Nat} {g : Item → Item} :
    (c.updOf o g).map.length = c.map.length := by
  unfold IQ.updOf; (repeat' split) <;> simp
@[simp] theorem head_updOf {c : IQ} {o : Option Nat} {g : Item → Item} {f : Bool} :
    (c.updOf o g).head f = c.head f := by
  unfold IQ.updOf; (repeat' split) <;> rfl
@[simp] theorem tail_updOf {c : IQ} {o : Option Nat} {g : Item → Item} {f : Bool} :
    (c.updOf o g).tail f = c.tail f := by
  unfold IQ.updOf; (repeat' split) <;> rfl

theorem get_setNextOf {c : IQ} {o v : Option Nat} {j : Nat} :
    (c.setNextOf o v).get j = (c.get j).map fun ij => if o = some j then { ij with next := v } else ij :=
  get_updOf
theorem get_setPrevOf {c : IQ} {o v : Option Nat} {j : Nat} :
    (c.setPrevOf o v).get j = (c.get j).map fun ij => if o = some j then { ij with prev := v } else ij :=
  get_updOf
@[simp] theorem length_setNextOf {c : IQ} {o v : Option Nat} : (c.setNextOf o v).map.length = c.map.length :=
  length_updOf
@[simp] theorem length_setPrevOf {c : IQ} {o v : Option Nat} : (c.setPrevOf o v).map.length = c.map.length :=
  length_updOf
@[simp] theorem head_setNextOf {c : IQ} {o v : Option Nat} {g : Bool} : (c.setNextOf o v).head g = c.head g :=
  head_updOf
@[simp] theorem tail_setNextOf {c : IQ} {o v : Option Nat} {g : Bool} : (c.setNextOf o v).tail g = c.tail g :=
  tail_updOf
@[simp] theorem head_setPrevOf {c : IQ} {o v : Option Nat} {g : Bool} : (c.setPrevOf o v).head g = c.head g :=
  head_updOf
@[simp] theorem tail_setPrevOf {c : IQ} {o v : Option Nat} {g : Bool} : (c.setPrevOf o v).tail g = c.tail g :=
  tail_updOf

theorem unlink_spec {c : IQ} {f : Bool} {key : Nat} {it : Item} (h : c.get key = some it) :
    ∃ c', unlink f c key = some c' ∧
      (∀ j, c'.get j = (c.get j).map fun ij =>
        { prev := if it.next = some j then it.prev else ij.prev,
          next := if it.prev = some j then it.next else ij.next, isHot := ij.isHot }) ∧
      (∀ g, c'.head g = if g = f ∧ c.head f = some key then it.next else c.head g) ∧
      (∀ g, c'.tail g = if g = f ∧ c.tail f = some key then it.prev else c.tail g) ∧
      c'.map.length = c.map.length := by
  refine ⟨_, by simp only [unlink, h]; rfl, fun j => ?_, fun g => ?_, fun g => ?_, ?_⟩
  · simp only [get_setPrevOf, get_setNextOf, apply_ite (IQ.get · j), get_setHead, get_setTail, ite_self,
      Option.map_map]
    congr 1; funext ij
    by_cases ha : it.next = some j <;> by_cases hb : it.prev = some j <;> simp [ha, hb]
  · simp only [head_setPrevOf, head_setNextOf, apply_ite (IQ.head · g), head_setTail, head_setHead, ite_self]
    by_cases hg : g = f <;> simp [hg]
  · simp only [tail_setPrevOf, tail_setNextOf, apply_ite (IQ.tail · g), apply_ite (IQ.tail · f), tail_setTail,
      tail_setHead, ite_self]
    by_cases hg : g = f <;> simp [hg]
  · simp only [length_setPrevOf, length_setNextOf, apply_ite (fun c : IQ => c.map.length), map_setHead, map_setTail,
      ite_self]

theorem linkTail_spec {c : IQ} {f : Bool} {key : Nat} {it : Item} (h : c.get key = some it) :
    ∃ c', linkTail f c key = some c' ∧
      (∀ j, c'.get j = (if j = key then some { prev := c.tail f, next := none, isHot := f } else c.get j).map
        fun ij => if c.tail f = some j then { ij with next := some key } else ij) ∧
      (∀ g, c'.head g = if g = f ∧ c.head f = none then some key else c.head g) ∧
      (∀ g, c'.tail g = if g = f then some key else c.tail g) ∧
      c'.map.length = c.map.length := by
  refine ⟨_, by
    simp only [linkTail, apply_ite (IQ.get · key), get_setHead, get_setTail, ite_self, h]; rfl,
    fun j => ?_, fun g => ?_, fun g => ?_, ?_⟩
  · simp only [get_setNextOf, get_setItem, apply_ite (fun c : IQ => c.map.length), map_setHead, map_setTail, ite_self,
      get_lt h, apply_ite (IQ.get · j), get_setHead, get_setTail]
  · simp only [head_setNextOf, head_setItem, apply_ite (IQ.head · g), head_setTail, head_setHead,
      Option.isNone_iff_eq_none]
    by_cases hg : g = f <;> simp [hg]
  · simp only [tail_setNextOf, tail_setItem, apply_ite (IQ.tail · g), tail_setTail, tail_setHead, ite_self]
  · simp only [length_setNextOf, map_setItem_length, apply_ite (fun c : IQ => c.map.length), map_setHead, map_setTail,
      ite_self]

/-- one intrusive list of `c` (selected by `f`) represents the id list `l` -/
structure ListRep (c : IQ) (f : Bool) (l : List Nat) : Prop where
  head : c.head f = l.head?
  tail : c.tail f = l.getLast?
  items : ∀ k ∈ l, c.get k = some { prev := predIn l k, next := succIn l k, isHot := f }

/-- `c` represents `(hot, cold)` with the extra live but unlinked keys `fl` (the state between `unlink`
and `link_tail` inside `make_hot` / `make_cold`, between `insert_with_key` and `link_tail` inside
`insert`, between `unlink` and `map.remove` inside `remove`) -/
structure RepF (c : IQ) (hot cold fl : List Nat) : Prop where
  nodupH : hot.Nodup
  nodupC : cold.Nodup
  nodupF : fl.Nodup
  disjHC : ∀ k ∈ hot, k ∉ cold
  disjHF : ∀ k ∈ hot, k ∉ fl
  disjCF : ∀ k ∈ cold, k ∉ fl
  live : ∀ k, (c.get k).isSome = true ↔ (k ∈ hot ∨ k ∈ cold ∨ k ∈ fl)
  hotRep : ListRep c true hot
  coldRep : ListRep c false cold

/-- `c` represents the abstract queue `(hot, cold)` -/
def Rep (c : IQ) (hot cold : List Nat) : Prop := RepF c hot cold []

def WF (c : IQ) : Prop := ∃ hot cold, Rep c hot cold

theorem repF_iff {c : IQ} {hot cold fl : List Nat} :
    RepF c hot cold fl ↔
      (fl ++ (hot ++ cold)).Nodup ∧ (∀ k, (c.get k).isSome = true ↔ k ∈ fl ++ (hot ++ cold)) ∧
      ListRep c true hot ∧ ListRep c false cold := by
  simp only [List.nodup_append, List.mem_append]
  constructor
  · intro h
    exact ⟨⟨h.nodupF, ⟨h.nodupH, h.nodupC, fun a ha b hb e => h.disjHC a ha (e ▸ hb)⟩,
      fun a ha b hb e => hb.elim (fun hb => h.disjHF b hb (e ▸ ha)) fun hb => h.disjCF b hb (e ▸ ha)⟩,
      fun k => (h.live k).trans or_rotate.symm, h.hotRep, h.coldRep⟩
  · rintro ⟨⟨hF, ⟨hH, hC, hHC⟩, hFX⟩, hl, hh, hc⟩
    exact ⟨hH, hC, hF, fun k hk hk' => hHC k hk k hk' rfl, fun k hk hk' => hFX k hk' k (Or.inl hk) rfl,
      fun k hk hk' => hFX k hk' k (Or.inr hk) rfl, fun k => (hl k).trans or_rotate, hh, hc⟩

theorem RepF.of_perm {c c' : IQ} {hot cold fl hot' cold' fl' : List Nat} (h : RepF c hot cold fl)
    (hp : (fl' ++ (hot' ++ cold')).Perm (fl ++ (hot ++ cold)))
    (hl : ∀ j, (c'.get j).isSome = (c.get j).isSome) (hh : ListRep c' true hot') (hc : ListRep c' false cold') :
    RepF c' hot' cold' fl' :=
  have ⟨hn, hlv, _, _⟩ := repF_iff.1 h
  repF_iff.2 ⟨hp.nodup_iff.2 hn, fun j => by rw [hl, hlv, hp.mem_iff], hh, hc⟩

theorem ListRep.frame {c c' : IQ} {g : Bool} {l : List Nat} (hr : ListRep c g l)
    (hget : ∀ j ∈ l, c'.get j = c.get j) (hh : c'.head g = c.head g) (ht : c'.tail g = c.tail g) :
    ListRep c' g l :=
  ⟨hh.trans hr.head, ht.trans hr.tail, fun k hk => (hget k hk).trans (hr.items k hk)⟩

theorem ListRep.unlink {c : IQ} {f g : Bool} {l l' : List Nat} {k : Nat} (hr : ListRep c f l) (hg : g ≠ f)
    (hn : l.Nodup) (hk : k ∈ l) (ho : ListRep c g l') (hd : ∀ j ∈ l', j ∉ l) :
    ∃ c', unlink f c k = some c' ∧ ListRep c' f (l.erase k) ∧ ListRep c' g l' ∧
      (∀ j, (c'.get j).isSome = (c.get j).isSome) ∧ c'.map.length = c.map.length := by
  obtain ⟨c', hc', hget, hhead, htail, hlen⟩ := unlink_spec (f := f) (hr.items k hk)
  simp only at hget
  refine ⟨c', hc', ⟨?_, ?_, fun j hj => ?_⟩, ho.frame (fun j hj => ?_) ?_ ?_,
    fun j => by rw [hget, Option.isSome_map], hlen⟩
  · rw [hhead, hr.head, head?_erase]; simp
  · rw [htail, hr.tail, getLast?_erase hn]; simp
  · rw [hn.mem_erase_iff] at hj
    -- `k`'s predecessor is the one whose successor is `k`, and the other way round
    rw [hget, hr.items j hj.2, succIn_erase hn hj.1, predIn_erase hn hj.1]
    simp only [← succIn_eq_some_iff_predIn hn, Option.map_some]
  · have h1 : ¬ succIn l k = some j := fun e => hd j hj (succIn_mem e).2
    have h2 : ¬ predIn l k = some j := fun e => hd j hj (predIn_mem e).2
    rw [hget, ho.items j hj]; simp [h1, h2]
  · simp [hhead, hg]
  · simp [htail, hg]

theorem ListRep.linkTail {c : IQ} {f g : Bool} {l l' : List Nat} {k : Nat} {it : Item} (hr : ListRep c f l)
    (hg : g ≠ f) (hn : l.Nodup) (hk : k ∉ l) (hit : c.get k = some it) (ho : ListRep c g l')
    (hd : ∀ j ∈ l', j ∉ l) (hk' : k ∉ l') :
    ∃ c', linkTail f c k = some c' ∧ ListRep c' f (l ++ [k]) ∧ ListRep c' g l' ∧
      (∀ j, (c'.get j).isSome = (c.get j).isSome) ∧ c'.map.length = c.map.length := by
  obtain ⟨c', hc', hget, hhead, htail, hlen⟩ := linkTail_spec (f := f) hit
  have hlast : l.getLast? ≠ some k := fun e => hk (List.mem_of_getLast? e)
  refine ⟨c', hc', ⟨?_, ?_, fun j hj => ?_⟩, ho.frame (fun j hj => ?_) ?_ ?_, fun j => ?_, hlen⟩
  · rw [hhead, hr.head]; cases l <;> simp
  · rw [htail]; simp
  · rw [hget, hr.tail, succIn_concat hn hk, predIn_concat]
    by_cases hjk : j = k
    · subst hjk; simp [hlast]
    · have hjl : j ∈ l := by simpa [hjk] using hj
      simp only [hjk, Ne.symm hjk, if_false, hr.items j hjl, Option.map_some]
      by_cases hl : l.getLast? = some j <;> simp [hl]
  · have h1 : ¬ j = k := fun e => hk' (e ▸ hj)
    have h2 : ¬ c.tail f = some j := fun e => hd j hj (List.mem_of_getLast? (hr.tail ▸ e))
    rw [hget]; simp [h1, h2]
  · simp [hhead, hg]
  · simp [htail, hg]
  · rw [hget, Option.isSome_map]; split
    · next e => rw [e, hit]; rfl
    · rfl

/-- the common body of `make_hot` and `make_cold`: `unlink::<f>` then `link_tail::<g>`, `g` the other list -/
theorem ListRep.requeue {c : IQ} {f g : Bool} {l l' : List Nat} {k : Nat} (hr : ListRep c f l) (hg : g ≠ f)
    (hn : l.Nodup) (hk : k ∈ l) (ho : ListRep c g l') (hn' : l'.Nodup) (hd : ∀ j ∈ l', j ∉ l) :
    ∃ c', ((QueueIntrusive.unlink f c k).bind fun c => QueueIntrusive.linkTail g c k) = some c' ∧
      ListRep c' f (l.erase k) ∧ ListRep c' g (l' ++ [k]) ∧
      (∀ j, (c'.get j).isSome = (c.get j).isSome) ∧ c'.map.length = c.map.length := by
  obtain ⟨c1, h1, hr1, ho1, hl1, len1⟩ := hr.unlink hg hn hk ho hd
  obtain ⟨it, hit⟩ : ∃ it, c1.get k = some it :=
    Option.isSome_iff_exists.1 (by rw [hl1, hr.items k hk]; rfl)
  obtain ⟨c2, h2, ho2, hr2, hl2, len2⟩ := ho1.linkTail (Ne.symm hg) hn' (fun e => hd k e hk) hit hr1
    (fun j hj hj' => hd j hj' (List.mem_of_mem_erase hj)) fun e => (hn.mem_erase_iff.1 e).1 rfl
  exact ⟨c2, by rw [h1]; exact h2, hr2, ho2, fun j => (hl2 j).trans (hl1 j), len2.trans len1⟩

def specMakeHot (hot cold : List Nat) (k : Nat) : List Nat × List Nat :=
  if k ∈ cold then (hot ++ [k], cold.erase k) else (hot, cold)

def specMakeCold (hot cold : List Nat) (k : Nat) : List Nat × List Nat :=
  if k ∈ hot then (hot.erase k, cold ++ [k]) else (hot, cold)

def specRemove (hot cold : List Nat) (k : Nat) : List Nat × List Nat := (hot.erase k, cold.erase k)

def specInsert (hot cold : List Nat) (fresh : Nat) : List Nat × List Nat := (hot ++ [fresh], cold)

theorem Rep.get_none {c : IQ} {hot cold : List Nat} (h : Rep c hot cold) {k : Nat} (hh : k ∉ hot) (hc : k ∉ cold) :
    c.get k = none := by
  cases hg : c.get k with
  | none => rfl
  | some it =>
    have := (h.live k).1 (by simp [hg])
    simp [hh, hc] at this

theorem Rep.get_hot {c : IQ} {hot cold : List Nat} (h : Rep c hot cold) {k : Nat} (hk : k ∈ hot) :
    c.get k = some { prev := predIn hot k, next := succIn hot k, isHot := true } := h.hotRep.items k hk

theorem Rep.get_cold {c : IQ} {hot cold : List Nat} (h : Rep c hot cold) {k : Nat} (hk : k ∈ cold) :
    c.get k = some { prev := predIn cold k, next := succIn cold k, isHot := false } := h.coldRep.items k hk

theorem rep_makeHot {c : IQ} {hot cold : List Nat} (h : Rep c hot cold) (k : Nat) :
    ∃ c', makeHot c k = some c' ∧ Rep c' (specMakeHot hot cold k).1 (specMakeHot hot cold k).2 ∧
      c'.map.length = c.map.length := by
  unfold specMakeHot
  by_cases hc : k ∈ cold
  · simp only [hc, if_true]
    obtain ⟨c', h', hC, hH, hl, hlen⟩ :=
      h.coldRep.requeue (g := true) (by decide) h.nodupC hc h.hotRep h.nodupH h.disjHC
    refine ⟨c', by simpa [makeHot, h.get_cold hc] using h', h.of_perm ?_ hl hH hC, hlen⟩
    rw [List.append_assoc]
    exact (List.perm_cons_erase hc).symm.append_left _
  · simp only [hc, if_false]
    refine ⟨c, ?_, h, rfl⟩
    by_cases hh : k ∈ hot
    · simp [makeHot, h.get_hot hh]
    · simp [makeHot, h.get_none hh hc]

/-- `make_cold` refines `specMakeCold` when the key is hot or not in the queue (its `debug_assert!`) -/
theorem rep_makeCold {c : IQ} {hot cold : List Nat} (h : Rep c hot cold) (k : Nat) (hpre : k ∉ cold) :
    ∃ c', makeCold c k = some c' ∧ Rep c' (specMakeCold hot cold k).1 (specMakeCold hot cold k).2 ∧
      c'.map.length = c.map.length ∧ makeColdAssert c k = true := by
  unfold specMakeCold
  by_cases hh : k ∈ hot
  · simp only [hh, if_true]
    obtain ⟨c', h', hH, hC, hl, hlen⟩ :=
      h.hotRep.requeue (g := false) (by decide) h.nodupH hh h.coldRep h.nodupC fun j hj hj' => h.disjHC j hj' hj
    refine ⟨c', by simpa [makeCold, h.get_hot hh] using h', h.of_perm ?_ hl hH hC, hlen,
      by simp [makeColdAssert, h.get_hot hh]⟩
    exact ((List.perm_append_singleton _ _).append_left _).trans
      (List.perm_middle.trans ((List.perm_cons_erase hh).symm.append_right _))
  · simp only [hh, if_false]
    exact ⟨c, by simp [makeCold, h.get_none hh hpre], h, rfl, by simp [makeColdAssert, h.get_none hh hpre]⟩

theorem get_push {c : IQ} {it : Item} {j : Nat} :
    ({ c with map := c.map ++ [some it] } : IQ).get j = if j = c.map.length then some it else c.get j := by
  unfold IQ.get
  rcases Nat.lt_trichotomy j c.map.length with h | h | h
  · rw [List.getElem?_append_left h, if_neg (Nat.ne_of_lt h)]
  · subst h; rw [List.getElem?_concat_length, if_pos rfl]
  · rw [List.getElem?_eq_none (by rw [List.length_append]; exact h), List.getElem?_eq_none (Nat.le_of_lt h),
      if_neg (Nat.ne_of_gt h)]

theorem get_unset {c : IQ} {k j : Nat} :
    ({ c with map := c.map.set k none } : IQ).get j = if j = k then none else c.get j := by
  unfold IQ.get
  by_cases hj : j = k
  · subst hj; rw [if_pos rfl, List.getElem?_set_self']; cases c.map[j]? <;> rfl
  · rw [if_neg hj, List.getElem?_set_ne (Ne.symm hj)]

theorem RepF.lt_length {c : IQ} {hot cold fl : List Nat} (h : RepF c hot cold fl) {k : Nat}
    (hk : k ∈ hot ∨ k ∈ cold ∨ k ∈ fl) : k < c.map.length := by
  obtain ⟨it, hit⟩ := Option.isSome_iff_exists.1 ((h.live k).2 hk); exact get_lt hit

theorem rep_insert {c : IQ} {hot cold : List Nat} (h : Rep c hot cold) :
    ∃ c', insert c = some (c', c.map.length) ∧
      Rep c' (specInsert hot cold c.map.length).1 (specInsert hot cold c.map.length).2 ∧
      c.map.length ∉ hot ∧ c.map.length ∉ cold ∧ c'.map.length = c.map.length + 1 := by
  have hne : ∀ j ∈ hot ++ cold, j ≠ c.map.length := fun j hj e =>
    Nat.lt_irrefl _ (e ▸ h.lt_length (k := j) (by simpa [or_assoc] using hj))
  obtain ⟨hn, hl, hh, hc⟩ := repF_iff.1 h
  -- the state after `insert_with_key`: the fresh key is live and unlinked
  let c0 : IQ := { c with map := c.map ++ [some { prev := none, next := none, isHot := true }] }
  have r0 : RepF c0 hot cold [c.map.length] := repF_iff.2
    ⟨List.nodup_cons.2 ⟨fun e => hne _ e rfl, hn⟩,
      fun j => by rw [get_push]; by_cases e : j = c.map.length <;> simp [e, hl j],
      hh.frame (fun j hj => by rw [get_push, if_neg (hne j (List.mem_append_left _ hj))]) rfl rfl,
      hc.frame (fun j hj => by rw [get_push, if_neg (hne j (List.mem_append_right _ hj))]) rfl rfl⟩
  have hfh : c.map.length ∉ hot := fun e => hne _ (List.mem_append_left _ e) rfl
  have hfc : c.map.length ∉ cold := fun e => hne _ (List.mem_append_right _ e) rfl
  obtain ⟨c1, h1, hH, hC, hl1, l1⟩ := r0.hotRep.linkTail (g := false) (by decide) h.nodupH hfh
    (show c0.get c.map.length = some _ by rw [get_push, if_pos rfl]) r0.coldRep (fun j hj hj' => h.disjHC j hj' hj) hfc
  have r1 : Rep c1 (hot ++ [c.map.length]) cold :=
    r0.of_perm (by rw [List.append_assoc]; exact List.perm_middle) hl1 hH hC
  refine ⟨c1, ?_, r1, hfh, hfc, by simp [l1, c0]⟩
  simp only [insert]
  show (linkTail true c0 c.map.length).map _ = _
  rw [h1]; rfl

theorem rep_remove {c : IQ} {hot cold : List Nat} (h : Rep c hot cold) (k : Nat) :
    ∃ c', remove c k = some (c', decide (k ∈ hot ∨ k ∈ cold)) ∧
      Rep c' (specRemove hot cold k).1 (specRemove hot cold k).2 ∧ c'.map.length = c.map.length ∧
      (k ∉ hot → k ∉ cold → c' = c) := by
  unfold specRemove
  -- `map.remove(key)` of the unlinked key
  have drop : ∀ {c1 : IQ} {a b : List Nat}, RepF c1 a b [k] →
      Rep ({ c1 with map := c1.map.set k none } : IQ) a b := by
    intro c1 a b r
    obtain ⟨hn, hl, hh, hc⟩ := repF_iff.1 r
    obtain ⟨(hk : k ∉ a ++ b), (hn : (a ++ b).Nodup)⟩ := List.nodup_cons.1 hn
    have hne : ∀ j ∈ a ++ b, j ≠ k := fun j hj e => hk (e ▸ hj)
    exact repF_iff.2 ⟨hn, fun j => by rw [get_unset]; by_cases e : j = k <;> simp [e, hl j, hk],
      hh.frame (fun j hj => by rw [get_unset, if_neg (hne j (List.mem_append_left _ hj))]) rfl rfl,
      hc.frame (fun j hj => by rw [get_unset, if_neg (hne j (List.mem_append_right _ hj))]) rfl rfl⟩
  by_cases hk : k ∈ hot ∨ k ∈ cold
  · -- `unlink::<item.is_hot>`: the flag of a member names the list it is in
    obtain ⟨it, c1, hit, h1, r1, l1⟩ : ∃ it c1, c.get k = some it ∧ unlink it.isHot c k = some c1 ∧
        RepF c1 (hot.erase k) (cold.erase k) [k] ∧ c1.map.length = c.map.length := by
      rcases hk with hh | hc
      · obtain ⟨c1, h1, hH, hC, hl, l1⟩ :=
          h.hotRep.unlink (g := false) (by decide) h.nodupH hh h.coldRep fun j hj hj' => h.disjHC j hj' hj
        rw [List.erase_of_not_mem (h.disjHC k hh)]
        exact ⟨_, c1, h.get_hot hh, h1, h.of_perm ((List.perm_cons_erase hh).symm.append_right _) hl hH hC, l1⟩
      · obtain ⟨c1, h1, hC, hH, hl, l1⟩ := h.coldRep.unlink (g := true) (by decide) h.nodupC hc h.hotRep h.disjHC
        rw [List.erase_of_not_mem fun hh => h.disjHC k hh hc]
        exact ⟨_, c1, h.get_cold hc, h1, h.of_perm ((List.perm_middle (l₁ := hot)).symm.trans
          ((List.perm_cons_erase hc).symm.append_left hot)) hl hH hC, l1⟩
    exact ⟨_, by simp [remove, hit, h1, hk], drop r1, by simp [l1], fun e1 e2 => absurd hk (by simp [e1, e2])⟩
  · rw [not_or] at hk
    refine ⟨c, by simp [remove, h.get_none hk.1 hk.2, hk], ?_, rfl, fun _ _ => rfl⟩
    rwa [List.erase_of_not_mem hk.1, List.erase_of_not_mem hk.2]

theorem rep_nil {m : List (Option Item)} (hg : ∀ k, (IQ.mk m none none none none).get k = none) :
    Rep ⟨m, none, none, none, none⟩ [] [] :=
  repF_iff.2 ⟨List.nodup_nil, by simp [hg], ⟨rfl, rfl, by simp⟩, ⟨rfl, rfl, by simp⟩⟩

theorem rep_empty : Rep IQ.empty [] [] := rep_nil fun k => by simp [IQ.get]

theorem get_none_of_all {c : IQ} (h : c.map.all (·.isNone) = true) (k : Nat) : c.get k = none := by
  unfold IQ.get
  split
  · rename_i it hk
    have hm := List.mem_of_getElem? hk
    have := List.all_eq_true.1 h _ hm
    simp at this
  · rfl

theorem rep_clear {c : IQ} {hot cold : List Nat} (h : Rep c hot cold) :
    Rep (clear c) [] [] ∧ (clear c).map.length = c.map.length := by
  unfold clear
  split
  · next hall =>
    have : hot ++ cold = [] := List.eq_nil_iff_forall_not_mem.2 fun k hk => by
      have := ((repF_iff.1 h).2.1 k).2 hk; simp [get_none_of_all hall] at this
    obtain ⟨rfl, rfl⟩ := List.append_eq_nil_iff.1 this
    exact ⟨h, rfl⟩
  · refine ⟨rep_nil fun k => ?_, by simp⟩
    unfold IQ.get; simp only [List.getElem?_map]
    cases c.map[k]? <;> rfl

theorem length_le_of_lt {l : List Nat} {n : Nat} (hn : l.Nodup) (h : ∀ x ∈ l, x < n) : l.length ≤ n := by
  have := hn.length_le_of_subset (l₂ := List.range n) (fun x hx => List.mem_range.2 (h x hx))
  simpa using this

theorem ListRep.nextHot {c : IQ} {f : Bool} {l : List Nat} (hr : ListRep c f l) {k : Nat} (hk : k ∈ l) :
    nextHot c k = succIn l k := by
  simp [Compio.QueueIntrusive.nextHot, hr.items k hk]

theorem ListRep.walk_suffix {c : IQ} {f : Bool} {l : List Nat} (hr : ListRep c f l) (hn : l.Nodup) :
    ∀ (suf pre : List Nat), l = pre ++ suf → ∀ n, suf.length ≤ n → walk n c suf.head? = suf := by
  intro suf
  induction suf with
  | nil => intro pre _ n _; cases n <;> rfl
  | cons k r ih =>
    intro pre hl n hlen
    cases n with
    | zero => simp at hlen
    | succ m =>
      have hk : k ∈ l := by rw [hl]; simp
      have hs : succIn l k = r.head? := by rw [hl] at hn ⊢; exact succIn_split hn
      simp only [List.head?_cons, walk, hr.nextHot hk, hs]
      rw [ih (pre ++ [k]) (by simp [hl]) m (by simpa using hlen)]

theorem ListRep.walk_eq {c : IQ} {f : Bool} {l : List Nat} (hr : ListRep c f l) (hn : l.Nodup) :
    walk (c.map.length + 1) c (c.head f) = l := by
  rw [hr.head]
  exact hr.walk_suffix hn l [] rfl _
    (Nat.le_succ_of_le (length_le_of_lt hn fun k hk => get_lt (hr.items k hk)))

theorem abs_of_rep {c : IQ} {hot cold : List Nat} (h : Rep c hot cold) : abs c = (hot, cold) :=
  Prod.ext (h.hotRep.walk_eq h.nodupH) (h.coldRep.walk_eq h.nodupC)

theorem rep_unique {c : IQ} {hot cold hot' cold' : List Nat} (h : Rep c hot cold) (h' : Rep c hot' cold') :
    hot = hot' ∧ cold = cold' := by
  have := (abs_of_rep h).symm.trans (abs_of_rep h'); simpa using this

theorem WF.rep {c : IQ} (h : WF c) : Rep c (abs c).1 (abs c).2 := by
  obtain ⟨hot, cold, hr⟩ := h; rwa [abs_of_rep hr]

theorem nextHot_refines {c : IQ} {hot cold : List Nat} (h : Rep c hot cold) {k : Nat} (hk : k ∈ hot) :
    nextHot c k = Compio.Executor.nextHot hot k ∧ nextHotAssert c k = true := by
  refine ⟨by rw [h.hotRep.nextHot hk, succIn_eq_nextHot], by simp [nextHotAssert, h.get_hot hk]⟩

theorem hotHead_refines {c : IQ} {hot cold : List Nat} (h : Rep c hot cold) : c.hotHead = hot.head? := by
  have := h.hotRep.head; simpa [IQ.head] using this

theorem hasHot_refines {c : IQ} {hot cold : List Nat} (h : Rep c hot cold) : hasHot c = !hot.isEmpty := by
  rw [hasHot, hotHead_refines h]; cases hot <;> rfl

theorem iterCollect_eq_walk (n : Nat) (c : IQ) (o : Option Nat) : iterCollect n c ⟨o⟩ = walk n c o := by
  induction n generalizing o with
  | zero => rfl
  | succ m ih => cases o with
    | none => rfl
    | some k => simp [iterCollect, Iter.next, walk, ih]

theorem iterHot_yields_hot {c : IQ} {hot cold : List Nat} (h : Rep c hot cold) :
    iterCollect (c.map.length + 1) c (iterHot c) = hot := by
  rw [iterHot, iterCollect_eq_walk]
  exact h.hotRep.walk_eq h.nodupH

theorem rep_iff {c : IQ} {hot cold : List Nat} :
    Rep c hot cold ↔
      (hot ++ cold).Nodup ∧ (∀ k, (∃ it, c.map[k]? = some (some it)) ↔ k ∈ hot ++ cold) ∧
      c.hotHead = hot.head? ∧ c.hotTail = hot.getLast? ∧ c.coldHead = cold.head? ∧ c.coldTail = cold.getLast? ∧
      (∀ k ∈ hot, c.map[k]? = some (some { prev := predIn hot k, next := succIn hot k, isHot := true })) ∧
      (∀ k ∈ cold, c.map[k]? = some (some { prev := predIn cold k, next := succIn cold k, isHot := false })) := by
  rw [Rep, repF_iff]
  simp only [List.nil_append, Option.isSome_iff_exists, get_eq_some_iff]
  constructor
  · rintro ⟨hn, hl, hh, hc⟩
    exact ⟨hn, hl, hh.head, hh.tail, hc.head, hc.tail, fun k hk => get_eq_some_iff.1 (hh.items k hk),
      fun k hk => get_eq_some_iff.1 (hc.items k hk)⟩
  · rintro ⟨hn, hl, h1, h2, h3, h4, h5, h6⟩
    exact ⟨hn, hl, ⟨h1, h2, fun k hk => get_eq_some_iff.2 (h5 k hk)⟩,
      ⟨h3, h4, fun k hk => get_eq_some_iff.2 (h6 k hk)⟩⟩

theorem unlinkAssert_holds {c : IQ} {hot cold : List Nat} (h : Rep c hot cold) {k : Nat} :
    (k ∈ hot → unlinkAssert true c k = true) ∧ (k ∈ cold → unlinkAssert false c k = true) :=
  ⟨fun hk => by simp [unlinkAssert, h.get_hot hk], fun hk => by simp [unlinkAssert, h.get_cold hk]⟩

theorem makeHot_dead {c : IQ} {k : Nat} (h : c.get k = none) : makeHot c k = some c := by simp [makeHot, h]
theorem makeCold_dead {c : IQ} {k : Nat} (h : c.get k = none) : makeCold c k = some c := by simp [makeCold, h]
theorem remove_dead {c : IQ} {k : Nat} (h : c.get k = none) : remove c k = some (c, false) := by simp [remove, h]
theorem nextHot_dead {c : IQ} {k : Nat} (h : c.get k = none) : nextHot c k = none := by simp [nextHot, h]

/-- the abstract queue of `Compio.Executor` plus the key counter -/
structure Spec where
  hot : List Nat
  cold : List Nat
  next : Nat
  deriving DecidableEq, Repr

def Spec.init : Spec := ⟨[], [], 0⟩

/-- abstract effect of an operation; `none` = outside `make_cold`'s precondition (key is cold) -/
def specOp (s : Spec) : Op → Option Spec
  | .insert => some ⟨s.hot ++ [s.next], s.cold, s.next + 1⟩
  | .makeHot k => some ⟨(specMakeHot s.hot s.cold k).1, (specMakeHot s.hot s.cold k).2, s.next⟩
  | .makeCold k =>
    if k ∈ s.cold then none
    else some ⟨(specMakeCold s.hot s.cold k).1, (specMakeCold s.hot s.cold k).2, s.next⟩
  | .remove k => some ⟨s.hot.erase k, s.cold.erase k, s.next⟩
  | .clear => some ⟨[], [], s.next⟩

def specRun : Spec → List Op → Option Spec
  | s, [] => some s
  | s, op :: ops => (specOp s op).bind fun s => specRun s ops

def Sim (c : IQ) (s : Spec) : Prop := Rep c s.hot s.cold ∧ c.map.length = s.next

theorem sim_init : Sim IQ.empty Spec.init := ⟨rep_empty, rfl⟩

theorem sim_step {c : IQ} {s s' : Spec} {op : Op} (h : Sim c s) (hs : specOp s op = some s') :
    ∃ c', applyOp c op = some c' ∧ Sim c' s' := by
  obtain ⟨hr, hl⟩ := h
  cases op <;> simp only [specOp] at hs
  case insert =>
    cases hs
    obtain ⟨c', h1, r1, _, _, l1⟩ := rep_insert hr
    exact ⟨c', by simp [applyOp, h1], by simpa [hl, specInsert] using r1, by simp [l1, hl]⟩
  case makeHot k =>
    cases hs
    obtain ⟨c', h1, r1, l1⟩ := rep_makeHot hr k
    exact ⟨c', h1, r1, l1.trans hl⟩
  case makeCold k =>
    split at hs
    · cases hs
    · next hk =>
      cases hs
      obtain ⟨c', h1, r1, l1, _⟩ := rep_makeCold hr k hk
      exact ⟨c', h1, r1, l1.trans hl⟩
  case remove k =>
    cases hs
    obtain ⟨c', h1, r1, l1, _⟩ := rep_remove hr k
    exact ⟨c', by simp [applyOp, h1], r1, l1.trans hl⟩
  case clear =>
    cases hs
    exact ⟨clear c, rfl, (rep_clear hr).1, (rep_clear hr).2.trans hl⟩

theorem specIsRun : IsRun specOp specRun := ⟨fun _ => rfl, fun _ _ _ => rfl⟩

theorem iqIsRun : IsRun applyOp runOps := ⟨fun _ => rfl, fun _ _ _ => rfl⟩

theorem sim_run {c : IQ} {s s' : Spec} {ops : List Op} (h : Sim c s) (hs : specRun s ops = some s') :
    ∃ c', runOps c ops = some c' ∧ Sim c' s' := by
  induction ops generalizing c s with
  | nil => cases hs; exact ⟨c, rfl, h⟩
  | cons op ops ih =>
    obtain ⟨s1, h1, hs⟩ := specIsRun.cons_some.1 hs
    obtain ⟨c1, e1, m1⟩ := sim_step h h1
    obtain ⟨c', e2, m2⟩ := ih m1 hs
    exact ⟨c', by simp [runOps, e1, e2], m2⟩

theorem Sim.keys_lt {c : IQ} {s : Spec} (h : Sim c s) : ∀ k, k ∈ s.hot ∨ k ∈ s.cold → k < s.next := by
  intro k hk; rw [← h.2]; exact h.1.lt_length (by simpa using hk)

theorem specOp_next_le {s s' : Spec} {op : Op} (hs : specOp s op = some s') : s.next ≤ s'.next := by
  cases op <;> simp only [specOp] at hs
  case makeCold => split at hs <;> cases hs; exact Nat.le_refl _
  all_goals cases hs; simp

theorem specOp_dead_stays {s s' : Spec} {op : Op} (hs : specOp s op = some s') {k : Nat}
    (hlt : k < s.next) (hh : k ∉ s.hot) (hc : k ∉ s.cold) : k ∉ s'.hot ∧ k ∉ s'.cold := by
  cases op <;> simp only [specOp] at hs
  · cases hs; simp [hh, hc]; omega
  · rename_i k'
    cases hs; simp only [specMakeHot]
    split
    · rename_i hk'
      have : k ≠ k' := fun e => hc (e ▸ hk')
      exact ⟨by simp [hh, this], fun e => hc (List.mem_of_mem_erase e)⟩
    · exact ⟨hh, hc⟩
  · rename_i k'
    split at hs
    · cases hs
    · cases hs; simp only [specMakeCold]
      split
      · rename_i hk'
        have : k ≠ k' := fun e => hh (e ▸ hk')
        exact ⟨fun e => hh (List.mem_of_mem_erase e), by simp [hc, this]⟩
      · exact ⟨hh, hc⟩
  · cases hs; exact ⟨fun e => hh (List.mem_of_mem_erase e), fun e => hc (List.mem_of_mem_erase e)⟩
  · cases hs; simp

theorem specRun_dead_stays {s s' : Spec} {ops : List Op} (hs : specRun s ops = some s') {k : Nat}
    (hlt : k < s.next) (hh : k ∉ s.hot) (hc : k ∉ s.cold) : k ∉ s'.hot ∧ k ∉ s'.cold :=
  (specIsRun.invariant (P := fun s => k < s.next ∧ k ∉ s.hot ∧ k ∉ s.cold)
    (fun _ _ _ ⟨hlt, hh, hc⟩ h1 => ⟨Nat.lt_of_lt_of_le hlt (specOp_next_le h1), specOp_dead_stays h1 hlt hh hc⟩)
    ⟨hlt, hh, hc⟩ hs).2

theorem dead_key_forever {c : IQ} {s s' : Spec} {ops : List Op} (h : Sim c s) (hs : specRun s ops = some s')
    {k : Nat} (hlt : k < s.next) (hh : k ∉ s.hot) (hc : k ∉ s.cold) :
    ∃ c', runOps c ops = some c' ∧ Sim c' s' ∧ k ∉ s'.hot ∧ k ∉ s'.cold ∧ c'.get k = none := by
  obtain ⟨c', e, m⟩ := sim_run h hs
  have d := specRun_dead_stays hs hlt hh hc
  exact ⟨c', e, m, d.1, d.2, m.1.get_none d.1 d.2⟩

example : (runOps IQ.empty [.insert, .insert, .insert]).map abs = some ([0, 1, 2], []) := by decide
example : (runOps IQ.empty [.insert, .insert, .insert, .makeCold 1]).map abs = some ([0, 2], [1]) := by decide
example : (runOps IQ.empty [.insert, .insert, .insert, .makeCold 1, .makeHot 1]).map abs = some ([0, 2, 1], []) := by
  decide
example : (runOps IQ.empty [.insert, .insert, .insert, .remove 0]).map abs = some ([1, 2], []) := by decide
example : (runOps IQ.empty [.insert, .insert, .insert, .remove 2]).map abs = some ([0, 1], []) := by decide
example : (runOps IQ.empty [.insert, .insert, .insert, .remove 1]).map abs = some ([0, 2], []) := by decide
/-- requeue then remove: insert a, b; make_cold a; make_hot a; remove a -/
example : (runOps IQ.empty [.insert, .insert, .makeCold 0, .makeHot 0, .remove 0]).map abs = some ([1], []) := by
  decide
example : specRun Spec.init [.insert, .insert, .makeCold 0, .makeHot 0, .remove 0] = some ⟨[1], [], 2⟩ := by decide
/-- a removed key is never handed out again, later operations on it do nothing -/
example : (runOps IQ.empty [.insert, .insert, .remove 0, .insert, .makeHot 0, .makeCold 0, .remove 0]).map abs =
    some ([1, 2], []) := by decide
example : (runOps IQ.empty [.insert, .insert, .makeCold 1, .clear, .insert]).map abs = some ([2], []) := by decide
example : (runOps IQ.empty [.insert, .insert, .insert, .makeCold 1]).map
    (fun c => iterCollect 10 c (iterHot c)) = some [0, 2] := by decide
/-- `make_cold` of a cold key is outside the simulated programs -/
example : specRun Spec.init [.insert, .makeCold 0, .makeCold 0] = none := by decide

/-! ## calls OUTSIDE the preconditions corrupt the structure (release build: `debug_assert!` off) -/

theorem not_wf_of_dead_tail {c : IQ} {k : Nat} (h1 : c.hotTail = some k) (h2 : c.get k = none) : ¬ WF c := by
  rintro ⟨hot, cold, hr⟩
  have ht : hot.getLast? = some k := by
    have := hr.hotRep.tail; simp only [IQ.tail, if_true, h1] at this; exact this.symm
  have := hr.get_hot (List.mem_of_getLast? ht)
  rw [h2] at this; cases this

theorem not_wf_of_self_loop {c : IQ} {k : Nat} (h : nextHot c k = some k) : ¬ WF c := by
  rintro ⟨hot, cold, hr⟩
  cases hg : c.get k with
  | none => simp [nextHot, hg] at h
  | some it =>
    have hl := (hr.live k).1 (by simp [hg])
    simp only [List.not_mem_nil, or_false] at hl
    rcases hl with hk | hk
    · rw [hr.hotRep.nextHot hk] at h; exact succIn_ne hr.nodupH h rfl
    · rw [hr.coldRep.nextHot hk] at h; exact succIn_ne hr.nodupC h rfl

/-- `unlink` with the WRONG list flag (what `remove` would do if it trusted a stale `is_hot`): on hot = [0, 1],
unlinking key 1 through the COLD list and then freeing its slot leaves the dead key 1 as `hot.tail`; the
next `insert` links key 2 behind the dead key, so key 2 is live but unreachable from `hot.head`
(its task would never be polled). -/
example :
    let c := (runOps IQ.empty [.insert, .insert]).bind fun c =>
      (unlink false c 1).map fun c => ({ c with map := c.map.set 1 none } : IQ)
    c.map (fun c => (c.hotTail, c.get 1, unlinkAssert false c 1)) = some (some 1, none, true) ∧
    (c.bind fun c => (insert c).map fun r => (abs r.1, (r.1.get 2).isSome)) = some (([0], []), true) := by
  decide

example : ∀ c, ((runOps IQ.empty [.insert, .insert]).bind fun c =>
      (unlink false c 1).map fun c => ({ c with map := c.map.set 1 none } : IQ)) = some c → ¬ WF c := by
  intro c hc
  have : c.hotTail = some 1 ∧ c.get 1 = none := by
    have e : ((runOps IQ.empty [.insert, .insert]).bind fun c =>
      (unlink false c 1).map fun c => ({ c with map := c.map.set 1 none } : IQ)).map
        (fun c => (c.hotTail, c.get 1)) = some (some 1, none) := by decide
    rw [hc] at e; simpa using e
  exact not_wf_of_dead_tail this.1 this.2

/-- the `debug_assert` of `unlink` catches the wrong flag while the item is still there -/
example : (runOps IQ.empty [.insert, .insert]).map (fun c => unlinkAssert false c 1) = some false := by decide

/-- `make_cold` of a key that is ALREADY cold (only guarded by `debug_assert!(item.is_hot)`): with cold = [0],
`unlink::<HOT>` leaves `cold.head = cold.tail = 0`, then `link_tail::<COLD>` takes `old_tail = 0 = key` and
sets `item(0).next = Some(0)`: a self loop; `iter`-style walks over the cold list never end. -/
example :
    ((runOps IQ.empty [.insert, .makeCold 0]).bind fun c => makeCold c 0).map
      (fun c => (nextHot c 0, walk 5 c c.coldHead, makeColdAssert c 0)) = some (some 0, [0, 0, 0, 0, 0], false) := by
  decide

example : ∀ c, ((runOps IQ.empty [.insert, .makeCold 0]).bind fun c => makeCold c 0) = some c → ¬ WF c := by
  intro c hc
  have e : ((runOps IQ.empty [.insert, .makeCold 0]).bind fun c => makeCold c 0).map (fun c => nextHot c 0) =
      some (some 0) := by decide
  rw [hc] at e
  exact not_wf_of_self_loop (by simpa using e)

/-- `link_tail` of a key that is already linked (here: the hot tail itself) also creates a self loop -/
example : ((runOps IQ.empty [.insert, .insert]).bind fun c => linkTail true c 1).map
    (fun c => (nextHot c 1, walk 5 c c.hotHead)) = some (some 1, [0, 1, 1, 1, 1]) := by decide

end Compio.QueueIntrusive
