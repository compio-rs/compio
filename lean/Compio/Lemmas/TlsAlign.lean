/-
`Align`: what is left of the two endpoints' handshake tapes differs by exactly the handshake cells in flight.
Kept by writes and reads (`Align.write`, `Align.read`); `Lemmas/TlsShim.lean` carries it in `Link`, and
`TlsSys.runnable_of_inv` derives the absence of deadlock from it. Also: `leadRun` lemmas.
-/
import Compio.Lemmas.TlsNet
import Compio.Model.TlsShim

namespace Compio.TlsShim
open Compio.TlsNet

/-- `n` handshake cells / `n` post-handshake cells: what a pipe holds during the handshake is `hsN a ++ postN b` -/
def hsN (n : Nat) : List Cell := List.replicate n Cell.hs
def postN (n : Nat) : List Cell := List.replicate n Cell.post

@[simp] theorem Side.other_other (s : Side) : s.other.other = s := by cases s <;> rfl
theorem Side.other_ne (s : Side) : s.other ≠ s := by cases s <;> simp [Side.other]
theorem Side.ne_other (s : Side) : s ≠ s.other := by cases s <;> simp [Side.other]
theorem Side.eq_or_other (s t : Side) : t = s ∨ t = s.other := by cases s <;> cases t <;> simp [Side.other]

/-- `me`'s remaining tape `m`, the peer's remaining tape `p`, `a` handshake cells travelling me → peer and
`a'` travelling peer → me: one tape is the other one plus exactly the cells in flight, all sent by the side
that is ahead. -/
def Align (me : Side) (m p : List Side) (a a' : Nat) : Prop :=
  (∃ X, p = X ++ m ∧ (∀ x ∈ X, x = me) ∧ X.length = a ∧ a' = 0) ∨
  (∃ Y, m = Y ++ p ∧ (∀ y ∈ Y, y = me.other) ∧ Y.length = a' ∧ a = 0)

theorem Align.symm {me : Side} {m p : List Side} {a a' : Nat} (h : Align me m p a a') :
    Align me.other p m a' a := by
  rcases h with ⟨X, h1, h2, h3, h4⟩ | ⟨Y, h1, h2, h3, h4⟩
  · right; exact ⟨X, h1, by simpa using h2, h3, h4⟩
  · left; exact ⟨Y, h1, h2, h3, h4⟩

theorem leadRun_le (s : Side) : ∀ l : List Side, leadRun s l ≤ l.length
  | [] => by simp [leadRun]
  | x :: xs => by
    unfold leadRun; split
    · have := leadRun_le s xs; simp; omega
    · simp

theorem leadRun_pos {s : Side} {l : List Side} (t : List Side) (h : l = s :: t) : 1 ≤ leadRun s l := by
  subst h; simp [leadRun]

theorem take_leadRun (s : Side) : ∀ (l : List Side) (n : Nat), n ≤ leadRun s l → ∀ x ∈ l.take n, x = s
  | [], n, _ => by simp
  | y :: ys, 0, _ => by simp
  | y :: ys, n + 1, h => by
    unfold leadRun at h
    split at h
    · rename_i hy
      intro x hx
      simp only [List.take_succ_cons, List.mem_cons] at hx
      rcases hx with hx | hx
      · exact hx ▸ hy
      · exact take_leadRun s ys n (by omega) x hx
    · omega

theorem leadRun_append_all (s : Side) : ∀ (l r : List Side), (∀ x ∈ l, x = s) →
    leadRun s (l ++ r) = l.length + leadRun s r
  | [], r, _ => by simp
  | y :: ys, r, h => by
    have hy : y = s := h y (by simp)
    have := leadRun_append_all s ys r (fun x hx => h x (by simp [hx]))
    simp [leadRun, hy, this]; omega

theorem leadRun_all (s : Side) (l : List Side) (h : ∀ x ∈ l, x = s) : leadRun s l = l.length := by
  simpa [leadRun] using leadRun_append_all s l [] h

theorem Align.write {me : Side} {m p : List Side} {a a' : Nat} (h : Align me m p a a')
    {j : Nat} (hj : j ≤ leadRun me m) (hpos : 1 ≤ leadRun me m) :
    Align me (m.drop j) p (a + j) a' := by
  have hmine := take_leadRun me m j hj
  have hsplit : m = m.take j ++ m.drop j := (List.take_append_drop j m).symm
  have hlen : (m.take j).length = j := by
    have := leadRun_le me m
    simp [List.length_take]; omega
  rcases h with ⟨X, h1, h2, h3, h4⟩ | ⟨Y, h1, h2, h3, h4⟩
  · left
    refine ⟨X ++ m.take j, ?_, ?_, ?_, h4⟩
    · rw [List.append_assoc, ← hsplit]; exact h1
    · intro x hx; rcases List.mem_append.1 hx with hx | hx
      · exact h2 x hx
      · exact hmine x hx
    · simp [h3, hlen]
  · -- `m` starts with one of my cells, so nothing of the peer's is in front of it
    have hY : Y = [] := by
      cases Y with
      | nil => rfl
      | cons y ys =>
        exfalso
        have hy : y = me.other := h2 y (by simp)
        cases m with
        | nil => simp [leadRun] at hpos
        | cons x xs =>
          simp only [List.cons_append, List.cons.injEq] at h1
          have hx : x = me := by
            unfold leadRun at hpos; split at hpos
            · assumption
            · omega
          exact Side.other_ne me (by rw [← hy, ← h1.1, hx])
    subst hY
    simp at h1 h3
    left
    refine ⟨m.take j, ?_, hmine, ?_, h3.symm⟩
    · rw [← h1]; exact hsplit
    · simp [h4, hlen]

theorem Align.read {me : Side} {m p : List Side} {a a' : Nat} (h : Align me m p a a')
    {j : Nat} (hj : j ≤ a') (hpos : 1 ≤ j) :
    Align me (m.drop j) p a (a' - j) := by
  rcases h with ⟨X, h1, h2, h3, h4⟩ | ⟨Y, h1, h2, h3, h4⟩
  · omega
  · right
    refine ⟨Y.drop j, ?_, ?_, ?_, h4⟩
    · rw [h1, List.drop_append_of_le_length (by omega)]
    · intro y hy; exact h2 y (List.mem_of_mem_drop hy)
    · simp [h3]

theorem Align.peer_tape_of_empty {me : Side} {m p : List Side} {a : Nat} (h : Align me m p a 0) :
    ∃ X, p = X ++ m ∧ (∀ x ∈ X, x = me) ∧ X.length = a := by
  rcases h with ⟨X, h1, h2, h3, _⟩ | ⟨Y, h1, _, h3, h4⟩
  · exact ⟨X, h1, h2, h3⟩
  · have : Y = [] := List.eq_nil_of_length_eq_zero h3
    subst this
    exact ⟨[], by simpa using h1.symm, by simp, by simpa using h4.symm⟩

/-- what I may ask for when it is the peer's turn: the run I need is covered by the handshake cells in
flight as soon as the peer has finished its tape -/
theorem Align.need_le {me : Side} {m : List Side} {a a' : Nat} (h : Align me m [] a a') :
    leadRun me.other m ≤ a' := by
  rcases h with ⟨X, h1, _, _, _⟩ | ⟨Y, h1, h2, h3, _⟩
  · obtain rfl := (List.nil_eq_append_iff.1 h1).2
    simp [leadRun]
  · simp at h1; subst h1
    rw [leadRun_all _ _ h2]; omega

end Compio.TlsShim
