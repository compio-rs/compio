/-
C12, the poll adapter. The read entry points and `poll_write` are one loop shape (`retry`, with its rule `retry_rule`).
What holds whatever the caller does is said once for both halves (`Half`): every entry point is a way out
(`Half.ExitL`) made of steps (`Half.Polled`) that keep the FIFO invariant and frame of the half (`ROK`, `WOK`) and meet
the wake-up specification `CallSpec`. What needs the caller to keep its side: read half, termination while the buffer
was not lost (`NoLossR`); write half, flush postcondition and no panic under `Guard` (`Clean`, `WSafe`), termination
for `0 < max`.
-/
import Compio.Lemmas.SyncStream
import Compio.Model.PollAdapter

namespace Compio.PollAdapter
open Compio.SyncStream

section Retry
variable {S α : Type} (sync : S → S × Res α) (poll : S → S × Option (Res Nat)) (take : S → S) (out : α → Out)

/-- `loop { match sync() { Err(WouldBlock) => ready!(poll())?, r => { waker.take(); return r } } }`
with fuel: the shape of `ARead.pollLoop` and `AWrite.writeLoop`. `sync` is the synchronous call,
`poll` one poll of the in-flight future, `take` clears the caller's waker slot. -/
def retry : Nat → S → S × Out
  | 0, s => (s, .hang)
  | n + 1, s =>
    match sync s with
    | (s1, .ok b) => (take s1, out b)
    | (s1, .err .wb) =>
      match poll s1 with
      | (s2, none) => (s2, .pending)
      | (s2, some (.ok _)) => retry n s2
      | (s2, some (.err k)) => (s2, .err k)
      | (s2, some .panic) => (s2, .panic)
    | (s1, .err k) => (take s1, .err k)
    | (s1, .panic) => (s1, .panic)

/-- the output of a round that ends with the synchronous call -/
def syncOut : Res α → Out
  | .ok b => out b
  | .err k => .err k
  | .panic => .panic

/-- what the loop does with the answer of the future: `none` = go round again -/
def pollNext : Option (Res Nat) → Option Out
  | none => some .pending
  | some (.ok _) => none
  | some (.err k) => some (.err k)
  | some .panic => some .panic

theorem syncOut_ne_panic {res : Res α} (hout : ∀ b, out b ≠ .panic) (h : res ≠ .panic) : syncOut out res ≠ .panic := by
  cases res <;> simp_all [syncOut]

theorem retry_done {s s1 : S} {res : Res α} (n : Nat) (h : sync s = (s1, res)) (hwb : res ≠ .err .wb)
    (hp : res ≠ .panic) : retry sync poll take out (n + 1) s = (take s1, syncOut out res) := by
  unfold retry
  rw [h]
  cases res with
  | ok b => rfl
  | panic => exact absurd rfl hp
  | err k => cases k <;> first | rfl | exact absurd rfl hwb

theorem retry_panic {s s1 : S} (n : Nat) (h : sync s = (s1, .panic)) :
    retry sync poll take out (n + 1) s = (s1, .panic) := by
  unfold retry; rw [h]

theorem retry_wb {s s1 s2 : S} {o : Option (Res Nat)} (n : Nat) (h : sync s = (s1, .err .wb)) (hp : poll s1 = (s2, o)) :
    retry sync poll take out (n + 1) s =
      match pollNext o with
      | some x => (s2, x)
      | none => retry sync poll take out n s2 := by
  rw [retry, h]
  simp only [hp]
  cases o with
  | none => rfl
  | some r => cases r <;> rfl

theorem retry_rule {I : S → Prop} {Post : S → Out → Prop} (hang : ∀ s, I s → Post s .hang)
    (done : ∀ s s1 res, I s → sync s = (s1, res) → res ≠ .err .wb → res ≠ .panic → Post (take s1) (syncOut out res))
    (panic : ∀ s s1, I s → sync s = (s1, .panic) → Post s1 .panic)
    (polled : ∀ s s1 s2 o, I s → sync s = (s1, .err .wb) → poll s1 = (s2, o) →
      match pollNext o with
      | some x => Post s2 x
      | none => I s2) :
    ∀ n s, I s → Post (retry sync poll take out n s).1 (retry sync poll take out n s).2
  | 0, s, h => hang s h
  | n + 1, s, h => by
    rcases hq : sync s with ⟨s1, res⟩
    by_cases hwb : res = .err .wb
    · subst hwb
      rcases hq2 : poll s1 with ⟨s2, o⟩
      have := polled s s1 s2 o h hq hq2
      rw [retry_wb sync poll take out n hq hq2]
      cases hn : pollNext o with
      | some x => rw [hn] at this; exact this
      | none => rw [hn] at this; exact retry_rule hang done panic polled n s2 this
    · by_cases hp : res = .panic
      · subst hp; rw [retry_panic sync poll take out n hq]; exact panic s s1 h hq
      · rw [retry_done sync poll take out n hq hwb hp]; exact done s s1 res h hq hwb hp

theorem retry_stable : ∀ (n : Nat) (s : S), (retry sync poll take out n s).2 ≠ .hang →
    retry sync poll take out (n + 1) s = retry sync poll take out n s
  | 0, s, h => by simp [retry] at h
  | n + 1, s, h => by
    rcases hq : sync s with ⟨s1, res⟩
    by_cases hwb : res = .err .wb
    · subst hwb
      rcases hq2 : poll s1 with ⟨s2, o⟩
      rw [retry_wb sync poll take out n hq hq2] at h
      rw [retry_wb sync poll take out n hq hq2, retry_wb sync poll take out (n + 1) hq hq2]
      cases hn : pollNext o with
      | some x => rfl
      | none => rw [hn] at h; exact retry_stable n s2 h
    · by_cases hp : res = .panic
      · subst hp; rw [retry_panic sync poll take out n hq, retry_panic sync poll take out (n + 1) hq]
      · rw [retry_done sync poll take out n hq hwb hp, retry_done sync poll take out (n + 1) hq hwb hp]

theorem retry_sync_ends (hout : ∀ b, out b ≠ .hang) (n : Nat) {s : S} (h : (sync s).2 ≠ .err .wb) :
    (retry sync poll take out (n + 1) s).2 ≠ .hang := by
  by_cases hp : (sync s).2 = .panic
  · rw [retry_panic sync poll take out n (Prod.ext rfl hp)]
    simp
  · rw [retry_done sync poll take out n rfl h hp]
    cases (sync s).2 <;> simp [syncOut, hout]

theorem retry_ends_of_again (hout : ∀ b, out b ≠ .hang) (n : Nat) {s : S}
    (h : ∀ s1 s2 m, sync s = (s1, .err .wb) → poll s1 = (s2, some (.ok m)) →
      (retry sync poll take out n s2).2 ≠ .hang) :
    (retry sync poll take out (n + 1) s).2 ≠ .hang := by
  by_cases hwb : (sync s).2 = .err .wb
  · rw [retry_wb sync poll take out n (Prod.ext rfl hwb) rfl]
    rcases ho : (poll (sync s).1).2 with _ | _ | _ | _ <;> simp only [pollNext, ne_eq, reduceCtorEq, not_false_eq_true]
    exact h _ _ _ (Prod.ext rfl hwb) (Prod.ext rfl ho)
  · exact retry_sync_ends sync poll take out hout n hwb

end Retry


def Out.isPending : Out → Bool
  | .pending => true
  | _ => false

theorem Out.isPending_iff (o : Out) : o.isPending = true ↔ o = .pending := by
  cases o <;> simp [Out.isPending]

@[simp] theorem Slots.get_set_same (s : Slots) (e : Entry) (v : Option Nat) : (s.set e v).get e = v := by
  cases e <;> rfl

theorem Slots.get_set_ne (s : Slots) {e e' : Entry} (v : Option Nat) (h : e' ≠ e) : (s.set e v).get e' = s.get e' := by
  cases e <;> cases e' <;> simp_all [Slots.set, Slots.get]

theorem Slots.mem_tasks {s : Slots} {e : Entry} {t : Nat} (h : s.get e = some t) : t ∈ s.tasks := by
  cases e <;> simp_all [Slots.get, Slots.tasks, optList]

@[simp] theorem Slots.empty_get (e : Entry) : Slots.empty.get e = none := by cases e <;> rfl

/-- what the wake obligations of a half need: the slot of an owed entry point still holds the task,
and the inner stream is parked with a snapshot containing it -/
structure WakeInv (owed slots : Slots) (parked : Option (List Nat)) : Prop where
  slot : ∀ e t, owed.get e = some t → slots.get e = some t
  snap : ∀ e t, owed.get e = some t → ∃ s, parked = some s ∧ t ∈ s

theorem WakeInv.init : WakeInv Slots.empty Slots.empty none := ⟨by simp, by simp⟩

/-- a call of entry point `e` that found the slots `slots0` (its own task registered), with respect
to wake-ups: it returns `pending` exactly when the inner future was parked with the waker set of
`slots0`; the slots of the other entry points are untouched -/
def CallSpec (P0 : Option (List Nat)) (e : Entry) (slots0 : Slots) (o : Out) (obs : Obs) (slots : Slots) : Prop :=
  PollOutcome P0 slots0.tasks o.isPending obs ∧ (∀ e', e' ≠ e → slots.get e' = slots0.get e') ∧
  (o = .pending → slots = slots0)

theorem CallSpec.exit {P0 e slots0 o obs} (hs : Settled P0 obs) (ho : o.isPending = false) :
    CallSpec P0 e slots0 o obs (slots0.set e none) :=
  ⟨by rw [ho]; exact PollOutcome.false_iff.2 hs, fun _ hne => Slots.get_set_ne _ _ hne,
    fun hp => by simp [hp, Out.isPending] at ho⟩

theorem Parked.parked_eq {P0 snap o} (h : Parked P0 snap o) : o.parked = some snap := by
  cases h <;> rfl

theorem Settled.parked_eq {P0 o} (h : Settled P0 o) (hev : o.event = false) (hP : P0.isSome = true) : o.parked = P0 := by
  cases h
  · rfl
  · rw [hP] at hev; cases hev

theorem PollOutcome.woken {P0 snap p o} (h : PollOutcome P0 snap p o) (hev : o.event = true) :
    ∃ s, P0 = some s ∧ o.woken = s := by
  unfold PollOutcome at h
  split at h <;> cases h <;> cases P0 <;> simp_all

theorem owedAfter_get {owed : Slots} {ev : Bool} {e e' : Entry} {t t' : Nat} {o : Out}
    (h : (owedAfter owed ev e t o).get e' = some t') :
    (e' = e ∧ o = .pending ∧ t' = t) ∨ (e' ≠ e ∧ ev = false ∧ owed.get e' = some t') := by
  unfold owedAfter at h
  by_cases he : e' = e
  · subst he
    rw [Slots.get_set_same] at h
    by_cases hp : o = .pending
    · exact .inl ⟨rfl, hp, by simpa [hp] using h.symm⟩
    · simp [hp] at h
  · rw [Slots.get_set_ne _ _ he] at h
    cases ev
    · exact .inr ⟨he, rfl, by simpa using h⟩
    · simp at h

theorem wake_step {owed slots slots' : Slots} {P0 : Option (List Nat)} {o' : Obs} {e : Entry} {t : Nat} {out : Out}
    (h : WakeInv owed slots P0) (hc : CallSpec P0 e (slots.set e (some t)) out o' slots') :
    WakeInv (owedAfter owed o'.event e t out) slots' o'.parked ∧
    (o'.event = true → ∀ e' t', owed.get e' = some t' → t' ∈ o'.woken) := by
  obtain ⟨hout, hother, hpend⟩ := hc
  replace hother : ∀ e', e' ≠ e → slots'.get e' = slots.get e' := fun e' he => by
    rw [hother e' he, Slots.get_set_ne _ _ he]
  refine ⟨⟨fun e' t' ho => ?_, fun e' t' ho => ?_⟩, fun hev e' t' ho => ?_⟩
  · rcases owedAfter_get ho with ⟨rfl, hp, rfl⟩ | ⟨he, -, ho'⟩
    · rw [hpend hp]; exact Slots.get_set_same _ _ _
    · rw [hother e' he]; exact h.slot e' t' ho'
  · by_cases hp : out = .pending
    · -- Pending: the inner stream is parked with the tasks of the slots, which hold every task owed
      subst hp
      have hpk : Parked P0 (slots.set e (some t)).tasks o' := PollOutcome.true_iff.1 hout
      refine ⟨_, Parked.parked_eq hpk, Slots.mem_tasks (e := e') ?_⟩
      rcases owedAfter_get ho with ⟨rfl, -, rfl⟩ | ⟨he, -, ho'⟩
      · exact Slots.get_set_same _ _ _
      · rw [Slots.get_set_ne _ _ he]; exact h.slot e' t' ho'
    · -- otherwise: an obligation that remains is an old one, nothing completed, and the old snapshot is still parked
      have hnp : out.isPending = false := Bool.eq_false_iff.mpr fun hb => hp ((Out.isPending_iff out).mp hb)
      have hst : Settled P0 o' := PollOutcome.false_iff.1 (hnp ▸ hout)
      rcases owedAfter_get ho with ⟨-, hp', -⟩ | ⟨-, hev, ho'⟩
      · exact absurd hp' hp
      · obtain ⟨s, hs, hm⟩ := h.snap e' t' ho'
        exact ⟨s, (Settled.parked_eq hst hev (by simp [hs])).trans hs, hm⟩
  · -- the future completed: the snapshot parked before the call was woken, and it holds every task owed
    obtain ⟨s, hs, hw⟩ := PollOutcome.woken hout hev
    obtain ⟨s', hs', hm⟩ := h.snap e' t' ho
    rw [hw, Option.some.inj (hs.symm.trans hs')]
    exact hm

/-- A half of the adapter, as the lemmas about its entry points see it: its waker slots, the observations
of its inner stream, `waker.take()`, and `Ok a a' got` — "`a'` is reached from `a` by steps of the half in
which the bytes `got` passed between the adapter and its caller" (`ROK`, `WOK`). -/
structure Half (S : Type) where
  slots : S → Slots
  obs : S → Obs
  take : Entry → S → S
  Ok : S → S → Bytes → Prop
  refl : ∀ a, Ok a a []
  trans : ∀ {a b c g1 g2}, Ok a b g1 → Ok b c g2 → Ok a c (g1 ++ g2)
  took : ∀ {a b got} e, Ok a b got → Ok a (take e b) got
  take_slots : ∀ e a, slots (take e a) = (slots a).set e none
  take_obs : ∀ e a, obs (take e a) = obs a

section Half
variable {S : Type} (H : Half S)

/-- one step of an entry point: the synchronous call (never `pending`), or a poll of an in-flight future
(`pending`: it answered `Pending`) -/
structure Half.Polled (a a' : S) (pending : Bool) (got : Bytes := []) : Prop where
  ok : H.Ok a a' got
  slots : H.slots a' = H.slots a
  obs : ∀ P0, Settled P0 (H.obs a) → PollOutcome P0 (H.slots a).tasks pending (H.obs a')

/-- `x` is a way out of entry point `e` entered in `a`: steps were made, none but the last answered `Pending`,
and the entry point answers `Pending` exactly then; on any other way out it may have cleared its own waker
slot -/
def Half.ExitL (e : Entry) (a : S) (x : S × Out) (got : Bytes := []) : Prop :=
  ∃ b, H.Polled a b x.2.isPending got ∧ (x.1 = b ∨ x.2.isPending = false ∧ x.1 = H.take e b)

/-- a way out of an entry point without a loop (`poll_flush`, `poll_close`, the shutdown gate): the model's fuel plays
no part. The loops (`retry_exit`, hence `pollLoop_exit` and `pollWrite_exit`) give `ExitL` only. -/
def Half.Exit (e : Entry) (a : S) (x : S × Out) (got : Bytes := []) : Prop := x.2 ≠ .hang ∧ H.ExitL e a x got

variable {H}

theorem Half.Polled.refl (a : S) : H.Polled a a false := ⟨H.refl a, rfl, fun _ h => h⟩

theorem Half.Polled.trans {a b c : S} {p got} (h1 : H.Polled a b false) (h2 : H.Polled b c p got) : H.Polled a c p got :=
  ⟨H.trans h1.ok h2.ok, h2.slots.trans h1.slots, fun P0 h => by rw [← h1.slots]; exact h2.obs P0 (h1.obs P0 h)⟩

theorem Half.ExitL.pend {e} {a b : S} (h : H.Polled a b true) : H.ExitL e a (b, .pending) := ⟨b, h, .inl rfl⟩

theorem Half.ExitL.stay {e} {a b : S} {o : Out} {got} (h : H.Polled a b false got) (hp : o.isPending = false) :
    H.ExitL e a (b, o) got :=
  ⟨b, by simpa [hp] using h, .inl rfl⟩

theorem Half.ExitL.took {e} {a b : S} {o : Out} {got} (h : H.Polled a b false got) (hp : o.isPending = false) :
    H.ExitL e a (H.take e b, o) got :=
  ⟨b, by simpa [hp] using h, .inr ⟨hp, rfl⟩⟩

theorem Half.ExitL.after {e} {a b : S} {x got} (h : H.Polled a b false) (hx : H.ExitL e b x got) : H.ExitL e a x got := by
  obtain ⟨c, hc, hx⟩ := hx
  exact ⟨c, h.trans hc, hx⟩

theorem Half.ExitL.ok {e a x got} (h : H.ExitL e a x got) : H.Ok a x.1 got := by
  obtain ⟨b, hb, hx | ⟨-, hx⟩⟩ := h <;> rw [hx]
  · exact hb.ok
  · exact H.took e hb.ok

theorem Half.ExitL.spec {P0 e a x got} (h : H.ExitL e a x got) (hs : Settled P0 (H.obs a)) :
    CallSpec P0 e (H.slots a) x.2 (H.obs x.1) (H.slots x.1) := by
  obtain ⟨b, hb, hx | ⟨hp, hx⟩⟩ := h <;> rw [hx]
  · exact ⟨hb.obs P0 hs, fun _ _ => by rw [hb.slots], fun _ => hb.slots⟩
  · rw [H.take_obs, H.take_slots, hb.slots]
    exact .exit (PollOutcome.false_iff.1 (hp ▸ hb.obs P0 hs)) hp

/-- the retry loop is a way out: its rounds are steps, and the bytes that pass are those of the synchronous
call that ends it. `gotOf` reads them off the output. -/
theorem Half.retry_exit {α : Type} (e : Entry) {sync : S → S × Res α} {poll : S → S × Option (Res Nat)} {out : α → Out}
    (gotOf : Out → Bytes) (hnil : gotOf .hang = [] ∧ gotOf .pending = [] ∧ gotOf .panic = [] ∧ ∀ k, gotOf (.err k) = [])
    (hout : ∀ b, (out b).isPending = false)
    (hsync : ∀ s, H.Polled s (sync s).1 false (gotOf (syncOut out (sync s).2)))
    (hpoll : ∀ s, H.Polled s (poll s).1 (poll s).2.isNone) (n : Nat) (s0 : S) :
    H.ExitL e s0 (retry sync poll (H.take e) out n s0) (gotOf (retry sync poll (H.take e) out n s0).2) := by
  have hs : ∀ {s s1 res}, H.Polled s0 s false → sync s = (s1, res) → H.Polled s0 s1 false (gotOf (syncOut out res)) :=
    fun {s _ _} h hq => by
      have := hsync s
      rw [hq] at this
      exact h.trans this
  refine retry_rule sync poll (H.take e) out (I := fun s => H.Polled s0 s false)
    (Post := fun s o => H.ExitL e s0 (s, o) (gotOf o)) ?_ ?_ ?_ ?_ n s0 (.refl s0)
  · exact fun s h => by rw [hnil.1]; exact .stay h rfl
  · exact fun s s1 res h hq _ _ => .took (hs h hq) (by cases res <;> first | exact hout _ | rfl)
  · exact fun s s1 h hq => .stay (hs h hq) rfl
  · intro s s1 s2 o h hq hq2
    have h1 := hs h hq
    have h2 := hpoll s1
    rw [hq2] at h2
    simp only [syncOut, hnil.2.2.2] at h1
    rcases o with _ | _ | k | _ <;> simp only [pollNext]
    · rw [hnil.2.1]; exact .pend (h1.trans h2)
    · exact h1.trans h2
    · rw [hnil.2.2.2]; exact .stay (h1.trans h2) rfl
    · rw [hnil.2.2.1]; exact .stay (h1.trans h2) rfl

end Half

theorem fillPoll_obs {P0} {r : RSide} (snap : List Nat) (h : Settled P0 (robs r)) :
    PollOutcome P0 snap (r.fillPoll snap).2.isNone (robs (r.fillPoll snap).1) := by
  have hw := h.wake
  rw [← robs_wake] at hw
  unfold RSide.fillPoll
  split
  · exact PollOutcome.true_iff.2 (h.park snap)
  · exact PollOutcome.false_iff.2 hw
  · exact PollOutcome.false_iff.2 hw
  · exact PollOutcome.false_iff.2 hw
  · exact PollOutcome.false_iff.2 hw

theorem consume_obs (r : RSide) (amt : Nat) : robs (r.consume amt).1 = robs r := by
  rcases r.consume_cases amt with ⟨he, -⟩ | ⟨he, -⟩ | ⟨he, -⟩ <;> rw [he] <;> rfl

theorem read_obs (r : RSide) (n : Nat) : robs (r.read n).1 = robs r := by
  unfold RSide.read
  split
  · exact consume_obs r _
  · rfl
  · rfl


/-- invariant of the read half: the `SyncReadBuf` invariant, and an in-flight `fill_read_buf`
future owns the buffer and has not seen EOF -/
structure ARInv (C : Bytes) (a : ARead) : Prop where
  inv : RInv C a.r
  fut_ok : a.fut = true → a.r.eof = false ∧ a.r.buf.lent = true

theorem ARInv.new (base max : Nat) (rs : List RItem) : ARInv (content rs) (ARead.new base max rs) :=
  ⟨RInv.new base max rs, by simp [ARead.new]⟩

/-- `r0` is the state in which the `fill_read_buf` future of `a` awaits the inner read: the state of
`a` if the future is in flight, otherwise the one `fillStart` leads to -/
def ARead.Awaits (a : ARead) (r0 : RSide) : Prop :=
  a.fut = true ∧ r0 = a.r ∨ a.fut = false ∧ a.r.fillStart = (r0, none)

theorem ARead.pollImpl_cases (a : ARead) :
    (∃ r res, a.fut = false ∧ a.r.fillStart = (r, some res) ∧ a.pollImpl = ({ a with r }, some res)) ∨
    (∃ r0, a.Awaits r0 ∧
      a.pollImpl = ({ a with r := (r0.fillPoll a.slots.tasks).1, fut := (r0.fillPoll a.slots.tasks).2.isNone },
        (r0.fillPoll a.slots.tasks).2)) := by
  unfold ARead.pollImpl ARead.Awaits
  obtain ⟨r, slots, fut, owed⟩ := a
  cases fut
  · rcases hq : r.fillStart with ⟨r1, _ | res⟩
    · refine .inr ⟨r1, .inr ⟨rfl, rfl⟩, ?_⟩
      simp only [Bool.false_eq_true, ↓reduceIte]
      rcases r1.fillPoll slots.tasks with ⟨r2, _ | res⟩ <;> rfl
    · exact .inl ⟨r1, res, rfl, rfl, by simp⟩
  · refine .inr ⟨r, .inl ⟨rfl, rfl⟩, ?_⟩
    simp only [↓reduceIte]
    rcases r.fillPoll slots.tasks with ⟨r2, _ | res⟩ <;> rfl

theorem ARead.Awaits.spec {a : ARead} {r0} (hr : a.Awaits r0) :
    (r0.taken = a.r.taken ∧ r0.base = a.r.base ∧ r0.max = a.r.max ∧ robs r0 = robs a.r) ∧
    ∀ {C}, ARInv C a → RInv C r0 ∧ r0.eof = false ∧ r0.buf.lent = true := by
  rcases hr with ⟨hf, rfl⟩ | ⟨_, hs⟩
  · exact ⟨⟨rfl, rfl, rfl, rfl⟩, fun h => ⟨h.inv, h.fut_ok hf⟩⟩
  · have h1 := RSide.fillStart_frame a.r
    rw [hs] at h1
    refine ⟨h1, fun h => ?_⟩
    have := h.inv.fillStart
    rw [hs] at this
    exact ⟨this, RSide.fillStart_started hs⟩

/-- `RSide.Ok` for the half with its future: the invariant kept is `ARInv` -/
structure ROK (a a' : ARead) (got : Bytes := []) : Prop where
  inv : ∀ {C}, ARInv C a → ARInv C a'
  taken : a'.r.taken = a.r.taken ++ got
  base : a'.r.base = a.r.base
  max : a'.r.max = a.r.max

theorem ROK.refl (a : ARead) : ROK a a := ⟨id, (List.append_nil _).symm, rfl, rfl⟩

theorem ROK.trans {a b c : ARead} {g1 g2} (h1 : ROK a b g1) (h2 : ROK b c g2) : ROK a c (g1 ++ g2) :=
  ⟨fun h => h2.inv (h1.inv h), by rw [h2.taken, h1.taken, List.append_assoc], h2.base.trans h1.base, h2.max.trans h1.max⟩

theorem ROK.clearObs (a : ARead) (sl : Slots) : ROK a { a with r := a.r.clearObs, slots := sl } :=
  ⟨fun h => ⟨h.inv.clearObs, h.fut_ok⟩, (List.append_nil _).symm, rfl, rfl⟩

theorem ROK.congr {a b b' : ARead} {got} (h : ROK a b got) (hr : b'.r = b.r) (hf : b'.fut = b.fut) : ROK a b' got := by
  obtain ⟨h1, h2, h3, h4⟩ := h
  refine ⟨fun hi => ⟨hr ▸ (h1 hi).inv, by rw [hr, hf]; exact (h1 hi).fut_ok⟩, ?_, ?_, ?_⟩ <;> rw [hr] <;> assumption

/-- `waker.take()` of entry point `e` -/
def ARead.take (e : Entry) (a : ARead) : ARead := { a with slots := a.slots.set e none }

abbrev rhalf : Half ARead where
  slots := (·.slots)
  obs a := robs a.r
  take := ARead.take
  Ok a a' got := ROK a a' got
  refl := ROK.refl
  trans := ROK.trans
  took _ h := h.congr rfl rfl
  take_slots _ _ := rfl
  take_obs _ _ := rfl

theorem ARead.pollImpl_polled (a : ARead) : rhalf.Polled a a.pollImpl.1 a.pollImpl.2.isNone := by
  rcases a.pollImpl_cases with ⟨r, res, hf, hs, he⟩ | ⟨r0, hr, he⟩ <;> rw [he]
  · have h1 := RSide.fillStart_frame a.r
    rw [hs] at h1
    refine ⟨⟨fun h => ⟨?_, by simp [hf]⟩, by rw [List.append_nil]; exact h1.1, h1.2.1, h1.2.2.1⟩, rfl,
      fun P0 h => PollOutcome.false_iff.2 ((congrArg (Settled P0) h1.2.2.2).mpr h)⟩
    have := h.inv.fillStart
    rwa [hs] at this
  · have h1 := hr.spec.1
    have h2 := RSide.fillPoll_frame r0 a.slots.tasks
    refine ⟨⟨fun h => ?_, by rw [List.append_nil]; exact h2.1.trans h1.1, h2.2.1.trans h1.2.1, h2.2.2.trans h1.2.2.1⟩, rfl,
      fun P0 h => fillPoll_obs a.slots.tasks (by rw [h1.2.2.2]; exact h)⟩
    obtain ⟨hi, he0, hl0⟩ := hr.spec.2 h
    refine ⟨hi.fillPoll _ he0 hl0, fun hn => ?_⟩
    have := RSide.fillPoll_pending (r := r0) (snap := a.slots.tasks) (Prod.ext rfl (Option.isNone_iff_eq_none.mp hn))
    exact ⟨this.1.trans he0, by rw [this.2]; exact hl0⟩

theorem ARInv.pollImpl {C a} (h : ARInv C a) : ARInv C a.pollImpl.1 := a.pollImpl_polled.ok.inv h

/-- the synchronous read calls succeed on such a buffer: in place, and holding data or at EOF -/
def RReady (r : RSide) : Prop := r.buf.lent = false ∧ (r.buf.avail ≠ [] ∨ r.eof = true)

theorem RSide.fillPoll_ok {r : RSide} {snap : List Nat} {n : Nat} (h : (r.fillPoll snap).2 = some (.ok n)) :
    (r.fillPoll snap).1.buf.lent = false ∧ (r.fillPoll snap).1.buf.pos = r.buf.pos ∧
    (r.fillPoll snap).1.buf.data.length = r.buf.data.length + n ∧ (n = 0 → (r.fillPoll snap).1.eof = true) := by
  unfold RSide.fillPoll at h ⊢
  split at h <;> simp only [reduceCtorEq, Option.some.injEq, Res.ok.injEq] at h <;> subst h <;>
    simp only [RSide.wake_fields, List.length_append, List.length_take, Nat.add_zero, true_and, implies_true]
  exact ⟨by omega, fun h0 => by simp [h0]⟩

theorem fillPoll_ok_ready {C r} (h : RInv C r) (snap : List Nat) (n : Nat)
    (ho : (r.fillPoll snap).2 = some (.ok n)) : RReady (r.fillPoll snap).1 := by
  obtain ⟨hl, hpos, hlen, he⟩ := RSide.fillPoll_ok ho
  refine ⟨hl, ?_⟩
  by_cases h0 : n = 0
  · exact .inr (he h0)
  · have := h.pos_le
    refine .inl fun hav => ?_
    have := congrArg List.length hav
    simp only [Buf.avail, List.length_drop, List.length_nil, hpos, hlen] at this
    omega

/-- the buffer is lent exactly while the fill future is in flight (breaks only by a panic) -/
def NoLossR (a : ARead) : Prop := a.r.buf.lent = a.fut

theorem pollImpl_term {C a} (h : ARInv C a) (hn : NoLossR a) :
    (∀ n, a.pollImpl.2 = some (.ok n) → RReady a.pollImpl.1.r) ∧
    (a.pollImpl.2 ≠ some .panic → NoLossR a.pollImpl.1) := by
  unfold NoLossR at hn ⊢
  rcases a.pollImpl_cases with ⟨r, res, hf, hs, he⟩ | ⟨r0, hr, he⟩
  · rw [he]
    have hl : a.r.buf.lent = false := hn.trans hf
    rcases a.r.fillStart_cases with ⟨hc, hee⟩ | ⟨hc, -, hl'⟩ | ⟨hc, -⟩ | ⟨hc, -⟩ <;> rw [hc] at hs <;> cases hs
    · exact ⟨fun _ _ => ⟨hl, .inr hee⟩, fun _ => hn⟩
    · rw [hl] at hl'; cases hl'
    · exact ⟨by simp, fun _ => by simp [Buf.compactTo_lent, hl, hf]⟩
  · obtain ⟨hi, _, hl0⟩ := hr.spec.2 h
    have h2 := RSide.fillPoll_nopanic r0 a.slots.tasks
    rw [he]
    refine ⟨fun n hn' => fillPoll_ok_ready hi _ n hn', fun _ => ?_⟩
    cases ho : (r0.fillPoll a.slots.tasks).2 with
    | none => rw [(RSide.fillPoll_pending (Prod.ext rfl ho)).2]; exact hl0
    | some res => exact h2.2 (by simp [ho])


/-- the synchronous calls the read entry points wrap: keep the invariant, and do nothing (return
`WouldBlock`) while the buffer is lent -/
structure SyncCall (C : Bytes) (f : RSide → RSide × Res Bytes) : Prop where
  inv : ∀ r, RInv C r → RInv C (f r).1
  lent : ∀ r, r.buf.lent = true → f r = (r, .err .wb)
  fields : ∀ r, (f r).1.base = r.base ∧ (f r).1.max = r.max

/-- the bytes of an answer that pass to the caller, `given` saying which bytes of an `Ok` do -/
def resGiven (given : Bytes → Bytes) : Res Bytes → Bytes
  | .ok b => given b
  | _ => []

/-- `given b` are the bytes of an answer `Ok(b)` that pass to the caller: all of them for `read`, none for `fill_buf`,
which lends -/
structure SyncCallT (C : Bytes) (f : RSide → RSide × Res Bytes) (given : Bytes → Bytes) : Prop extends SyncCall C f where
  taken : ∀ r, (f r).1.taken = r.taken ++ resGiven given (f r).2
  obs : ∀ r, robs (f r).1 = robs r
  ready : ∀ r, RInv C r → RReady r → (f r).2 ≠ .err .wb
  wb_same : ∀ r, (f r).2 = .err .wb → (f r).1 = r
  keeps : ∀ r, RInv C r → (f r).2 ≠ .panic → (f r).1.buf.lent = r.buf.lent

theorem SyncCall.read (C : Bytes) (n : Nat) : SyncCall C (fun r => r.read n) where
  inv r h := (RSide.Ok.read r n).inv h
  lent r hl := by simp [RSide.read, RSide.fillBuf, hl]
  fields r := ⟨(RSide.Ok.read r n).base, (RSide.Ok.read r n).max⟩

theorem SyncCall.fillBuf (C : Bytes) : SyncCall C (fun r => (r, r.fillBuf)) where
  inv r h := h
  lent r hl := by simp [RSide.fillBuf, hl]
  fields r := ⟨rfl, rfl⟩

theorem RSide.fillBuf_ready {r : RSide} (hr : RReady r) : r.fillBuf = .ok r.buf.avail := by
  have hw : (r.buf.avail.isEmpty && !r.eof) = false := by
    rcases hr.2 with h1 | h1
    · simp [h1]
    · simp [h1]
  simp [RSide.fillBuf, hr.1, hw]

theorem SyncCallT.read (C : Bytes) (n : Nat) : SyncCallT C (fun r => r.read n) id where
  toSyncCall := SyncCall.read C n
  taken r := (RSide.Ok.read r n).taken
  obs r := read_obs r n
  ready r h hr := by
    have := (RSide.read_nopanic h n hr.1).1
    unfold RSide.read at this ⊢
    rw [RSide.fillBuf_ready hr] at this ⊢
    exact RSide.consume_ne_wb _ _
  wb_same r hw := by
    unfold RSide.read at hw ⊢
    split at hw
    · exact absurd hw (RSide.consume_ne_wb _ _)
    · rfl
    · rfl
  keeps r h hp := by
    by_cases hl : r.buf.lent = true
    · rw [(SyncCall.read C n).lent r hl]
    · have hl : r.buf.lent = false := by simpa using hl
      rw [(RSide.read_nopanic h n hl).2, hl]

theorem SyncCallT.fillBuf (C : Bytes) : SyncCallT C (fun r => (r, r.fillBuf)) (fun _ => []) where
  toSyncCall := SyncCall.fillBuf C
  taken r := by cases r.fillBuf <;> simp [resGiven]
  obs r := rfl
  ready r _ hr := by simp [RSide.fillBuf_ready hr]
  wb_same r _ := rfl
  keeps r _ _ := rfl


/-- the wrapped synchronous call, on the state of the half -/
def ARead.sync (f : RSide → RSide × Res Bytes) (a : ARead) : ARead × Res Bytes := ({ a with r := (f a.r).1 }, (f a.r).2)

theorem ARead.pollLoop_eq (e : Entry) (f : RSide → RSide × Res Bytes) : ∀ (n : Nat) (a : ARead),
    a.pollLoop e f n = retry (ARead.sync f) ARead.pollImpl (ARead.take e) Out.bytes n a
  | 0, a => rfl
  | n + 1, a => by
    unfold ARead.pollLoop retry
    rw [show ARead.sync f a = ({ a with r := (f a.r).1 }, (f a.r).2) from rfl]
    simp only [ARead.pollLoop_eq e f n]
    rcases f a.r with ⟨r, _ | k | _⟩
    · rfl
    · cases k
      · dsimp only
        rcases ({ a with r := r } : ARead).pollImpl with ⟨a', _ | _ | _ | _⟩ <;> rfl
      all_goals rfl
    · rfl

theorem ARInv.sync {C f a} (hf : SyncCall C f) (h : ARInv C a) : ARInv C (a.sync f).1 := by
  refine ⟨hf.inv a.r h.inv, fun hfut => ?_⟩
  obtain ⟨he, hl⟩ := h.fut_ok hfut
  show (f a.r).1.eof = false ∧ (f a.r).1.buf.lent = true
  rw [hf.lent a.r hl]
  exact ⟨he, hl⟩

/-- the bytes an output of a read entry point hands over -/
def outGiven (given : Bytes → Bytes) : Out → Bytes
  | .bytes b => given b
  | _ => []

theorem outGiven_syncOut (given : Bytes → Bytes) (res : Res Bytes) :
    outGiven given (syncOut Out.bytes res) = resGiven given res := by
  cases res <;> rfl

-- only `inv` looks at the stream content; for the other clauses any `C` serves
theorem SyncCallT.polled {f given} (hf : ∀ C, SyncCallT C f given) (a : ARead) :
    rhalf.Polled a (a.sync f).1 false (outGiven given (syncOut Out.bytes (a.sync f).2)) where
  ok := ⟨fun h => h.sync (hf _).toSyncCall, by rw [outGiven_syncOut]; exact (hf []).taken a.r, ((hf []).fields a.r).1,
    ((hf []).fields a.r).2⟩
  slots := rfl
  obs P0 h := PollOutcome.false_iff.2 ((congrArg (Settled P0) ((hf []).obs a.r)).mpr h)

theorem ARead.pollLoop_exit {f given} (hf : ∀ C, SyncCallT C f given) (e : Entry) (fuel : Nat) (a : ARead) :
    rhalf.ExitL e a (a.pollLoop e f fuel) (outGiven given (a.pollLoop e f fuel).2) := by
  rw [ARead.pollLoop_eq]
  exact rhalf.retry_exit e (outGiven given) ⟨rfl, rfl, rfl, fun _ => rfl⟩ (fun _ => rfl) (SyncCallT.polled hf)
    ARead.pollImpl_polled fuel a

theorem ARead.call_exit {f given} (hf : ∀ C, SyncCallT C f given) (a : ARead) (e : Entry) (t : Nat) :
    ROK a (a.call e t f).1 (outGiven given (a.call e t f).2) ∧
    (WakeInv a.owed a.slots a.r.parked →
      WakeInv (a.call e t f).1.owed (a.call e t f).1.slots (a.call e t f).1.r.parked ∧
      ((a.call e t f).1.r.event = true → ∀ e' t', a.owed.get e' = some t' → t' ∈ (a.call e t f).1.r.woken)) := by
  have hx := ARead.pollLoop_exit hf e (loopFuel + a.r.clearObs.script.length)
    { a with r := a.r.clearObs, slots := a.slots.set e (some t) }
  unfold ARead.call ARead.poll
  exact ⟨((ROK.clearObs a _).trans hx.ok).congr rfl rfl, fun h => wake_step h (hx.spec (P0 := a.r.parked) Settled.untouched)⟩

theorem ARead.pollLoop_stable (e : Entry) (f : RSide → RSide × Res Bytes) (n : Nat) (a : ARead)
    (h : (a.pollLoop e f n).2 ≠ .hang) : a.pollLoop e f (n + 1) = a.pollLoop e f n := by
  rw [ARead.pollLoop_eq] at h
  rw [ARead.pollLoop_eq, ARead.pollLoop_eq]
  exact retry_stable _ _ _ _ n a h

theorem SyncCallT.sync_wb {C f given} (hf : SyncCallT C f given) {a s1 : ARead} (h : a.sync f = (s1, .err .wb)) :
    s1 = a := by
  have h1 : _ = s1 := congrArg Prod.fst h
  subst h1
  show { a with r := (f a.r).1 } = a
  rw [hf.wb_same a.r (congrArg Prod.snd h)]

/-- **measure**: two rounds suffice — after a round that polled the fill future to `Ok`, the buffer
is ready and the synchronous call succeeds -/
theorem pollLoop_term {C f given} (hf : SyncCallT C f given) (e : Entry) (n : Nat) {a : ARead}
    (h : ARInv C a) (hn : NoLossR a) : (a.pollLoop e f (n + 2)).2 ≠ .hang := by
  rw [ARead.pollLoop_eq]
  refine retry_ends_of_again _ _ _ _ (by simp) (n + 1) fun s1 s2 m hs hp => ?_
  cases hf.sync_wb hs
  have hr := (pollImpl_term h hn).1 m (by rw [hp])
  have hi := h.pollImpl
  rw [hp] at hr hi
  exact retry_sync_ends _ _ _ _ (by simp) n (hf.ready s2.r hi.inv hr)

theorem pollLoop_noloss {C f given} (hf : SyncCallT C f given) (e : Entry) (fuel : Nat) {a : ARead}
    (h : ARInv C a) (hn : NoLossR a) (hp : (a.pollLoop e f fuel).2 ≠ .panic) : NoLossR (a.pollLoop e f fuel).1 := by
  rw [ARead.pollLoop_eq] at hp ⊢
  refine retry_rule _ _ _ _ (I := fun s => ARInv C s ∧ NoLossR s) (Post := fun s o => o ≠ .panic → NoLossR s)
    ?_ ?_ ?_ ?_ fuel a ⟨h, hn⟩ hp
  · exact fun s h _ => h.2
  · intro s s1 res h hq _ hnp _
    cases hq
    exact (hf.keeps s.r h.1.inv hnp).trans h.2
  · exact fun _ _ _ _ hp => absurd rfl hp
  · intro s s1 s2 o h hq hq2
    cases hf.sync_wb hq
    have hi := h.1.pollImpl
    have hl := (pollImpl_term h.1 h.2).2
    rw [hq2] at hi hl
    rcases o with _ | _ | _ | _
    · exact fun _ => hl (by simp)
    · exact ⟨hi, hl (by simp)⟩
    · exact fun _ => hl (by simp)
    · exact fun hp => absurd rfl hp

theorem ARead.call_term {C f given} (hf : SyncCallT C f given) (a : ARead) (e : Entry) (t : Nat)
    (h : ARInv C a) (hn : NoLossR a) :
    (a.call e t f).2 ≠ .hang ∧ ((a.call e t f).2 ≠ .panic → NoLossR (a.call e t f).1) := by
  have h0 := (ROK.clearObs a (a.slots.set e (some t))).inv h
  have hn0 : NoLossR { a with r := a.r.clearObs, slots := a.slots.set e (some t) } := hn
  have hfuel : loopFuel + a.r.clearObs.script.length = (2 + a.r.clearObs.script.length) + 2 := by
    unfold loopFuel; omega
  unfold ARead.call ARead.poll
  simp only
  exact ⟨by rw [hfuel]; exact pollLoop_term hf e _ h0 hn0, pollLoop_noloss hf e _ h0 hn0⟩

/-- lost read buffer (dropped by a panic), no future, EOF latched: `fill_read_buf` answers `Ok(0)`
before it notices the missing buffer, the synchronous call keeps answering WouldBlock — the entry
point spins, for every fuel -/
theorem pollLoop_lost_eof_spins {C} {f : RSide → RSide × Res Bytes} (hf : SyncCall C f) (e : Entry) {a : ARead}
    (hl : a.r.buf.lent = true) (hfut : a.fut = false) (he : a.r.eof = true) :
    ∀ fuel, (a.pollLoop e f fuel).2 = .hang
  | 0 => rfl
  | fuel + 1 => by
    have hs : a.sync f = (a, .err .wb) := by simp [ARead.sync, hf.lent a.r hl]
    have hp : a.pollImpl = (a, some (.ok 0)) := by
      unfold ARead.pollImpl
      cases a
      simp_all [RSide.fillStart]
    rw [ARead.pollLoop_eq, retry_wb _ _ _ _ fuel hs hp, ← ARead.pollLoop_eq]
    exact pollLoop_lost_eof_spins hf e hl hfut he fuel

/-- the same state before EOF: the next call panics (`expect(MISSING_BUF)` in `compact_to`) -/
theorem pollLoop_lost_panics {C} {f : RSide → RSide × Res Bytes} (hf : SyncCall C f) (e : Entry) {a : ARead}
    (hl : a.r.buf.lent = true) (hfut : a.fut = false) (he : a.r.eof = false) (fuel : Nat) :
    (a.pollLoop e f (fuel + 1)).2 = .panic := by
  have hs : a.sync f = (a, .err .wb) := by simp [ARead.sync, hf.lent a.r hl]
  have hp : a.pollImpl = (a, some .panic) := by
    unfold ARead.pollImpl
    cases a
    simp_all [RSide.fillStart]
  rw [ARead.pollLoop_eq, retry_wb _ _ _ _ fuel hs hp]
  rfl


/-- `a'` is reached from `a` by steps of the adapter in which it accepted the bytes `got` from the
caller (`[]`: internal steps): the `SyncWriteBuf` invariant and the agreement of future state and
buffer are kept, the configuration is constant; and as long as nothing is accepted, a flush future suspended
in the inner `flush()` still finds the buffer as it left it (`Clean`) -/
structure WOK (a a' : AWrite) (got : Bytes := []) : Prop where
  inv : WInv a.w → WInv a'.w
  fut : WInv a.w → FutInv a.w a.wfut → FutInv a'.w a'.wfut
  acc : a'.w.accepted = a.w.accepted ++ got
  max : a'.w.max = a.w.max
  base : a'.w.base = a.w.base
  clean : got = [] → WInv a.w → FutOK a.w a.wfut → FutOK a'.w a'.wfut

theorem WOK.refl (a : AWrite) : WOK a a := ⟨id, fun _ h => h, (List.append_nil _).symm, rfl, rfl, fun _ _ h => h⟩

theorem WOK.trans {a b c : AWrite} {g1 g2} (h1 : WOK a b g1) (h2 : WOK b c g2) : WOK a c (g1 ++ g2) :=
  ⟨fun h => h2.inv (h1.inv h), fun h hf => h2.fut (h1.inv h) (h1.fut h hf),
    by rw [h2.acc, h1.acc, List.append_assoc], h2.max.trans h1.max, h2.base.trans h1.base,
    fun hg h hc => h2.clean (List.append_eq_nil_iff.mp hg).2 (h1.inv h) (h1.clean (List.append_eq_nil_iff.mp hg).1 h hc)⟩

theorem WOK.congr {a b b' : AWrite} {got} (h : WOK a b got) (hw : b'.w = b.w) (hf : b'.wfut = b.wfut) : WOK a b' got := by
  obtain ⟨h1, h2, h3, h4, h5, h6⟩ := h
  rw [← hw, ← hf] at *
  exact ⟨h1, h2, h3, h4, h5, h6⟩

/-- holds in every reachable state of the write half, whatever the caller does -/
def WBase (a : AWrite) : Prop := WInv a.w ∧ FutInv a.w a.wfut

theorem WBase.new (base max : Nat) (ws : List WItem) : WBase (AWrite.new base max ws) :=
  ⟨WInv.new base max ws, by simp [AWrite.new, FutInv, WSide.new, Buf.new]⟩

theorem WOK.clearObs (a : AWrite) : WOK a { a with w := a.w.clearObs } :=
  ⟨WInv.clearObs, fun _ hf => hf.of_buf_eq rfl, (List.append_nil _).symm, rfl, rfl, fun _ _ hc t ht => (hc t ht).of_eq ⟨rfl, rfl, rfl, rfl, rfl⟩⟩

theorem WOK.slots (a : AWrite) (sl : Slots) : WOK a { a with slots := sl } := (WOK.refl a).congr rfl rfl

theorem WOK.wbase {a a' : AWrite} {got} (h : WOK a a' got) (hb : WBase a) : WBase a' := ⟨h.inv hb.1, h.fut hb.1 hb.2⟩

/-- `waker.take()` of entry point `e` -/
def AWrite.take (e : Entry) (a : AWrite) : AWrite := { a with slots := a.slots.set e none }

abbrev whalf : Half AWrite where
  slots := (·.slots)
  obs a := wobs a.w
  take := AWrite.take
  Ok a a' got := WOK a a' got
  refl := WOK.refl
  trans := WOK.trans
  took _ h := h.congr rfl rfl
  take_slots _ _ := rfl
  take_obs _ _ := rfl

/-- whenever the in-flight flush future is suspended in the inner `flush()`, the write buffer is
still as that future left it: empty, everything accepted already sent -/
def Clean (a : AWrite) : Prop := FutOK a.w a.wfut

theorem Clean.of_not_flushing {a : AWrite} (h : ∀ t, a.wfut ≠ .flushing t) : Clean a := by
  intro t ht; exact absurd ht (h t)

theorem AWrite.pollFlushImpl_clean {a : AWrite} (hc : Clean a) (hi : WInv a.w) :
    Clean a.pollFlushImpl.1 ∧ (∀ m, a.pollFlushImpl.2 = some (.ok m) → Flushed a.pollFlushImpl.1.w) ∧
    (a.pollFlushImpl.2 ≠ none → a.pollFlushImpl.1.wfut = .idle) := by
  unfold AWrite.pollFlushImpl
  have h1 := (hi.flushResume a.slots.tasks a.wfut).2 hc
  have h2 := WSide.flushResume_idle a.w a.slots.tasks a.wfut
  rcases hq : a.w.flushResume a.slots.tasks a.wfut with ⟨w', fut', res⟩
  rw [hq] at h1 h2
  refine ⟨?_, ?_, h2⟩
  · intro t ht
    exact h1 (Or.inr ⟨t, ht⟩)
  · intro m hm
    exact h1 (Or.inl ⟨m, hm⟩)

theorem AWrite.pollFlushImpl_polled (a : AWrite) : whalf.Polled a a.pollFlushImpl.1 a.pollFlushImpl.2.isNone := by
  have h2 := WSide.flushResume_frame a.w a.slots.tasks a.wfut
  exact ⟨⟨fun h => (h.flushResume a.slots.tasks a.wfut).1,
      fun h hf => (WSide.flushResume_nopanic h a.slots.tasks a.wfut hf).2, by rw [List.append_nil]; exact h2.1, h2.2.1,
      h2.2.2.1, fun _ hi hc => (AWrite.pollFlushImpl_clean hc hi).1⟩,
    rfl, h2.2.2.2.2⟩

theorem shutdownPoll_obs {P0} {w : WSide} (snap : List Nat) (h : Settled P0 (wobs w)) :
    PollOutcome P0 snap (w.shutdownPoll snap).2.isNone (wobs (w.shutdownPoll snap).1) := by
  have hw := h.wwake
  unfold WSide.shutdownPoll
  split
  · exact PollOutcome.true_iff.2 (h.park snap)
  · exact PollOutcome.false_iff.2 hw
  · exact PollOutcome.false_iff.2 hw
  · exact PollOutcome.false_iff.2 hw

theorem AWrite.pollCloseImpl_cases (a : AWrite) :
    (a.closed = true ∧ a.pollCloseImpl = (a, some (.ok ()))) ∨
    (a.closed = false ∧ ∃ sfut closed, (closed = true → sfut = false) ∧
      sfut = (a.w.shutdownPoll a.slots.tasks).2.isNone ∧
      a.pollCloseImpl =
        ({ a with w := (a.w.shutdownPoll a.slots.tasks).1, sfut, closed }, (a.w.shutdownPoll a.slots.tasks).2)) := by
  unfold AWrite.pollCloseImpl
  cases a.closed
  · refine .inr ⟨rfl, ?_⟩
    rcases a.w.shutdownPoll a.slots.tasks with ⟨w', _ | _ | _ | _⟩
    · exact ⟨true, false, fun h => (nomatch h), rfl, rfl⟩
    · exact ⟨false, true, fun _ => rfl, rfl, rfl⟩
    · exact ⟨false, false, fun _ => rfl, rfl, rfl⟩
    · exact ⟨false, false, fun _ => rfl, rfl, rfl⟩
  · exact .inl ⟨rfl, rfl⟩

theorem AWrite.pollCloseImpl_same (a : AWrite) :
    a.pollCloseImpl.1.wfut = a.wfut ∧ (Flushed a.w → Flushed a.pollCloseImpl.1.w) := by
  rcases a.pollCloseImpl_cases with ⟨-, he⟩ | ⟨-, sfut, closed, -, -, he⟩ <;> rw [he]
  · exact ⟨rfl, id⟩
  · have h2 := WSide.shutdownPoll_same a.w a.slots.tasks
    exact ⟨rfl, fun hf => hf.of_eq h2⟩

theorem AWrite.pollCloseImpl_polled (a : AWrite) : whalf.Polled a a.pollCloseImpl.1 a.pollCloseImpl.2.isNone := by
  have hs := a.pollCloseImpl_same
  rcases a.pollCloseImpl_cases with ⟨-, he⟩ | ⟨-, sfut, closed, -, -, he⟩ <;> rw [he] at hs ⊢
  · exact .refl a
  · have h2 := WSide.shutdownPoll_same a.w a.slots.tasks
    exact ⟨⟨fun h => h.of_eq h2, fun _ hf => hf.of_buf_eq h2.1, by rw [List.append_nil]; exact h2.2.2.1,
        h2.2.2.2.1, h2.2.2.2.2, fun _ _ hc t ht => hs.2 (hc t ht)⟩,
      rfl, fun _ h => shutdownPoll_obs a.slots.tasks h⟩


theorem AWrite.shutdownGate_out {a : AWrite} {o : Out} (h : a.shutdownGate.2 = some o) :
    o = .pending ∨ o = .panic ∨ ∃ k, o = .err k := by
  unfold AWrite.shutdownGate at h
  split at h
  · split at h
    · exact .inr (.inl (Option.some.inj h).symm)
    · rcases hq : a.pollCloseImpl with ⟨a', _ | _ | _ | _⟩ <;> rw [hq] at h <;> cases h <;> simp
  · cases h

theorem shutdownGate_exit (e : Entry) (a : AWrite) :
    (∀ o, a.shutdownGate.2 = some o → whalf.Exit e a (a.shutdownGate.1, o)) ∧
    (a.shutdownGate.2 = none → whalf.Polled a a.shutdownGate.1 false ∧ a.shutdownGate.1.wfut = a.wfut) := by
  unfold AWrite.shutdownGate
  split
  · split
    · exact ⟨fun o ho => by cases ho; exact ⟨by simp, .stay (.refl a) rfl⟩, fun ho => (by cases ho)⟩
    · have hp := a.pollCloseImpl_polled
      have hw := a.pollCloseImpl_same.1
      rcases hq : a.pollCloseImpl with ⟨a', _ | _ | _ | _⟩ <;> rw [hq] at hp hw
      · exact ⟨fun o ho => by cases ho; exact ⟨by simp, .pend hp⟩, fun ho => (by cases ho)⟩
      · exact ⟨fun o ho => (by cases ho), fun _ => ⟨hp, hw⟩⟩
      · exact ⟨fun o ho => by cases ho; exact ⟨by simp, .stay hp rfl⟩, fun ho => (by cases ho)⟩
      · exact ⟨fun o ho => by cases ho; exact ⟨by simp, .stay hp rfl⟩, fun ho => (by cases ho)⟩
  · exact ⟨fun o ho => (by cases ho), fun _ => ⟨.refl a, rfl⟩⟩

theorem closeTail_exit (a : AWrite) : whalf.Exit .c a a.closeTail := by
  unfold AWrite.closeTail
  have hp := a.pollCloseImpl_polled
  rcases hq : a.pollCloseImpl with ⟨a', _ | _ | _ | _⟩ <;> rw [hq] at hp
  · exact ⟨by simp, .pend hp⟩
  · exact ⟨by simp, .took hp rfl⟩
  · exact ⟨by simp, .took hp rfl⟩
  · exact ⟨by simp, .stay hp rfl⟩

theorem pollFlush_exit (a : AWrite) (t : Nat) : whalf.Exit .b { a with slots := a.slots.set .b (some t) } (a.pollFlush t) := by
  unfold AWrite.pollFlush
  simp only
  have hg := shutdownGate_exit .b { a with slots := a.slots.set .b (some t) }
  rcases hq : ({ a with slots := a.slots.set .b (some t) } : AWrite).shutdownGate with ⟨a', _ | o⟩ <;> rw [hq] at hg
  · have hp := (hg.2 rfl).1.trans a'.pollFlushImpl_polled
    simp only
    rcases hq2 : a'.pollFlushImpl with ⟨a'', _ | _ | _ | _⟩ <;> rw [hq2] at hp
    · exact ⟨by simp, .pend hp⟩
    · exact ⟨by simp, .took hp rfl⟩
    · exact ⟨by simp, .took hp rfl⟩
    · exact ⟨by simp, .stay hp rfl⟩
  · exact hg.1 o rfl

theorem closeBody_exit (a : AWrite) : whalf.Exit .c a a.closeBody := by
  unfold AWrite.closeBody
  simp only
  split
  · exact ⟨by simp, .stay (.refl a) rfl⟩
  · exact closeTail_exit a
  · split
    · exact ⟨by simp, .stay (.refl a) rfl⟩
    · have hp := a.pollFlushImpl_polled
      rcases hq : a.pollFlushImpl with ⟨a', _ | _ | _ | _⟩ <;> rw [hq] at hp
      · exact ⟨by simp, .pend hp⟩
      · exact ⟨(closeTail_exit a').1, .after hp (closeTail_exit a').2⟩
      · exact ⟨by simp, .stay hp rfl⟩
      · exact ⟨by simp, .stay hp rfl⟩

theorem pollClose_exit (a : AWrite) (t : Nat) : whalf.Exit .c { a with slots := a.slots.set .c (some t) } (a.pollClose t) :=
  closeBody_exit _


/-- `Write::write(src)`, on the state of the half -/
def AWrite.sync (src : Bytes) (a : AWrite) : AWrite × Res Nat := ({ a with w := (a.w.write src).1 }, (a.w.write src).2)

theorem writeLoopA_eq (src : Bytes) : ∀ (n : Nat) (a : AWrite),
    a.writeLoop src n = retry (AWrite.sync src) AWrite.pollFlushImpl (AWrite.take .a) Out.num n a
  | 0, a => rfl
  | n + 1, a => by
    unfold AWrite.writeLoop retry
    rw [show AWrite.sync src a = ({ a with w := (a.w.write src).1 }, (a.w.write src).2) from rfl]
    simp only [writeLoopA_eq src n]
    rcases a.w.write src with ⟨w, _ | k | _⟩
    · rfl
    · cases k
      · dsimp only
        rcases ({ a with w := w } : AWrite).pollFlushImpl with ⟨a', _ | _ | _ | _⟩ <;> rfl
      all_goals rfl
    · rfl

theorem write_obs (w : WSide) (src : Bytes) : wobs (w.write src).1 = wobs w := by
  rcases w.write_cases src with ⟨he, -⟩ | ⟨he, -⟩ | ⟨n, he, -⟩ <;> rw [he] <;> rfl

theorem AWrite.sync_ok {src : Bytes} {a s1 : AWrite} {res} (h : a.sync src = (s1, res)) :
    WOK a s1 (resAccepted src res) ∧ s1.slots = a.slots ∧ s1.wfut = a.wfut ∧ s1.sfut = a.sfut ∧ s1.closed = a.closed ∧
    wobs s1.w = wobs a.w := by
  cases h
  have h3 := WSide.Ok.write a.w src
  exact ⟨⟨h3.inv, fun h hf => WSide.write_futinv h src a.wfut hf, h3.acc, h3.max, h3.base,
      fun hg _ hc t ht => WSide.write_flushed a.w src hg (hc t ht)⟩,
    rfl, rfl, rfl, rfl, write_obs a.w src⟩

theorem AWrite.sync_wb {src : Bytes} {a s1 : AWrite} (h : a.sync src = (s1, .err .wb)) : s1 = a := by
  have h1 : _ = s1 := congrArg Prod.fst h
  subst h1
  show { a with w := (a.w.write src).1 } = a
  rw [WSide.write_wb_same a.w src (congrArg Prod.snd h)]

theorem acceptedOf_syncOut (t : Nat) (src : Bytes) (res : Res Nat) :
    Out.acceptedOf (.pw t src) (syncOut Out.num res) = resAccepted src res := by
  cases res <;> rfl

/-- with no flush future suspended in the inner `flush()` at its start, the loop keeps `Clean`:
`write` runs only in such states, since a poll that lets the loop go on leaves no future -/
theorem writeLoopA_clean (src : Bytes) (fuel : Nat) {a : AWrite} (hn : ∀ t, a.wfut ≠ .flushing t) (hi : WInv a.w) :
    Clean (a.writeLoop src fuel).1 := by
  rw [writeLoopA_eq]
  refine retry_rule _ _ _ _ (I := fun s => (∀ t, s.wfut ≠ .flushing t) ∧ WInv s.w) (Post := fun s _ => Clean s)
    (fun _ h => .of_not_flushing h.1) ?_ ?_ ?_ fuel a ⟨hn, hi⟩
  · intro s s1 res h hq _ _
    exact .of_not_flushing (a := AWrite.take .a s1) (by rw [show (AWrite.take .a s1).wfut = s.wfut from (AWrite.sync_ok hq).2.2.1]; exact h.1)
  · intro s s1 h hq
    exact .of_not_flushing (by rw [(AWrite.sync_ok hq).2.2.1]; exact h.1)
  · intro s s1 s2 o h hq hq2
    have hi1 := (AWrite.sync_ok hq).1.inv h.2
    have h2 := AWrite.pollFlushImpl_clean (a := s1) (.of_not_flushing (by rw [(AWrite.sync_ok hq).2.2.1]; exact h.1)) hi1
    have hi2 := s1.pollFlushImpl_polled.ok.inv hi1
    rw [hq2] at h2 hi2
    rcases o with _ | _ | _ | _
    · exact h2.1
    · exact ⟨fun t ht => by rw [h2.2.2 (by simp)] at ht; (cases ht), hi2⟩
    · exact h2.1
    · exact h2.1

theorem AWrite.sync_polled (t : Nat) (src : Bytes) (a : AWrite) :
    whalf.Polled a (a.sync src).1 false (Out.acceptedOf (.pw t src) (syncOut Out.num (a.sync src).2)) := by
  rw [acceptedOf_syncOut]
  exact ⟨(AWrite.sync_ok rfl).1, rfl, fun P0 h => PollOutcome.false_iff.2 ((congrArg (Settled P0) (write_obs a.w src)).mpr h)⟩

theorem pollWrite_exit (a : AWrite) (t : Nat) (src : Bytes) :
    whalf.ExitL .a { a with slots := a.slots.set .a (some t) } (a.pollWrite t src)
      (Out.acceptedOf (.pw t src) (a.pollWrite t src).2) := by
  unfold AWrite.pollWrite
  simp only
  have hg := shutdownGate_exit .a { a with slots := a.slots.set .a (some t) }
  rcases hq : ({ a with slots := a.slots.set .a (some t) } : AWrite).shutdownGate with ⟨a', _ | o⟩ <;> rw [hq] at hg
  · simp only [writeLoopA_eq]
    exact .after (hg.2 rfl).1 (whalf.retry_exit .a (Out.acceptedOf (.pw t src)) ⟨rfl, rfl, rfl, fun _ => rfl⟩ (fun _ => rfl)
      (AWrite.sync_polled t src) AWrite.pollFlushImpl_polled _ a')
  · have : Out.acceptedOf (.pw t src) o = [] := by
      rcases AWrite.shutdownGate_out (congrArg Prod.snd hq) with h | h | ⟨k, h⟩ <;> rw [h] <;> rfl
    rw [this]
    exact (hg.1 o rfl).2

theorem pollWrite_clean {a : AWrite} (t : Nat) (src : Bytes) (hc : Clean a) (hn : ∀ t, a.wfut ≠ .flushing t) (hi : WInv a.w) :
    Clean (a.pollWrite t src).1 := by
  unfold AWrite.pollWrite
  simp only
  have hg := shutdownGate_exit .a { a with slots := a.slots.set .a (some t) }
  rcases hq : ({ a with slots := a.slots.set .a (some t) } : AWrite).shutdownGate with ⟨a', _ | o⟩ <;> rw [hq] at hg
  · obtain ⟨hp, hw⟩ := hg.2 rfl
    exact writeLoopA_clean src _ (fun t' ht' => hn t' (hw ▸ ht')) (hp.ok.inv hi)
  · exact (hg.1 o rfl).2.ok.clean rfl hi hc

theorem AWrite.call_exit (a : AWrite) (e : Entry) (t : Nat) (g : AWrite → AWrite × Out) {got}
    (hx : whalf.ExitL e { a with w := a.w.clearObs, slots := a.slots.set e (some t) } (g { a with w := a.w.clearObs }) got) :
    WOK a (a.call e t g).1 got ∧
    (WakeInv a.owed a.slots a.w.parked →
      WakeInv (a.call e t g).1.owed (a.call e t g).1.slots (a.call e t g).1.w.parked ∧
      ((a.call e t g).1.w.event = true → ∀ e' t', a.owed.get e' = some t' → t' ∈ (a.call e t g).1.w.woken)) :=
  ⟨(((WOK.clearObs a).trans (WOK.slots _ _)).trans hx.ok).congr rfl rfl,
    fun h => wake_step h (hx.spec (P0 := a.w.parked) Settled.untouched)⟩

theorem writeLoopA_stable (src : Bytes) (n : Nat) (a : AWrite) (h : (a.writeLoop src n).2 ≠ .hang) :
    a.writeLoop src (n + 1) = a.writeLoop src n := by
  rw [writeLoopA_eq] at h
  rw [writeLoopA_eq, writeLoopA_eq]
  exact retry_stable _ _ _ _ n a h


/-- invariant of the write half along a `GuardedRun`, strong enough that no entry point panics and that
`Ready(Ok(()))` of `poll_flush` / `poll_close` means `Flushed` -/
structure WSafe (a : AWrite) : Prop where
  inv : WInv a.w
  clean : Clean a
  fut : FutInv a.w a.wfut
  /-- a shutdown is only ever in flight with no flush future and nothing buffered -/
  shut : a.sfut = true → a.wfut = .idle ∧ Flushed a.w
  excl : a.closed = true → a.sfut = false

theorem WSafe.new (base max : Nat) (ws : List WItem) : WSafe (AWrite.new base max ws) where
  inv := WInv.new base max ws
  clean := by intro t ht; cases ht
  fut := by simp [AWrite.new, FutInv, WSide.new, Buf.new]
  shut := by simp [AWrite.new]
  excl := by simp [AWrite.new]

theorem pollFlushImpl_safe {a : AWrite} (h : WSafe a) (hs : a.sfut = false) :
    a.pollFlushImpl.2 ≠ some .panic ∧ WSafe a.pollFlushImpl.1 ∧ a.pollFlushImpl.1.sfut = false ∧
    (∀ m, a.pollFlushImpl.2 = some (.ok m) → a.pollFlushImpl.1.wfut = .idle ∧ Flushed a.pollFlushImpl.1.w) := by
  have h1 := a.pollFlushImpl_polled.ok.inv h.inv
  have h2 := AWrite.pollFlushImpl_clean h.clean h.inv
  have h3 := WSide.flushResume_nopanic h.inv a.slots.tasks a.wfut h.fut
  unfold AWrite.pollFlushImpl at *
  rcases hq : a.w.flushResume a.slots.tasks a.wfut with ⟨w', fut', res⟩
  rw [hq] at h1 h2 h3
  simp only at h1 h2 h3 ⊢
  refine ⟨h3.1, ⟨h1, h2.1, h3.2, by simp [hs], by simp [hs]⟩, hs, ?_⟩
  intro m hm
  exact ⟨h2.2.2 (by simp [hm]), h2.2.1 m hm⟩

theorem pollCloseImpl_safe {a : AWrite} (h : WSafe a) (hpre : a.wfut = .idle ∧ Flushed a.w) :
    a.pollCloseImpl.2 ≠ some .panic ∧ WSafe a.pollCloseImpl.1 ∧ a.pollCloseImpl.1.wfut = a.wfut ∧
    (a.pollCloseImpl.2 ≠ none → a.pollCloseImpl.1.sfut = false) ∧ Flushed a.pollCloseImpl.1.w := by
  have hp := a.pollCloseImpl_polled
  have hs := a.pollCloseImpl_same
  have hfl := hs.2 hpre.2
  -- the flags: a shutdown future is left only by `Pending`, and `closed` is set only without one
  have key : a.pollCloseImpl.2 ≠ some .panic ∧ (a.pollCloseImpl.2 ≠ none → a.pollCloseImpl.1.sfut = false) ∧
      (a.pollCloseImpl.1.closed = true → a.pollCloseImpl.1.sfut = false) := by
    rcases a.pollCloseImpl_cases with ⟨hc, he⟩ | ⟨-, sfut, closed, h1, h2, he⟩ <;> rw [he]
    · exact ⟨by simp, fun _ => h.excl hc, h.excl⟩
    · refine ⟨WSide.shutdownPoll_nopanic a.w a.slots.tasks, fun hn => h2.trans ?_, h1⟩
      cases hr : (a.w.shutdownPoll a.slots.tasks).2 <;> simp_all
  exact ⟨key.1, ⟨hp.ok.inv h.inv, hp.ok.clean rfl h.inv h.clean, hp.ok.fut h.inv h.fut, fun _ => ⟨hs.1.trans hpre.1, hfl⟩,
    key.2.2⟩, hs.1, key.2.1, hfl⟩

theorem shutdownGate_safe {a : AWrite} (h : WSafe a) :
    a.shutdownGate.2 ≠ some .panic ∧ WSafe a.shutdownGate.1 ∧ a.shutdownGate.1.wfut = a.wfut ∧
    (a.shutdownGate.2 = none → a.shutdownGate.1.sfut = false) := by
  unfold AWrite.shutdownGate
  by_cases hs : a.sfut = true
  · have hidle := (h.shut hs).1
    simp only [hs, if_true, hidle, ne_eq, not_true_eq_false, if_false]
    have hp := pollCloseImpl_safe h (h.shut hs)
    rw [hidle] at hp
    rcases hq : a.pollCloseImpl with ⟨a', _ | _ | _ | _⟩ <;> rw [hq] at hp
    · exact ⟨by simp, hp.2.1, hp.2.2.1, by simp⟩
    · exact ⟨by simp, hp.2.1, hp.2.2.1, fun _ => hp.2.2.2.1 (by simp)⟩
    · exact ⟨by simp, hp.2.1, hp.2.2.1, by simp⟩
    · exact absurd rfl hp.1
  · simp only [hs, Bool.false_eq_true, if_false]
    exact ⟨by simp, h, trivial, fun _ => trivial⟩

theorem WSafe.of_slots {a : AWrite} (h : WSafe a) (sl : Slots) : WSafe { a with slots := sl } :=
  ⟨h.inv, h.clean, h.fut, h.shut, h.excl⟩

theorem writeLoopA_safe (src : Bytes) (fuel : Nat) {a : AWrite} (h : WSafe a) (hs : a.sfut = false)
    (hn : ∀ t, a.wfut ≠ .flushing t) : (a.writeLoop src fuel).2 ≠ .panic ∧ WSafe (a.writeLoop src fuel).1 := by
  rw [writeLoopA_eq]
  have sync : ∀ {s s1 : AWrite} {res}, (WSafe s ∧ s.sfut = false ∧ ∀ t, s.wfut ≠ .flushing t) → s.sync src = (s1, res) →
      res ≠ .panic ∧ WSafe s1 ∧ s1.sfut = false := by
    intro s s1 res h hq
    obtain ⟨hok, -, hf, hsf, hcl, -⟩ := AWrite.sync_ok hq
    have := (WSide.write_nopanic h.1.inv src).1
    rw [show (s.w.write src).2 = res from congrArg Prod.snd hq] at this
    exact ⟨this, ⟨hok.inv h.1.inv, .of_not_flushing (by rw [hf]; exact h.2.2), hok.fut h.1.inv h.1.fut,
      by simp [hsf, h.2.1], by rw [hcl, hsf]; exact h.1.excl⟩, hsf.trans h.2.1⟩
  refine retry_rule _ _ _ _ (I := fun s => WSafe s ∧ s.sfut = false ∧ ∀ t, s.wfut ≠ .flushing t)
    (Post := fun s o => o ≠ .panic ∧ WSafe s) (fun _ h => ⟨by simp, h.1⟩) ?_ ?_ ?_ fuel a ⟨h, hs, hn⟩
  · intro s s1 res h hq _ hnp
    exact ⟨syncOut_ne_panic _ (by simp) hnp, (sync h hq).2.1.of_slots _⟩
  · exact fun s s1 h hq => absurd rfl (sync h hq).1
  · intro s s1 s2 o h hq hq2
    obtain ⟨-, ha, hs1⟩ := sync h hq
    have hp := pollFlushImpl_safe ha hs1
    rw [hq2] at hp
    rcases o with _ | m | _ | _
    · exact ⟨by simp, hp.2.1⟩
    · exact ⟨hp.2.1, hp.2.2.1, fun t ht => by rw [(hp.2.2.2 m rfl).1] at ht; cases ht⟩
    · exact ⟨by simp, hp.2.1⟩
    · exact absurd rfl hp.1

theorem pollWrite_safe {a : AWrite} (t : Nat) (src : Bytes) (h : WSafe a) (hn : ∀ t, a.wfut ≠ .flushing t) :
    (a.pollWrite t src).2 ≠ .panic ∧ WSafe (a.pollWrite t src).1 := by
  unfold AWrite.pollWrite
  simp only
  have hg := shutdownGate_safe (h.of_slots (a.slots.set .a (some t)))
  rcases hq : ({ a with slots := a.slots.set .a (some t) } : AWrite).shutdownGate with ⟨a', o⟩
  rw [hq] at hg
  simp only at hg
  cases o with
  | some o => exact ⟨fun ho => hg.1 (congrArg some ho), hg.2.1⟩
  | none =>
    refine writeLoopA_safe src _ hg.2.1 (hg.2.2.2 rfl) ?_
    intro t' ht'
    rw [hg.2.2.1] at ht'
    exact hn t' ht'

theorem pollFlush_safe {a : AWrite} (t : Nat) (h : WSafe a) :
    (a.pollFlush t).2 ≠ .panic ∧ WSafe (a.pollFlush t).1 ∧ ((a.pollFlush t).2 = .unit → Flushed (a.pollFlush t).1.w) := by
  unfold AWrite.pollFlush
  simp only
  have hg := shutdownGate_safe (h.of_slots (a.slots.set .b (some t)))
  rcases hq : ({ a with slots := a.slots.set .b (some t) } : AWrite).shutdownGate with ⟨a', _ | o⟩ <;> rw [hq] at hg
  · have hp := pollFlushImpl_safe hg.2.1 (hg.2.2.2 rfl)
    simp only
    rcases hq2 : a'.pollFlushImpl with ⟨a'', _ | m | _ | _⟩ <;> rw [hq2] at hp
    · exact ⟨by simp, hp.2.1, by simp⟩
    · exact ⟨by simp, hp.2.1.of_slots _, fun _ => (hp.2.2.2 m rfl).2⟩
    · exact ⟨by simp, hp.2.1.of_slots _, by simp⟩
    · exact absurd rfl hp.1
  · refine ⟨fun ho => hg.1 (congrArg some ho), hg.2.1, fun ho => ?_⟩
    rcases AWrite.shutdownGate_out (congrArg Prod.snd hq) with h | h | ⟨k, h⟩ <;> rw [h] at ho <;> cases ho

theorem closeTail_safe {a : AWrite} (h : WSafe a) (hpre : a.wfut = .idle ∧ Flushed a.w) :
    a.closeTail.2 ≠ .panic ∧ WSafe a.closeTail.1 ∧ Flushed a.closeTail.1.w := by
  unfold AWrite.closeTail
  have hp := pollCloseImpl_safe h hpre
  rcases hq : a.pollCloseImpl with ⟨a', _ | _ | _ | _⟩ <;> rw [hq] at hp
  · exact ⟨by simp, hp.2.1, hp.2.2.2.2⟩
  · exact ⟨by simp, hp.2.1.of_slots _, hp.2.2.2.2⟩
  · exact ⟨by simp, hp.2.1.of_slots _, hp.2.2.2.2⟩
  · exact absurd rfl hp.1

theorem closeBody_need {a : AWrite} (h : WSafe a) :
    ((if a.wfut ≠ .idle then some true else a.w.hasPending) = some false ∧ a.wfut = .idle ∧ Flushed a.w) ∨
    ((if a.wfut ≠ .idle then some true else a.w.hasPending) = some true ∧ a.sfut = false) := by
  have hs' : a.wfut ≠ .idle ∨ a.w.buf.data ≠ [] → a.sfut = false := fun hne => by
    cases hs : a.sfut
    · rfl
    · obtain ⟨h1, -, h2, -⟩ := h.shut hs
      exact hne.elim (absurd h1) (absurd h2)
  by_cases hwf : a.wfut = .idle
  · have hl : a.w.buf.lent = false := by have := h.fut; rwa [hwf] at this
    by_cases hd : a.w.buf.data = []
    · refine .inl ⟨by simp [hwf, WSide.hasPending, hl, hd], hwf, ?_, hd, ?_⟩
      · have := h.inv.fifo
        simpa [Buf.avail, hd] using this.symm
      · have := h.inv.pos_le
        rw [hd] at this
        exact Nat.le_zero.mp this
    · exact .inr ⟨by simp [hwf, WSide.hasPending, hl, hd], hs' (.inr hd)⟩
  · exact .inr ⟨by simp [hwf], hs' (.inl hwf)⟩

theorem closeBody_safe {a : AWrite} (h : WSafe a) :
    a.closeBody.2 ≠ .panic ∧ WSafe a.closeBody.1 ∧ (a.closeBody.2 = .unit → Flushed a.closeBody.1.w) := by
  unfold AWrite.closeBody
  simp only
  rcases closeBody_need h with ⟨hn, hpre⟩ | ⟨hn, hsf⟩ <;> rw [hn]
  · have := closeTail_safe h hpre
    exact ⟨this.1, this.2.1, fun _ => this.2.2⟩
  · simp only [hsf, Bool.false_eq_true, if_false]
    have hp := pollFlushImpl_safe h hsf
    rcases hq2 : a.pollFlushImpl with ⟨a'', _ | m | _ | _⟩ <;> rw [hq2] at hp
    · exact ⟨by simp, hp.2.1, by simp⟩
    · have := closeTail_safe hp.2.1 (hp.2.2.2 m rfl)
      exact ⟨this.1, this.2.1, fun _ => this.2.2⟩
    · exact ⟨by simp, hp.2.1, by simp⟩
    · exact absurd rfl hp.1

theorem pollClose_safe {a : AWrite} (t : Nat) (h : WSafe a) :
    (a.pollClose t).2 ≠ .panic ∧ WSafe (a.pollClose t).1 ∧ ((a.pollClose t).2 = .unit → Flushed (a.pollClose t).1.w) := by
  unfold AWrite.pollClose
  exact closeBody_safe (h.of_slots _)


theorem pollFlushImpl_done {a s2 : AWrite} {m : Nat} (h : WBase a) (hp : a.pollFlushImpl = (s2, some (.ok m))) :
    WBase s2 ∧ s2.wfut = .idle ∧ s2.w.max = a.w.max ∧ s2.w.buf.lent = false ∧ (a.wfut = .idle → Flushed s2.w) := by
  have hok := a.pollFlushImpl_polled.ok
  have hidle : a.pollFlushImpl.2 ≠ none → a.pollFlushImpl.1.wfut = .idle := WSide.flushResume_idle a.w a.slots.tasks a.wfut
  have hfl := fun hi : a.wfut = .idle =>
    (AWrite.pollFlushImpl_clean (.of_not_flushing fun t ht => by rw [hi] at ht; cases ht) h.1).2.1 m
  rw [hp] at hok hidle hfl
  have hb := hok.wbase h
  have hi2 := hidle (by simp)
  exact ⟨hb, hi2, hok.max, by have := hb.2; rwa [hi2] at this, fun hi => hfl hi rfl⟩

/-- from a state without a flush future: one flush empties the buffer, then `write` accepts -/
theorem writeLoopA_term_idle (src : Bytes) (n : Nat) {a : AWrite} (h : WBase a) (hidle : a.wfut = .idle)
    (hm : 0 < a.w.max) : (a.writeLoop src (n + 2)).2 ≠ .hang := by
  rw [writeLoopA_eq]
  refine retry_ends_of_again _ _ _ _ (by simp) (n + 1) fun s1 s2 m hs hp => ?_
  cases AWrite.sync_wb hs
  obtain ⟨-, -, hmax, hl, hf⟩ := pollFlushImpl_done h hp
  obtain ⟨k, hk⟩ := WSide.write_flushed_ok (hf hidle) hl (by rw [hmax]; exact hm) src
  exact retry_sync_ends _ _ _ _ (by simp) n (by simp [AWrite.sync, hk])

theorem writeLoopA_term (src : Bytes) (n : Nat) {a : AWrite} (h : WBase a) (hm : 0 < a.w.max) :
    (a.writeLoop src (n + 3)).2 ≠ .hang := by
  rw [writeLoopA_eq]
  refine retry_ends_of_again _ _ _ _ (by simp) (n + 2) fun s1 s2 m hs hp => ?_
  cases AWrite.sync_wb hs
  obtain ⟨hb, hi, hmax, -, -⟩ := pollFlushImpl_done h hp
  rw [← writeLoopA_eq]
  exact writeLoopA_term_idle src n hb hi (by rw [hmax]; exact hm)

theorem pollWrite_term {a : AWrite} (t : Nat) (src : Bytes) (h : WBase a) (hm : 0 < a.w.max) :
    (a.pollWrite t src).2 ≠ .hang := by
  unfold AWrite.pollWrite
  simp only
  have hg := shutdownGate_exit .a { a with slots := a.slots.set .a (some t) }
  rcases hq : ({ a with slots := a.slots.set .a (some t) } : AWrite).shutdownGate with ⟨a', _ | o⟩ <;> rw [hq] at hg
  · have hok := (hg.2 rfl).1.ok
    have : loopFuel + a'.w.script.length = (1 + a'.w.script.length) + 3 := by unfold loopFuel; omega
    simp only
    rw [this]
    exact writeLoopA_term src _ (hok.wbase h) (by rw [hok.max]; exact hm)
  · exact (hg.1 o rfl).1

theorem flushTail_empty_script {w : WSide} (hs : w.script = []) (snap : List Nat) (t : Nat) :
    (w.flushTail snap t).2 = (.idle, some (.ok t)) ∧ (w.flushTail snap t).1.script = [] ∧
    (w.flushTail snap t).1.buf = w.buf ∧ (w.flushTail snap t).1.max = w.max := by
  unfold WSide.flushTail
  simp [hs]

theorem flushBegin_empty_script {w : WSide} (h : WInv w) (hs : w.script = []) (hl : w.buf.lent = false)
    (snap : List Nat) :
    (∃ m, (w.flushBegin snap).2 = (.idle, some (.ok m))) ∧ (w.flushBegin snap).1.script = [] ∧
    (w.flushBegin snap).1.buf.lent = false ∧ (w.flushBegin snap).1.max = w.max := by
  unfold WSide.flushBegin
  simp only [hl, Bool.false_eq_true, if_false]
  split
  · unfold WSide.afterFlushTo
    have := flushTail_empty_script (w := { w with buf := w.buf.compactTo w.base w.max }) hs snap 0
    exact ⟨⟨0, this.1⟩, this.2.1, by rw [this.2.2.1]; simp [Buf.compactTo_lent, hl], this.2.2.2⟩
  · rename_i hne
    rw [hs]
    unfold WSide.writeLoop
    have h0 : w.buf.avail.length ≠ 0 := by
      intro h0; exact hne (by simpa using List.length_eq_zero_iff.mp h0)
    have hlen : w.buf.pos + w.buf.avail.length = w.buf.data.length := by
      have := h.pos_le; simp [Buf.avail]; omega
    rw [WSide.accepted_n_adv _ _ _ _ h0 (by simpa using Nat.le_of_eq hlen) (by simpa using h.len_le), if_pos (by simpa using Nat.le_of_eq hlen.symm)]
    simp only
    have key : ∀ (X : WSide) (t : Nat), X.script = [] → X.buf.lent = false → X.max = w.max →
        (∃ m, (X.afterFlushTo snap t).2 = (.idle, some (.ok m))) ∧ (X.afterFlushTo snap t).1.script = [] ∧
        (X.afterFlushTo snap t).1.buf.lent = false ∧ (X.afterFlushTo snap t).1.max = w.max := by
      intro X t hXs hXl hXm
      unfold WSide.afterFlushTo
      have := flushTail_empty_script (w := { X with buf := X.buf.compactTo X.base X.max }) hXs snap t
      exact ⟨⟨t, this.1⟩, this.2.1, by rw [this.2.2.1]; simp [Buf.compactTo_lent, hXl], by rw [this.2.2.2]; exact hXm⟩
    apply key <;> simp [WSide.afterSend, Buf.reset]

/-- `max_buffer_size = 0`, inner writer always ready: `poll_write` of a non-empty buffer never
returns — `write` answers WouldBlock ("buffer full"), the flush succeeds with nothing to do, and so on -/
theorem writeLoopA_max0_spins {src : Bytes} (hsrc : src ≠ []) : ∀ (fuel : Nat) {a : AWrite}, WInv a.w → a.wfut = .idle →
    a.w.buf.lent = false → a.w.script = [] → a.w.max = 0 → (a.writeLoop src fuel).2 = .hang
  | 0, _, _, _, _, _, _ => rfl
  | fuel + 1, a, h, hi, hl, hs, hm => by
    have hsy : a.sync src = (a, .err .wb) := by simp [AWrite.sync, WSide.write_max0 h hm hsrc]
    obtain ⟨⟨m, hres⟩, hs', hl', hm'⟩ := flushBegin_empty_script h hs hl a.slots.tasks
    have hp : a.pollFlushImpl = ({ a with w := (a.w.flushBegin a.slots.tasks).1, wfut := .idle }, some (.ok m)) := by
      unfold AWrite.pollFlushImpl
      rw [hi]
      simp only [WSide.flushResume]
      rw [show a.w.flushBegin a.slots.tasks = ((a.w.flushBegin a.slots.tasks).1, (a.w.flushBegin a.slots.tasks).2) from rfl, hres]
    rw [writeLoopA_eq, retry_wb _ _ _ _ fuel hsy hp, ← writeLoopA_eq]
    exact writeLoopA_max0_spins hsrc fuel (h.flushBegin a.slots.tasks).1 rfl hl' hs' (hm'.trans hm)


/-- what every reachable state satisfies whatever the caller does: read half with its future (`ARInv`), write half FIFO;
`C` = what the inner reader delivers before its end -/
def AInv (C : Bytes) (s : State) : Prop := ARInv C s.ar ∧ WInv s.aw.w

theorem AInv.new (base max : Nat) (rs : List RItem) (ws : List WItem) :
    AInv (content rs) (State.new base max rs ws) :=
  ⟨ARInv.new base max rs, WInv.new base max ws⟩

/-- both halves: the wake invariant of a state of the adapter -/
def WakeOK (s : State) : Prop :=
  WakeInv s.ar.owed s.ar.slots s.ar.r.parked ∧ WakeInv s.aw.owed s.aw.slots s.aw.w.parked

theorem WakeOK.new (base max : Nat) (rs : List RItem) (ws : List WItem) : WakeOK (State.new base max rs ws) :=
  ⟨WakeInv.init, WakeInv.init⟩

/-- the tasks owed a wake-up by the half an operation works on, before the operation -/
def owedBefore (s : State) : Op → Slots
  | .pr .. | .pru .. | .pfb .. | .co .. => s.ar.owed
  | _ => s.aw.owed

/-- observations (event flag, woken tasks) of the half an operation worked on, after the operation -/
def eventAfter (s' : State) : Op → Bool × List Nat
  | .pr .. | .pru .. | .pfb .. | .co .. => (s'.ar.r.event, s'.ar.r.woken)
  | _ => (s'.aw.w.event, s'.aw.w.woken)

/-- `s'` is reached from `s` by operations in which the caller received the bytes `tk` and the adapter accepted `ac` -/
structure SOK (s s' : State) (tk ac : Bytes) : Prop where
  ar : ROK s.ar s'.ar tk
  aw : WOK s.aw s'.aw ac
  wake : WakeOK s → WakeOK s'

theorem SOK.trans {s1 s2 s3 : State} {t1 t2 a1 a2} (h1 : SOK s1 s2 t1 a1) (h2 : SOK s2 s3 t2 a2) :
    SOK s1 s3 (t1 ++ t2) (a1 ++ a2) :=
  ⟨h1.ar.trans h2.ar, h1.aw.trans h2.aw, fun h => h2.wake (h1.wake h)⟩

theorem SOK.read (s : State) {e t f given} (hf : ∀ C, SyncCallT C f given) {tk : Out → Bytes} (ht : ∀ o, outGiven given o = tk o) :
    SOK s { s with ar := (s.ar.call e t f).1 } (tk (s.ar.call e t f).2) [] ∧
    (WakeOK s → (s.ar.call e t f).1.r.event = true → ∀ e' t', s.ar.owed.get e' = some t' → t' ∈ (s.ar.call e t f).1.r.woken) := by
  have := ARead.call_exit hf s.ar e t
  rw [ht] at this
  exact ⟨⟨this.1, .refl _, fun h => ⟨(this.2 h.1).1, h.2⟩⟩, fun h => (this.2 h.1).2⟩

theorem SOK.write (s : State) {e t g got}
    (hx : whalf.ExitL e { s.aw with w := s.aw.w.clearObs, slots := s.aw.slots.set e (some t) } (g { s.aw with w := s.aw.w.clearObs }) got) :
    SOK s { s with aw := (s.aw.call e t g).1 } [] got ∧
    (WakeOK s → (s.aw.call e t g).1.w.event = true → ∀ e' t', s.aw.owed.get e' = some t' → t' ∈ (s.aw.call e t g).1.w.woken) := by
  have := AWrite.call_exit s.aw e t g hx
  exact ⟨⟨.refl _, this.1, fun h => ⟨h.1, (this.2 h.2).1⟩⟩, fun h => (this.2 h.2).2⟩

theorem outGiven_id (o : Out) (t n : Nat) :
    outGiven id o = Out.taken (.pr t n) o ∧ outGiven id o = Out.taken (.pru t n) o := by
  cases o <;> exact ⟨rfl, rfl⟩

theorem outGiven_nil (o : Out) (t : Nat) : outGiven (fun _ => []) o = Out.taken (.pfb t) o := by
  cases o <;> rfl

theorem taken_co (n : Nat) (res : Res Bytes) : Out.taken (.co n) (Out.ofBytes res) = resBytes res := by
  cases res <;> rfl

theorem step_ok (s : State) (op : Op) :
    SOK s (step s op).1 (Out.taken op (step s op).2) (Out.acceptedOf op (step s op).2) ∧
    (WakeOK s → (eventAfter (step s op).1 op).1 = true →
      ∀ e t, (owedBefore s op).get e = some t → t ∈ (eventAfter (step s op).1 op).2) := by
  cases op with
  | pr t n => exact SOK.read s (fun C => SyncCallT.read C n) fun o => (outGiven_id o t n).1
  | pru t n => exact SOK.read s (fun C => SyncCallT.read C n) fun o => (outGiven_id o t n).2
  | pfb t => exact SOK.read s SyncCallT.fillBuf fun o => outGiven_nil o t
  | co n =>
    have ho := consume_obs s.ar.r.clearObs n
    have hf := RSide.Ok.consume s.ar.r.clearObs n
    refine ⟨⟨⟨fun h => ⟨hf.inv h.inv.clearObs, fun hfut => ?_⟩, hf.taken.trans (congrArg _ (taken_co n _).symm), hf.base, hf.max⟩,
      .refl _, fun h => ⟨?_, h.2⟩⟩, fun _ hev => ?_⟩
    · -- a fill future in flight owns the buffer: `consume` panics and changes nothing
      obtain ⟨he, hl⟩ := h.fut_ok hfut
      show (s.ar.r.clearObs.consume n).1.eof = false ∧ (s.ar.r.clearObs.consume n).1.buf.lent = true
      rw [RSide.consume_lent n (by simpa [RSide.clearObs] using hl)]
      exact ⟨he, hl⟩
    · show WakeInv s.ar.owed s.ar.slots (s.ar.r.clearObs.consume n).1.parked
      rw [show (s.ar.r.clearObs.consume n).1.parked = s.ar.r.parked from congrArg Obs.parked ho]
      exact h.1
    · have hev' : (s.ar.r.clearObs.consume n).1.event = true := hev
      rw [show (s.ar.r.clearObs.consume n).1.event = false from congrArg Obs.event ho] at hev'
      cases hev'
  | pw t bs => exact SOK.write s (g := fun a => a.pollWrite t bs) (pollWrite_exit { s.aw with w := s.aw.w.clearObs } t bs)
  | pfl t => exact SOK.write s (g := fun a => a.pollFlush t) (pollFlush_exit { s.aw with w := s.aw.w.clearObs } t).2
  | pcl t => exact SOK.write s (g := fun a => a.pollClose t) (pollClose_exit { s.aw with w := s.aw.w.clearObs } t).2

def takenOf : List Op → List Out → Bytes
  | op :: ops, o :: os => Out.taken op o ++ takenOf ops os
  | _, _ => []

def acceptedOf : List Op → List Out → Bytes
  | op :: ops, o :: os => Out.acceptedOf op o ++ acceptedOf ops os
  | _, _ => []

theorem run_ok : ∀ (ops : List Op) (s : State), SOK s (run s ops).1 (takenOf ops (run s ops).2) (acceptedOf ops (run s ops).2)
  | [], _ => ⟨.refl _, .refl _, id⟩
  | op :: ops, s => (step_ok s op).1.trans (run_ok ops (step s op).1)

theorem AInv.run {C} (ops : List Op) {s : State} (h : AInv C s) : AInv C (PollAdapter.run s ops).1 :=
  ⟨(run_ok ops s).ar.inv h.1, (run_ok ops s).aw.inv h.2⟩

theorem run_frame (ops : List Op) (s : State) :
    (run s ops).1.ar.r.taken = s.ar.r.taken ++ takenOf ops (run s ops).2 ∧
    (run s ops).1.aw.w.accepted = s.aw.w.accepted ++ acceptedOf ops (run s ops).2 ∧
    (run s ops).1.ar.r.base = s.ar.r.base ∧ (run s ops).1.ar.r.max = s.ar.r.max ∧
    (run s ops).1.aw.w.base = s.aw.w.base ∧ (run s ops).1.aw.w.max = s.aw.w.max :=
  have h := run_ok ops s
  ⟨h.ar.taken, h.aw.acc, h.ar.base, h.ar.max, h.aw.base, h.aw.max⟩

theorem WakeOK.step {s : State} (h : WakeOK s) (op : Op) :
    WakeOK (PollAdapter.step s op).1 ∧
    ((eventAfter (PollAdapter.step s op).1 op).1 = true →
      ∀ e t, (owedBefore s op).get e = some t → t ∈ (eventAfter (PollAdapter.step s op).1 op).2) :=
  ⟨(step_ok s op).1.wake h, (step_ok s op).2 h⟩

theorem WakeOK.run (ops : List Op) {s : State} (h : WakeOK s) : WakeOK (PollAdapter.run s ops).1 := (run_ok ops s).wake h


def isFlushing : WFut → Bool
  | .flushing _ => true
  | _ => false

/-- the caller does not write while a flush future is suspended in the inner `flush()`
(the situation of finding F15) -/
def Guard (s : State) : Op → Prop
  | .pw _ _ => isFlushing s.aw.wfut = false
  | _ => True

instance (s : State) (op : Op) : Decidable (Guard s op) := by
  cases op <;> unfold Guard <;> infer_instance

def GuardedRun : State → List Op → Prop
  | _, [] => True
  | s, op :: ops => Guard s op ∧ GuardedRun (step s op).1 ops

instance GuardedRun.dec : (s : State) → (ops : List Op) → Decidable (GuardedRun s ops)
  | _, [] => isTrue trivial
  | s, op :: ops => by
    unfold GuardedRun
    exact @instDecidableAnd _ _ _ (GuardedRun.dec _ ops)

theorem Guard.not_flushing {s : State} {t : Nat} {bs : Bytes} (hg : Guard s (.pw t bs)) (t' : Nat) :
    ({ s.aw with w := s.aw.w.clearObs } : AWrite).wfut ≠ .flushing t' := by
  intro ht'
  simp only [Guard] at hg
  simp only at ht'
  rw [ht'] at hg
  cases hg

theorem Clean.step {s} (hi : WInv s.aw.w) (hc : Clean s.aw) (op : Op) (hg : Guard s op) :
    Clean (step s op).1.aw := by
  cases op with
  | pw t bs => exact pollWrite_clean t bs ((WOK.clearObs s.aw).clean rfl hi hc) hg.not_flushing hi.clearObs
  | _ => exact (step_ok s _).1.aw.clean rfl hi hc

theorem Clean.run : ∀ (ops : List Op) {s : State}, WInv s.aw.w → Clean s.aw → GuardedRun s ops →
    Clean (run s ops).1.aw
  | [], s, _, hc, _ => by simpa [PollAdapter.run] using hc
  | op :: ops, s, hi, hc, hg => by
    exact Clean.run ops ((step_ok s op).1.aw.inv hi) (hc.step hi op hg.1) hg.2


/-- the waker slot (`a`/`b`/`c` of its half) and the task a poll operation registers first (`replace_waker`); `consume`
registers none -/
def Op.entry : Op → Option (Entry × Nat)
  | .pr t _ => some (.a, t)
  | .pru t _ => some (.b, t)
  | .pfb t => some (.c, t)
  | .co _ => none
  | .pw t _ => some (.a, t)
  | .pfl t => some (.b, t)
  | .pcl t => some (.c, t)

/-- the wake obligations of the half an operation worked on, after the operation -/
def owedAfterOp (s' : State) : Op → Slots
  | .pr .. | .pru .. | .pfb .. | .co .. => s'.ar.owed
  | _ => s'.aw.owed

def parkedAfterOp (s' : State) : Op → Option (List Nat)
  | .pr .. | .pru .. | .pfb .. | .co .. => s'.ar.r.parked
  | _ => s'.aw.w.parked

theorem step_pending_owed (s : State) (op : Op) (e : Entry) (t : Nat) (he : op.entry = some (e, t))
    (hp : (step s op).2 = .pending) : (owedAfterOp (step s op).1 op).get e = some t := by
  cases op <;> simp only [Op.entry, Option.some.injEq, Prod.mk.injEq, reduceCtorEq] at he <;>
    obtain ⟨rfl, rfl⟩ := he <;>
    simp only [PollAdapter.step, ARead.call, AWrite.call, owedAfterOp] at hp ⊢ <;>
    simp [owedAfter, hp]

theorem WakeOK.snap {s : State} (h : WakeOK s) (op : Op) (e : Entry) (t : Nat)
    (ho : (owedAfterOp s op).get e = some t) : ∃ snap, parkedAfterOp s op = some snap ∧ t ∈ snap := by
  cases op <;> first | exact h.1.snap e t ho | exact h.2.snap e t ho

theorem step_pending_registered {s : State} (h : WakeOK s) (op : Op) (e : Entry) (t : Nat)
    (he : op.entry = some (e, t)) (hp : (step s op).2 = .pending) :
    ∃ snap, parkedAfterOp (step s op).1 op = some snap ∧ t ∈ snap :=
  (h.step op).1.snap op e t (step_pending_owed s op e t he hp)


theorem WSafe.clearObs {a : AWrite} (h : WSafe a) : WSafe { a with w := a.w.clearObs } :=
  have hk := WOK.clearObs a
  ⟨hk.inv h.inv, hk.clean rfl h.inv h.clean, hk.fut h.inv h.fut,
    fun hs => ⟨(h.shut hs).1, (h.shut hs).2.of_eq ⟨rfl, rfl, rfl, rfl, rfl⟩⟩, h.excl⟩

/-- `o` is a panic of `poll_write` / `poll_flush` / `poll_close`, the ones `WSafe` rules out; a panic of a read-half
operation is not one -/
def writePanic : Op → Out → Prop
  | .pw .., .panic => True
  | .pfl .., .panic => True
  | .pcl .., .panic => True
  | _, _ => False

theorem writePanic.eq {op : Op} {o : Out} (h : writePanic op o) : o = .panic := by
  cases op <;> cases o <;> simp_all [writePanic]

theorem WSafe.step {s : State} (h : WSafe s.aw) (op : Op) (hg : Guard s op) :
    ¬ writePanic op (step s op).2 ∧ WSafe (step s op).1.aw := by
  have h0 := h.clearObs
  -- the bookkeeping of `AWrite.call` touches nothing `WSafe` speaks of
  have key : ∀ {e t} {g : AWrite → AWrite × Out}, (g { s.aw with w := s.aw.w.clearObs }).2 ≠ .panic ∧
      WSafe (g { s.aw with w := s.aw.w.clearObs }).1 → (s.aw.call e t g).2 ≠ .panic ∧ WSafe (s.aw.call e t g).1 :=
    fun h => ⟨h.1, h.2.inv, h.2.clean, h.2.fut, h.2.shut, h.2.excl⟩
  cases op with
  | pw t bs =>
    have := key (e := .a) (t := t) (g := fun a => a.pollWrite t bs) (pollWrite_safe t bs h0 hg.not_flushing)
    exact ⟨fun hp => this.1 hp.eq, this.2⟩
  | pfl t =>
    have := pollFlush_safe t h0
    have := key (e := .b) (t := t) (g := fun a => a.pollFlush t) ⟨this.1, this.2.1⟩
    exact ⟨fun hp => this.1 hp.eq, this.2⟩
  | pcl t =>
    have := pollClose_safe t h0
    have := key (e := .c) (t := t) (g := fun a => a.pollClose t) ⟨this.1, this.2.1⟩
    exact ⟨fun hp => this.1 hp.eq, this.2⟩
  | _ => exact ⟨id, h⟩

/-- each operation of a run paired with its output: none is a `writePanic` (the shorter list ends the pairing) -/
def NoWritePanic : List Op → List Out → Prop
  | op :: ops, o :: os => ¬ writePanic op o ∧ NoWritePanic ops os
  | _, _ => True

theorem WSafe.run : ∀ (ops : List Op) {s : State}, WSafe s.aw → GuardedRun s ops →
    NoWritePanic ops (run s ops).2 ∧ WSafe (run s ops).1.aw
  | [], s, h, _ => by simpa [PollAdapter.run, NoWritePanic] using h
  | op :: ops, s, h, hg => by
    simp only [PollAdapter.run, NoWritePanic]
    have h1 := h.step op hg.1
    have h2 := WSafe.run ops h1.2 hg.2
    exact ⟨⟨h1.1, h2.1⟩, h2.2⟩


/-- `P` holds of each operation of a run paired with its output (the shorter list ends the pairing) -/
def AllOuts (P : Op → Out → Prop) : List Op → List Out → Prop
  | op :: ops, o :: os => P op o ∧ AllOuts P ops os
  | _, _ => True

def isReadOp : Op → Bool
  | .pr .. | .pru .. | .pfb .. | .co .. => true
  | _ => false

/-- invariant of the read half as long as none of its calls panicked -/
def ReadOK (C : Bytes) (s : State) : Prop := ARInv C s.ar ∧ NoLossR s.ar

theorem ReadOK.step {C s} (h : ReadOK C s) (op : Op) :
    (isReadOp op = true → (step s op).2 ≠ .hang) ∧
    ((isReadOp op = true → (step s op).2 ≠ .panic) → ReadOK C (step s op).1) := by
  have hinv := (step_ok s op).1.ar.inv h.1
  cases op with
  | pr t n =>
    have := ARead.call_term (SyncCallT.read C n) s.ar .a t h.1 h.2
    exact ⟨fun _ => this.1, fun hp => ⟨hinv, this.2 (hp rfl)⟩⟩
  | pru t n =>
    have := ARead.call_term (SyncCallT.read C n) s.ar .b t h.1 h.2
    exact ⟨fun _ => this.1, fun hp => ⟨hinv, this.2 (hp rfl)⟩⟩
  | pfb t =>
    have := ARead.call_term (SyncCallT.fillBuf C) s.ar .c t h.1 h.2
    exact ⟨fun _ => this.1, fun hp => ⟨hinv, this.2 (hp rfl)⟩⟩
  | co n =>
    refine ⟨fun _ => ?_, fun hp => ⟨hinv, ?_⟩⟩
    · show Out.ofBytes (s.ar.r.clearObs.consume n).2 ≠ .hang
      cases (s.ar.r.clearObs.consume n).2 <;> simp [Out.ofBytes]
    · have hp' : Out.ofBytes (s.ar.r.clearObs.consume n).2 ≠ .panic := hp rfl
      show (s.ar.r.clearObs.consume n).1.buf.lent = s.ar.fut
      rw [RSide.consume_keeps_lent _ _ (fun hc => hp' (by rw [hc]; rfl))]
      exact h.2
  | _ => exact ⟨by simp [isReadOp], fun _ => ⟨hinv, h.2⟩⟩

theorem ReadOK.run {C} : ∀ (ops : List Op) {s : State}, ReadOK C s →
    AllOuts (fun op o => isReadOp op = true → o ≠ .panic) ops (run s ops).2 →
    AllOuts (fun op o => isReadOp op = true → o ≠ .hang) ops (run s ops).2
  | [], s, _, _ => by simp [AllOuts]
  | op :: ops, s, h, hp => by
    simp only [PollAdapter.run, AllOuts] at hp ⊢
    have h1 := h.step op
    exact ⟨h1.1, ReadOK.run ops (h1.2 hp.1) hp.2⟩

theorem WBase.step {s : State} (h : WBase s.aw) (op : Op) : WBase (step s op).1.aw := (step_ok s op).1.aw.wbase h

theorem write_step_term {s : State} (h : WBase s.aw) (hm : 0 < s.aw.w.max) (op : Op) (hr : isReadOp op = false) :
    (step s op).2 ≠ .hang := by
  cases op with
  | pw t bs => exact pollWrite_term t bs ((WOK.clearObs s.aw).wbase h) hm
  | pfl t => exact (pollFlush_exit { s.aw with w := s.aw.w.clearObs } t).1
  | pcl t => exact (pollClose_exit { s.aw with w := s.aw.w.clearObs } t).1
  | _ => cases hr

theorem write_run_term : ∀ (ops : List Op) {s : State}, WBase s.aw → 0 < s.aw.w.max →
    AllOuts (fun op o => isReadOp op = false → o ≠ .hang) ops (run s ops).2
  | [], s, _, _ => by simp [AllOuts]
  | op :: ops, s, h, hm => by
    simp only [PollAdapter.run, AllOuts]
    refine ⟨write_step_term h hm op, write_run_term ops (h.step op) ?_⟩
    rw [(step_ok s op).1.aw.max]; exact hm

end Compio.PollAdapter
