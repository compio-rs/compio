/-
Progress of the actor task of Model/Actor.lean: what `recv` does next; every edge the task takes lowers a measure
(`TaskStep.descends`), and at every program point the task's own next actions are such an edge, after what the handler
body does on the way (`batch_runs`); hence the deterministic continuation (`settle`, the scheduler the driver uses)
ends blocked and does not depend on its fuel (`settle_limit`), and handles everything queued when nothing stops it
(`settle_drains`).
-/
import Compio.Lemmas.Actor

namespace Compio.Actor

theorem recv_takes_head (s : St) (it : Item) (q : List Item)
    (h1 : s.pc = .atRecv) (h2 : s.stopSlot = false) (h3 : s.queue = it :: q) :
    ∃ s', run s [.pollStop, .pollMsg] = some s' ∧ s'.pc = .handling it false ∧ s'.queue = q ∧
      s'.handled = s.handled ++ [it.id] ∧ s'.log = s.log ++ [.hs it.id] ∧ s'.stopSlot = false ∧
      s'.accepted = s.accepted ∧ s'.cap = s.cap ∧ s'.resolved = s.resolved := by
  simp [run, step, h1, h2, h3, St.obs]

/-- `select_biased!`: a pending stop request wins over queued messages, which stay queued -/
theorem recv_prefers_stop (s : St) (h1 : s.pc = .atRecv) (h2 : s.stopSlot = true) :
    ∃ s', step s .pollStop = some s' ∧ s'.pc = .finBegin .stopped ∧ s'.queue = s.queue ∧
      s'.handled = s.handled := by
  simp [step, h1, h2]

/-- position of the program point on the way to blocking; every `nextEvents` batch lowers `measure` (`batch_runs`).
Along a path without receive loop the numbers just count down (start failure 3..0; `finish` 6..0; start 12..10).
The receive loop `atRecv → polledStop → handling → atRecv` takes one message per turn, which lowers `measure` by 3;
the ranks only have to make each of its three batches a descent: with `n` queued, `atRecv` 3n+8 > `polledStop` 3n+7 >
`handling` 3(n-1)+9 > `atRecv` 3(n-1)+8. With an empty queue `pollMsg` goes back from `polledStop` to `atRecv` without
taking anything, so there `polledStop` must lie above `atRecv`: 9. -/
def rank (s : St) : Nat :=
  match s.pc with
  | .exited _ | .startFailed => 0
  | .failReturn => 1
  | .failReport => 2
  | .failRelease => 3
  | .finNotify _ => 1
  | .finRelease _ => 2
  | .finPostStop _ => 3
  | .finDropRx _ => 4
  | .finPreStop _ => 5
  | .finBegin _ => 6
  | .polledStop => if s.queue.isEmpty then 9 else 7
  | .atRecv => 8
  | .handling _ _ => 9
  | .postStart => 10
  | .preStarted => 11
  | .init => 12

/-- 3 per queued message (the three batches of one turn of the receive loop) + `rank`; bounded by the model's
`settleFuel` (`measure_le_fuel`) -/
def measure (s : St) : Nat := 3 * s.queue.length + rank s

/-- every edge of the task lowers `measure`, except the reply (same program point) and the poll of an empty stop
channel with nothing queued, which the task does not take: it is blocked there (`nextEvents`) -/
theorem TaskStep.descends {s : St} {e : Ev} {s' : St} (h : TaskStep s e s')
    (hr : ∀ v, e ≠ .reply v) (hp : e = .pollStop → s.stopSlot = true ∨ s.queue ≠ []) : measure s' < measure s := by
  cases h with
  | reply _ v => exact absurd rfl (hr v)
  | pollStopEmpty _ hs =>
    have := (hp rfl).resolve_left (by simp [hs])
    simp [measure, rank, *]
  | pollMsgTaken => simp [measure, rank, *]; omega
  | _ => simp [measure, rank, *]

/-- an edge as a batch of `nextEvents`; `p`: the batch is not empty -/
theorem TaskStep.batch {s : St} {e : Ev} {s' : St} {p : Prop} (h : TaskStep s e s')
    (hr : ∀ v, e ≠ .reply v := by nofun) (hp : e = .pollStop → s.stopSlot = true ∨ s.queue ≠ [] := by nofun) :
    ∃ s', run s [e] = some s' ∧ (p → measure s' < measure s) :=
  ⟨s', by rw [run, h.complete]; rfl, fun _ => h.descends hr hp⟩

theorem batch_runs (sc : Script) (s : St) (hr : InvR s) :
    ∃ s', run s (nextEvents sc s) = some s' ∧ (nextEvents sc s ≠ [] → measure s' < measure s) := by
  unfold nextEvents
  cases hpc : s.pc with
  | init =>
    cases sc.preStart with
    | false => exact (TaskStep.preStartErr hpc).batch
    | true => exact (TaskStep.preStartOk hpc).batch
  | failRelease => exact (TaskStep.releaseFailed hpc).batch
  | failReport => exact (TaskStep.reportFailure hpc).batch
  | failReturn => exact (TaskStep.returnFailed hpc).batch
  | preStarted =>
    cases h : s.futureAlive with
    | false => exact (TaskStep.signalDetached hpc h).batch
    | true => exact (TaskStep.signalStarted hpc h).batch
  | postStart =>
    cases sc.postStart with
    | false => exact (TaskStep.postStartErr hpc).batch
    | true => exact (TaskStep.postStartOk hpc).batch
  | atRecv =>
    cases h1 : s.stopSlot with
    | true => exact (TaskStep.pollStopTaken hpc h1).batch nofun fun _ => .inl h1
    | false =>
      cases h2 : s.queue with
      | nil => exact ⟨s, rfl, (absurd rfl ·)⟩
      | cons => exact (TaskStep.pollStopEmpty hpc h1).batch nofun fun _ => .inr (by simp [h2])
  | polledStop =>
    cases hq : s.queue with
    | nil => exact (TaskStep.pollMsgEmpty hpc hq).batch
    | cons => exact (TaskStep.pollMsgTaken _ _ hpc hq).batch
  | handling it replied =>
    -- the handler body: `stop()` on itself and the reply leave queue and program point (`replied` apart) alone
    have hc := hr.chanAlive (by rw [hpc]; rfl)
    simp only [run_append]
    obtain ⟨s1, h1, p1, q1⟩ : ∃ s1, run s (if sc.stopsSelf it then
        (if s.stopping then [.stopSwap] else [.stopSwap, .stopPush]) else []) = some s1 ∧
        s1.pc = s.pc ∧ s1.queue = s.queue := by
      cases sc.stopsSelf it <;> cases hst : s.stopping <;> simp [run, step, hc, hst]
    obtain ⟨s2, h2, r, p2, q2⟩ : ∃ s2, run s1 (if it.call && sc.replies it && !replied then
        [.reply s.handled.length] else []) = some s2 ∧ ∃ r, s2.pc = .handling it r ∧ s2.queue = s.queue := by
      cases hcall : it.call <;> cases sc.replies it <;> cases replied <;> simp_all [run, step]
    rw [h1, Option.bind_some, h2, Option.bind_some,
      show measure s = measure s2 by simp [measure, rank, hpc, p2, q2]]
    cases sc.handlerOk it with
    | false => exact (TaskStep.handlerErr it r p2).batch
    | true => exact (TaskStep.handlerOk it r p2).batch
  | finBegin e => exact (TaskStep.beginStop e hpc).batch
  | finPreStop e => exact (TaskStep.preStop e _ hpc).batch
  | finDropRx e => exact (TaskStep.dropRx e hpc).batch
  | finPostStop e => exact (TaskStep.postStop e _ hpc).batch
  | finRelease e =>
    cases h : s.detached with
    | false => exact (TaskStep.release e hpc h).batch
    | true => exact (TaskStep.releaseDetached e hpc h).batch
  | finNotify e => exact (TaskStep.notifyExit e hpc).batch
  | startFailed | exited => exact ⟨s, rfl, (absurd rfl ·)⟩

theorem nextEvents_enabled (sc : Script) (s : St) (hr : InvR s) :
    (run s (nextEvents sc s)).isSome = true := by
  obtain ⟨s', h, _⟩ := batch_runs sc s hr
  simp [h]

theorem measure_le_fuel (s : St) : measure s ≤ settleFuel s := by
  unfold measure settleFuel rank
  split <;> (try split) <;> omega

theorem settle_of_blocked (sc : Script) (n : Nat) (s : St) (h : nextEvents sc s = []) : settle sc n s = s := by
  cases n <;> simp [settle, h]

theorem settle_succ (sc : Script) (n : Nat) (s s' : St) (hne : nextEvents sc s ≠ [])
    (h : run s (nextEvents sc s) = some s') : settle sc (n + 1) s = settle sc n s' := by
  simp only [settle]
  split <;> simp_all

theorem settle_limit (sc : Script) (n : Nat) (s : St) (hr : InvR s) (hm : measure s ≤ n) :
    ∃ t, nextEvents sc t = [] ∧ ∀ k, settle sc (n + k) s = t := by
  obtain ⟨s', hrun, hdec⟩ := batch_runs sc s hr
  by_cases hne : nextEvents sc s = []
  · exact ⟨s, hne, fun k => settle_of_blocked sc _ s hne⟩
  · have hlt := hdec hne
    match n with
    | 0 => omega
    | n + 1 =>
      have hr' := run_induct hr (fun _ _ _ hi h => invR_step hi (step_sound h)) hrun
      obtain ⟨t, ht, hk⟩ := settle_limit sc n s' hr' (by omega)
      exact ⟨t, ht, fun k => by rw [Nat.add_right_comm, settle_succ sc _ s s' hne hrun]; exact hk k⟩

/-- one message: three rounds of the scheduler (`pollStop`; `pollMsg`; the handler body) -/
theorem settle_one (sc : Script) (s : St) (it : Item) (q : List Item) (k : Nat)
    (h1 : s.pc = .atRecv) (h2 : s.stopSlot = false) (h3 : s.queue = it :: q)
    (hok : sc.handlerOk it = true) (hns : sc.stopsSelf it = false) :
    ∃ s3, settle sc (k + 3) s = settle sc k s3 ∧ s3.pc = .atRecv ∧ s3.stopSlot = false ∧ s3.queue = q ∧
      s3.handled = s.handled ++ [it.id] := by
  by_cases hc : it.call = true <;> by_cases hrp : sc.replies it = true <;>
    simp [settle, nextEvents, run, step, h1, h2, h3, hok, hns, hc, hrp, St.obs] <;>
    refine ⟨_, rfl, ?_⟩ <;> simp

theorem settle_drains (sc : Script) :
    ∀ (q : List Item) (s : St) (n : Nat), s.pc = .atRecv → s.stopSlot = false → s.queue = q →
      (∀ it ∈ q, sc.handlerOk it = true ∧ sc.stopsSelf it = false) →
      (settle sc (3 * q.length + n) s).pc = .atRecv ∧
      (settle sc (3 * q.length + n) s).queue = [] ∧
      (settle sc (3 * q.length + n) s).handled = s.handled ++ q.map (·.id) := by
  intro q
  induction q with
  | nil =>
    intro s n h1 h2 h3 _
    cases n with
    | zero => simp [settle, h1, h3]
    | succ n => simp [settle, nextEvents, h1, h2, h3]
  | cons it q ih =>
    intro s n h1 h2 h3 hall
    have hit := hall it (by simp)
    obtain ⟨s3, he, p1, p2, p3, p4⟩ := settle_one sc s it q (3 * q.length + n) h1 h2 h3 hit.1 hit.2
    have hfuel : 3 * (it :: q).length + n = (3 * q.length + n) + 3 := by simp; omega
    rw [hfuel, he]
    have := ih s3 n p1 p2 p3 (fun x hx => hall x (by simp [hx]))
    simp [this, p4]

end Compio.Actor
