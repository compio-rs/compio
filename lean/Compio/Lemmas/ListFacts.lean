/-
List facts that several models need and core does not state: appending one element, and a map without duplicates.
-/
namespace Compio

theorem nodup_snoc {α : Type} {l : List α} {a : α} (h : l.Nodup) (ha : a ∉ l) : (l ++ [a]).Nodup :=
  List.nodup_append.mpr ⟨h, by simp, fun x hx y hy hxy => ha (List.mem_singleton.mp hy ▸ hxy ▸ hx)⟩

theorem filterMap_snoc {α β : Type} (f : α → Option β) (l : List α) (a : α) :
    (l ++ [a]).filterMap f = l.filterMap f ++ (f a).toList := by
  rw [List.filterMap_append]; cases h : f a <;> simp [h]

theorem inj_of_nodup_map {α β : Type} (f : α → β) (l : List α) (h : (l.map f).Nodup) :
    ∀ x ∈ l, ∀ y ∈ l, f x = f y → x = y := by
  have hp : l.Pairwise (fun a b => f a ≠ f b) := List.pairwise_map.mp h
  exact fun x hx y hy => List.Pairwise.forall_of_forall_of_flip (R := fun a b => f a = f b → a = b)
    (fun _ _ _ => rfl) (hp.imp fun h e => absurd e h) (hp.imp fun h e => absurd e.symm h) hx hy

end Compio
