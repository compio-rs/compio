/- The framers and the read loop of Model/Frame.lean. `LengthDelimited`: the length field decodes to what was encoded
(`decode_encodeLen`), so `extract` on a buffer that starts with an encoded field is decided by the buffer's length
alone (`LD.extract_of_field`); every answer is `none`, `err` or a frame inside the buffer (`LD.extract_cases`).
Delimiters: `findSub` finds an occurrence inside the buffer (`findSub_bound`) and keeps it when bytes are appended
(`findSub_append_right`). `pollNext_*`: one unfolding lemma per branch of `poll_next`. -/
import Compio.Model.Frame

namespace Compio.Frame

@[simp] theorem length_leBytes (k n : Nat) : (leBytes k n).length = k := by
  induction k generalizing n with
  | zero => rfl
  | succ k ih => simp [leBytes, ih]

theorem leVal_leBytes (k n : Nat) : leVal (leBytes k n) = n % 256 ^ k := by
  induction k generalizing n with
  | zero => simp [leBytes, leVal, Nat.mod_one]
  | succ k ih =>
    simp only [leBytes, leVal, ih]
    have h : (UInt8.ofNat (n % 256)).toNat = n % 256 := by
      simp [UInt8.toNat_ofNat']
    rw [h, Nat.pow_succ, Nat.mul_comm (256 ^ k) 256, Nat.mod_mul]

@[simp] theorem length_encodeLen (lfl : Nat) (be : Bool) (n : Nat) : (encodeLen lfl be n).length = lfl := by
  unfold encodeLen; split <;> simp

theorem decode_encodeLen (lfl : Nat) (be : Bool) (n : Nat) :
    decodeLen be (encodeLen lfl be n) = n % 256 ^ lfl := by
  unfold decodeLen encodeLen
  cases be <;> simp [leVal_leBytes]

theorem LD.length_enclose (f : LD) (p : Bytes) : (f.enclose p).length = f.lfl + p.length := by
  simp [LD.enclose]

theorem LD.extract_of_field (f : LD) (b : Bytes) (n : Nat) (hb : f.lfl ≤ b.length)
    (hfield : b.take f.lfl = encodeLen f.lfl f.be n)
    (hfit : n < 256 ^ f.lfl) (hsz : f.lfl + n < usizeLimit) :
    f.extract b = if b.length < f.lfl + n then .none else .frame f.lfl n 0 := by
  unfold LD.extract
  simp only [hfield, decode_encodeLen, Nat.mod_eq_of_lt hfit]
  rw [if_neg (by omega), if_neg (by omega)]

theorem LD.extract_cases (f : LD) (b : Bytes) :
    f.extract b = .none ∨ f.extract b = .err ∨ ∃ n, f.extract b = .frame f.lfl n 0 ∧ f.lfl + n ≤ b.length := by
  simp only [LD.extract]
  by_cases h1 : b.length < f.lfl
  · exact .inl (if_pos h1)
  · rw [if_neg h1]
    by_cases h2 : usizeLimit ≤ f.lfl + decodeLen f.be (b.take f.lfl)
    · exact .inr (.inl (if_pos h2))
    · rw [if_neg h2]
      by_cases h3 : b.length < f.lfl + decodeLen f.be (b.take f.lfl)
      · exact .inl (if_pos h3)
      · exact .inr (.inr ⟨_, if_neg h3, Nat.le_of_not_lt h3⟩)

theorem findSub_bound (d : Bytes) : ∀ (b : Bytes) (pos : Nat), findSub d b = some pos → pos + d.length ≤ b.length := by
  intro b
  induction b with
  | nil => intro pos h; cases h
  | cons x r ih =>
    intro pos h
    unfold findSub at h
    split at h
    · rename_i hp
      cases h
      simpa using (List.isPrefixOf_iff_prefix.mp hp).length_le
    · obtain ⟨q, hq, rfl⟩ := Option.map_eq_some_iff.mp h
      have := ih q hq
      simp only [List.length_cons]
      omega

theorem findSub_none_of_short (d : Bytes) : ∀ b : Bytes, b.length < d.length → findSub d b = none := by
  intro b h
  cases hf : findSub d b with
  | none => rfl
  | some q => have := findSub_bound d b q hf; omega

theorem isPrefixOf_append (d b t : Bytes) (h : d.length ≤ b.length) :
    d.isPrefixOf (b ++ t) = d.isPrefixOf b := by
  rw [Bool.eq_iff_iff, List.isPrefixOf_iff_prefix, List.isPrefixOf_iff_prefix]
  exact ⟨fun hp => List.prefix_of_prefix_length_le hp (List.prefix_append b t) h,
    fun hp => hp.trans (List.prefix_append b t)⟩

theorem findSub_append_right (d : Bytes) : ∀ (b t : Bytes) (q : Nat),
    findSub d b = some q → findSub d (b ++ t) = some q := by
  intro b
  induction b with
  | nil => intro t q h; cases h
  | cons x r ih =>
    intro t q h
    have hb := findSub_bound d (x :: r) q h
    rw [List.cons_append, findSub, ← List.cons_append, isPrefixOf_append d (x :: r) t (by omega)]
    unfold findSub at h
    split at h
    · rw [if_pos ‹_›]; exact h
    · obtain ⟨q', hq', rfl⟩ := Option.map_eq_some_iff.mp h
      rw [if_neg ‹_›, ih t q' hq']
      rfl

theorem findSub_of_disjoint (d p : Bytes) (hd : d ≠ []) (h : ∀ x ∈ p, x ∉ d) :
    findSub d (p ++ d) = some p.length := by
  obtain ⟨y, ys, rfl⟩ := List.exists_cons_of_ne_nil hd
  induction p with
  | nil => simp [findSub]
  | cons x r ih =>
    have hnp : ¬ (List.isPrefixOf (y :: ys) (x :: (r ++ y :: ys)) = true) := by
      intro hp
      obtain ⟨t, ht⟩ := List.isPrefixOf_iff_prefix.mp hp
      exact h x (by simp) (by simp [← (List.cons.inj ht).1])
    simp only [List.cons_append, findSub, hnp]
    rw [ih (fun y hy => h y (by simp [hy]))]
    rfl

theorem anyExtract_eq (d b : Bytes) (hd : d ≠ []) :
    anyExtract d b = match findSub d b with
      | some pos => .frame 0 pos d.length
      | none => .none := by
  unfold anyExtract
  cases b with
  | nil => rfl
  | cons x r => rw [if_neg (by simp), if_neg (by simpa using hd)]; rfl

theorem pollNext_panic (ext : Bytes → Extract) (st : RState) (frags : List Frag)
    (h : ext st.buf = .panic) : pollNext ext st frags = (.panic, st, frags) := by
  unfold pollNext; simp [h]

theorem pollNext_err (ext : Bytes → Extract) (st : RState) (frags : List Frag)
    (h : ext st.buf = .err) : pollNext ext st frags = (.err, st, frags) := by
  unfold pollNext; simp [h]

theorem pollNext_frame (ext : Bytes → Extract) (st : RState) (frags : List Frag) (p l s : Nat)
    (h : ext st.buf = .frame p l s) (hr : p + l + s ≤ st.buf.length) :
    pollNext ext st frags =
      (.item ((st.buf.drop p).take l), { st with buf := st.buf.drop (p + l + s) }, frags) := by
  have : ¬ (st.buf.length < p + l + s) := by omega
  unfold pollNext; simp [h, this]

theorem pollNext_frame_bad (ext : Bytes → Extract) (st : RState) (frags : List Frag) (p l s : Nat)
    (h : ext st.buf = .frame p l s) (hr : st.buf.length < p + l + s) :
    pollNext ext st frags = (.panic, st, frags) := by
  unfold pollNext; simp [h, hr]

theorem pollNext_none_nil (ext : Bytes → Extract) (st : RState)
    (h : ext st.buf = .none) : pollNext ext st [] = (.done, { st with eof := true }, []) := by
  unfold pollNext; simp [h]

theorem pollNext_none_ioerr (ext : Bytes → Extract) (st : RState) (rest : List Frag)
    (h : ext st.buf = .none) : pollNext ext st (.ioerr :: rest) = (.err, st, rest) := by
  unfold pollNext; simp [h]

theorem pollNext_none_data (ext : Bytes → Extract) (st : RState) (bs : Bytes) (rest : List Frag)
    (h : ext st.buf = .none) (hne : bs ≠ []) :
    pollNext ext st (.data bs :: rest) = pollNext ext { st with buf := st.buf ++ bs } rest := by
  have : bs.isEmpty = false := by cases bs <;> simp_all
  conv => lhs; unfold pollNext
  simp [h, this]

theorem pollNext_none_zero (ext : Bytes → Extract) (st : RState) (rest : List Frag)
    (h : ext st.buf = .none) :
    pollNext ext st (.data [] :: rest) =
      if st.eof then (.done, st, rest) else pollNext ext { st with eof := true } rest := by
  conv => lhs; unfold pollNext
  simp [h]

end Compio.Frame
