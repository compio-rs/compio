/-
Invariant of the registry transition system of Model/Registry.lean: the map is exactly the image of the
live registration tokens, and live tokens have pairwise different names and owners.
-/
import Compio.Model.Registry
import Compio.Lemmas.Lts
import Compio.Lemmas.ListFacts

namespace Compio.Registry

/-- the map entry a live token stands for -/
def entryOf (t : Token) : Name × Option Nat := (t.name, if t.active then some t.owner else none)

structure Inv (s : RSt) : Prop where
  image : s.map = s.live.map entryOf
  names : (s.live.map (·.name)).Nodup
  owners : (s.live.map (·.owner)).Nodup
  sane : s.panicked = false

theorem inv_init : Inv {} := by
  constructor <;> simp

theorem has_image (live : List Token) (n : Name) :
    Map.has (live.map entryOf) n = live.any (fun t => t.name == n) := by
  simp [Map.has, entryOf, List.any_map, Function.comp_def]

theorem tokenOf_mem (s : RSt) (a : Nat) (t : Token) (h : s.tokenOf a = some t) : t ∈ s.live ∧ t.owner = a := by
  unfold RSt.tokenOf at h
  have := List.find?_some h
  exact ⟨List.mem_of_find?_eq_some h, by simpa using this⟩

theorem tokenOf_none (s : RSt) (a : Nat) (h : s.tokenOf a = none) : a ∉ s.live.map (·.owner) := by
  unfold RSt.tokenOf at h
  simp only [List.find?_eq_none] at h
  intro hm
  simp only [List.mem_map] at hm
  obtain ⟨t, ht, hta⟩ := hm
  have := h t ht
  simp [hta] at this

theorem same_name_iff (s : RSt) (hi : Inv s) (t : Token) (ht : t ∈ s.live) (u : Token) (hu : u ∈ s.live) :
    (u.name == t.name) = (u.owner == t.owner) := by
  by_cases h1 : u.name = t.name
  · have := inj_of_nodup_map (·.name) s.live hi.names u hu t ht h1
    subst this; simp
  · by_cases h2 : u.owner = t.owner
    · have := inj_of_nodup_map (·.owner) s.live hi.owners u hu t ht h2
      subst this; exact absurd rfl h1
    · have e1 : (u.name == t.name) = false := beq_eq_false_iff_ne.mpr h1
      have e2 : (u.owner == t.owner) = false := beq_eq_false_iff_ne.mpr h2
      rw [e1, e2]

theorem inv_step (s : RSt) (e : REv) (s' : RSt) (hi : Inv s) (h : s.step e = some s') : Inv s' := by
  cases e with
  | reserve a n =>
    simp only [RSt.step] at h
    cases ht : s.tokenOf a with
    | some t => simp [ht] at h
    | none =>
      simp only [ht] at h
      have hown := tokenOf_none s a ht
      cases hr : reserve s.map n with
      | none => simp [hr] at h; subst h; exact hi
      | some m =>
        simp only [hr] at h
        cases h
        unfold reserve at hr
        split at hr
        · cases hr
        · rename_i hhas
          cases hr
          have hn : n ∉ s.live.map (·.name) := by
            rw [hi.image, has_image] at hhas
            simp only [Bool.not_eq_true, List.any_eq_false, beq_iff_eq] at hhas
            intro hm
            simp only [List.mem_map] at hm
            obtain ⟨t, ht, htn⟩ := hm
            exact hhas t ht htn
          constructor
          · simp [hi.image, entryOf]
          · simpa using nodup_snoc hi.names hn
          · simpa using nodup_snoc hi.owners hown
          · exact hi.sane
  | activate a =>
    simp only [RSt.step] at h
    cases ht : s.tokenOf a with
    | none => simp [ht] at h
    | some t =>
      simp only [ht] at h
      obtain ⟨htm, hta⟩ := tokenOf_mem s a t ht
      have hhas : Map.has s.map t.name = true := by
        rw [hi.image, has_image]
        simp only [List.any_eq_true, beq_iff_eq]
        exact ⟨t, htm, rfl⟩
      unfold activate at h
      simp only [hhas, if_true] at h
      cases h
      constructor
      · simp only [hi.image, List.map_map]
        apply List.map_congr_left
        intro u hu
        have := same_name_iff s hi t htm u hu
        simp only [Function.comp, entryOf]
        rw [hta] at this
        by_cases hc : u.owner = a
        · have hn : (u.name == t.name) = true := by rw [this]; simpa using hc
          simp [hn, hc]
        · have hn : (u.name == t.name) = false := by rw [this]; simpa using hc
          simp [hn, hc]
      -- activation changes neither names nor owners
      · rw [List.map_map, List.map_congr_left (g := (·.name)) fun u _ => by simp only [Function.comp]; split <;> rfl]
        exact hi.names
      · rw [List.map_map, List.map_congr_left (g := (·.owner)) fun u _ => by simp only [Function.comp]; split <;> rfl]
        exact hi.owners
      · exact hi.sane
  | drop a =>
    simp only [RSt.step] at h
    cases ht : s.tokenOf a with
    | none => simp [ht] at h
    | some t =>
      simp only [ht] at h
      cases h
      obtain ⟨htm, hta⟩ := tokenOf_mem s a t ht
      constructor
      · simp only [release, hi.image, List.filter_map]
        congr 1
        apply List.filter_congr
        intro u hu
        have := same_name_iff s hi t htm u hu
        simp only [Function.comp, entryOf]
        rw [this, hta]
      · exact List.Nodup.sublist (List.Sublist.map _ List.filter_sublist) hi.names
      · exact List.Nodup.sublist (List.Sublist.map _ List.filter_sublist) hi.owners
      · exact hi.sane

theorem isRun : IsRun RSt.step RSt.run :=
  ⟨fun _ => rfl, fun s e es => by rw [RSt.run]; cases s.step e <;> rfl⟩

theorem inv_run (s s' : RSt) (es : List REv) (hi : Inv s) (h : s.run es = some s') : Inv s' :=
  isRun.invariant (fun s e s1 hi hs => inv_step s e s1 hi hs) hi h

theorem get_image (live : List Token) (hn : (live.map (·.name)).Nodup) (n : Name) (a : Nat) :
    get (live.map entryOf) n = some a ↔ ∃ t ∈ live, t.name = n ∧ t.owner = a ∧ t.active = true := by
  induction live with
  | nil => simp [get]
  | cons t l ih =>
    simp only [List.map_cons, List.nodup_cons, List.mem_map, not_exists, not_and] at hn
    by_cases hname : t.name = n
    · have hfind : get (entryOf t :: l.map entryOf) n = (entryOf t).2 := by
        simp [get, entryOf, hname]
      rw [List.map_cons, hfind]
      constructor
      · intro h
        refine ⟨t, by simp, hname, ?_⟩
        simp only [entryOf] at h
        split at h <;> simp_all
      · rintro ⟨u, hu, hun, huo, hua⟩
        simp only [List.mem_cons] at hu
        rcases hu with rfl | hu
        · simp [entryOf, hua, huo]
        · exact absurd (hname.trans hun.symm) (fun h => hn.1 u hu h.symm)
    · have hfind : get (entryOf t :: l.map entryOf) n = get (l.map entryOf) n := by
        simp [get, entryOf, hname]
      rw [List.map_cons, hfind, ih hn.2]
      constructor
      · rintro ⟨u, hu, h⟩; exact ⟨u, by simp [hu], h⟩
      · rintro ⟨u, hu, hun, h⟩
        simp only [List.mem_cons] at hu
        rcases hu with rfl | hu
        · exact absurd hun hname
        · exact ⟨u, hu, hun, h⟩

end Compio.Registry
