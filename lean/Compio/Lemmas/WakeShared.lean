/-
The invariant `Inv` split by who may change what. `Shared s l pc c`: the clauses about what the threads share; of
the runtime thread they see only the program point `pc` (and the loop mode `l`), of the waker threads only the
NUMBER `c` in each class. `WkInv s l pc k`: the clauses about one waker record `k`. A step of a thread changes its
own parameter and the fields it writes: `Inv.of_rt` / `Inv.of_at` take the new `Shared` and `WkInv` facts, and a
clause whose fields are untouched and whose reading of the parameters evaluates as before needs no argument
(`{ hS with … }` lists the others).
-/
import Compio.Lemmas.WakeStep

namespace Compio.Wake
open Compio.TaskWord Compio.Gen

/-! Every test of the runtime thread's program counter goes through a function defined by cases, so that at a
literal program point a clause evaluates, and two program points at which it reads the same are interchangeable. -/

/-- what a program point of the runtime thread needs of the notifier's multishot poll: live where the thread may
block, at least queued one step earlier -/
def armOk : RtPc → Arm → Prop
  | .wait, a | .xwait, a | .xreset, a => a = .live
  | .submit, a | .xsubmit, a => a ≠ .needPush
  | _, _ => True

def isOwn : Loop → Bool
  | .own => true
  | .ext => false

def sleeps (l : Loop) : RtPc → Bool
  | .arm | .submit | .wait => isOwn l
  | _ => false

def xsleeps : RtPc → Bool
  | .xwait => true
  | _ => false

def reaping : RtPc → Bool
  | .consume | .clear => true
  | _ => false

def atClear : RtPc → Bool
  | .clear => true
  | _ => false

/-- the runtime thread is about to clear / has just set the polling crate's `notified` flag itself -/
def ownsPnot : RtPc → Bool
  | .pswap | .lwrite _ => true
  | _ => false

theorem sleeps_iff (l : Loop) (pc : RtPc) : phase l pc = .sleep ↔ sleeps l pc = true := by
  cases pc <;> cases l <;> simp [phase, sleeps, isOwn]
  all_goals first
    | (rename_i b; rcases backPhase_cases b with h | h <;> simp [h])
    | (rename_i r; rcases retPhase_cases r with h | h <;> simp [h])
    | (rename_i r d; rcases retPhase_cases r with h | h <;> simp [h])

theorem xsleeps_iff (l : Loop) (pc : RtPc) : phase l pc = .xsleep ↔ xsleeps pc = true := by
  cases pc <;> cases l <;> simp [phase, xsleeps]
  all_goals first
    | (rename_i b; rcases backPhase_cases b with h | h <;> simp [h])
    | (rename_i r; rcases retPhase_cases r with h | h <;> simp [h])
    | (rename_i r d; rcases retPhase_cases r with h | h <;> simp [h])

theorem sleeps_eq {l : Loop} {pc : RtPc} (h : sleeps l pc = true) : l = .own ∧ (pc = .arm ∨ pc = .submit ∨ pc = .wait) := by
  cases pc <;> cases l <;> simp [sleeps, isOwn] at h ⊢

theorem xsleeps_eq {pc : RtPc} (h : xsleeps pc = true) : pc = .xwait := by
  cases pc <;> first | rfl | cases h

/-- what the invariant says of ONE waker thread's record, given the shared state -/
structure WkInv (s : State) (l : Loop) (pc : RtPc) (k : Wk) : Prop where
  notPushed : prePush k.pc = true → k.pushed = false
  seqLe : ∀ t, k.kind = .task t → inCall k = true → k.seq0 ≤ s.pollSeq t
  unserved : ∀ t, k.kind = .task t → inCall k = true → k.seq0 = s.pollSeq t → TaskState.isScheduled (s.word t) = true
  mseqLe : k.kind = .main → inflightP k = true → k.seq0 ≤ s.mainSeq
  covMainW : k.kind = .main → inflightP k = true → k.seq0 = s.mainSeq → covOf s (mphase l pc) = true
  casPoll : k.pc = .cas → s.cfg.drv = .poll

/-- how many waker threads are in each of the classes the invariant counts -/
structure Cnts where
  resv : Nat
  holds : Nat → Nat
  about : Nat
  infl : Nat
  wr : Nat

/-- the shared clauses of `Inv`, at program point `pc` of the runtime thread and with `c` waker threads in each class -/
structure Shared (s : State) (l : Loop) (pc : RtPc) (c : Cnts) : Prop where
  flagLe : s.flag ≤ 3
  noUflow : s.uflow = false
  pend : s.pending = s.sync.length + c.resv + drained pc
  hotLive : ∀ t, t ∈ s.hot → s.dropped t = false
  hotNodup : s.hot.Nodup
  extOnly : extPc pc = true → l = .ext
  compl : ∀ t, TaskState.isCompleted (s.word t) = true → s.dropped t = true
  sched : ∀ t, TaskState.isScheduled (s.word t) = true → s.dropped t = false →
    TaskState.isCancelled (s.word t) = false → t ∈ s.sync ∨ t ∈ s.hot ∨ 0 < c.holds t
  wokenSched : ∀ t, s.woken t = true → TaskState.isScheduled (s.word t) = true
  covSync : s.sync ≠ [] → covOf s (phase l pc) = true ∨ 0 < c.about
  covMain : s.mainWoken = true → covOf s (mphase l pc) = true
  kq : s.cfg.drv = .iour → atClear pc = false → s.arm = .live → 0 < s.efd → s.cq = true
  cqLive : s.cq = true → s.arm = .live
  arm : s.cfg.drv = .iour → armOk pc s.arm
  sleepFlag : (sleeps l pc || xsleeps pc) = true → s.flag ≤ 1
  sig : sleeps l pc = true → nbit s.flag = true → 0 < c.infl ∨ 0 < s.efd
  xsig : xsleeps pc = true → nbit s.flag = true →
    0 < c.infl ∨ s.cfg.drv = .iour ∧ 0 < s.xfd ∨ s.cfg.drv = .poll ∧ 0 < s.efd
  pn : s.pnot = true → 0 < s.efd ∨ 0 < c.wr ∨ ownsPnot pc = true
  zeroHot : waitPcs pc = true → s.hot ≠ [] → s.zero = true
  iourPc : reaping pc = true → s.cfg.drv = .iour
  pnotPoll : s.pnot = true → s.cfg.drv = .poll
  lcasPoll : isLcas pc = true → s.cfg.drv = .poll
  nxtHead : ∀ n, nxtOf pc = some n → s.hot.head? = some n
  nxtNe : ∀ c, curOf pc = some c → nxtOf pc ≠ some c

def cnts (s : State) : Cnts :=
  ⟨cnt s resvP, fun t => cnt s (holdsP t), cnt s aboutP, cnt s inflightP, cnt s writeP⟩

theorem Inv.shared {s : State} (h : Inv s) : Shared s s.cfg.loop s.rt (cnts s) :=
  { h with
    kq := fun hd hc => h.kq hd (by intro e; rw [e] at hc; cases hc)
    arm := fun hd => by
      have := h.armW hd; have := h.armS hd; have := h.armXW hd; have := h.armXS hd
      cases hr : s.rt <;> simp_all [armOk]
    sleepFlag := fun hp => h.sleepFlag (by simpa [sleeps_iff, xsleeps_iff] using hp)
    sig := fun hp => h.sig ((sleeps_iff _ _).2 hp)
    xsig := fun hp hb => (h.xsig ((xsleeps_iff _ _).2 hp) hb).imp_right (fdReadable_iff s).1
    pn := fun hp => by
      rcases h.pn hp with h1 | h1 | h1 | h1
      · exact .inl h1
      · exact .inr (.inl h1)
      · exact .inr (.inr (by rw [h1]; rfl))
      · exact .inr (.inr (by cases hr : s.rt <;> simp_all [isLwrite, ownsPnot]))
    iourPc := fun hp => h.iourPc (by cases hr : s.rt <;> simp_all [reaping]) }

theorem Inv.wk {s : State} (h : Inv s) (v : Nat) : WkInv s s.cfg.loop s.rt (s.wk v) :=
  ⟨h.notPushed v, h.seqLe v, h.unserved v, h.mseqLe v, h.covMainW v, h.casPoll v⟩

theorem Inv.join {s : State} (h : Shared s s.cfg.loop s.rt (cnts s)) (hk : ∀ v, WkInv s s.cfg.loop s.rt (s.wk v)) : Inv s :=
  { h with
    notPushed := fun v => (hk v).notPushed, seqLe := fun v => (hk v).seqLe, unserved := fun v => (hk v).unserved
    mseqLe := fun v => (hk v).mseqLe, covMainW := fun v => (hk v).covMainW, casPoll := fun v => (hk v).casPoll
    kq := fun hd hc => h.kq hd (by cases hr : s.rt <;> simp_all [atClear])
    armW := fun hd hr => by have := h.arm hd; rw [hr] at this; exact this
    armS := fun hd hr => by have := h.arm hd; rw [hr] at this; exact this
    armXW := fun hd hr => by have := h.arm hd; rcases hr with hr | hr <;> (rw [hr] at this; exact this)
    armXS := fun hd hr => by have := h.arm hd; rw [hr] at this; exact this
    sleepFlag := fun hp => h.sleepFlag (by simpa [sleeps_iff, xsleeps_iff] using hp)
    sig := fun hp => h.sig ((sleeps_iff _ _).1 hp)
    xsig := fun hp hb => (h.xsig ((xsleeps_iff _ _).1 hp) hb).imp_right (fdReadable_iff s).2
    pn := fun hp => by
      rcases h.pn hp with h1 | h1 | h1
      · exact .inl h1
      · exact .inr (.inl h1)
      · cases hr : s.rt <;> simp_all [isLwrite, ownsPnot]
    iourPc := fun hp => h.iourPc (by rcases hp with hr | hr <;> (rw [hr]; rfl)) }

/-- the class counts with thread `w` left out, plus what a record `k` in its place contributes -/
def cntsAt (s : State) (w : Nat) (k : Wk) : Cnts :=
  ⟨cntExcept s.cfg.nw s.wk resvP w + (resvP k).toNat, fun t => cntExcept s.cfg.nw s.wk (holdsP t) w + (holdsP t k).toNat,
   cntExcept s.cfg.nw s.wk aboutP w + (aboutP k).toNat, cntExcept s.cfg.nw s.wk inflightP w + (inflightP k).toNat,
   cntExcept s.cfg.nw s.wk writeP w + (writeP k).toNat⟩

theorem cnt_at {s g : State} {w : Nat} (hw : w < s.cfg.nw) (k : Wk) (hc : g.cfg = s.cfg) (hk : g.wk = upd s.wk w k)
    (p : Wk → Bool) : cnt g p = cntExcept s.cfg.nw s.wk p w + (p k).toNat := by
  simp only [cnt, hc, hk, cntUpTo_split _ _ _ _ hw, cntExcept_upd, upd_same]
  cases p k <;> rfl

theorem cnts_at {s g : State} {w : Nat} (hw : w < s.cfg.nw) (k : Wk) (hc : g.cfg = s.cfg) (hk : g.wk = upd s.wk w k) :
    cnts g = cntsAt s w k := by
  simp only [cnts, cntsAt, cnt_at hw k hc hk]

theorem Inv.at {s : State} (h : Inv s) {w : Nat} (hw : w < s.cfg.nw) : Shared s s.cfg.loop s.rt (cntsAt s w (s.wk w)) :=
  cnts_at hw (s.wk w) rfl (upd_self _ _).symm ▸ h.shared

theorem Inv.of_at {s g : State} {w : Nat} {k' : Wk} {l : Loop} (hl : s.cfg.loop = l) (hw : w < s.cfg.nw)
    (hc : g.cfg = s.cfg) (hwk : g.wk = s.wk)
    (hS : Shared (setWk g w k') l g.rt (cntsAt s w k')) (hk : WkInv (setWk g w k') l g.rt k')
    (ho : ∀ v, WkInv (setWk g w k') l g.rt (s.wk v)) : Inv (setWk g w k') := by
  subst hl
  rw [← hc] at hS hk ho
  refine .join (cnts_at (g := setWk g w k') hw k' hc (show upd g.wk w k' = _ by rw [hwk]) ▸ hS) fun v => ?_
  show WkInv _ _ _ (upd g.wk w k' v)
  by_cases hv : v = w
  · subst hv; rw [upd_same]; exact hk
  · rw [upd_other _ _ _ _ hv, hwk]; exact ho v

theorem Inv.of_rt {s s' : State} {l : Loop} (hl : s.cfg.loop = l) (hc : s'.cfg = s.cfg) (hwk : s'.wk = s.wk)
    (hS : Shared s' l s'.rt (cnts s)) (hR : ∀ v, WkInv s' l s'.rt (s.wk v)) : Inv s' := by
  subst hl
  exact .join (by simpa only [cnts, cnt_congr _ hc hwk, hc] using hS) (fun v => by rw [hwk, hc]; exact hR v)

theorem pos_toNat {n : Nat} {b : Bool} (h : b = true) : 0 < n + b.toNat := by subst h; exact Nat.succ_pos _

theorem pos_cases {n : Nat} {b : Bool} (h : 0 < n + b.toNat) : 0 < n ∨ b = true := by
  cases b
  · exact .inl h
  · exact .inr rfl

theorem pos_left {n : Nat} (b : Bool) (h : 0 < n) : 0 < n + b.toNat := Nat.lt_of_lt_of_le h (Nat.le_add_right _ _)

theorem pos_of_not {n : Nat} {a : Bool} (b : Bool) (ha : a = false) (h : 0 < n + a.toNat) : 0 < n + b.toNat := by
  subst ha; exact pos_left _ h

theorem holdsP_kind {t : Nat} {k : Wk} (h : holdsP t k = true) : k.kind = .task t := by
  simp only [holdsP, Bool.and_eq_true, beq_iff_eq] at h; exact h.1.1

theorem holdsP_pushed {t : Nat} {k : Wk} (hk : k.pushed = true) : holdsP t k = false := by
  simp only [holdsP, hk, Bool.not_true, Bool.and_false, Bool.false_and]

theorem Shared.holds_mono {s : State} {l : Loop} {pc : RtPc} {c : Cnts} (hS : Shared s l pc c) {h' : Nat → Nat}
    (hh : ∀ t, 0 < c.holds t → 0 < h' t) : Shared s l pc { c with holds := h' } :=
  { hS with sched := fun t h1 h2 h3 => (hS.sched t h1 h2 h3).imp_right (Or.imp_right (hh t)) }

theorem cntsAt_idle (s : State) (w : Nat) {k : Wk} (hk : k.pc = .idle) : cntsAt s w k = cntsAt s w .init := by
  obtain ⟨pc, κ, n, p, q⟩ := k
  obtain rfl : pc = .idle := hk
  have h1 : resvP ⟨.idle, κ, n, p, q⟩ = false := Bool.and_false _
  have h2 (t) : holdsP t ⟨.idle, κ, n, p, q⟩ = false := Bool.and_false _
  have h3 : aboutP ⟨.idle, κ, n, p, q⟩ = false := Bool.and_false _
  simp only [cntsAt, h1, h2, h3]
  rfl

theorem covOf_nbit {s : State} (h : nbit s.flag = true) (ph : Phase) : covOf s ph = true := by
  cases ph <;> simp [covOf, h]

end Compio.Wake
