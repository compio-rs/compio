/- The cmsg builder with payload encoders that may refuse. A refusing push leaves the builder alone and
a willing one is `push`, so a run with refusals is the run of `pushAll` on the willing messages. -/
import Compio.Lemmas.CmsgRoundtrip
namespace Compio.Cmsg

/-- a message with the flag "its encoder refuses" -/
abbrev Item := Bool × Msg

def acceptedR : List Item → List PushOutcome → List Msg
  | it :: its, .ok :: rs => it.2 :: acceptedR its rs
  | _ :: its, _ :: rs => acceptedR its rs
  | _, _ => []

def willing (its : List Item) : List Msg := (its.filter (fun it => !it.1)).map (·.2)

theorem pushR_true (b : Builder) (l t d : Bytes) :
    (b.pushR true l t d).1 = b ∧ (b.pushR true l t d).2 ≠ .ok := by
  unfold Builder.pushR
  split
  · simp
  · split <;> simp

theorem pushR_false (b : Builder) (l t d : Bytes) :
    b.pushR false l t d =
      ((b.push l t d).1, match (b.push l t d).2 with | .ok => .ok | .small => .small) := by
  cases h : b.offset with
  | none => simp [Builder.pushR, Builder.push, h]
  | some off =>
    by_cases h2 : off + space d.length ≤ b.cap <;> simp [Builder.pushR, Builder.push, h, h2]

theorem pushAllR_cons (b : Builder) (it : Item) (its : List Item) :
    b.pushAllR (it :: its) =
      (((b.pushR it.1 it.2.1 it.2.2.1 it.2.2.2).1.pushAllR its).1,
        (b.pushR it.1 it.2.1 it.2.2.1 it.2.2.2).2 :: ((b.pushR it.1 it.2.1 it.2.2.1 it.2.2.2).1.pushAllR its).2) := by
  obtain ⟨rf, l, t, d⟩ := it
  simp [Builder.pushAllR]

theorem acceptedR_cons_notok (it : Item) (its : List Item) (r : PushOutcome) (rs : List PushOutcome)
    (h : r ≠ .ok) : acceptedR (it :: its) (r :: rs) = acceptedR its rs := by
  cases r with
  | ok => exact absurd rfl h
  | small | refused => rfl

theorem pushAllR_eq_pushAll_willing : ∀ (its : List Item) (b : Builder),
    (b.pushAllR its).1 = (b.pushAll (willing its)).1 ∧
    acceptedR its (b.pushAllR its).2 = accepted (willing its) (b.pushAll (willing its)).2 := by
  intro its
  induction its with
  | nil => intro b; exact ⟨rfl, rfl⟩
  | cons it its ih =>
    intro b
    obtain ⟨rf, m⟩ := it
    rw [pushAllR_cons]
    cases rf with
    | true =>
      obtain ⟨hb, hr⟩ := pushR_true b m.1 m.2.1 m.2.2
      rw [acceptedR_cons_notok _ _ _ _ hr, hb]
      exact ih b
    | false =>
      have hw : willing ((false, m) :: its) = m :: willing its := rfl
      rw [hw, pushAll_cons, pushR_false]
      cases (b.push m.1 m.2.1 m.2.2).2 with
      | ok => simp only [acceptedR, accepted, ih]; exact ⟨trivial, trivial⟩
      | small => exact ih _

theorem wf_of_mem_willing (its : List Item) (hwf : ∀ it ∈ its, it.2.wf) : ∀ m ∈ willing its, m.wf := by
  intro m hm
  simp only [willing, List.mem_map, List.mem_filter] at hm
  obtain ⟨it, ⟨hit, _⟩, rfl⟩ := hm
  exact hwf it hit

end Compio.Cmsg
