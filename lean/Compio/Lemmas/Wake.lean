/-
Lemmas and proof-side definitions for the wake-up model (Compio.Model.Wake): algebra of the regenerated flag
and task-word functions, counting of waker threads, the phases of the runtime thread and the coverage
predicates `cov` / `covM`, the invariant `Inv`, and what the kernel predicates read.
-/
import Compio.Model.Wake

namespace Compio.Wake
open Compio.TaskWord
open Compio.Gen

theorem upd_self {α : Type} (f : Nat → α) (i : Nat) : upd f i (f i) = f := by
  funext j; simp only [upd]; split <;> simp_all

theorem upd_pres {α β : Type} {φ : α → α} {P : α → β} (hP : ∀ a, P (φ a) = P a) (f : Nat → α) (t t' : Nat) :
    P (upd f t (φ (f t)) t') = P (f t') := by
  unfold upd; split
  · next h => rw [h]; exact hP _
  · rfl

/-- the NOTIFIED bit -/
def nbit (f : Nat) : Bool := f % 2 == 1

theorem flag_cases {f : Nat} (h : f ≤ 3) : f = 0 ∨ f = 1 ∨ f = 2 ∨ f = 3 := by omega

theorem wake_le {f : Nat} (h : f ≤ 3) : (AwakeFlag.wake f).1 ≤ 3 := by
  rcases flag_cases h with rfl | rfl | rfl | rfl <;> decide

theorem wake_nbit {f : Nat} (h : f ≤ 3) : nbit (AwakeFlag.wake f).1 = true := by
  rcases flag_cases h with rfl | rfl | rfl | rfl <;> decide

theorem wake_ret {f : Nat} (h : f ≤ 3) : (AwakeFlag.wake f).2 = (f != 0) := by
  rcases flag_cases h with rfl | rfl | rfl | rfl <;> decide

theorem wake_le1 {f : Nat} (h : f ≤ 1) : (AwakeFlag.wake f).1 = 1 := by
  have : f = 0 ∨ f = 1 := by omega
  rcases this with rfl | rfl <;> decide

theorem wake_hit_nbit {f : Nat} (h : f ≤ 1) (hr : (AwakeFlag.wake f).2 = true) : nbit f = true := by
  have : f = 0 ∨ f = 1 := by omega
  rcases this with rfl | rfl
  · cases hr
  · rfl

theorem reset_fst (f : Nat) : (AwakeFlag.reset f).1 = 0 := by
  simp [AwakeFlag.reset, AwakeFlag.IDLE]

theorem reset_le1 (f : Nat) : (AwakeFlag.reset f).1 ≤ 1 := reset_fst f ▸ Nat.zero_le 1

theorem reset_snd {f : Nat} (h : f ≤ 3) : (AwakeFlag.reset f).2 = nbit f := by
  rcases flag_cases h with rfl | rfl | rfl | rfl <;> decide

theorem set_eq (f : Nat) : AwakeFlag.set f = 2 := by
  simp [AwakeFlag.set, AwakeFlag.AWAKE]

theorem new_eq : AwakeFlag.new = 0 := by
  simp [AwakeFlag.new, AwakeFlag.IDLE]

/-- the number of threads `w < n` whose record `f w` satisfies `p` -/
def cntUpTo (n : Nat) (f : Nat → Wk) (p : Wk → Bool) : Nat :=
  match n with
  | 0 => 0
  | n + 1 => cntUpTo n f p + (if p (f n) then 1 else 0)

theorem cntUpTo_pos (n : Nat) (f : Nat → Wk) (p : Wk → Bool) (h : 0 < cntUpTo n f p) :
    ∃ w, w < n ∧ p (f w) = true := by
  induction n with
  | zero => simp [cntUpTo] at h
  | succ n ih =>
    simp only [cntUpTo] at h
    by_cases hp : p (f n) = true
    · exact ⟨n, by omega, hp⟩
    · simp [hp] at h
      obtain ⟨w, hw, hpw⟩ := ih h
      exact ⟨w, by omega, hpw⟩

/-- the same count, leaving out thread `w` -/
def cntExcept (n : Nat) (f : Nat → Wk) (p : Wk → Bool) (w : Nat) : Nat :=
  match n with
  | 0 => 0
  | n + 1 => cntExcept n f p w + (if n = w then 0 else if p (f n) then 1 else 0)

theorem cntExcept_ge (n : Nat) (f : Nat → Wk) (p : Wk → Bool) (w : Nat) (hw : n ≤ w) :
    cntExcept n f p w = cntUpTo n f p := by
  induction n with
  | zero => rfl
  | succ n ih =>
    have h1 : n ≠ w := by omega
    simp [cntExcept, cntUpTo, ih (by omega), h1]

theorem cntUpTo_split (n : Nat) (f : Nat → Wk) (p : Wk → Bool) (w : Nat) (hw : w < n) :
    cntUpTo n f p = cntExcept n f p w + (if p (f w) then 1 else 0) := by
  induction n with
  | zero => omega
  | succ n ih =>
    by_cases h : n = w
    · subst h
      simp [cntExcept, cntUpTo, cntExcept_ge n f p n (Nat.le_refl _)]
    · have := ih (by omega)
      simp only [cntExcept, cntUpTo, h, if_false]
      omega

theorem cntExcept_upd (n : Nat) (f : Nat → Wk) (p : Wk → Bool) (w : Nat) (k : Wk) :
    cntExcept n (upd f w k) p w = cntExcept n f p w := by
  induction n with
  | zero => rfl
  | succ n ih =>
    by_cases h : n = w
    · subst h; simp [cntExcept, ih]
    · simp [cntExcept, ih, h, upd]

theorem cntUpTo_upd (n : Nat) (f : Nat → Wk) (p : Wk → Bool) (w : Nat) (k : Wk) (hw : w < n) :
    cntUpTo n (upd f w k) p + (if p (f w) then 1 else 0) = cntUpTo n f p + (if p k then 1 else 0) := by
  rw [cntUpTo_split _ _ _ _ hw, cntUpTo_split n f p w hw, cntExcept_upd, upd_same]; omega

theorem cntUpTo_pos_of (n : Nat) (f : Nat → Wk) (p : Wk → Bool) (w : Nat) (hw : w < n) (hp : p (f w) = true) :
    0 < cntUpTo n f p := by
  rw [cntUpTo_split _ _ _ _ hw, hp]; exact Nat.succ_pos _

theorem cntExcept_mono (n : Nat) (f : Nat → Wk) (p q : Wk → Bool) (w : Nat)
    (hpq : ∀ k, p k = true → q k = true) : cntExcept n f p w ≤ cntExcept n f q w := by
  induction n with
  | zero => exact Nat.le_refl _
  | succ n ih =>
    simp only [cntExcept]
    by_cases h : n = w
    · simp [h]; simpa [h] using ih
    · by_cases hp : p (f n) = true
      · simp [h, hp, hpq _ hp]; omega
      · simp [h, hp]; split <;> omega

theorem cntUpTo_const (n : Nat) (k : Wk) (p : Wk → Bool) (hp : p k = false) : cntUpTo n (fun _ => k) p = 0 := by
  induction n with
  | zero => rfl
  | succ n ih => simp [cntUpTo, ih, hp]

theorem sched_start (w : Word) : TaskState.isScheduled (TaskState.startScheduling w) = true := rfl
theorem sched_unsched (w : Word) : TaskState.isScheduled (TaskState.unschedule w) = false := rfl
theorem sched_finish (w : Word) : TaskState.isScheduled (TaskState.finishScheduling w) = TaskState.isScheduled w := rfl
theorem sched_cancel (w : Word) : TaskState.isScheduled (TaskState.setCancelled w) = TaskState.isScheduled w := rfl
theorem sched_dropped (w : Word) : TaskState.isScheduled (TaskState.setDropped w) = TaskState.isScheduled w := rfl
theorem sched_finrun (w : Word) : TaskState.isScheduled (TaskState.finishRunning w) = TaskState.isScheduled w := rfl
theorem canc_start (w : Word) : TaskState.isCancelled (TaskState.startScheduling w) = TaskState.isCancelled w := rfl
theorem canc_finish (w : Word) : TaskState.isCancelled (TaskState.finishScheduling w) = TaskState.isCancelled w := rfl
theorem canc_unsched (w : Word) : TaskState.isCancelled (TaskState.unschedule w) = TaskState.isCancelled w := rfl
theorem canc_cancel (w : Word) : TaskState.isCancelled (TaskState.setCancelled w) = true := rfl
theorem canc_dropped (w : Word) : TaskState.isCancelled (TaskState.setDropped w) = true := rfl
theorem canc_finrun (w : Word) : TaskState.isCancelled (TaskState.finishRunning w) = TaskState.isCancelled w := rfl
theorem compl_unsched (w : Word) : TaskState.isCompleted (TaskState.unschedule w) = TaskState.isCompleted w := rfl
theorem compl_start (w : Word) : TaskState.isCompleted (TaskState.startScheduling w) = TaskState.isCompleted w := rfl
theorem compl_finish (w : Word) : TaskState.isCompleted (TaskState.finishScheduling w) = TaskState.isCompleted w := rfl
theorem compl_cancel (w : Word) : TaskState.isCompleted (TaskState.setCancelled w) = TaskState.isCompleted w := rfl
theorem compl_dropped (w : Word) : TaskState.isCompleted (TaskState.setDropped w) = TaskState.isCompleted w := rfl
theorem compl_finrun (w : Word) : TaskState.isCompleted (TaskState.finishRunning w) = true := rfl
theorem canc_new : TaskState.isCancelled (TaskState.new 2) = false := rfl
theorem sched_new : TaskState.isScheduled (TaskState.new 2) = false := rfl
theorem compl_new : TaskState.isCompleted (TaskState.new 2) = false := rfl

theorem sched_upd_start (f : Nat → Word) (t t' : Nat) :
    TaskState.isScheduled (upd f t (TaskState.startScheduling (f t)) t') = true ↔
      t' = t ∨ TaskState.isScheduled (f t') = true := by
  unfold upd; split
  · next h => simp only [h, sched_start, true_or]
  · next h => simp only [h, false_or]

def cnt (s : State) (p : Wk → Bool) : Nat := cntUpTo s.cfg.nw s.wk p

theorem cnt_pos_iff (s : State) (p : Wk → Bool) : 0 < cnt s p ↔ ∃ w, w < s.cfg.nw ∧ p (s.wk w) = true :=
  ⟨cntUpTo_pos _ _ _, fun ⟨w, hw, hp⟩ => cntUpTo_pos_of _ _ _ w hw hp⟩

theorem cnt_congr {s s' : State} (p : Wk → Bool) (h1 : s'.cfg = s.cfg) (h2 : s'.wk = s.wk) : cnt s' p = cnt s p := by
  simp [cnt, h1, h2]

def isTaskKind : Kind → Bool
  | .main => false
  | .task _ => true

/-- holds a reservation in `pending` that is not matched by a queue entry -/
def resvP (k : Wk) : Bool :=
  isTaskKind k.kind && !k.pushed &&
    (k.pc == .push || k.pc == .spin || k.pc == .dwake || k.pc == .cas || k.pc == .write)

/-- passed the SCHEDULED check for task t and has not pushed (or bailed out) yet -/
def holdsP (t : Nat) (k : Wk) : Bool :=
  k.kind == .task t && !k.pushed &&
    (k.pc == .load || k.pc == .reserve || k.pc == .push || k.pc == .spin || k.pc == .dwake || k.pc == .cas
      || k.pc == .write)

/-- has pushed and is about to wake the driver -/
def aboutP (k : Wk) : Bool := k.pushed && k.pc == .dwake

/-- took the NOTIFIED bit from IDLE and has not signalled the kernel object yet -/
def inflightP (k : Wk) : Bool := k.pc == .cas || k.pc == .write

def writeP (k : Wk) : Bool := k.pc == .write

/-- what the runtime thread still does before it can block; `cov` says why it then does not sleep through a wake -/
inductive Phase where
  | pre      -- the runtime thread will start a poll of the main future and a drain before it can block
  | post     -- after the drain of this iteration, before the flag is reset
  | sleep    -- own loop: between `reset` and the return of the kernel wait
  | xsleep   -- external loop: between `flush`'s reset and the return of the wait on the fd
  deriving DecidableEq, Repr

def backPhase : Back → Phase
  | .main => .pre
  | .task _ _ _ => .post

def retPhase : Ret → Phase
  | .tick => .pre
  | .loc _ b => backPhase b

/-- the phase of a program point, for a queued task id: `pre` before the drain of this loop iteration (the wake
will be seen by the drain), `post` after it (only the NOTIFIED bit can still save it), `sleep` / `xsleep` once the
flag has been reset. In the external loop the driver's own `reset … wait` run with a zero timeout after the fd
wait, so they count as `pre`. -/
def phase (l : Loop) : RtPc → Phase
  | .mainStart => .pre
  | .poll b => backPhase b
  | .drainCheck r | .draining r _ => retPhase r
  | .lwake b | .lcas b | .lwrite b => backPhase b
  | .run _ _ | .xarm | .xsubmit | .xreset => .post
  | .xwait => .xsleep
  | .xclear => .pre
  | .reset => match l with
    | .own => .post
    | .ext => .pre
  | .arm | .submit | .wait => match l with
    | .own => .sleep
    | .ext => .pre
  | .pclear | .pswap | .setAwake1 | .consume | .clear | .setAwake2 => .pre

/-- the same for the main future: it has been polled already once the runtime thread is past `mainStart` -/
def mphase (l : Loop) : RtPc → Phase
  | .mainStart => .pre
  | .poll _ | .drainCheck _ | .draining _ _ | .lwake _ | .lcas _ | .lwrite _ => .post
  | pc => phase l pc

/-- "the runtime thread cannot block before it looks again" -/
def covOf (s : State) : Phase → Bool
  | .pre => true
  | .post => nbit s.flag
  | .sleep => !s.needWait || nbit s.flag
  | .xsleep => s.zero || nbit s.flag

def cov (s : State) : Bool := covOf s (phase s.cfg.loop s.rt)
def covM (s : State) : Bool := covOf s (mphase s.cfg.loop s.rt)

def drained : RtPc → Nat
  | .draining _ d => d
  | _ => 0

/-- before the push of `Remote::schedule` -/
def prePush : WPc → Bool
  | .sched | .load | .reserve | .push | .spin => true
  | _ => false

/-- not idle and, for a task waker, past `start_scheduling`, its linearisation point, so that `seq0` holds the poll
number read there -/
def inCall (k : Wk) : Bool := !(k.pc == .idle || k.pc == .sched)

def isLwrite : RtPc → Bool
  | .lwrite _ => true
  | _ => false

/-- program points of the external loop (compio-compat `drive`) -/
def extPc : RtPc → Bool
  | .xarm | .xsubmit | .xreset | .xwait | .xclear => true
  | _ => false

/-- the tick-loop context of a program point inside a poll (or inside a same-thread wake issued by it) -/
def backOf : RtPc → Option Back
  | .poll b | .lwake b | .lcas b | .lwrite b => some b
  | .drainCheck (.loc _ b) | .draining (.loc _ b) _ => some b
  | _ => none

/-- the id prefetched by the `iter_hot()` iterator, if the runtime thread is inside the tick loop -/
def nxtOf : RtPc → Option Nat
  | .run nxt _ => nxt
  | pc => match backOf pc with
    | some (.task _ nxt _) => nxt
    | _ => none

/-- the task being polled -/
def curOf (pc : RtPc) : Option Nat :=
  match backOf pc with
  | some (.task c _ _) => some c
  | _ => none

def isLcas : RtPc → Bool
  | .lcas _ => true
  | _ => false

/-- from the end of the tick to the return of the wait: `zero` has been taken from `has_hot()` and nothing is made hot -/
def waitPcs : RtPc → Bool
  | .reset | .arm | .submit | .wait | .xarm | .xsubmit | .xreset | .xwait | .xclear => true
  | _ => false

theorem posts_iff (s : State) : posts s = true ↔ s.cfg.drv = .iour ∧ s.arm = .live := by
  unfold posts; cases s.cfg.drv <;> simp

theorem submits_iff (s : State) : submits s = true ↔ s.cfg.drv = .iour ∧ s.arm = .queued := by
  unfold submits; cases s.cfg.drv <;> simp

theorem armPushes_iff (s : State) : armPushes s = true ↔ s.cfg.drv = .iour ∧ s.arm = .needPush := by
  unfold armPushes; cases s.cfg.drv <;> simp

theorem fdReadable_iff (s : State) :
    fdReadable s = true ↔ (s.cfg.drv = .iour ∧ 0 < s.xfd) ∨ (s.cfg.drv = .poll ∧ 0 < s.efd) := by
  unfold fdReadable; cases s.cfg.drv <;> simp

theorem backPhase_cases (b : Back) : backPhase b = .pre ∨ backPhase b = .post := by
  cases b <;> simp [backPhase]

theorem retPhase_cases (r : Ret) : retPhase r = .pre ∨ retPhase r = .post := by
  cases r with
  | tick => simp [retPhase]
  | loc t b => simpa [retPhase] using backPhase_cases b

/-- The invariant of the model with the repaired orders (`flushArms`, `rewake`). Bookkeeping: `flagLe` … `compl`,
`zeroHot`; the SCHEDULED bit against the queues: `sched` … `wokenSched`; coverage of a queued id / of the woken
main future by the flag: `covSync` … `covMain`; the kernel side (eventfd, notifier poll, completion, polling
crate's flag): `kq` … `lcasPoll`; the prefetching iterator of the tick: `nxtHead`, `nxtNe`. -/
structure Inv (s : State) : Prop where
  flagLe : s.flag ≤ 3
  noUflow : s.uflow = false
  pend : s.pending = s.sync.length + cnt s resvP + drained s.rt
  hotLive : ∀ t, t ∈ s.hot → s.dropped t = false
  hotNodup : s.hot.Nodup
  notPushed : ∀ w, prePush (s.wk w).pc = true → (s.wk w).pushed = false
  extOnly : extPc s.rt = true → s.cfg.loop = .ext
  compl : ∀ t, TaskState.isCompleted (s.word t) = true → s.dropped t = true
  sched : ∀ t, TaskState.isScheduled (s.word t) = true → s.dropped t = false →
    TaskState.isCancelled (s.word t) = false → t ∈ s.sync ∨ t ∈ s.hot ∨ 0 < cnt s (holdsP t)
  seqLe : ∀ w t, (s.wk w).kind = .task t → inCall (s.wk w) = true → (s.wk w).seq0 ≤ s.pollSeq t
  unserved : ∀ w t, (s.wk w).kind = .task t → inCall (s.wk w) = true → (s.wk w).seq0 = s.pollSeq t →
    TaskState.isScheduled (s.word t) = true
  wokenSched : ∀ t, s.woken t = true → TaskState.isScheduled (s.word t) = true
  covSync : s.sync ≠ [] → cov s = true ∨ 0 < cnt s aboutP
  mseqLe : ∀ w, (s.wk w).kind = .main → inflightP (s.wk w) = true → (s.wk w).seq0 ≤ s.mainSeq
  covMainW : ∀ w, (s.wk w).kind = .main → inflightP (s.wk w) = true → (s.wk w).seq0 = s.mainSeq → covM s = true
  covMain : s.mainWoken = true → covM s = true
  kq : s.cfg.drv = .iour → s.rt ≠ .clear → s.arm = .live → 0 < s.efd → s.cq = true
  cqLive : s.cq = true → s.arm = .live
  armW : s.cfg.drv = .iour → s.rt = .wait → s.arm = .live
  armS : s.cfg.drv = .iour → s.rt = .submit → s.arm ≠ .needPush
  armXW : s.cfg.drv = .iour → (s.rt = .xwait ∨ s.rt = .xreset) → s.arm = .live
  armXS : s.cfg.drv = .iour → s.rt = .xsubmit → s.arm ≠ .needPush
  sleepFlag : (phase s.cfg.loop s.rt = .sleep ∨ phase s.cfg.loop s.rt = .xsleep) → s.flag ≤ 1
  sig : phase s.cfg.loop s.rt = .sleep → nbit s.flag = true → 0 < cnt s inflightP ∨ 0 < s.efd
  xsig : phase s.cfg.loop s.rt = .xsleep → nbit s.flag = true → 0 < cnt s inflightP ∨ fdReadable s = true
  pn : s.pnot = true → 0 < s.efd ∨ 0 < cnt s writeP ∨ s.rt = .pswap ∨ isLwrite s.rt = true
  zeroHot : waitPcs s.rt = true → s.hot ≠ [] → s.zero = true
  iourPc : (s.rt = .consume ∨ s.rt = .clear) → s.cfg.drv = .iour
  pnotPoll : s.pnot = true → s.cfg.drv = .poll
  casPoll : ∀ w, (s.wk w).pc = .cas → s.cfg.drv = .poll
  lcasPoll : isLcas s.rt = true → s.cfg.drv = .poll
  nxtHead : ∀ n, nxtOf s.rt = some n → s.hot.head? = some n
  nxtNe : ∀ c, curOf s.rt = some c → nxtOf s.rt ≠ some c

/-- the kernel-side clauses of `Inv` -/
def G4 (s' : State) : Prop :=
    (s'.cfg.drv = .iour → s'.rt ≠ .clear → s'.arm = .live → 0 < s'.efd → s'.cq = true) ∧
    (s'.cfg.drv = .iour → s'.rt = .wait → s'.arm = .live) ∧
    (s'.cfg.drv = .iour → s'.rt = .submit → s'.arm ≠ .needPush) ∧
    (s'.cfg.drv = .iour → (s'.rt = .xwait ∨ s'.rt = .xreset) → s'.arm = .live) ∧
    (s'.cfg.drv = .iour → s'.rt = .xsubmit → s'.arm ≠ .needPush) ∧
    ((phase s'.cfg.loop s'.rt = .sleep ∨ phase s'.cfg.loop s'.rt = .xsleep) → s'.flag ≤ 1) ∧
    (phase s'.cfg.loop s'.rt = .sleep → nbit s'.flag = true → 0 < cnt s' inflightP ∨ 0 < s'.efd) ∧
    (phase s'.cfg.loop s'.rt = .xsleep → nbit s'.flag = true → 0 < cnt s' inflightP ∨ fdReadable s' = true) ∧
    (s'.pnot = true → 0 < s'.efd ∨ 0 < cnt s' writeP ∨ s'.rt = .pswap ∨ isLwrite s'.rt = true) ∧
    ((s'.rt = .consume ∨ s'.rt = .clear) → s'.cfg.drv = .iour) ∧
    (s'.pnot = true → s'.cfg.drv = .poll) ∧
    (∀ w, (s'.wk w).pc = .cas → s'.cfg.drv = .poll) ∧
    (isLcas s'.rt = true → s'.cfg.drv = .poll) ∧
    (s'.cq = true → s'.arm = .live)

theorem G4_of_inv {s : State} (h : Inv s) : G4 s :=
  ⟨h.kq, h.armW, h.armS, h.armXW, h.armXS, h.sleepFlag, h.sig, h.xsig, h.pn, h.iourPc, h.pnotPoll, h.casPoll, h.lcasPoll, h.cqLive⟩

end Compio.Wake
