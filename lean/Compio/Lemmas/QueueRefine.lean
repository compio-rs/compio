/-
The two-list queue of the executor model (Model/Executor.lean: `hot`, `cold`, manipulated by `makeHot`,
`makeCold`, `removeTask`, `spawn`, `clearAll`, `drainSync`) is, in every state reachable by any program, the
abstraction of a well-formed INTRUSIVE queue (Model/QueueIntrusive.lean: slot map + prev/next/is_hot +
head/tail, as queue.rs codes it) obtained by the corresponding `make_hot` / `make_cold` / `remove` /
`insert` / `clear` calls — so every theorem about the two lists is a theorem about the structure the code uses.
-/
import Compio.Lemmas.QueueIntrusive
import Compio.Lemmas.ExecutorOps

namespace Compio.Executor
open Compio.QueueIntrusive

/-- replaying the log `e.qlog` on the empty intrusive queue panics nowhere and yields a queue that represents the
lists of `e`, with the number of tasks spawned so far as key counter (the next `insert` returns the id the model gives the
next task) -/
def QRep (e : Exec) : Prop :=
  ∃ c : IQ, runOps IQ.empty e.qlog = some c ∧ Rep c e.hot e.cold ∧ c.map.length = e.tasks.length

/-- the abstract queue state of `e`: its two lists and the number of keys handed out so far -/
def Exec.qspec (e : Exec) : Spec := ⟨e.hot, e.cold, e.tasks.length⟩

theorem QRep.congr {e e' : Exec} (h : QRep e) (hs : e'.qspec = e.qspec) (hq : e'.qlog = e.qlog) : QRep e' := by
  obtain ⟨c, q, r, l⟩ := h
  simp only [Exec.qspec, Spec.mk.injEq] at hs
  exact ⟨c, hq ▸ q, by rw [hs.1, hs.2.1]; exact r, by rw [hs.2.2]; exact l⟩

theorem QRep.step {e e' : Exec} (h : QRep e) {op : QueueIntrusive.Op} (hs : specOp e.qspec op = some e'.qspec)
    (hq : e'.qlog = e.qlog ++ [op]) : QRep e' := by
  obtain ⟨c, q, m⟩ := h
  obtain ⟨c', h1, m'⟩ := sim_step (s := e.qspec) m hs
  exact ⟨c', by rw [hq, iqIsRun.snoc, q]; exact h1, m'⟩

theorem QRep.wf_abs {e : Exec} (h : QRep e) : ∃ c : IQ, WF c ∧ abs c = (e.hot, e.cold) := by
  obtain ⟨c, _, r, _⟩ := h
  exact ⟨c, ⟨_, _, r⟩, abs_of_rep r⟩

theorem qrep_makeHot {e : Exec} (h : QRep e) (id : Nat) : QRep (makeHot e id) := by
  unfold makeHot
  split
  · next hc =>
    rw [List.contains_iff_mem] at hc
    exact h.step (op := .makeHot id) (by simp [specOp, specMakeHot, Exec.qspec, hc]) rfl
  · exact h

theorem qrep_makeCold {e : Exec} (h : QRep e) (id : Nat) : QRep (makeCold e id) := by
  unfold makeCold
  split
  · next hh =>
    rw [List.contains_iff_mem] at hh
    have hc : id ∉ e.cold := by obtain ⟨c, _, r, _⟩ := h; exact r.disjHC id hh
    exact h.step (op := .makeCold id) (by simp [specOp, specMakeCold, Exec.qspec, hh, hc]) rfl
  · exact h

theorem qrep_removeTask {e : Exec} (h : QRep e) (id : Nat) : QRep (removeTask e id) :=
  h.step (op := .remove id) rfl rfl

theorem qrep_foldl_makeHot (l : List Nat) : ∀ {e : Exec}, QRep e → QRep (l.foldl makeHot e) := by
  induction l with
  | nil => intro e h; exact h
  | cons a l ih => intro e h; exact ih (qrep_makeHot h a)

theorem foldl_makeHot_len (l : List Nat) : ∀ e : Exec, (l.foldl makeHot e).tasks.length = e.tasks.length :=
  fun e => congrArg List.length (foldl_makeHot_tasks l e)

theorem qrep_drainSync {e : Exec} (h : QRep e) : QRep (drainSync e) := by
  unfold drainSync
  split
  · exact h
  · have h0 : QRep ({ e with sync := [] } : Exec) := h.congr rfl rfl
    have := qrep_foldl_makeHot e.sync h0
    simp only
    split
    · exact this
    · exact this.congr rfl rfl

theorem qrep_setTask {e : Exec} (h : QRep e) (id : Nat) (t : TaskSt) : QRep (e.setTask id t) :=
  h.congr (by simp [Exec.qspec, Exec.setTask]) rfl

theorem qrep_scheduleLocal {e : Exec} (h : QRep e) (id : Nat) : QRep (scheduleLocal e id) := by
  unfold scheduleLocal
  cases e.get? id with
  | none => exact h
  | some t =>
    simp only
    split
    · exact qrep_makeHot (qrep_drainSync h) id
    · exact h

theorem qrep_remoteSchedule {e : Exec} (h : QRep e) (id : Nat) : QRep (remoteSchedule e id) := by
  unfold remoteSchedule
  cases e.get? id with
  | none => exact h
  | some t =>
    simp only
    split
    · exact qrep_setTask h _ _
    · exact (qrep_setTask h id _).congr rfl rfl

theorem qrep_remoteScheduleGuarded {e : Exec} (h : QRep e) (id : Nat) : QRep (remoteScheduleGuarded e id) := by
  unfold remoteScheduleGuarded
  split
  · exact qrep_remoteSchedule (e := { e with outstanding := e.outstanding + 1 }) (h.congr rfl rfl) id
  · exact h

theorem qrep_runOne {e : Exec} (h : QRep e) (id : Nat) : QRep (runOne e id).1 := by
  unfold runOne
  cases e.get? id with
  | none => exact h
  | some t0 =>
    simp only
    rcases runTask t0 with ⟨t, k, w⟩
    cases k <;> simp only
    · exact qrep_removeTask (qrep_setTask h id t) id
    · exact qrep_setTask h id t
    · exact qrep_scheduleLocal (qrep_setTask h id t) id
    · exact qrep_remoteScheduleGuarded (qrep_setTask h id t) id
    · exact (qrep_removeTask (qrep_setTask h id t) id).congr rfl rfl
    · exact (qrep_removeTask (qrep_setTask (qrep_scheduleLocal (qrep_setTask h id _) id) id t) id).congr rfl rfl

theorem qrep_tickLoop (n : Nat) : ∀ (c : Option Nat) {e : Exec} (log : List Nat), QRep e →
    QRep (tickLoop n c e log).1 := by
  induction n with
  | zero => intro c e log h; simpa [tickLoop] using h
  | succ n ih =>
    intro c e log h
    cases c with
    | none => simpa [tickLoop] using h
    | some id => simp only [tickLoop]; exact ih _ _ (qrep_runOne (qrep_makeCold h id) id)

theorem qrep_tickFrom {e : Exec} (h : QRep e) (n : Nat) : QRep (tickFrom e n).1 :=
  qrep_tickLoop n _ _ (qrep_drainSync h)

theorem qrep_finishSched {e : Exec} (h : QRep e) (id : Nat) : QRep (finishSched e id) := by
  unfold finishSched
  cases e.get? id with
  | none => exact h
  | some t => exact qrep_setTask h _ _

/-- `Executor::spawn`: the key `insert` returns is the id the model gives the task -/
theorem qrep_spawn {e : Exec} (h : QRep e) (sc : List Outcome) : QRep (spawn e sc).1 :=
  h.step (op := .insert) (by simp [specOp, Exec.qspec, spawn]) rfl

theorem clearTask_queues (e : Exec) (id : Nat) :
    (clearTask e id).qspec = e.qspec ∧ (clearTask e id).qlog = e.qlog := by
  unfold clearTask
  cases e.get? id <;> simp [Exec.qspec, Exec.setTask]

theorem foldl_clearTask_len (l : List Nat) : ∀ e : Exec, (l.foldl clearTask e).tasks.length = e.tasks.length := by
  induction l with
  | nil => intro e; rfl
  | cons a l ih => intro e; rw [List.foldl_cons, ih]; exact congrArg Spec.next (clearTask_queues e a).1

theorem qrep_execDrop {e : Exec} (h : QRep e) : QRep (execDrop e) :=
  h.step (op := .clear) (by simp [specOp, Exec.qspec, execDrop, clearAll, foldl_clearTask_len]) rfl

theorem qrep_remoteWakeB {e : Exec} (h : QRep e) (id n : Nat) : QRep (remoteWakeB e id n).1 := by
  unfold remoteWakeB
  cases e.get? id with
  | none => exact h
  | some t =>
    simp only
    have hs := qrep_setTask h id (remoteSchedTask t).1
    split
    · exact hs
    · split
      · refine qrep_finishSched (qrep_tickFrom ?_ n) id
        exact hs.congr rfl rfl
      · refine qrep_finishSched (?_ : QRep _) id
        refine .congr (qrep_tickFrom ?_ n) rfl rfl
        exact hs.congr rfl rfl

theorem qrep_simple {e : Exec} (h : QRep e) (s : Sched) (id : Nat) (f : TaskSt → TaskSt) :
    QRep ((s.run (s.charge e) id).modTask id f) := by
  have h1 : QRep (s.run (s.charge e) id) := by
    cases s
    · exact h
    · exact qrep_scheduleLocal h id
    · exact qrep_remoteSchedule (e := chargeBudget e) (h.congr rfl rfl) id
  unfold Exec.modTask
  cases (s.run (s.charge e) id).get? id with
  | none => exact h1
  | some t => exact qrep_setTask h1 _ _

theorem qrep_apply {e : Exec} (h : QRep e) (op : Op) : QRep (apply e op) := by
  cases hs : op.simple with
  | some p =>
    rcases apply_simple (id := p.1) (v := p.2.1) (s := p.2.2.1) (f := p.2.2.2) hs e with he | ⟨_, he⟩ <;> rw [he]
    · exact h
    · exact qrep_simple h _ _ _
  | none =>
    cases op with
    | spawn sc => simp only [apply, applyR]; split; exact h; exact qrep_spawn h sc
    | tick n =>
      simp only [apply, applyR]; split; exact h
      exact qrep_tickFrom (e := { e with outstanding := 0 }) (h.congr rfl rfl) n
    | xdrop => simp only [apply, applyR]; split; exact h; exact qrep_execDrop h
    | rwakeb id n => simp only [apply, applyR]; split; exact h; exact qrep_remoteWakeB h id n
    | _ => cases hs

theorem qrep_new (q : Nat) : QRep (Exec.new q) := ⟨IQ.empty, rfl, rep_empty, rfl⟩

theorem qrep_run (q : Nat) (ops : List Op) : QRep (run q ops) := by
  have : ∀ (e : Exec), QRep e → QRep (ops.foldl apply e) := by
    induction ops with
    | nil => intro e h; exact h
    | cons op ops ih => intro e h; exact ih _ (qrep_apply h op)
  exact this _ (qrep_new q)

end Compio.Executor
