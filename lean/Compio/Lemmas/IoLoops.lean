/- Lemmas for Model/IoLoops.lean: the one-call contract of every reader composition (`ReadPost`) and writer
(`WritePost`, `WrOut`), the helper loops (`read_exact`, `read_to_end`, `flush_to`, `write_all`, `copy`,
`read_vectored_exact`) as inductions on fuel over that contract, that `Interrupted` script entries do not change
the loops' results (`*_strip`), and that the positional loops are the cursor loops. -/
import Compio.Lemmas.MemIo
import Compio.Model.IoLoops

namespace Compio.Io

/-- the bytes a reader composition will hand out, in order: buffered bytes first, limits applied -/
def Rd.rest : Rd → Bytes
  | .script s _ => s
  | .mem d => d
  | .cursor d pos => d.drop pos
  | .take i lim => i.rest.take lim
  | .buf i b => b.pending ++ i.rest

/-- script entries left below the composition: with the bytes still to move, the fuel measure of the loops -/
def Rd.entries : Rd → Nat
  | .script _ sc => sc.length
  | .mem _ => 0
  | .cursor _ _ => 0
  | .take i _ => i.entries
  | .buf i _ => i.entries

/-- every `BufReader` buffer inside is `Buffer.WF` -/
def Rd.WF : Rd → Prop
  | .script _ _ => True
  | .mem _ => True
  | .cursor _ _ => True
  | .take i _ => i.WF
  | .buf i b => i.WF ∧ b.WF

/-- the error codes the script can still answer: the only `.other k` a read of the composition can return -/
def Rd.errs : Rd → List Nat
  | .script _ sc => sc.filterMap fun | .err k => some k | _ => none
  | .mem _ => []
  | .cursor _ _ => []
  | .take i _ => i.errs
  | .buf i _ => i.errs

def countOk : List Outcome → Nat
  | [] => 0
  | .ok _ :: r => countOk r + 1
  | _ :: r => countOk r

/-- a script of `Interrupted`s and positive transfers only: no error, no `Ok(0)`, no EOF entry -/
def Honest (sc : List Outcome) : Prop := ∀ o, o ∈ sc → o = .intr ∨ ∃ n, 0 < n ∧ o = .ok n

/-- a reader composition that answers `Ok(0)` to a call offering room only when nothing is left:
an honest script with enough entries, in-memory sources, limits, and `BufReader`s **with a non-zero
capacity**. -/
def Rd.Live : Rd → Prop
  | .script s sc => Honest sc ∧ s.length ≤ countOk sc
  | .mem _ => True
  | .cursor _ _ => True
  | .take i _ => i.Live
  | .buf i b => 0 < b.cap ∧ i.Live

theorem Honest.tail {o : Outcome} {sc : List Outcome} (h : Honest (o :: sc)) : Honest sc :=
  fun x hx => h x (List.mem_cons_of_mem _ hx)

/-- `r'` is what is left of `r` once it has handed out `x` -/
structure Rd.After (r : Rd) (x : Bytes) (r' : Rd) : Prop where
  rest : r.rest = x ++ r'.rest
  wf : r'.WF
  errs : ∀ k, k ∈ r'.errs → k ∈ r.errs

namespace Rd.After
variable {r r' r'' : Rd} {x y : Bytes}

theorem refl (hw : r.WF) : r.After [] r := ⟨rfl, hw, fun _ h => h⟩

theorem trans (h : r.After x r') (h' : r'.After y r'') : r.After (x ++ y) r'' :=
  ⟨by rw [h.rest, h'.rest, List.append_assoc], h'.wf, fun k hk => h.errs k (h'.errs k hk)⟩

theorem trans_nil (h : r.After x r') (h' : r'.After [] r'') : r.After x r'' :=
  List.append_nil x ▸ h.trans h'

theorem take_eq (h : r.After x r') : r.rest.take x.length = x := by rw [h.rest, List.take_left]

theorem drop_eq (h : r.After x r') : r'.rest = r.rest.drop x.length := by rw [h.rest, List.drop_left]

theorem length (h : r.After x r') : r.rest.length = x.length + r'.rest.length := by
  rw [h.rest, List.length_append]

theorem length_le (h : r.After x r') : x.length ≤ r.rest.length := h.length ▸ Nat.le_add_right ..

theorem take (h : r.After x r') {lim : Nat} (hx : x.length ≤ lim) :
    (Rd.take r lim).After x (.take r' (lim - x.length)) :=
  ⟨by simp only [Rd.rest]; rw [h.rest, List.take_append, List.take_of_length_le hx], h.wf, h.errs⟩

theorem buf (h : r.After [] r') {b b' : Buffer} (hb : b'.WF) (hp : b'.pending = b.pending) :
    (Rd.buf r b).After [] (.buf r' b') :=
  ⟨by rw [Rd.rest, Rd.rest, hp, h.rest]; rfl, ⟨h.wf, hb⟩, h.errs⟩

end Rd.After

/-- what one `read` offering `off` bytes of room does to a well-formed reader; a live one errs only with
`Interrupted`, and answers `Ok(0)` to a call with room only when its stream is at its end -/
inductive ReadPost (r : Rd) (off : Nat) : Res Bytes × Rd → Prop
  | ok (bs : Bytes) (r' : Rd) : bs.length ≤ off → r.After bs r' → r'.entries ≤ r.entries →
      (r.Live → (bs.length ≠ 0 → r'.Live) ∧ (0 < off → bs.length = 0 → r.rest = [])) →
      ReadPost r off (.ok bs, r')
  | intr (r' : Rd) : r.After [] r' → r'.entries < r.entries → (r.Live → r'.Live) →
      ReadPost r off (.err .interrupted, r')
  | other (k : Nat) (r' : Rd) : r.After [] r' → k ∈ r.errs → ¬ r.Live →
      ReadPost r off (.err (.other k), r')

theorem take_append_drop_length (s : Bytes) (m : Nat) : s.take m ++ s.drop (s.take m).length = s := by
  rw [List.length_take, ← List.drop_eq_drop_min, List.take_append_drop]

theorem bufServe_post {i i' : Rd} {b b2 : Buffer} (off : Nat) (hi : i'.WF) (hb : b2.WF)
    (hrest : b.pending ++ i.rest = b2.pending ++ i'.rest) (hent : i'.entries ≤ i.entries)
    (herr : ∀ k, k ∈ i'.errs → k ∈ i.errs)
    (hlive : 0 < b.cap → i.Live → 0 < b2.cap ∧ (b2.pending ≠ [] → i'.Live) ∧ (b2.pending = [] → i'.rest = [])) :
    ReadPost (.buf i b) off (bufServe i' b2 off) := by
  obtain ⟨b3, hadv, hp, hw, hc⟩ := b2.advance_some _ hb (List.length_take_le' off b2.pending)
  rw [bufServe, hadv]
  refine .ok _ _ (List.length_take_le ..) ⟨?_, ⟨hi, hw⟩, herr⟩ hent fun ⟨hc0, hl⟩ => ?_
  · rw [Rd.rest, Rd.rest, hp, ← List.append_assoc, take_append_drop_length, hrest]
  · obtain ⟨h1, h2, h3⟩ := hlive hc0 hl
    refine ⟨fun hz => ⟨hc ▸ h1, h2 fun h => hz (by simp [h])⟩, fun ho hz => ?_⟩
    have := eq_nil_of_take ho hz
    rw [Rd.rest, hrest, this, h3 this]
    rfl

/-- the contract holds for every composition: `Take`'s `assert!` and the assertions of
`Buffer::advance` never fire -/
theorem Rd.read_post (r : Rd) : ∀ (off : Nat), r.WF → ReadPost r off (r.read off) := by
  induction r with
  | script s sc =>
    intro off _
    rcases sc with _ | ⟨n | _ | k | _, sc⟩
    · exact .ok [] _ (Nat.zero_le _) ⟨rfl, trivial, fun _ h => h⟩ (Nat.le_refl _) fun hl =>
        ⟨fun h => absurd rfl h, fun _ _ => List.eq_nil_of_length_eq_zero (Nat.le_zero.mp hl.2)⟩
    · refine .ok _ _ (Nat.le_trans (List.length_take_le ..) (Nat.min_le_right ..))
        ⟨(List.take_append_drop _ s).symm, trivial, fun _ h => h⟩ (Nat.le_succ _) fun hl => ⟨fun hz => ?_, fun ho hz => ?_⟩
      · have hc : s.length ≤ countOk sc + 1 := hl.2
        have hm : min n off ≠ 0 := fun h => hz (by rw [h]; rfl)
        refine ⟨hl.1.tail, ?_⟩
        show (s.drop (min n off)).length ≤ countOk sc
        generalize min n off = m at hm
        rw [List.length_drop]
        omega
      · rcases hl.1 _ List.mem_cons_self with h | ⟨n', hn, h⟩
        · cases h
        · cases h
          exact eq_nil_of_take (by omega) hz
    · exact .intr _ ⟨rfl, trivial, fun _ h => h⟩ (Nat.lt_succ_self _) fun hl => ⟨hl.1.tail, hl.2⟩
    · exact .other k _ ⟨rfl, trivial, fun _ h => List.mem_cons_of_mem _ h⟩ List.mem_cons_self fun hl => by
        rcases hl.1 _ List.mem_cons_self with h | ⟨_, _, h⟩ <;> cases h
    · exact .ok [] _ (Nat.zero_le _) ⟨rfl, trivial, fun _ h => h⟩ (Nat.le_succ _) fun hl => by
        rcases hl.1 _ List.mem_cons_self with h | ⟨_, _, h⟩ <;> cases h
  | mem d =>
    intro off _
    exact .ok _ _ (List.length_take_le ..) ⟨(List.take_append_drop off d).symm, trivial, fun _ h => h⟩
      (Nat.le_refl _) fun _ => ⟨fun _ => trivial, eq_nil_of_take⟩
  | cursor d pos =>
    intro off _
    rw [Rd.read, readAt_eq]
    exact .ok _ _ (List.length_take_le ..)
      ⟨by rw [Rd.rest, Rd.rest, ← List.drop_drop, take_append_drop_length], trivial, fun _ h => h⟩
      (Nat.le_refl _) fun _ => ⟨fun _ => trivial, eq_nil_of_take⟩
  | take i lim ih =>
    intro off hw
    rw [Rd.read]
    split
    · rename_i hl
      subst hl
      exact .ok [] _ (Nat.zero_le _) (.refl hw) (Nat.le_refl _) fun _ => ⟨fun h => absurd rfl h, fun _ _ => rfl⟩
    · rename_i h0
      have hp := ih (min lim off) hw
      generalize i.read (min lim off) = out at hp
      cases hp with
      | ok bs i' h1 ha he hl =>
        have hbl : bs.length ≤ lim := by omega
        dsimp only
        rw [if_pos hbl]
        exact .ok bs _ (by omega) (ha.take hbl) he fun hv =>
          ⟨(hl hv).1, fun ho hz => by rw [Rd.rest, (hl hv).2 (by omega) hz, List.take_nil]⟩
      | intr i' ha he hl => exact .intr _ (ha.take (Nat.zero_le _)) he hl
      | other k i' ha hk hl => exact .other k _ (ha.take (Nat.zero_le _)) hk hl
  | buf i b ih =>
    intro off ⟨hwi, hwb⟩
    have hpw := b.prep_wf hwb
    rw [Rd.read]
    unfold bufFill
    by_cases hnf : b.prep.needFill = true
    · rw [if_pos hnf]
      have hde : b.prep.data = [] := List.isEmpty_iff.mp hnf
      have hb0 : b.prep.begin = 0 := Nat.le_zero.mp (by have := hpw.1; rwa [hde] at this)
      have hpe : b.pending = [] := b.prep_pending ▸ b.prep_needFill_pending hnf
      have hp := ih (b.prep.cap - b.prep.data.length) hwi
      generalize i.read (b.prep.cap - b.prep.data.length) = out at hp
      rw [hde] at hp ⊢
      cases hp with
      | ok bs i' h1 ha he hl =>
        -- the buffer was empty: `bs` is all it holds
        have hbs : Buffer.pending { b.prep with data := [] ++ bs } = bs := by rw [Buffer.pending, hb0]; rfl
        refine bufServe_post off ha.wf ⟨hb0 ▸ Nat.zero_le _, h1⟩ (by rw [hpe, ha.rest, hbs]; rfl) he ha.errs
          fun hc hv => ?_
        have hc' : 0 < b.prep.cap := b.prep_cap.symm ▸ hc
        rw [hbs]
        exact ⟨hc', fun h => (hl hv).1 fun hz => h (List.eq_nil_of_length_eq_zero hz), fun h => by
          have := (hl hv).2 hc' (by rw [h]; rfl)
          rwa [ha.rest, h] at this⟩
      | intr i' ha he hl =>
        exact .intr _ (ha.buf hpw b.prep_pending) he fun hv => ⟨b.prep_cap.symm ▸ hv.1, hl hv.2⟩
      | other k i' ha hk hl =>
        exact .other k _ (ha.buf hpw b.prep_pending) hk fun hv => hl hv.2
    · rw [if_neg hnf]
      exact bufServe_post off hwi hpw (by rw [b.prep_pending]) (Nat.le_refl _) (fun _ h => h) fun hc hl =>
        ⟨b.prep_cap.symm ▸ hc, fun _ => hl, fun he => absurd he (b.prep_not_needFill_pending (Bool.eq_false_iff.2 hnf))⟩

/-- the reader of a helper loop: `r0` has handed out `x`, `r` is what is left of it -/
structure Rd.Run (r0 : Rd) (x : Bytes) (r : Rd) : Prop extends r0.After x r where
  live : r0.Live → r.Live

theorem Rd.Run.refl {r : Rd} (hw : r.WF) : r.Run [] r := ⟨.refl hw, id⟩

/-- the next `read`, offering `off`, seen from the start of the loop -/
inductive Rd.Step (r0 : Rd) (x : Bytes) (r : Rd) (off : Nat) : Res Bytes × Rd → Prop
  | eof (r1 : Rd) : r0.After x r1 → (r0.Live → 0 < off → x.length = r0.rest.length) → Step r0 x r off (.ok [], r1)
  | more (bs : Bytes) (r1 : Rd) : bs.length ≠ 0 → bs.length ≤ off → r0.Run (x ++ bs) r1 →
      r.rest.length = bs.length + r1.rest.length → r1.entries ≤ r.entries → Step r0 x r off (.ok bs, r1)
  | intr (r1 : Rd) : r0.Run x r1 → r.rest = r1.rest → r1.entries < r.entries → Step r0 x r off (.err .interrupted, r1)
  | other (k : Nat) (r1 : Rd) : r0.After x r1 → k ∈ r0.errs → ¬ r0.Live → Step r0 x r off (.err (.other k), r1)

theorem Rd.Run.read {r0 r : Rd} {x : Bytes} (h : r0.Run x r) (off : Nat) : Rd.Step r0 x r off (r.read off) := by
  have hp := r.read_post off h.wf
  generalize r.read off = out at hp
  cases hp with
  | ok bs r1 hb ha1 he hlv =>
    by_cases hz : bs.length = 0
    · cases List.eq_nil_of_length_eq_zero hz
      exact .eof r1 (h.trans_nil ha1) fun h0 ho => by rw [h.rest, (hlv (h.live h0)).2 ho rfl, List.append_nil]
    · exact .more bs r1 hz hb ⟨h.toAfter.trans ha1, fun h0 => (hlv (h.live h0)).1 hz⟩ ha1.length he
  | intr r1 ha1 he hlv => exact .intr r1 ⟨h.trans_nil ha1, fun h0 => hlv (h.live h0)⟩ ha1.rest he
  | other k r1 ha1 hk hnl => exact .other k r1 (h.trans_nil ha1) (h.errs k hk) fun h0 => hnl (h.live h0)

/-- outcome of `read_exact` / `read_vectored_exact` wanting `len` bytes from `r`, `t` of which arrived -/
def ExactPost (r : Rd) (len t : Nat) (res : Res Unit) (r' : Rd) : Prop :=
  t ≤ r.rest.length ∧ t ≤ len ∧ r'.rest = r.rest.drop t ∧ r'.WF ∧
    ((res = .ok () ∧ t = len) ∨
      (res = .err .unexpectedEof ∧ t < len ∧ (r.Live → t = r.rest.length)) ∨
      (∃ k, res = .err (.other k) ∧ k ∈ r.errs ∧ t < len ∧ ¬ r.Live))

theorem readExactLoop_spec (r0 : Rd) (d : Bytes) (cap : Nat) : ∀ (fuel : Nat) (x : Bytes) (r : Rd),
    r0.Run x r → x.length ≤ cap → (cap - x.length) + r.entries < fuel →
    ∃ (t : Nat) (res : Res Unit) (r' : Rd),
      readExactLoop fuel r ⟨overlay d 0 x, cap⟩ cap x.length =
        (res, r', ⟨overlay d 0 (r0.rest.take t), cap⟩) ∧ ExactPost r0 cap t res r' := by
  intro fuel
  induction fuel with
  | zero => intro _ _ _ _ hf; exact absurd hf (Nat.not_lt_zero _)
  | succ fuel ih =>
    intro x r h hx hf
    rw [readExactLoop]
    by_cases hlt : x.length < cap
    · rw [if_pos hlt, if_neg (by rw [overlay_length _ _ _ (Nat.zero_le _)]; omega)]
      have hs := h.read (cap - x.length)
      generalize r.read (cap - x.length) = out at hs
      cases hs with
      | eof r1 ha hall =>
        exact ⟨x.length, _, r1, by rw [ha.take_eq]; rfl, ha.length_le, hx, ha.drop_eq, ha.wf,
          .inr (.inl ⟨rfl, hlt, fun h0 => hall h0 (by omega)⟩)⟩
      | more bs r1 hz hb h1 _ he =>
        dsimp only
        rw [if_neg hz]
        have := ih (x ++ bs) r1 h1 (by rw [List.length_append]; omega) (by rw [List.length_append]; omega)
        rwa [List.length_append, ← overlay_zero_append] at this
      | intr r1 h1 _ he => exact ih x r1 h1 hx (by omega)
      | other k r1 ha hk hnl =>
        exact ⟨x.length, _, r1, by rw [ha.take_eq], ha.length_le, hx, ha.drop_eq, ha.wf,
          .inr (.inr ⟨k, rfl, hk, hlt, hnl⟩)⟩
    · rw [if_neg hlt]
      exact ⟨x.length, _, r, by rw [h.take_eq], h.length_le, hx, h.drop_eq, h.wf, .inl ⟨rfl, by omega⟩⟩

/-- the buffer `read_to_end` offers: grown by `reserve(32)` when full -/
def roomFor (b : VBuf) : VBuf := if b.data.length = b.cap then b.reserve 32 else b

theorem roomFor_data (b : VBuf) : (roomFor b).data = b.data := by
  unfold roomFor VBuf.reserve
  split
  · split <;> rfl
  · rfl

theorem roomFor_room (b : VBuf) (h : b.data.length ≤ b.cap) : b.data.length < (roomFor b).cap := by
  unfold roomFor VBuf.reserve
  split
  · rename_i he
    rw [if_neg (by omega)]
    simp only [growAmortized]
    omega
  · omega

theorem readToEndLoop_succ (fuel : Nat) (r : Rd) (b : VBuf) (start total : Nat) :
    readToEndLoop (fuel + 1) r b start total =
      if (roomFor b).data.length < start + total then (.panic, r, roomFor b)
      else
        match r.read ((roomFor b).cap - (start + total)) with
        | (.ok bs, r') =>
          if bs.length = 0 then (.ok total, r', roomFor b)
          else readToEndLoop fuel r' ((roomFor b).place (start + total) bs) start (total + bs.length)
        | (.err .interrupted, r') => readToEndLoop fuel r' (roomFor b) start total
        | (.err e, r') => (.err e, r', roomFor b)
        | (.panic, r') => (.panic, r', roomFor b)
        | (.ub, r') => (.ub, r', roomFor b)
        | (.fuel, r') => (.fuel, r', roomFor b) := rfl

theorem readToEndLoop_spec (r0 : Rd) (d : Bytes) : ∀ (fuel : Nat) (x : Bytes) (r : Rd) (b : VBuf),
    r0.Run x r → b.data = d ++ x → b.data.length ≤ b.cap → r.rest.length + r.entries < fuel →
    ∃ (t : Nat) (res : Res Nat) (r' : Rd) (cap' : Nat),
      readToEndLoop fuel r b d.length x.length = (res, r', ⟨d ++ r0.rest.take t, cap'⟩) ∧
      t ≤ r0.rest.length ∧ d.length + t ≤ cap' ∧ r'.rest = r0.rest.drop t ∧ r'.WF ∧
      ((res = .ok t ∧ (r0.Live → t = r0.rest.length)) ∨
        (∃ k, res = .err (.other k) ∧ k ∈ r0.errs ∧ ¬ r0.Live)) := by
  intro fuel
  induction fuel with
  | zero => intro _ _ _ _ _ _ hf; exact absurd hf (Nat.not_lt_zero _)
  | succ fuel ih =>
    intro x r b h hb hc hf
    have hrd := roomFor_data b
    have hroom := roomFor_room b hc
    rw [hb, List.length_append] at hroom
    rw [readToEndLoop_succ, if_neg (by rw [hrd, hb, List.length_append]; omega)]
    have hs := h.read ((roomFor b).cap - (d.length + x.length))
    generalize r.read ((roomFor b).cap - (d.length + x.length)) = out at hs
    cases hs with
    | eof r1 ha hall =>
      exact ⟨x.length, _, r1, (roomFor b).cap, by rw [ha.take_eq, ← hb, ← hrd]; rfl, ha.length_le, by omega,
        ha.drop_eq, ha.wf, .inl ⟨rfl, fun h0 => hall h0 (by omega)⟩⟩
    | more bs r1 hz hbl h1 hl1 he =>
      dsimp only
      rw [if_neg hz]
      have := ih (x ++ bs) r1 ((roomFor b).place (d.length + x.length) bs) h1
        (by rw [VBuf.place, hrd, hb, ← List.length_append, overlay_at_end, List.append_assoc])
        (by rw [VBuf.place, hrd, hb, ← List.length_append, overlay_at_end, List.length_append]
            show (d ++ x).length + bs.length ≤ (roomFor b).cap
            rw [List.length_append]
            omega)
        (by omega)
      rwa [List.length_append] at this
    | intr r1 h1 hl1 he =>
      exact ih x r1 (roomFor b) h1 (hrd ▸ hb) (by rw [hrd, hb, List.length_append]; omega) (by rw [← hl1]; omega)
    | other k r1 ha hk hnl =>
      exact ⟨x.length, _, r1, (roomFor b).cap, by rw [ha.take_eq, ← hb, ← hrd], ha.length_le, by omega,
        ha.drop_eq, ha.wf, .inr ⟨k, rfl, hk, hnl⟩⟩

/-- everything a FIFO writer has accepted so far, in order -/
def BaseWr.sink : BaseWr → Bytes
  | .script got _ _ _ => got
  | .vec v => v
  | .sliceMut s => s.done
  | .cursorVec v _ => v
  | .cursorArr a _ => a

/-- the writers that append what they accept (cursors overwrite at a position instead) -/
def BaseWr.Fifo : BaseWr → Prop
  | .script _ _ _ _ => True
  | .vec _ => True
  | .sliceMut _ => True
  | _ => False

/-- script entries left (fuel measure of the write loops, as `Rd.entries`) -/
def BaseWr.entries : BaseWr → Nat
  | .script _ sc _ _ => sc.length
  | _ => 0

def BaseWr.errs : BaseWr → List Nat
  | .script _ sc _ _ => sc.filterMap fun | .err k => some k | _ => none
  | _ => []

def BaseWr.NoIntr : BaseWr → Prop
  | .script _ sc _ _ => Outcome.intr ∉ sc
  | _ => True

def BaseWr.isScript : BaseWr → Bool
  | .script _ _ _ _ => true
  | _ => false

/-- `w'` is a later state of the FIFO writer `w` -/
structure BaseWr.Later (w w' : BaseWr) : Prop where
  fifo : w'.Fifo
  entries : w'.entries ≤ w.entries
  errs : ∀ k, k ∈ w'.errs → k ∈ w.errs
  noIntr : w.NoIntr → w'.NoIntr
  isScript : w.isScript = true → w'.isScript = true

theorem BaseWr.Later.refl {w : BaseWr} (h : w.Fifo) : w.Later w :=
  ⟨h, Nat.le_refl _, fun _ h => h, id, id⟩

theorem BaseWr.Later.trans {w w' w'' : BaseWr} (h : w.Later w') (h' : w'.Later w'') : w.Later w'' :=
  ⟨h'.fifo, Nat.le_trans h'.entries h.entries, fun k hk => h.errs k (h'.errs k hk),
    fun hn => h'.noIntr (h.noIntr hn), fun hs => h'.isScript (h.isScript hs)⟩

theorem BaseWr.Later.script (got got' : Bytes) (o : Outcome) (sc : List Outcome) (f s : Nat) :
    (BaseWr.script got (o :: sc) f s).Later (.script got' sc f s) :=
  ⟨trivial, Nat.le_succ _, fun _ h => ((List.sublist_cons_self o sc).filterMap _).subset h,
    fun h m => h (List.mem_cons_of_mem _ m), id⟩

/-- what one `write` does to a FIFO writer without `BufWriter` -/
inductive WritePost (w : BaseWr) (data : Bytes) : Res Nat × BaseWr → Prop
  | ok (n : Nat) (w' : BaseWr) : n ≤ data.length → w'.sink = w.sink ++ data.take n → w.Later w' →
      WritePost w data (.ok n, w')
  | intr (w' : BaseWr) : w'.sink = w.sink → ¬ w.NoIntr → w.Later w' → w'.entries < w.entries →
      WritePost w data (.err .interrupted, w')
  | other (k : Nat) (w' : BaseWr) : w'.sink = w.sink → k ∈ w.errs → w.Later w' →
      WritePost w data (.err (.other k), w')

theorem BaseWr.write_post (w : BaseWr) (data : Bytes) (hf : w.Fifo) : WritePost w data (w.write data) := by
  cases w with
  | script got sc f s =>
    rcases sc with _ | ⟨n | _ | k | _, sc⟩
    · exact .ok 0 _ (Nat.zero_le _) (List.append_nil _).symm (.refl trivial)
    · exact .ok _ _ (Nat.min_le_right ..) rfl (.script ..)
    · exact .intr _ rfl (fun h => h List.mem_cons_self) (.script ..) (Nat.lt_succ_self _)
    · exact .other k _ rfl List.mem_cons_self (.script ..)
    · exact .ok 0 _ (Nat.zero_le _) (List.append_nil _).symm (.script ..)
  | vec v =>
    exact .ok _ _ (Nat.le_refl _) (by rw [List.take_length]; rfl) ⟨trivial, Nat.le_refl _, fun _ h => h, id, id⟩
  | sliceMut sm => exact .ok _ _ (Nat.min_le_left ..) rfl ⟨trivial, Nat.le_refl _, fun _ h => h, id, id⟩
  | _ => exact hf.elim

/-- the errors a flush can end with: `WriteZero` (the inner writer took nothing), or what the inner writer answered -/
def FlushErr (w : BaseWr) (e : IoErr) : Prop :=
  e = .writeZero ∨ (e = .interrupted ∧ ¬ w.NoIntr) ∨ ∃ k, e = .other k ∧ k ∈ w.errs

/-- outcome of a flush: a prefix `y` of the pending bytes went to the inner writer, the buffer keeps exactly the rest -/
def FlushPost (w : BaseWr) (b : Buffer) (out : Res Nat × BaseWr × Buffer) : Prop :=
  ∃ y, b.pending = y ++ out.2.2.pending ∧ out.2.1.sink = w.sink ++ y ∧ out.2.2.WF ∧
    out.2.2.cap = b.cap ∧ w.Later out.2.1 ∧
    ((out.1 = .ok y.length ∧ out.2.2.pending = []) ∨
      (∃ e, out.1 = .err e ∧ out.2.2.pending ≠ [] ∧ FlushErr w e))

theorem flushLoop_spec (w0 : BaseWr) (b0 : Buffer) : ∀ (fuel : Nat) (y : Bytes) (w : BaseWr) (b : Buffer),
    w0.Later w → w.sink = w0.sink ++ y → b0.pending = y ++ b.pending → b.WF → b.cap = b0.cap →
    b.pending ≠ [] → b.pending.length ≤ fuel → FlushPost w0 b0 (flushLoop fuel w b y.length) := by
  intro fuel
  induction fuel with
  | zero => intro _ _ _ _ _ _ _ _ hne hf; exact absurd (List.eq_nil_of_length_eq_zero (Nat.le_zero.mp hf)) hne
  | succ fuel ih =>
    intro y w b hl hs hp hw hc hne hf
    rw [flushLoop]
    have hq := w.write_post b.pending hl.fifo
    generalize w.write b.pending = out at hq
    cases hq with
    | ok n w1 hn hs1 hl1 =>
      dsimp only
      by_cases hz : n = 0
      · rw [if_pos hz]
        subst hz
        exact ⟨y, hp, by rw [hs1, hs]; simp, hw, hc, hl.trans hl1, .inr ⟨_, rfl, hne, .inl rfl⟩⟩
      · rw [if_neg hz]
        obtain ⟨b', hadv, hp', hw', hc'⟩ := b.advance_some n hw hn
        rw [hadv]
        dsimp only
        have hs' : w1.sink = w0.sink ++ (y ++ b.pending.take n) := by rw [hs1, hs, List.append_assoc]
        have hp0 : b0.pending = (y ++ b.pending.take n) ++ b'.pending := by
          rw [hp, hp', List.append_assoc, List.take_append_drop]
        have hlen : y.length + n = (y ++ b.pending.take n).length := by
          rw [List.length_append, List.length_take, Nat.min_eq_left hn]
        rw [hlen]
        by_cases hd : b'.allDone = true
        · rw [if_pos hd]
          rw [b'.allDone_pending hd] at hp0
          exact ⟨_, by rw [Buffer.reset_pending]; exact hp0, hs', b'.reset_wf, hc'.trans hc, hl.trans hl1,
            .inl ⟨rfl, b'.reset_pending⟩⟩
        · rw [if_neg hd]
          exact ih _ w1 b' (hl.trans hl1) hs' hp0 hw' (hc'.trans hc)
            (b'.not_allDone_pending (by simpa using hd)) (by rw [hp', List.length_drop]; omega)
    | intr w1 hs1 hni hl1 _ =>
      exact ⟨y, hp, hs1.trans hs, hw, hc, hl.trans hl1,
        .inr ⟨_, rfl, hne, .inr (.inl ⟨rfl, fun h => hni (hl.noIntr h)⟩)⟩⟩
    | other k w1 hs1 hk hl1 =>
      exact ⟨y, hp, hs1.trans hs, hw, hc, hl.trans hl1, .inr ⟨_, rfl, hne, .inr (.inr ⟨k, rfl, hl.errs k hk⟩)⟩⟩

theorem flushTo_spec (w : BaseWr) (b : Buffer) (hf : w.Fifo) (hw : b.WF) : FlushPost w b (flushTo w b) := by
  unfold flushTo
  split
  · rename_i hd
    exact ⟨[], rfl, (List.append_nil _).symm, hw, rfl, .refl hf, .inl ⟨rfl, b.allDone_pending hd⟩⟩
  · rename_i hd
    exact flushLoop_spec w b _ [] w b (.refl hf) (List.append_nil _).symm rfl hw rfl
      (b.not_allDone_pending (by simpa using hd)) (Nat.le_refl _)

theorem FlushPost.sink {w : BaseWr} {b : Buffer} {out : Res Nat × BaseWr × Buffer} (h : FlushPost w b out) :
    out.2.1.sink ++ out.2.2.pending = w.sink ++ b.pending := by
  obtain ⟨y, hp, hs, _⟩ := h
  rw [hs, hp, List.append_assoc]

/-- `flush_if_needed`: like a flush that may also do nothing -/
def FlushIfPost (w : BaseWr) (b : Buffer) (out : Res Unit × BaseWr × Buffer) : Prop :=
  out.2.1.sink ++ out.2.2.pending = w.sink ++ b.pending ∧ out.2.2.WF ∧ out.2.2.cap = b.cap ∧
    w.Later out.2.1 ∧ (out.1 = .ok () ∨ ∃ e, out.1 = .err e ∧ FlushErr w e)

theorem flushIfNeeded_spec (w : BaseWr) (b : Buffer) (hf : w.Fifo) (hw : b.WF) :
    FlushIfPost w b (flushIfNeeded w b) := by
  unfold flushIfNeeded
  split
  · have hp := flushTo_spec w b hf hw
    have hs := hp.sink
    generalize flushTo w b = out at hp hs
    obtain ⟨res, w1, b1⟩ := out
    obtain ⟨y, _, _, hw1, hc1, hl1, ⟨rfl, _⟩ | ⟨e, rfl, _, he⟩⟩ := hp
    · exact ⟨hs, hw1, hc1, hl1, .inl rfl⟩
    · exact ⟨hs, hw1, hc1, hl1, .inr ⟨e, rfl, he⟩⟩
  · exact ⟨rfl, hw, rfl, .refl hf, .inl rfl⟩

theorem pushAll_spec : ∀ (views : List Bytes) (b : Buffer) (written : Nat), b.WF →
    ∃ k, (pushAll b written views).1 = written + k ∧ k ≤ views.flatten.length ∧
      (pushAll b written views).2.pending = b.pending ++ views.flatten.take k ∧
      (pushAll b written views).2.WF ∧ (pushAll b written views).2.cap = b.cap := by
  intro views
  induction views with
  | nil => intro b written hw; exact ⟨0, rfl, Nat.le_refl _, (List.append_nil _).symm, hw, rfl⟩
  | cons s rest ih =>
    intro b written hw
    obtain ⟨hp1, hp2, hp3, hp4, hp5⟩ := b.push_spec s hw
    have hfl : (s :: rest).flatten.length = s.length + rest.flatten.length := by
      rw [List.flatten_cons, List.length_append]
    rw [pushAll]
    by_cases hfull : (b.push s).2.data.length = (b.push s).2.cap
    · rw [if_pos hfull]
      exact ⟨(b.push s).1, rfl, by omega,
        by rw [hp1, List.flatten_cons, List.take_append_of_le_length hp3], hp2, hp4⟩
    · -- not full: the whole member was taken
      rw [if_neg hfull]
      have hall := hp5.resolve_left (hp4 ▸ hfull)
      obtain ⟨k, e1, e2, e3, e4, e5⟩ := ih (b.push s).2 (written + (b.push s).1) hp2
      refine ⟨s.length + k, by rw [e1, hall, Nat.add_assoc], by omega, ?_, e4, e5.trans hp4⟩
      rw [e3, hp1, hall, List.take_length, List.flatten_cons, List.take_length_add_append, List.append_assoc]

/-- bytes accepted and not lost: what reached the inner writer followed by what is buffered -/
def Wr.sink : Wr → Bytes
  | .base w => w.sink
  | .buf w b => w.sink ++ b.pending

def Wr.entries : Wr → Nat
  | .base w => w.entries
  | .buf w _ => w.entries

/-- a FIFO writer, or a `BufWriter` over a FIFO writer that never answers `Interrupted` -/
def Wr.Good : Wr → Prop
  | .base w => w.Fifo
  | .buf w b => w.Fifo ∧ b.WF ∧ w.NoIntr

/-- contract of `Wr.write`, a writer bare or buffered, as `Props.C11.write_one_call` states it: on a good writer
`Ok(n)` takes exactly the first `n` bytes; `Interrupted` takes nothing; another error may leave a prefix of the data
in a `BufWriter`'s buffer -/
def WrPost (w : Wr) (data : Bytes) : Res Nat × Wr → Prop
  | (.ok n, w') => n ≤ data.length ∧ w'.sink = w.sink ++ data.take n ∧ w'.Good ∧ w'.entries ≤ w.entries
  | (.err .interrupted, w') => w'.sink = w.sink ∧ w'.Good ∧ w'.entries < w.entries
  | (.err .unexpectedEof, _) => False
  | (.err _, w') => (∃ k, k ≤ data.length ∧ w'.sink = w.sink ++ data.take k) ∧ w'.Good
  | _ => False

/-- a scripted writer, bare or behind a `BufWriter` (the vectored theorems are stated for these) -/
def Wr.Scripted : Wr → Prop
  | .base w => w.isScript = true
  | .buf w _ => w.isScript = true

/-- the errors a good writer returns (never `Interrupted` from inside a `BufWriter`, never `UnexpectedEof`) -/
def WrErr (e : IoErr) : Prop := e = .writeZero ∨ ∃ k, e = .other k

theorem WrErr.res {α : Type} {e : IoErr} {res : Res α} (he : WrErr e) (h : res = .err e) :
    res = .err .writeZero ∨ ∃ k, res = .err (.other k) := by
  rcases he with rfl | ⟨k, rfl⟩
  · exact .inl h
  · exact .inr ⟨k, h⟩

theorem FlushErr.wrErr {w : BaseWr} {e : IoErr} (h : FlushErr w e) (hn : w.NoIntr) : WrErr e := by
  rcases h with h | ⟨_, h⟩ | ⟨k, h, _⟩
  · exact .inl h
  · exact absurd hn h
  · exact .inr ⟨k, h⟩

/-- contract of `Wr.write` and `Wr.writeVectored` as the loops use it: `WrPost` by cases, and a scripted writer stays scripted -/
inductive WrOut (w : Wr) (data : Bytes) : Res Nat × Wr → Prop
  | ok (n : Nat) (w' : Wr) : n ≤ data.length → w'.sink = w.sink ++ data.take n → w'.Good →
      w'.entries ≤ w.entries → (w.Scripted → w'.Scripted) → WrOut w data (.ok n, w')
  | intr (w' : Wr) : w'.sink = w.sink → w'.Good → w'.entries < w.entries → (w.Scripted → w'.Scripted) →
      WrOut w data (.err .interrupted, w')
  | fail (e : IoErr) (k : Nat) (w' : Wr) : WrErr e → k ≤ data.length → w'.sink = w.sink ++ data.take k →
      w'.Good → (w.Scripted → w'.Scripted) → WrOut w data (.err e, w')

theorem WrOut.post {w : Wr} {data : Bytes} {out : Res Nat × Wr} (h : WrOut w data out) : WrPost w data out := by
  cases h with
  | ok n w' h1 h2 h3 h4 _ => exact ⟨h1, h2, h3, h4⟩
  | intr w' h1 h2 h3 _ => exact ⟨h1, h2, h3⟩
  | fail e k w' he h1 h2 h3 _ => rcases he with rfl | ⟨j, rfl⟩ <;> exact ⟨⟨k, h1, h2⟩, h3⟩

theorem WrOut.scripted {w : Wr} {data : Bytes} {out : Res Nat × Wr} (h : WrOut w data out) (hs : w.Scripted) :
    out.2.Scripted := by
  cases h with
  | ok _ _ _ _ _ _ h => exact h hs
  | intr _ _ _ _ h => exact h hs
  | fail _ _ _ _ _ _ _ h => exact h hs

theorem WrOut.append {w : Wr} {data : Bytes} {out : Res Nat × Wr} (h : WrOut w data out) (rest : Bytes) :
    WrOut w (data ++ rest) out := by
  have hl : data.length ≤ (data ++ rest).length := by simp
  cases h with
  | ok n w' h1 h2 h3 h4 h5 =>
    exact .ok n w' (by omega) (by rw [h2, List.take_append_of_le_length h1]) h3 h4 h5
  | intr w' h1 h2 h3 h4 => exact .intr w' h1 h2 h3 h4
  | fail e k w' he h1 h2 h3 h4 =>
    exact .fail e k w' he (by omega) (by rw [h2, List.take_append_of_le_length h1]) h3 h4

theorem bufWriteVectored_out (w : BaseWr) (b : Buffer) (views : List Bytes) (hf : w.Fifo) (hw : b.WF)
    (hn : w.NoIntr) :
    WrOut (.buf w b) views.flatten
      ((bufWriteVectored w b views).1, .buf (bufWriteVectored w b views).2.1 (bufWriteVectored w b views).2.2) := by
  unfold bufWriteVectored
  have h1 := flushIfNeeded_spec w b hf hw
  generalize flushIfNeeded w b = out at h1
  obtain ⟨res, w1, b1⟩ := out
  obtain ⟨hs1, hw1, hc1, hl1, rfl | ⟨e, rfl, he⟩⟩ := h1
  · dsimp only
    obtain ⟨k, p1, p2, p3, p4, p5⟩ := pushAll_spec views b1 0 hw1
    have h2 := flushIfNeeded_spec w1 (pushAll b1 0 views).2 hl1.fifo p4
    generalize flushIfNeeded w1 (pushAll b1 0 views).2 = out2 at h2
    obtain ⟨res2, w2, b2⟩ := out2
    obtain ⟨hs2, hw2, hc2, hl2, hres⟩ := h2
    have hl := hl1.trans hl2
    have hs : (Wr.buf w2 b2).sink = (Wr.buf w b).sink ++ views.flatten.take (pushAll b1 0 views).1 := by
      show w2.sink ++ b2.pending = (w.sink ++ b.pending) ++ _
      rw [hs2, p3, ← List.append_assoc, hs1, p1, Nat.zero_add]
    have hk : (pushAll b1 0 views).1 ≤ views.flatten.length := by omega
    rcases hres with rfl | ⟨e, rfl, he⟩
    · exact .ok _ (.buf w2 b2) hk hs ⟨hl.fifo, hw2, hl.noIntr hn⟩ hl.entries hl.isScript
    · exact .fail e _ (.buf w2 b2) (he.wrErr (hl1.noIntr hn)) hk hs ⟨hl.fifo, hw2, hl.noIntr hn⟩
        hl.isScript
  · exact .fail e 0 (.buf w1 b1) (he.wrErr hn) (Nat.zero_le _) (by rw [List.take_zero, List.append_nil]; exact hs1)
      ⟨hl1.fifo, hw1, hl1.noIntr hn⟩ hl1.isScript

theorem pushAll_single (b : Buffer) (data : Bytes) : pushAll b 0 [data] = b.push data := by
  simp [pushAll]

theorem bufWrite_eq_vectored (w : BaseWr) (b : Buffer) (data : Bytes) :
    bufWrite w b data = bufWriteVectored w b [data] := by
  simp only [bufWrite, bufWriteVectored, pushAll_single]

theorem Wr.write_out (w : Wr) (data : Bytes) (hg : w.Good) : WrOut w data (w.write data) := by
  cases w with
  | base w =>
    have hp := w.write_post data hg
    rw [Wr.write]
    generalize w.write data = out at hp
    cases hp with
    | ok n w1 h1 h2 hl => exact .ok n (.base w1) h1 h2 hl.fifo hl.entries hl.isScript
    | intr w1 h1 hni hl he => exact .intr (.base w1) h1 hl.fifo he hl.isScript
    | other k w1 h1 hk hl =>
      exact .fail _ 0 (.base w1) (.inr ⟨k, rfl⟩) (Nat.zero_le _) (h1.trans (List.append_nil _).symm) hl.fifo
        hl.isScript
  | buf w b =>
    have := bufWriteVectored_out w b [data] hg.1 hg.2.1 hg.2.2
    rwa [← bufWrite_eq_vectored, List.flatten_cons, List.flatten_nil, List.append_nil] at this

theorem vslice_flatten : ∀ (bufs : List Bytes) (n : Nat), (vslice bufs n).flatten = bufs.flatten.drop n := by
  intro bufs
  induction bufs with
  | nil => intro n; simp [vslice]
  | cons b rest ih =>
    intro n
    unfold vslice
    split
    · rename_i h
      simp only [List.flatten_cons]
      rw [List.drop_append_of_le_length (by omega)]
    · rename_i h
      have hle : b.length ≤ n := Nat.le_of_not_gt h
      rw [ih]
      simp only [List.flatten_cons]
      rw [List.drop_append, List.drop_of_length_le hle]
      simp

theorem firstNonEmpty_some : ∀ (vs : List Bytes) (b : Bytes), firstNonEmpty vs = some b →
    ∃ rest, vs.flatten = b ++ rest := by
  intro vs
  induction vs with
  | nil => intro b h; simp [firstNonEmpty] at h
  | cons a rest ih =>
    intro b h
    unfold firstNonEmpty at h
    split at h
    · cases h
      exact ⟨rest.flatten, by simp⟩
    · rename_i ha
      have : a = [] := List.eq_nil_of_length_eq_zero (by omega)
      obtain ⟨r, h2⟩ := ih b h
      exact ⟨r, by simp [this, h2]⟩

theorem Wr.writeVectored_out (w : Wr) (views : List Bytes) (hg : w.Good) (hs : w.Scripted) :
    WrOut w views.flatten (w.writeVectored views) := by
  cases w with
  | base bw =>
    cases bw with
    | script got sc f s =>
      simp only [Wr.writeVectored, BaseWr.writeVectored]
      cases hfn : firstNonEmpty views with
      | none => exact .ok 0 _ (Nat.zero_le _) (List.append_nil _).symm hg (Nat.le_refl _) id
      | some b =>
        obtain ⟨rest, hfl⟩ := firstNonEmpty_some views b hfn
        rw [hfl]
        exact (Wr.write_out (.base (.script got sc f s)) b hg).append rest
    | _ => cases hs
  | buf bw b => exact bufWriteVectored_out bw b views hg.1 hg.2.1 hg.2.2

/-- outcome of `writeAll` / `writeVectoredAll` on `data`, `t` bytes of which were taken. An error does not mean
`t < data.length`: a `BufWriter` can report its flush error with the last byte already buffered. -/
def WriteAllPost (w : Wr) (data : Bytes) (out : Res Unit × Wr) : Prop :=
  ∃ (t : Nat) (res : Res Unit) (w' : Wr), out = (res, w') ∧ t ≤ data.length ∧
    w'.sink = w.sink ++ data.take t ∧ w'.Good ∧
    ((res = .ok () ∧ t = data.length ∧ w'.entries ≤ w.entries) ∨ ∃ e, res = .err e ∧ WrErr e)

/-- the outcome as the property theorems state it: without the script-entry bound of the `Ok` case, the errors spelt out -/
theorem WriteAllPost.weaken {w data out} (h : WriteAllPost w data out) :
    ∃ t res w', out = (res, w') ∧ t ≤ data.length ∧ w'.sink = w.sink ++ data.take t ∧ w'.Good ∧
      ((res = .ok () ∧ t = data.length) ∨ res = .err .writeZero ∨ (∃ k, res = .err (.other k))) := by
  obtain ⟨t, res, w', h1, h2, h3, h4, h5⟩ := h
  exact ⟨t, res, w', h1, h2, h3, h4, h5.elim (fun ⟨a, b, _⟩ => .inl ⟨a, b⟩) (fun ⟨_, a, b⟩ => .inr (b.res a))⟩

/-- `loop_write_all!` around any call `op` that, on the good writers satisfying `P`, behaves like one
`write` of the unsent rest of `data` -/
theorem writeLoop_spec {data : Bytes} {P : Wr → Prop} {op : Wr → Nat → Res Nat × Wr}
    {loop : Nat → Wr → Nat → Res Unit × Wr}
    (hop : ∀ w needle, w.Good → P w → WrOut w (data.drop needle) (op w needle) ∧ P (op w needle).2)
    (hloop : ∀ fuel w needle, loop (fuel + 1) w needle =
      if needle < data.length then
        match op w needle with
        | (.ok n, w') => if n = 0 then (.err .writeZero, w') else loop fuel w' (needle + n)
        | (.err .interrupted, w') => loop fuel w' needle
        | (.err e, w') => (.err e, w')
        | (.panic, w') => (.panic, w')
        | (.ub, w') => (.ub, w')
        | (.fuel, w') => (.fuel, w')
      else (.ok (), w))
    (w0 : Wr) : ∀ (fuel needle : Nat) (w : Wr), w.Good → P w → needle ≤ data.length →
      w.sink = w0.sink ++ data.take needle → w.entries ≤ w0.entries →
      (data.length - needle) + w.entries < fuel → WriteAllPost w0 data (loop fuel w needle) := by
  intro fuel
  induction fuel with
  | zero => intro _ _ _ _ _ _ _ hf; exact absurd hf (Nat.not_lt_zero _)
  | succ fuel ih =>
    intro needle w hg hP hn hs he hf
    rw [hloop]
    by_cases hlt : needle < data.length
    · rw [if_pos hlt]
      obtain ⟨hp, hP'⟩ := hop w needle hg hP
      generalize op w needle = out at hp hP'
      have hdl : (data.drop needle).length = data.length - needle := List.length_drop
      have htk : ∀ n, data.take needle ++ (data.drop needle).take n = data.take (needle + n) :=
        fun n => List.take_add.symm
      cases hp with
      | ok n w1 h1 h2 h3 h4 _ =>
        dsimp only
        by_cases hz : n = 0
        · rw [if_pos hz]
          subst hz
          exact ⟨needle, _, w1, rfl, hn, by rw [h2, hs]; simp, h3, .inr ⟨_, rfl, .inl rfl⟩⟩
        · rw [if_neg hz]
          exact ih (needle + n) w1 h3 hP' (by omega) (by rw [h2, hs, List.append_assoc, htk]) (by omega)
            (by omega)
      | intr w1 h1 h2 h3 _ => exact ih needle w1 h2 hP' hn (h1.trans hs) (by omega) (by omega)
      | fail e k w1 hE h1 h2 h3 _ =>
        have hE' := hE
        rcases hE' with rfl | ⟨j, rfl⟩ <;>
          exact ⟨needle + k, _, w1, rfl, by omega, by rw [h2, hs, List.append_assoc, htk], h3, .inr ⟨_, rfl, hE⟩⟩
    · rw [if_neg hlt]
      exact ⟨needle, _, w, rfl, hn, hs, hg, .inl ⟨rfl, by omega, he⟩⟩

theorem writeAll_spec (fuel : Nat) (w : Wr) (data : Bytes) (hg : w.Good) (hf : data.length + w.entries < fuel) :
    WriteAllPost w data (writeAll fuel w data) :=
  writeLoop_spec (P := fun _ => True) (op := fun w n => w.write (data.drop n))
    (loop := fun f w n => writeAllLoop f w data n) (fun w _ hg _ => ⟨w.write_out _ hg, trivial⟩)
    (fun _ _ _ => rfl) w fuel 0 w hg trivial (Nat.zero_le _) (List.append_nil _).symm (Nat.le_refl _) (by omega)

theorem writeVectoredAll_spec (fuel : Nat) (w : Wr) (bufs : List Bytes) (hg : w.Good) (hs : w.Scripted)
    (hf : bufs.flatten.length + w.entries < fuel) :
    WriteAllPost w bufs.flatten (writeVectoredAll fuel w bufs) := by
  rw [writeVectoredAll, sumNat_map_length]
  exact writeLoop_spec (P := Wr.Scripted) (op := fun w n => w.writeVectored (vslice bufs n))
    (loop := fun f w n => writeVectoredAllLoop f w bufs bufs.flatten.length n)
    (fun w n hg hs => by
      have := w.writeVectored_out (vslice bufs n) hg hs
      rw [vslice_flatten] at this
      exact ⟨this, this.scripted hs⟩)
    (fun _ _ _ => rfl) w fuel 0 w hg hs (Nat.zero_le _) (List.append_nil _).symm (Nat.le_refl _) (by omega)

/-- nothing is held back in a `BufWriter` -/
def Wr.Flushed : Wr → Prop
  | .base _ => True
  | .buf _ b => b.pending = []

/-- outcome of `flush`/`shutdown` on a good writer: nothing is lost or reordered; after `Ok`
everything accepted so far is at the inner writer; the only errors are `WriteZero` and the inner
writer's own -/
def CtlPost (w : Wr) (out : Res Unit × Wr) : Prop :=
  out.2.sink = w.sink ∧ out.2.Good ∧ out.2.entries ≤ w.entries ∧
    ((out.1 = .ok () ∧ out.2.Flushed) ∨ out.1 = .err .writeZero ∨ (∃ k, out.1 = .err (.other k)))

theorem BaseWr.flush_later (w : BaseWr) (hf : w.Fifo) : w.Later w.flush ∧ w.flush.sink = w.sink := by
  cases w <;> exact ⟨⟨hf, Nat.le_refl _, fun _ h => h, id, id⟩, rfl⟩

theorem BaseWr.shutdown_later (w : BaseWr) (hf : w.Fifo) : w.Later w.shutdown ∧ w.shutdown.sink = w.sink := by
  cases w <;> exact ⟨⟨hf, Nat.le_refl _, fun _ h => h, id, id⟩, rfl⟩

/-- `flush` and `shutdown` of a `BufWriter` are its flush followed, after `Ok`, by a call `g` that
the inner writer only counts -/
theorem bufCtl_post {g : BaseWr → BaseWr} (hgl : ∀ w : BaseWr, w.Fifo → w.Later (g w) ∧ (g w).sink = w.sink)
    (w : BaseWr) (b : Buffer) (hg : (Wr.buf w b).Good) :
    CtlPost (.buf w b)
      (match flushTo w b with
      | (.ok _, w', b') => (.ok (), .buf (g w') b')
      | (.err e, w', b') => (.err e, .buf w' b')
      | (.panic, w', b') => (.panic, .buf w' b')
      | (.ub, w', b') => (.ub, .buf w' b')
      | (.fuel, w', b') => (.fuel, .buf w' b')) := by
  have hp := flushTo_spec w b hg.1 hg.2.1
  have hs := hp.sink
  generalize flushTo w b = out at hp hs
  obtain ⟨res, w1, b1⟩ := out
  obtain ⟨y, _, _, hw1, _, hl1, ⟨rfl, he⟩ | ⟨e, rfl, _, he⟩⟩ := hp
  · obtain ⟨hl', hs'⟩ := hgl w1 hl1.fifo
    exact ⟨(congrArg (· ++ b1.pending) hs').trans hs, ⟨hl'.fifo, hw1, hl'.noIntr (hl1.noIntr hg.2.2)⟩,
      Nat.le_trans hl'.entries hl1.entries, .inl ⟨rfl, he⟩⟩
  · exact ⟨hs, ⟨hl1.fifo, hw1, hl1.noIntr hg.2.2⟩, hl1.entries, .inr ((he.wrErr hg.2.2).res rfl)⟩

theorem Wr.flush_post (w : Wr) (hg : w.Good) : CtlPost w w.flush := by
  cases w with
  | base w =>
    obtain ⟨hl, hs⟩ := w.flush_later hg
    exact ⟨hs, hl.fifo, hl.entries, .inl ⟨rfl, trivial⟩⟩
  | buf w b => exact bufCtl_post (g := id) (fun _ h => ⟨.refl h, rfl⟩) w b hg

theorem Wr.shutdown_post (w : Wr) (hg : w.Good) : CtlPost w w.shutdown := by
  cases w with
  | base w =>
    obtain ⟨hl, hs⟩ := w.shutdown_later hg
    exact ⟨hs, hl.fifo, hl.entries, .inl ⟨rfl, trivial⟩⟩
  | buf w b => exact bufCtl_post BaseWr.shutdown_later w b hg

/-- `CtlPost` with the errors under one `∃` (the loops pass any error through) -/
theorem CtlPost.cases {w : Wr} {out : Res Unit × Wr} (h : CtlPost w out) :
    out.2.sink = w.sink ∧ out.2.Good ∧ ((out.1 = .ok () ∧ out.2.Flushed) ∨ ∃ e, out.1 = .err e ∧ WrErr e) := by
  obtain ⟨h1, h2, _, h4 | h4 | ⟨k, h4⟩⟩ := h
  · exact ⟨h1, h2, .inl h4⟩
  · exact ⟨h1, h2, .inr ⟨_, h4, .inl rfl⟩⟩
  · exact ⟨h1, h2, .inr ⟨_, h4, .inr ⟨k, rfl⟩⟩⟩

/-- outcome of `copy_with_size` from `r` into `w`: the writer got a prefix `tw` of what the reader had, the reader
handed out `tr ≥ tw` bytes (the difference is the chunk in flight when an error stopped the copy) -/
def CopyPost (r : Rd) (w : Wr) (size : Nat) (out : Res Nat × Rd × Wr) : Prop :=
  ∃ (tr tw : Nat) (res : Res Nat) (r' : Rd) (w' : Wr),
    out = (res, r', w') ∧ tw ≤ tr ∧ tr ≤ r.rest.length ∧
    r'.rest = r.rest.drop tr ∧ w'.sink = w.sink ++ r.rest.take tw ∧ r'.WF ∧ w'.Good ∧
    ((res = .ok tr ∧ tw = tr ∧ w'.Flushed ∧ (r.Live → 0 < size → tr = r.rest.length)) ∨
      res = .err .writeZero ∨ (∃ k, res = .err (.other k)))

theorem copyLoop_spec (r0 : Rd) (w0 : Wr) (size : Nat) : ∀ (fuel : Nat) (x : Bytes) (r : Rd) (w : Wr),
    r0.Run x r → w.Good → w.sink = w0.sink ++ x →
    r.rest.length + r.entries + w.entries < fuel → CopyPost r0 w0 size (copyLoop fuel r w size x.length) := by
  intro fuel
  induction fuel with
  | zero => intro _ _ _ _ _ _ hf; exact absurd hf (Nat.not_lt_zero _)
  | succ fuel ih =>
    intro x r w h hg hs hf
    rw [copyLoop]
    -- the exits at which reader and writer agree on `x`
    have stop : ∀ (res : Res Nat) (r' : Rd) (w' : Wr), r0.After x r' → w'.sink = w0.sink ++ x → w'.Good →
        ((res = .ok x.length ∧ w'.Flushed ∧ (r0.Live → 0 < size → x.length = r0.rest.length)) ∨
          ∃ e, res = .err e ∧ WrErr e) → CopyPost r0 w0 size (res, r', w') :=
      fun res r' w' ha' hs' hg' h => ⟨x.length, x.length, res, r', w', rfl, Nat.le_refl _, ha'.length_le,
        ha'.drop_eq, by rw [ha'.take_eq]; exact hs', ha'.wf, hg',
        h.elim (fun ⟨a, b, c⟩ => .inl ⟨a, rfl, b, c⟩) (fun ⟨_, a, b⟩ => .inr (b.res a))⟩
    have hp := h.read size
    generalize r.read size = out at hp
    cases hp with
    | eof r1 ha hall =>
      dsimp only
      rw [if_pos List.length_nil]
      obtain ⟨f1, f2, f3⟩ := (w.flush_post hg).cases
      generalize w.flush = outf at f1 f2 f3
      obtain ⟨resf, w1⟩ := outf
      rcases f3 with ⟨rfl, _⟩ | ⟨e, rfl, hE⟩
      · dsimp only
        obtain ⟨s1, s2, s3⟩ := (w1.shutdown_post f2).cases
        generalize w1.shutdown = outs at s1 s2 s3
        obtain ⟨ress, w2⟩ := outs
        rcases s3 with ⟨rfl, hfl⟩ | ⟨e, rfl, hE⟩
        · exact stop _ r1 w2 ha (s1.trans (f1.trans hs)) s2 (.inl ⟨rfl, hfl, hall⟩)
        · exact stop _ r1 w2 ha (s1.trans (f1.trans hs)) s2 (.inr ⟨e, rfl, hE⟩)
      · exact stop _ r1 w1 ha (f1.trans hs) f2 (.inr ⟨e, rfl, hE⟩)
    | more bs r1 hz hb h1 hl1 he =>
      dsimp only
      rw [if_neg hz]
      obtain ⟨t, resw, w1, e1, e2, e3, e4, e5⟩ := writeAll_spec (fuel + 1) w bs hg (by omega)
      rw [e1]
      rcases e5 with ⟨rfl, rfl, hent⟩ | ⟨e, rfl, hE⟩
      · have := ih (x ++ bs) r1 w1 h1 e4 (by rw [e3, hs, List.take_length, List.append_assoc]) (by omega)
        rwa [List.length_append] at this
      · have hr : r0.rest = (x ++ bs.take t) ++ (bs.drop t ++ r1.rest) := by
          rw [h1.rest, List.append_assoc, List.append_assoc, ← List.append_assoc (bs.take t), List.take_append_drop]
        exact ⟨(x ++ bs).length, (x ++ bs.take t).length, _, r1, w1, rfl,
          by rw [List.length_append, List.length_append, List.length_take]; omega, h1.length_le, h1.drop_eq,
          by rw [e3, hs, List.append_assoc, hr, List.take_left], h1.wf, e4, .inr (hE.res rfl)⟩
    | intr r1 h1 hl1 he => exact ih x r1 w h1 hg hs (by rw [← hl1]; omega)
    | other k r1 ha hk hnl => exact stop _ r1 w ha hs hg (.inr ⟨_, rfl, .inr ⟨k, rfl⟩⟩)

/-- the script without its `Interrupted` entries (`Rd.strip`, `Wr.strip`: the same on a scripted reader / writer) -/
def stripIntr : List Outcome → List Outcome
  | [] => []
  | .intr :: r => stripIntr r
  | .ok n :: r => .ok n :: stripIntr r
  | .err k :: r => .err k :: stripIntr r
  | .eof :: r => .eof :: stripIntr r

theorem stripIntr_length_le (sc : List Outcome) : (stripIntr sc).length ≤ sc.length := by
  induction sc with
  | nil => simp [stripIntr]
  | cons o r ih => cases o <;> simp [stripIntr] <;> omega

/-- the fuel bound of the `*_strip` inductions survives a step: one script entry is gone (`c + 1` to `c`) and the
distance to go has not grown (`b ≤ a`) -/
theorem fuel_step {a b c f : Nat} (h : a + (c + 1) < f + 1) (hb : b ≤ a) : b + c < f := by omega

def Rd.strip : Rd → Rd
  | .script s sc => .script s (stripIntr sc)
  | r => r

theorem readExactLoop_strip : ∀ (f1 f2 : Nat) (sc : List Outcome) (s : Bytes) (b : VBuf) (len read : Nat),
    (len - read) + sc.length < f1 → (len - read) + (stripIntr sc).length < f2 →
    readExactLoop f2 (.script s (stripIntr sc)) b len read =
      ((readExactLoop f1 (.script s sc) b len read).1, (readExactLoop f1 (.script s sc) b len read).2.1.strip,
        (readExactLoop f1 (.script s sc) b len read).2.2) := by
  intro f1
  induction f1 with
  | zero => intro _ _ _ _ _ _ h1; exact absurd h1 (Nat.not_lt_zero _)
  | succ f1 ih =>
    intro f2 sc s b len read h1 h2
    obtain ⟨f2, rfl⟩ := Nat.exists_eq_add_one_of_ne_zero (Nat.ne_of_gt (Nat.zero_lt_of_lt h2))
    rw [readExactLoop.eq_2 (.script s sc)]
    by_cases hlt : read < len
    · by_cases hp : b.data.length < read
      · rw [readExactLoop, if_pos hlt, if_pos hlt, if_pos hp, if_pos hp]
        rfl
      · rw [if_pos hlt, if_neg hp]
        rcases sc with _ | ⟨n | _ | k | _, rest⟩
        · rw [readExactLoop, if_pos hlt, if_neg hp]
          rfl
        · rw [readExactLoop, if_pos hlt, if_neg hp]
          dsimp only [Rd.read, scriptRead, stripIntr]
          generalize min n (b.cap - read) = m
          split
          · rfl
          · exact ih f2 rest _ _ len _ (fuel_step h1 (Nat.sub_le_sub_left (Nat.le_add_right ..) _))
              (fuel_step h2 (Nat.sub_le_sub_left (Nat.le_add_right ..) _))
        · -- the stripped run has not taken a step yet
          exact ih (f2 + 1) rest s b len read (fuel_step h1 (Nat.le_refl _)) h2
        · rw [readExactLoop, if_pos hlt, if_neg hp]
          rfl
        · rw [readExactLoop, if_pos hlt, if_neg hp]
          rfl
    · rw [readExactLoop, if_neg hlt, if_neg hlt]
      rfl

theorem roomFor_idem (b : VBuf) : roomFor (roomFor b) = roomFor b := by
  by_cases h : b.data.length = b.cap
  · have h1 : roomFor b = { b with cap := growAmortized b.data.length b.cap 32 } := by
      unfold roomFor VBuf.reserve
      rw [if_pos h, if_neg (by omega)]
    rw [h1]
    unfold roomFor
    rw [if_neg]
    simp only [growAmortized]
    omega
  · have h1 : roomFor b = b := by
      unfold roomFor
      rw [if_neg h]
    rw [h1, h1]

theorem readToEndLoop_roomFor (fuel : Nat) (r : Rd) (b : VBuf) (start total : Nat) :
    readToEndLoop (fuel + 1) r (roomFor b) start total = readToEndLoop (fuel + 1) r b start total := by
  rw [readToEndLoop_succ, readToEndLoop_succ, roomFor_idem]

theorem readToEndLoop_strip : ∀ (f1 f2 : Nat) (sc : List Outcome) (s : Bytes) (b : VBuf) (start total : Nat),
    s.length + sc.length < f1 → s.length + (stripIntr sc).length < f2 →
    readToEndLoop f2 (.script s (stripIntr sc)) b start total =
      ((readToEndLoop f1 (.script s sc) b start total).1,
        (readToEndLoop f1 (.script s sc) b start total).2.1.strip,
        (readToEndLoop f1 (.script s sc) b start total).2.2) := by
  intro f1
  induction f1 with
  | zero => intro _ _ _ _ _ _ h1; exact absurd h1 (Nat.not_lt_zero _)
  | succ f1 ih =>
    intro f2 sc s b start total h1 h2
    obtain ⟨f2, rfl⟩ := Nat.exists_eq_add_one_of_ne_zero (Nat.ne_of_gt (Nat.zero_lt_of_lt h2))
    rw [readToEndLoop_succ f1]
    by_cases hp : (roomFor b).data.length < start + total
    · rw [readToEndLoop_succ, if_pos hp, if_pos hp]
      rfl
    · rw [if_neg hp]
      rcases sc with _ | ⟨n | _ | k | _, rest⟩
      · rw [readToEndLoop_succ, if_neg hp]
        rfl
      · rw [readToEndLoop_succ, if_neg hp]
        dsimp only [Rd.read, scriptRead, stripIntr]
        generalize min n ((roomFor b).cap - (start + total)) = m
        split
        · rfl
        · exact ih f2 rest _ _ start _ (fuel_step h1 (List.length_drop ▸ Nat.sub_le ..))
            (fuel_step h2 (List.length_drop ▸ Nat.sub_le ..))
      · -- the stripped run has not taken a step yet: it starts from `b`, the original continues
        -- from `roomFor b`
        rw [← readToEndLoop_roomFor f2 (.script s (stripIntr (.intr :: rest)))]
        exact ih (f2 + 1) rest s (roomFor b) start total (fuel_step h1 (Nat.le_refl _)) h2
      · rw [readToEndLoop_succ, if_neg hp]
        rfl
      · rw [readToEndLoop_succ, if_neg hp]
        rfl

def Wr.strip : Wr → Wr
  | .base (.script got sc f s) => .base (.script got (stripIntr sc) f s)
  | w => w

theorem writeAllLoop_strip : ∀ (f1 f2 : Nat) (sc : List Outcome) (got : Bytes) (fl sh : Nat) (data : Bytes)
    (needle : Nat), (data.length - needle) + sc.length < f1 →
    (data.length - needle) + (stripIntr sc).length < f2 →
    writeAllLoop f2 (.base (.script got (stripIntr sc) fl sh)) data needle =
      ((writeAllLoop f1 (.base (.script got sc fl sh)) data needle).1,
        (writeAllLoop f1 (.base (.script got sc fl sh)) data needle).2.strip) := by
  intro f1
  induction f1 with
  | zero => intro _ _ _ _ _ _ _ h1; exact absurd h1 (Nat.not_lt_zero _)
  | succ f1 ih =>
    intro f2 sc got fl sh data needle h1 h2
    obtain ⟨f2, rfl⟩ := Nat.exists_eq_add_one_of_ne_zero (Nat.ne_of_gt (Nat.zero_lt_of_lt h2))
    rw [writeAllLoop.eq_2 (.base (.script got sc fl sh))]
    by_cases hlt : needle < data.length
    · rw [if_pos hlt]
      rcases sc with _ | ⟨n | _ | k | _, rest⟩
      · rw [writeAllLoop, if_pos hlt]
        rfl
      · rw [writeAllLoop, if_pos hlt]
        dsimp only [Wr.write, BaseWr.write, scriptWrite, stripIntr]
        generalize min n (data.drop needle).length = m
        split
        · rfl
        · exact ih f2 rest _ fl sh data _ (fuel_step h1 (Nat.sub_le_sub_left (Nat.le_add_right ..) _))
            (fuel_step h2 (Nat.sub_le_sub_left (Nat.le_add_right ..) _))
      · -- the stripped run has not taken a step yet
        exact ih (f2 + 1) rest got fl sh data needle (fuel_step h1 (Nat.le_refl _)) h2
      · rw [writeAllLoop, if_pos hlt]
        rfl
      · rw [writeAllLoop, if_pos hlt]
        rfl
    · rw [writeAllLoop, if_neg hlt, if_neg hlt]
      rfl

theorem readExactAtLoop_eq_cursor : ∀ (fuel : Nat) (src : Bytes) (b : VBuf) (pos len read : Nat),
    readExactAtLoop fuel src b pos len read =
      ((readExactLoop fuel (.cursor src (pos + read)) b len read).1,
        (readExactLoop fuel (.cursor src (pos + read)) b len read).2.2) := by
  intro fuel
  induction fuel with
  | zero => intro src b pos len read; rfl
  | succ fuel ih =>
    intro src b pos len read
    rw [readExactAtLoop, readExactLoop]
    by_cases hlt : read < len
    · rw [if_pos hlt, if_pos hlt]
      by_cases hp : b.data.length < read
      · rw [if_pos hp, if_pos hp]
      · rw [if_neg hp, if_neg hp]
        dsimp only [Rd.read]
        by_cases hz : (readAt src (pos + read) (b.cap - read)).length = 0
        · rw [if_pos hz, if_pos hz]
        · rw [if_neg hz, if_neg hz, ih, Nat.add_assoc]
    · rw [if_neg hlt, if_neg hlt]

theorem readToEndAtLoop_eq_cursor : ∀ (fuel : Nat) (src : Bytes) (b : VBuf) (pos start total : Nat),
    readToEndAtLoop fuel src b pos start total =
      ((readToEndLoop fuel (.cursor src (pos + total)) b start total).1,
        (readToEndLoop fuel (.cursor src (pos + total)) b start total).2.2) := by
  intro fuel
  induction fuel with
  | zero => intro src b pos start total; rfl
  | succ fuel ih =>
    intro src b pos start total
    rw [readToEndAtLoop, readToEndLoop]
    dsimp only [Rd.read]
    generalize (if b.data.length = b.cap then b.reserve 32 else b) = b1
    by_cases hp : b1.data.length < start + total
    · rw [if_pos hp, if_pos hp]
    · rw [if_neg hp, if_neg hp]
      by_cases hz : (readAt src (pos + total) (b1.cap - (start + total))).length = 0
      · rw [if_pos hz, if_pos hz]
      · rw [if_neg hz, if_neg hz, ih, Nat.add_assoc]

/-- readers whose `read_vectored` is the default loop (`loop_read_vectored!`) -/
def Rd.UsesDefault : Rd → Prop
  | .script _ _ => True
  | .take _ _ => True
  | _ => False

theorem Rd.readVectored_default (r : Rd) (h : r.UsesDefault) (vs : VS) :
    r.readVectored vs = defaultReadVectored r vs := by
  cases r <;> simp_all [Rd.UsesDefault, Rd.readVectored]

theorem Rd.usesDefault_read (r : Rd) (off : Nat) (h : r.UsesDefault) : (r.read off).2.UsesDefault := by
  cases r with
  | script s sc => trivial
  | take i lim =>
    rw [Rd.read]
    split
    · exact h
    · generalize i.read (min lim off) = out
      obtain ⟨res, i'⟩ := out
      cases res with
      | ok bs =>
        dsimp only
        split <;> trivial
      | _ => trivial
  | _ => exact h.elim

theorem readVectoredExactLoop_spec (r0 : Rd) (caps : List Nat) : ∀ (fuel : Nat) (x : Bytes) (r : Rd),
    r0.Run x r → r.UsesDefault → x.length ≤ sumNat caps → (sumNat caps - x.length) + r.entries < fuel →
    ∃ (t : Nat) (res : Res Unit) (r' : Rd),
      readVectoredExactLoop fuel r (filled caps x) (sumNat caps) x.length =
        (res, r', filled caps (r0.rest.take t)) ∧ ExactPost r0 (sumNat caps) t res r' := by
  intro fuel
  induction fuel with
  | zero => intro _ _ _ _ _ hf; exact absurd hf (Nat.not_lt_zero _)
  | succ fuel ih =>
    intro x r h hu hx hf
    rw [readVectoredExactLoop]
    by_cases hlt : x.length < sumNat caps
    · obtain ⟨room, hroom, hrle, hfr, hfill⟩ := fillView_filled caps x hlt
      rw [if_pos hlt, r.readVectored_default hu, defaultReadVectored, hfr]
      dsimp only
      have hs := h.read room
      have hu1 := r.usesDefault_read room hu
      generalize r.read room = out at hs hu1
      cases hs with
      | eof r1 ha hall =>
        dsimp only
        rw [hfill [] (Nat.zero_le _)]
        exact ⟨x.length, _, r1, by rw [ha.take_eq, List.append_nil]; rfl, ha.length_le, hx, ha.drop_eq, ha.wf,
          .inr (.inl ⟨rfl, hlt, fun h0 => hall h0 hroom⟩)⟩
      | more bs r1 hz hb h1 _ he =>
        dsimp only
        rw [hfill bs hb]
        dsimp only
        rw [if_neg hz]
        have := ih (x ++ bs) r1 h1 hu1 (by rw [List.length_append]; omega) (by rw [List.length_append]; omega)
        rwa [List.length_append] at this
      | intr r1 h1 _ he => exact ih x r1 h1 hu1 hx (by omega)
      | other k r1 ha hk hnl =>
        exact ⟨x.length, _, r1, by rw [ha.take_eq]; rfl, ha.length_le, hx, ha.drop_eq, ha.wf,
          .inr (.inr ⟨k, rfl, hk, hlt, hnl⟩)⟩
    · rw [if_neg hlt]
      exact ⟨x.length, _, r, by rw [h.take_eq], h.length_le, hx, h.drop_eq, h.wf, .inl ⟨rfl, by omega⟩⟩

end Compio.Io
