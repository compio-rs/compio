/-
Second invariant of the key life-cycle model, about VALUES rather than ownership:
honesty (every value that sits in a result slot, a multishot queue, a completed-channel entry or an unseen CQE
was produced by the kernel / `operate` / the pool closure, or is ECANCELED) and the zero-copy ordering
(an operation handed to the kernel gets its result — hence goes back to the caller — only after its final CQE).
-/
import Compio.Lemmas.KeyLife

namespace Compio.KeyLife

open Compio.PollQueues

/-- `r` is a result the environment produced for `o`, or the cancellation error -/
def Genuine (o : Op) (r : Res) : Prop := r ∈ o.produced ∨ r = ECANCELED

/-- per-operation part of `Inv2`: `h_*` are honesty (C05 `honesty` states `h_result`, `h_multi`, `h_chan`; `h_pm`, `h_pf`
about unseen CQEs make them inductive), `result_final` … `final_done` the
zero-copy ordering (consumed by C01 `handed_back_only_after_final_cqe`); `fin2` repeats `OpOk.fin` so that `Inv2` is
inductive without `Inv`, hence for every `Cfg` and without the `hazard` guard -/
structure OpOk2 (drv : Drv) (o : Op) : Prop where
  h_result : ∀ r, o.result = some r → Genuine o r
  h_multi : ∀ r, r ∈ o.multi → Genuine o r
  h_chan : ∀ r, r ∈ o.chan → Genuine o r
  h_pm : ∀ r, r ∈ o.pendMore → Genuine o r
  h_pf : ∀ r, o.pendFinal = some r → Genuine o r
  /-- ops handed to the kernel never travel through the completed channel, are no pool jobs, and are io_uring's -/
  kern_no_chan : o.kstat ≠ .none → o.chan = [] ∧ o.poolRun = false ∧ drv = .iour
  result_final : o.result.isSome = true → o.kstat ≠ .none → o.finalSeen = true
  returned_final : 0 < o.returned → o.kstat ≠ .none → o.finalSeen = true
  final_done : o.finalSeen = true → o.kstat = .done
  fin2 : o.pendFinal.isSome = true → o.kstat = .done

def Inv2 (s : State) : Prop := ∀ (i : Nat) (o : Op), s.ops[i]? = some o → OpOk2 s.drv o

theorem inv2_init (d : Drv) (cap : Nat) : Inv2 (init d cap) := by
  intro i o h; simp [init] at h

/-- what `OpOk2` reads of an op -/
def Op.vals (o : Op) :=
  (o.result, o.multi, o.chan, o.pendMore, o.pendFinal, o.kstat, o.poolRun, o.finalSeen, o.returned, o.produced)

theorem OpOk2.congr {d : Drv} {o o' : Op} (ok : OpOk2 d o) (h : o'.vals = o.vals) : OpOk2 d o' := by
  simp only [Op.vals, Prod.mk.injEq] at h
  obtain ⟨h1, h2, h3, h4, h5, h6, h7, h8, h9, h10⟩ := h
  obtain ⟨a1, a2, a3, a4, a5, a6, a7, a8, a9, a10⟩ := ok
  constructor <;> simp only [Genuine, h1, h2, h3, h4, h5, h6, h7, h8, h9, h10] <;> assumption

theorem inv2_rel {s s' : State} (hi : Inv2 s) (h : OpsRel (fun _ o o' => OpOk2 s.drv o → OpOk2 s.drv o') s.ops s'.ops)
    (hdrv : s'.drv = s.drv) : Inv2 s' := by
  intro j o' ho'
  obtain ⟨o, ho, hok⟩ := h.get' ho'
  rw [hdrv]; exact hok (hi j o ho)

theorem inv2_modAt {s : State} (hi : Inv2 s) (id : Nat) (f : Op → Op)
    (hf : ∀ o, s.ops[id]? = some o → OpOk2 s.drv o → OpOk2 s.drv (f o)) : Inv2 { s with ops := modAt f s.ops id } :=
  inv2_rel hi (OpsRel.modAt (fun _ _ h => h) hf) rfl

theorem inv2_at {s : State} (hi : Inv2 s) {id : Nat} {o : Op} (ho : s.ops[id]? = some o) {f : Op → Op}
    (hf : OpOk2 s.drv o → OpOk2 s.drv (f o)) : Inv2 { s with ops := modAt f s.ops id } :=
  inv2_modAt hi id f fun o' ho' ok => by rw [ho] at ho'; obtain rfl := Option.some.inj ho'; exact hf ok

theorem inv2_map {s : State} (hi : Inv2 s) (f : Op → Op) (hf : ∀ o, OpOk2 s.drv o → OpOk2 s.drv (f o)) :
    Inv2 { s with ops := s.ops.map f } :=
  inv2_rel hi (OpsRel.map fun _ o _ => hf o) rfl

theorem inv2_append {s : State} (hi : Inv2 s) (o : Op) (hnew : OpOk2 s.drv o) : Inv2 { s with ops := s.ops ++ [o] } := by
  intro j o' h
  rcases getElem?_append_one h with h | ⟨_, rfl⟩
  · exact hi j o' h
  · exact hnew

theorem inv2_same {s : State} (hi : Inv2 s) (id : Nat) {f : Op → Op} (hf : ∀ o, (f o).vals = o.vals) :
    Inv2 { s with ops := modAt f s.ops id } :=
  inv2_modAt hi id f fun o _ ok => ok.congr (hf o)

theorem inv2_plain {s : State} (hi : Inv2 s) (id : Nat) (f : Op → Op)
    (hf : ∀ o, (f o).result = o.result ∧ (f o).multi = o.multi ∧ (f o).chan = o.chan ∧ (f o).pendMore = o.pendMore ∧
      (f o).pendFinal = o.pendFinal ∧ (f o).kstat = o.kstat ∧ (f o).poolRun = o.poolRun ∧
      (f o).finalSeen = o.finalSeen ∧ (f o).returned = o.returned ∧ (f o).produced = o.produced) :
    Inv2 { s with ops := modAt f s.ops id } :=
  inv2_same hi id fun o => by
    obtain ⟨h1, h2, h3, h4, h5, h6, h7, h8, h9, h10⟩ := hf o
    simp only [Op.vals, h1, h2, h3, h4, h5, h6, h7, h8, h9, h10]

theorem genuine_mono {o o' : Op} (h : ∀ r, r ∈ o.produced → r ∈ o'.produced) (r : Res) : Genuine o r → Genuine o' r :=
  fun g => g.elim (fun g => Or.inl (h r g)) Or.inr

theorem kstat_none_of_not_iour {d : Drv} {o : Op} (ok : OpOk2 d o) (h : o.chan ≠ [] ∨ o.poolRun = true ∨ d = .poll) :
    o.kstat = .none := by
  cases hk : o.kstat with
  | none => rfl
  | _ =>
    obtain ⟨h1, h2, h3⟩ := ok.kern_no_chan (by rw [hk]; simp)
    rcases h with h | h | h
    · exact absurd h1 h
    · rw [h2] at h; cases h
    · rw [h3] at h; cases h

theorem ok2_fresh {d : Drv} {o : Op} (hr : ∀ r, o.result = some r → r ∈ o.produced) (hm : o.multi = [])
    (hc : o.chan = []) (hpm : o.pendMore = []) (hpf : o.pendFinal = none) (hfs : o.finalSeen = false)
    (hk : o.kstat = .none ∨ d = .iour ∧ o.poolRun = false ∧ o.result = none ∧ o.returned = 0) : OpOk2 d o := by
  refine ⟨fun r h => Or.inl (hr r h), ?_, ?_, ?_, ?_, ?_, ?_, ?_, ?_, ?_⟩
  · intro r h; rw [hm] at h; cases h
  · intro r h; rw [hc] at h; cases h
  · intro r h; rw [hpm] at h; cases h
  · intro r h; rw [hpf] at h; cases h
  · intro hne
    rcases hk with h | ⟨h1, h2, _⟩
    · exact absurd h hne
    · exact ⟨hc, h2, h1⟩
  · intro h1 hne
    rcases hk with h | ⟨_, _, h3, _⟩
    · exact absurd h hne
    · rw [h3] at h1; cases h1
  · intro h1 hne
    rcases hk with h | ⟨_, _, _, h4⟩
    · exact absurd h hne
    · omega
  · intro h; rw [hfs] at h; cases h
  · intro h; rw [hpf] at h; cases h

/-- handing the op back requires a result, and a result requires the final CQE -/
theorem ok2_takeResult {d : Drv} {o : Op} (ok : OpOk2 d o) (hr : o.result.isSome = true) (b : Bool) :
    OpOk2 d ({ o with cancelled := b }.takeResult) :=
  { ok with returned_final := fun _ hk => ok.result_final hr hk }

theorem ok2_pollCancel {o : Op} (ok : OpOk2 .poll o) (n : Nat) :
    OpOk2 .poll ({ (o.cloneRef.dropRefs n) with chan := o.chan ++ [ECANCELED] }) := by
  have hk := kstat_none_of_not_iour ok (Or.inr (Or.inr rfl))
  exact { ok with
    h_chan := fun r hr => (List.mem_append.mp hr).elim (ok.h_chan r) fun h => Or.inr (List.mem_singleton.mp h)
    kern_no_chan := fun hne => absurd hk hne }

theorem ok2_submit {d : Drv} {o : Op} (ok : OpOk2 d o) : OpOk2 d o.submit := by
  have hk : o.submit.kstat ≠ .none → o.kstat ≠ .none := by
    intro h h0; apply h; simp [Op.submit, h0]
  have hd : o.kstat = .done → o.submit.kstat = .done := by intro h; simp [Op.submit, h]
  exact { ok with
    kern_no_chan := fun h => ok.kern_no_chan (hk h)
    result_final := fun h1 h2 => ok.result_final h1 (hk h2)
    returned_final := fun h1 h2 => ok.returned_final h1 (hk h2)
    final_done := fun h => hd (ok.final_done h)
    fin2 := fun h => hd (ok.fin2 h) }

theorem ok2_drainCq {d : Drv} {o : Op} (ok : OpOk2 d o) : OpOk2 d o.drainCq := by
  have hm : ∀ r, r ∈ o.multi ++ o.pendMore → Genuine o r := fun r hr =>
    (List.mem_append.mp hr).elim (ok.h_multi r) (ok.h_pm r)
  unfold Op.drainCq
  split
  · rename_i hpf
    exact { ok with
      h_multi := hm
      h_pm := fun _ h => by cases h
      h_pf := fun _ h => by rw [hpf] at h; cases h
      fin2 := fun h => by rw [hpf] at h; cases h }
  · rename_i r hpf
    have hdone : o.kstat = .done := ok.fin2 (by rw [hpf]; rfl)
    exact { ok with
      h_result := fun r' h => by obtain rfl : r = r' := Option.some.inj h; exact ok.h_pf r hpf
      h_multi := hm
      h_pm := fun _ h => by cases h
      h_pf := fun _ h => by cases h
      result_final := fun _ _ => rfl
      returned_final := fun _ _ => rfl
      final_done := fun _ => hdone
      fin2 := fun h => by cases h }

theorem ok2_drainChan {d : Drv} {o : Op} (ok : OpOk2 d o) : OpOk2 d o.drainChan := by
  unfold Op.drainChan
  split
  · exact ok
  · rename_i r hl
    have hmem : r ∈ o.chan := List.mem_of_getLast? hl
    have hk := kstat_none_of_not_iour ok (Or.inl (List.ne_nil_of_mem hmem))
    exact { ok with
      h_result := fun r' h => by obtain rfl : r = r' := Option.some.inj h; exact ok.h_chan r hmem
      h_chan := fun _ h => by cases h
      kern_no_chan := fun hne => absurd hk hne
      result_final := fun _ hne => absurd hk hne
      returned_final := fun _ hne => absurd hk hne }

/-- a value arrives for an op the kernel never saw, together with its entry in `produced`: `o'` is `o` with the value
put in the result slot, in the channel, or nowhere (the job finished after the channel was closed) -/
theorem ok2_produce {d : Drv} {o o' : Op} {v : Res} (ok : OpOk2 d o) (hk : o.kstat = .none)
    (hp : o'.produced = o.produced ++ [v])
    (hres : o'.result = o.result ∨ o'.result = some v) (hchan : o'.chan = o.chan ∨ o'.chan = o.chan ++ [v])
    (h : (o'.multi, o'.pendMore, o'.pendFinal, o'.kstat, o'.finalSeen) =
      (o.multi, o.pendMore, o.pendFinal, o.kstat, o.finalSeen)) : OpOk2 d o' := by
  simp only [Prod.mk.injEq] at h
  obtain ⟨h2, h4, h5, h6, h8⟩ := h
  have hv : Genuine o' v := Or.inl (by rw [hp]; simp)
  have mono : ∀ x, Genuine o x → Genuine o' x := genuine_mono fun x hx => by rw [hp]; simp [hx]
  have hk' : o'.kstat = .none := h6.trans hk
  exact {
    h_result := fun x hx => by
      rcases hres with h | h
      · exact mono x (ok.h_result x (h ▸ hx))
      · rw [h] at hx; obtain rfl := Option.some.inj hx; exact hv
    h_multi := fun x hx => by rw [h2] at hx; exact mono x (ok.h_multi x hx)
    h_chan := fun x hx => by
      rcases hchan with h | h
      · exact mono x (ok.h_chan x (h ▸ hx))
      · rw [h] at hx
        rcases List.mem_append.mp hx with h1 | h1
        · exact mono x (ok.h_chan x h1)
        · simp at h1; subst h1; exact hv
    h_pm := fun x hx => by rw [h4] at hx; exact mono x (ok.h_pm x hx)
    h_pf := fun x hx => by rw [h5] at hx; exact mono x (ok.h_pf x hx)
    kern_no_chan := fun hne => absurd hk' hne
    result_final := fun _ hne => absurd hk' hne
    returned_final := fun _ hne => absurd hk' hne
    final_done := by rw [h8, h6]; exact ok.final_done
    fin2 := by rw [h5, h6]; exact ok.fin2 }

theorem inv2_kPostStep {s s' : State} {id : Nat} {more : Bool} {r : Res} (hi : Inv2 s)
    (h : kPostStep s id more r = some s') : Inv2 s' := by
  obtain ⟨o, ho, _, _, hks, ⟨_, rfl⟩ | ⟨_, rfl⟩⟩ := kPostStep_cases h
  all_goals
    have ok := hi id o ho
    have hk : o.kstat ≠ .none := by rw [hks]; simp
  · have mono : ∀ x, Genuine o x →
        Genuine ({ o with pendMore := o.pendMore ++ [r], produced := o.produced ++ [r] }) x :=
      genuine_mono (fun x hx => by simp [hx])
    exact inv2_at hi ho fun _ => { ok with
      h_result := fun x hx => mono x (ok.h_result x hx)
      h_multi := fun x hx => mono x (ok.h_multi x hx)
      h_chan := fun x hx => mono x (ok.h_chan x hx)
      h_pm := fun x hx => (List.mem_append.mp hx).elim (fun h1 => mono x (ok.h_pm x h1)) fun h1 => by
        simp at h1; subst h1; exact Or.inl (by simp)
      h_pf := fun x hx => mono x (ok.h_pf x hx) }
  · have mono : ∀ x, Genuine o x →
        Genuine ({ o with pendFinal := some r, kstat := .done, produced := o.produced ++ [r] }) x :=
      genuine_mono (fun x hx => by simp [hx])
    exact inv2_at hi ho fun _ => {
      h_result := fun x hx => mono x (ok.h_result x hx)
      h_multi := fun x hx => mono x (ok.h_multi x hx)
      h_chan := fun x hx => mono x (ok.h_chan x hx)
      h_pm := fun x hx => mono x (ok.h_pm x hx)
      h_pf := fun x hx => by obtain rfl : r = x := Option.some.inj hx; exact Or.inl (by simp)
      kern_no_chan := fun _ => ok.kern_no_chan hk
      result_final := fun h1 _ => ok.result_final h1 hk
      returned_final := fun h1 _ => ok.returned_final h1 hk
      final_done := fun _ => rfl
      fin2 := fun _ => rfl }

theorem inv2_overflowDrain {s : State} (hi : Inv2 s) (posts : List (Nat × Bool × Res)) :
    Inv2 (overflowDrain s posts) :=
  overflowDrain_ind (P := Inv2) (fun _ h => inv2_map h _ fun _ => ok2_submit) (fun _ _ _ _ _ h1 h2 => inv2_kPostStep h1 h2)
    (fun _ h => inv2_map h _ fun _ => ok2_drainCq) hi posts

theorem inv2_queueCancel {s : State} (hi : Inv2 s) (id : Nat) : Inv2 (queueCancel s id) :=
  inv2_same hi id (f := fun o => { o with cancelSq := o.cancelSq + 1 }) fun _ => rfl

theorem inv2_iourCancel {c : Cfg} {s : State} (hi : Inv2 s) (id : Nat) (posts : List (Nat × Bool × Res)) :
    Inv2 (iourCancel c s id posts) :=
  iourCancel_ind (inv2_queueCancel hi id) (inv2_queueCancel (inv2_overflowDrain hi posts) id) (inv2_same hi id fun _ => rfl)

theorem inv2_driverCancel {c : Cfg} {s : State} (hi : Inv2 s) (id : Nat) (o : Op) (posts : List (Nat × Bool × Res)) :
    Inv2 (driverCancel c s id o posts) := by
  unfold driverCancel
  split
  · exact inv2_iourCancel hi id posts
  · rename_i hd
    unfold pollCancel
    split
    · exact hi
    · refine inv2_modAt hi id _ fun x _ ok => ?_
      rw [hd] at ok ⊢
      exact ok2_pollCancel ok _

theorem inv2_cancelIssue {c : Cfg} {s : State} (hi : Inv2 s) (id : Nat) (o : Op) (posts : List (Nat × Bool × Res)) :
    Inv2 (cancelIssue c s id o posts) :=
  inv2_same (inv2_driverCancel (inv2_same hi id (f := fun o => { o with cancelled := true }) fun _ => rfl) id o posts)
    id fun _ => rfl

theorem inv2_cancelKey {c : Cfg} {s : State} (hi : Inv2 s) {id : Nat} {o : Op} (ho : s.ops[id]? = some o)
    (posts : List (Nat × Bool × Res)) : Inv2 (cancelKey c s id o posts) := by
  unfold cancelKey
  split
  · exact inv2_same hi id fun _ => rfl
  · split
    · rename_i hq
      exact inv2_at hi ho fun ok => ok2_takeResult ok hq.2 true
    · exact inv2_cancelIssue hi id o posts

theorem inv2_clone {s : State} (hi : Inv2 s) (id : Nat) :
    Inv2 { s with ops := modAt (fun o => ({ o.cloneRef with user := o.user + 1 } : Op)) s.ops id } :=
  inv2_same hi id fun _ => rfl

theorem inv2_dropChans {s : State} (hi : Inv2 s) : Inv2 { s with ops := dropChans s.ops } := by
  unfold dropChans
  split
  · exact hi
  · exact inv2_map hi _ fun o ok => { ok with
      h_chan := fun _ h => by cases h
      kern_no_chan := fun h => ⟨rfl, (ok.kern_no_chan h).2⟩ }

theorem inv2_execDStep (c : Cfg) {s : State} (hi : Inv2 s) (st : DStep) : Inv2 (execDStep c s st) := by
  have clear : ∀ {o o' : Op}, OpOk2 s.drv o → o'.pendMore = [] → o'.pendFinal = none →
      (o'.result, o'.multi, o'.chan, o'.kstat, o'.poolRun, o'.finalSeen, o'.returned, o'.produced) =
        (o.result, o.multi, o.chan, o.kstat, o.poolRun, o.finalSeen, o.returned, o.produced) → OpOk2 s.drv o' := by
    intro o o' ok hpm hpf h
    refine OpOk2.congr (o := { o with pendMore := [], pendFinal := none }) ?_ ?_
    · exact { ok with
        h_pm := fun _ h => by cases h
        h_pf := fun _ h => by cases h
        fin2 := fun h => by cases h }
    · simp only [Prod.mk.injEq] at h
      obtain ⟨h1, h2, h3, h6, h7, h8, h9, h10⟩ := h
      simp only [Op.vals, h1, h2, h3, hpm, hpf, h6, h7, h8, h9, h10]
  cases st with
  | drainCq => exact inv2_map hi _ fun o ok => clear ok rfl rfl rfl
  | closeRing => exact inv2_map hi _ fun o ok => clear ok rfl rfl rfl
  | freeInFlight => exact inv2_map hi _ fun o ok => ok.congr rfl
  | pollDelete => exact hi
  | fields => exact inv2_dropChans (inv2_map hi (fun o => o.dropRefs ((s.reg o.fd).occ o.id)) fun o ok => ok.congr rfl)

theorem step_inv2 {c : Cfg} {s s' : State} {e : Event} (hi : Inv2 s) (h : step c s e = some s') : Inv2 s' := by
  cases Step.of_step h with
  | pushSq hg =>
    exact inv2_append hi _ (ok2_fresh (fun _ h => (by cases h)) rfl rfl rfl rfl rfl (Or.inr ⟨hg.2.1, rfl, rfl, rfl⟩))
  | pushFail | pushReady =>
    exact inv2_append hi _ (ok2_fresh (fun _ h => (by cases h; exact List.mem_singleton_self _)) rfl rfl rfl rfl rfl
      (Or.inl rfl))
  | pushBlocking | pushWait =>
    exact inv2_append hi _ (ok2_fresh (fun _ h => (by cases h)) rfl rfl rfl rfl rfl (Or.inl rfl))
  | userCancel ho => exact inv2_cancelKey hi ho _
  | cloneCancel ho => exact inv2_cancelKey (inv2_clone hi _) (modAt_get ho) _
  | popTake ho _ hr => exact inv2_at hi ho fun ok => ok2_takeResult ok hr _
  | popMulti =>
    exact inv2_modAt hi _ _ fun o _ ok => { ok with h_multi := fun r hr => ok.h_multi r (List.mem_of_mem_drop hr) }
  | popPanic | userDrop | tokenRegister | tokenDrop => exact inv2_same hi _ fun _ => rfl
  | popPending | tokenDead | pushNotifier | dropBegin | fdIdle => exact hi
  | tokenCancel =>
    unfold cancelTok
    split
    · exact inv2_same (inv2_clone hi _) _ fun _ => rfl
    · exact inv2_cancelIssue (inv2_clone hi _) _ _ _
  | submit => exact inv2_map hi _ fun _ => ok2_submit
  | pollEntries => exact inv2_map hi _ fun _ => ok2_drainCq
  | pollBlocking => exact inv2_map hi _ fun _ => ok2_drainChan
  | fdDone hg =>
    exact inv2_modAt hi _ _ fun o _ ok =>
      ok2_produce ok (kstat_none_of_not_iour ok (Or.inr (Or.inr hg.2.1))) rfl (Or.inr rfl) (Or.inl rfl) rfl
  | @dropStep _ st =>
    have hd : (execDStep c s st).drv = s.drv := by cases st <;> rfl
    exact fun i o ho => hd ▸ inv2_execDStep c hi st i o ho
  | kPost hk => exact inv2_kPostStep hi hk
  | poolDone ho hp =>
    exact inv2_at hi ho fun ok =>
      ok2_produce ok (kstat_none_of_not_iour ok (Or.inr (Or.inl hp))) rfl (Or.inl rfl) (Or.inr rfl) rfl
  | poolLate ho hp =>
    exact inv2_dropChans (inv2_at hi ho fun ok =>
      ok2_produce ok (kstat_none_of_not_iour ok (Or.inr (Or.inl hp))) rfl (Or.inl rfl) (Or.inl rfl) rfl)

theorem run_inv2 {c : Cfg} : ∀ (evs : List Event) (s s' : State), Inv2 s → run c s evs = some s' → Inv2 s' :=
  run_ind fun _ _ _ => step_inv2

end Compio.KeyLife
