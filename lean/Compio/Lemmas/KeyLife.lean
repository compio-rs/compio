/-
The key life-cycle model: op lists related position by position (`OpsRel`), `step` as a relation (`Step`) with the
induction principles for runs, for the `push_raw` overflow round and for io_uring's cancel, the books of one op (`RcOk`,
`OpOk`; `ok_dropRefs`: holders and references move together), the ownership invariant `Inv`, and how `Inv` moves along
the shapes of update the LTS has — ops rewritten in place (`inv_rel`), an op appended or the registry changed while the
proactor is alive (`inv_alive`).
-/
import Compio.Model.KeyLife
import Compio.Lemmas.PollQueues
import Compio.Lemmas.Lts

namespace Compio.KeyLife

open Compio.PollQueues

theorem modAt_eq_modify {α : Type} (f : α → α) (l : List α) (i : Nat) : modAt f l i = l.modify i f := by
  induction l generalizing i with
  | nil => simp [modAt]
  | cons x xs ih => cases i <;> simp [modAt, ih]

@[simp] theorem length_modAt {α : Type} (f : α → α) (l : List α) (i : Nat) : (modAt f l i).length = l.length := by
  rw [modAt_eq_modify, List.length_modify]

theorem getElem?_modAt {α : Type} (f : α → α) (l : List α) (i j : Nat) :
    (modAt f l i)[j]? = if i = j then (l[j]?).map f else l[j]? := by
  rw [modAt_eq_modify, List.getElem?_modify]; split <;> simp [*]

theorem modAt_get {α : Type} {f : α → α} {l : List α} {i : Nat} {x : α} (h : l[i]? = some x) :
    (modAt f l i)[i]? = some (f x) := by rw [getElem?_modAt, if_pos rfl, h]; rfl

theorem map_get {f : Op → Op} {l : List Op} {id : Nat} {o : Op} (ho : l[id]? = some o) :
    (l.map f)[id]? = some (f o) := by
  simp only [List.getElem?_map, ho, Option.map_some]

theorem getElem?_modAt_ne {α : Type} (f : α → α) (l : List α) {i j : Nat} (h : i ≠ j) :
    (modAt f l i)[j]? = l[j]? := by simp [getElem?_modAt, h]

theorem modAt_cases {α : Type} {f : α → α} {l : List α} {i j : Nat} {y : α}
    (h : (modAt f l i)[j]? = some y) :
    (i = j ∧ ∃ x, l[j]? = some x ∧ y = f x) ∨ (i ≠ j ∧ l[j]? = some y) := by
  rw [getElem?_modAt] at h
  by_cases hij : i = j
  · simp [hij] at h
    obtain ⟨x, hx, rfl⟩ := h
    exact Or.inl ⟨hij, x, by simpa [hij] using hx, rfl⟩
  · simp [hij] at h
    exact Or.inr ⟨hij, h⟩

theorem getElem?_append_one {α : Type} {l : List α} {x y : α} {j : Nat} (h : (l ++ [x])[j]? = some y) :
    l[j]? = some y ∨ (j = l.length ∧ y = x) := by
  by_cases hj : j < l.length
  · left
    rw [List.getElem?_append_left hj] at h
    exact h
  · right
    rw [List.getElem?_append_right (by omega)] at h
    have : j - l.length = 0 := by
      cases hk : j - l.length with
      | zero => rfl
      | succ k => simp [hk] at h
    simp [this] at h
    exact ⟨by omega, h.symm⟩

/-- wherever `l` has an op, `l'` has one related to it by `R` (which may look at the position), and no others -/
def OpsRel (R : Nat → Op → Op → Prop) (l l' : List Op) : Prop :=
  l'.length = l.length ∧ ∀ (i : Nat) (x x' : Op), l[i]? = some x → l'[i]? = some x' → R i x x'

namespace OpsRel

variable {R : Nat → Op → Op → Prop} {l l' : List Op}

theorem refl (hr : ∀ i x, R i x x) (l : List Op) : OpsRel R l l :=
  ⟨rfl, fun i x _ h h' => by rw [h] at h'; obtain rfl := Option.some.inj h'; exact hr i x⟩

theorem get (h : OpsRel R l l') {i : Nat} {x : Op} (hx : l[i]? = some x) : ∃ x', l'[i]? = some x' ∧ R i x x' := by
  have hlt : i < l'.length := by rw [h.1]; exact (List.getElem?_eq_some_iff.mp hx).1
  exact ⟨l'[i], List.getElem?_eq_getElem hlt, h.2 i x _ hx (List.getElem?_eq_getElem hlt)⟩

theorem get' (h : OpsRel R l l') {i : Nat} {x' : Op} (hx : l'[i]? = some x') : ∃ x, l[i]? = some x ∧ R i x x' := by
  have hlt : i < l.length := by rw [← h.1]; exact (List.getElem?_eq_some_iff.mp hx).1
  exact ⟨l[i], List.getElem?_eq_getElem hlt, h.2 i _ x' (List.getElem?_eq_getElem hlt) hx⟩

theorem trans {l'' : List Op} (ht : ∀ i x y z, R i x y → R i y z → R i x z) (h1 : OpsRel R l l')
    (h2 : OpsRel R l' l'') : OpsRel R l l'' := by
  refine ⟨h2.1.trans h1.1, fun i x z hx hz => ?_⟩
  obtain ⟨y, hy, hxy⟩ := h1.get hx
  exact ht i x y z hxy (h2.2 i y z hy hz)

theorem mono {R' : Nat → Op → Op → Prop} (hm : ∀ i x y, R i x y → R' i x y) (h : OpsRel R l l') : OpsRel R' l l' :=
  ⟨h.1, fun i x x' hx hx' => hm i x x' (h.2 i x x' hx hx')⟩

theorem map {f : Op → Op} (hf : ∀ i x, x ∈ l → R i x (f x)) : OpsRel R l (l.map f) := by
  refine ⟨by simp, fun i x x' hx hx' => ?_⟩
  rw [List.getElem?_map, hx] at hx'
  obtain rfl := Option.some.inj hx'
  exact hf i x (List.mem_of_getElem? hx)

theorem modAt {f : Op → Op} {i : Nat} (hr : ∀ j x, R j x x) (hf : ∀ x, l[i]? = some x → R i x (f x)) :
    OpsRel R l (modAt f l i) := by
  refine ⟨by simp, fun j x x' hx hx' => ?_⟩
  rcases modAt_cases hx' with ⟨rfl, y, hy, rfl⟩ | ⟨_, hy⟩
  · rw [hx] at hy; obtain rfl := Option.some.inj hy; exact hf x hx
  · rw [hx] at hy; obtain rfl := Option.some.inj hy; exact hr j x

end OpsRel

theorem guard_some {α : Type} {p : Prop} [Decidable p] {a b : α} (h : (if p then some a else none) = some b) :
    p ∧ a = b := by
  split at h
  · exact ⟨‹p›, Option.some.inj h⟩
  · cases h

/-- the ways an event is accepted, each with the guard it passed and the state it leads to (`kPost` only carries
`kPostStep … = some s'`, see `kPostStep_cases`) -/
inductive Step (c : Cfg) (s : State) : Event → State → Prop
  | pushSq {k fd d} (hg : s.alive ∧ s.drv = .iour ∧ k ≠ .blocking ∧ s.sqLen < s.cap) :
    Step c s (.pushSq k fd d) { s with
      sqLen := s.sqLen + 1,
      ops := s.ops ++ [{ (Op.new s.ops.length k fd d).cloneRef with inFl := true, kstat := .queued }] }
  | pushFail {k fd d e} (hg : s.alive) :
    Step c s (.pushFail k fd d e) { s with
      ops := s.ops ++ [{ (Op.new s.ops.length k fd d).cloneRef.dropRef with
                           result := some (.err e), produced := [.err e] }.takeResult] }
  | pushBlocking (hg : s.alive) :
    Step c s .pushBlocking { s with
      ops := s.ops ++ [{ (Op.new s.ops.length .blocking 0 .rd).cloneRef with poolRun := true }] }
  | pushWait {k fd d} (hg : s.alive ∧ s.drv = .poll ∧ k ≠ .blocking) :
    Step c s (.pushWait k fd d) { s with
      ops := s.ops ++ [(Op.new s.ops.length k fd d).cloneRef],
      reg := upd s.reg fd ((s.reg fd).pushBack d s.ops.length),
      armed := upd s.armed fd ((s.reg fd).pushBack d s.ops.length).event }
  | pushReady {k fd d r} (hg : s.alive ∧ s.drv = .poll ∧ k ≠ .blocking) :
    Step c s (.pushReady k fd d r) { s with
      ops := s.ops ++ [{ (Op.new s.ops.length k fd d).cloneRef.dropRef with
                           result := some r, produced := [r] }.takeResult] }
  | userCancel {id posts o} (ho : s.ops[id]? = some o) (hg : s.alive ∧ 0 < o.user) :
    Step c s (.userCancel id posts) (cancelKey c s id o posts)
  | cloneCancel {id posts o} (ho : s.ops[id]? = some o) (hg : s.alive ∧ 0 < o.user) :
    Step c s (.cloneCancel id posts)
      (cancelKey c { s with ops := modAt (fun o => { o.cloneRef with user := o.user + 1 }) s.ops id } id
        { o.cloneRef with user := o.user + 1 } posts)
  | userDrop {id o} (ho : s.ops[id]? = some o) (hg : s.dropPc = none ∧ 0 < o.user) :
    Step c s (.userDrop id) { s with ops := modAt (fun o => { o with user := o.user - 1 }.dropRef) s.ops id }
  | popTake {id o} (ho : s.ops[id]? = some o) (hg : s.alive ∧ 0 < o.user) (hr : o.result.isSome) (h1 : o.rc = 1) :
    Step c s (.userPop id) { s with ops := modAt Op.takeResult s.ops id }
  | popPanic {id o} (ho : s.ops[id]? = some o) (hg : s.alive ∧ 0 < o.user) (hr : o.result.isSome) (h1 : ¬o.rc = 1) :
    Step c s (.userPop id) { s with
      panicked := true, ops := modAt (fun o => { o with user := o.user - 1 }.dropRef) s.ops id }
  | popPending {id o} (ho : s.ops[id]? = some o) (hg : s.alive ∧ 0 < o.user) (hr : ¬o.result.isSome) :
    Step c s (.userPop id) s
  | popMulti {id o} (ho : s.ops[id]? = some o) (hg : s.alive ∧ 0 < o.user) :
    Step c s (.popMulti id) { s with ops := modAt (fun o => { o with multi := o.multi.drop 1 }) s.ops id }
  | tokenRegister {id o} (ho : s.ops[id]? = some o) (hg : s.alive ∧ 0 < o.user) :
    Step c s (.tokenRegister id) { s with ops := modAt (fun o => { o with weak := o.weak + 1 }) s.ops id }
  | tokenDrop {id o} (ho : s.ops[id]? = some o) (hg : 0 < o.weak) :
    Step c s (.tokenDrop id) { s with ops := modAt (fun o => { o with weak := o.weak - 1 }) s.ops id }
  | tokenDead {id posts o} (ho : s.ops[id]? = some o) (hg : s.alive ∧ 0 < o.weak) (h0 : o.rc = 0) :
    Step c s (.tokenCancel id posts) s
  | tokenCancel {id posts o} (ho : s.ops[id]? = some o) (hg : s.alive ∧ 0 < o.weak) (h0 : ¬o.rc = 0) :
    Step c s (.tokenCancel id posts) (cancelTok c s id o posts)
  | pushNotifier (hg : s.alive ∧ s.drv = .iour ∧ s.needNotifier ∧ s.sqLen < s.cap) :
    Step c s .pushNotifier { s with sqLen := s.sqLen + 1, needNotifier := false }
  | submit (hg : s.alive ∧ s.drv = .iour) : Step c s .submit (submitAll s)
  | pollEntries (hg : s.alive ∧ s.drv = .iour) : Step c s .pollEntries (drainAll s)
  | pollBlocking (hg : s.alive) : Step c s .pollBlocking { s with ops := s.ops.map Op.drainChan }
  /-- nothing is queued for the reported interest, or `operate` returned `Pending`: only the poller is re-armed -/
  | fdIdle {fd} {rd wr : Bool} {r} (hg : s.alive ∧ s.drv = .poll ∧ (rd ∨ wr) ∧ (rd → (s.armed fd).r) ∧ (wr → (s.armed fd).w)) :
    Step c s (.fdEvent fd rd wr r) { s with armed := upd s.armed fd (s.reg fd).event }
  | fdDone {fd} {rd wr : Bool} {v k d q'} (hg : s.alive ∧ s.drv = .poll ∧ (rd ∨ wr) ∧ (rd → (s.armed fd).r) ∧ (wr → (s.armed fd).w))
      (hp : (s.reg fd).popInterest rd wr = some (k, d, q')) :
    Step c s (.fdEvent fd rd wr (some v)) { s with
      reg := upd s.reg fd q', armed := upd s.armed fd q'.event,
      ops := modAt (fun o => { o with result := some v, produced := o.produced ++ [v] }.dropRef) s.ops k }
  | dropBegin (hg : s.alive) : Step c s .dropBegin { s with alive := false, dropPc := some 0 }
  | dropStep {k st} (hk : s.dropPc = some k) (hst : (dropProg c s.drv)[k]? = some st) :
    Step c s .dropStep { execDStep c s st with
      dropPc := if k + 1 < (dropProg c s.drv).length then some (k + 1) else none }
  | kPost {id more r s'} (h : kPostStep s id more r = some s') : Step c s (.kPost id more r) s'
  | poolDone {id r o} (ho : s.ops[id]? = some o) (hp : o.poolRun) (hc : s.chanOpen) :
    Step c s (.poolDone id r) { s with
      ops := modAt (fun o => { o with poolRun := false, chan := o.chan ++ [r], produced := o.produced ++ [r] }) s.ops id }
  /-- the channel is gone: the job's key is dropped, and with the last sender the queued entries -/
  | poolLate {id r o} (ho : s.ops[id]? = some o) (hp : o.poolRun) (hc : ¬s.chanOpen) :
    Step c s (.poolDone id r) { s with
      ops := dropChans (modAt (fun o => { o with poolRun := false, produced := o.produced ++ [r] }.dropRef) s.ops id) }

theorem Step.of_step {c : Cfg} {s s' : State} {e : Event} (h : step c s e = some s') : Step c s e s' := by
  cases e with
  | pushSq | pushFail | pushBlocking | pushWait | pushReady | pushNotifier | submit | pollEntries | pollBlocking
  | dropBegin =>
    dsimp only [step] at h
    obtain ⟨hg, rfl⟩ := guard_some h
    constructor
    exact hg
  | userCancel | cloneCancel | userDrop | popMulti | tokenRegister | tokenDrop =>
    dsimp only [step] at h
    split at h
    · obtain ⟨hg, rfl⟩ := guard_some h
      constructor <;> assumption
    · cases h
  | userPop id =>
    dsimp only [step] at h
    split at h
    · rename_i o ho
      split at h
      · rename_i hg
        split at h
        · rename_i hr
          split at h <;> obtain rfl := Option.some.inj h
          · exact .popTake ho hg hr ‹_›
          · exact .popPanic ho hg hr ‹_›
        · obtain rfl := Option.some.inj h
          exact .popPending ho hg ‹_›
      · cases h
    · cases h
  | tokenCancel | poolDone =>
    dsimp only [step] at h
    split at h
    · split at h
      · split at h <;> obtain rfl := Option.some.inj h <;> constructor <;> assumption
      · cases h
    · cases h
  | fdEvent fd rd wr r =>
    dsimp only [step] at h
    split at h
    · rename_i hg
      split at h
      · obtain rfl := Option.some.inj h; exact .fdIdle hg
      · split at h <;> obtain rfl := Option.some.inj h
        · exact .fdIdle hg
        · exact .fdDone hg ‹_›
    · cases h
  | dropStep =>
    dsimp only [step] at h
    split at h
    · split at h
      · obtain rfl := Option.some.inj h
        constructor <;> assumption
      · cases h
    · cases h
  | kPost id more r => exact .kPost h

theorem step_kPost_eq (c : Cfg) (s : State) (id : Nat) (more : Bool) (r : Res) :
    step c s (.kPost id more r) = kPostStep s id more r := rfl

theorem kPostStep_cases {s s' : State} {id : Nat} {more : Bool} {r : Res} (h : kPostStep s id more r = some s') :
    ∃ o, s.ops[id]? = some o ∧ s.ring = true ∧ s.drv = .iour ∧ o.kstat = .inflight ∧
      (more = true ∧ s' = { s with ops := modAt (fun o => { o with pendMore := o.pendMore ++ [r],
                                                                   produced := o.produced ++ [r] }) s.ops id } ∨
        more = false ∧ s' = { s with ops := modAt (fun o => { o with pendFinal := some r, kstat := .done,
                                                                     produced := o.produced ++ [r] }) s.ops id }) := by
  unfold kPostStep at h
  split at h
  · rename_i o ho
    split at h
    · rename_i hg
      refine ⟨o, ho, hg.1, hg.2.1, hg.2.2.1, ?_⟩
      split at h <;> obtain rfl := Option.some.inj h
      · exact .inl ⟨‹_›, rfl⟩
      · exact .inr ⟨Bool.eq_false_iff.mpr ‹_›, rfl⟩
    · cases h
  · cases h

theorem isRun (c : Cfg) : IsRun (step c) (run c) :=
  ⟨fun _ => rfl, fun s e es => by rw [run]; cases step c s e <;> rfl⟩

theorem run_ind {c : Cfg} {P : State → Prop} (hstep : ∀ s s' e, P s → step c s e = some s' → P s') :
    ∀ (evs : List Event) (s s' : State), P s → run c s evs = some s' → P s' :=
  fun _ _ _ h0 h => (isRun c).invariant (fun s e s' => hstep s s' e) h0 h

theorem run_append (c : Cfg) : ∀ (a b : List Event) (s1 s2 : State), run c s1 a = some s2 →
    run c s1 (a ++ b) = run c s2 b :=
  fun _ b _ _ h => (isRun c).append_of_some h b

theorem overflowDrain_ind {P : State → Prop} (hsub : ∀ s, P s → P (submitAll s))
    (hpost : ∀ s s' id more r, P s → kPostStep s id more r = some s' → P s')
    (hdrain : ∀ s, P s → P (drainAll s)) {s : State} (hp : P s) (posts : List (Nat × Bool × Res)) :
    P (overflowDrain s posts) := by
  have h2 : ∀ (posts : List (Nat × Bool × Res)) (t : State), P t →
      P (posts.foldl (fun s p => (kPostStep s p.1 p.2.1 p.2.2).getD s) t) := by
    intro posts
    induction posts with
    | nil => exact fun t ht => ht
    | cons p ps ih =>
      intro t ht
      simp only [List.foldl_cons]
      apply ih
      cases hk : kPostStep t p.1 p.2.1 p.2.2 with
      | none => exact ht
      | some t' => exact hpost t t' _ _ _ ht hk
  exact hdrain _ (h2 posts _ (hsub s hp))

theorem iourCancel_ind {P : State → Prop} {c : Cfg} {s : State} {id : Nat} {posts : List (Nat × Bool × Res)}
    (hq : P (queueCancel s id)) (ho : P (queueCancel (overflowDrain s posts) id))
    (hl : P { s with ops := modAt (fun o => { o with cancelDropped := o.cancelDropped + 1 }) s.ops id }) :
    P (iourCancel c s id posts) := by
  unfold iourCancel iourCancelUnfixed
  split <;> split <;> assumption

def b2n (b : Bool) : Nat := if b then 1 else 0

@[simp] theorem b2n_true : b2n true = 1 := rfl
@[simp] theorem b2n_false : b2n false = 0 := rfl

theorem b2n_le_one (b : Bool) : b2n b ≤ 1 := by cases b <;> simp

/-- the closed form of `dropRefs` is the iteration of the single drop -/
theorem dropRefs_zero (o : Op) : o.dropRefs 0 = o := by
  cases o
  simp [Op.dropRefs]
  omega

theorem dropRefs_succ (o : Op) (n : Nat) : o.dropRefs (n + 1) = (o.dropRef).dropRefs n := by
  cases o with
  | mk id kind fd dir rc user inFl chan poolRun weak cancelled result multi kstat kcancel cancelSq pendMore pendFinal
      freed returned uaf finalSeen produced cancelDropped =>
    simp only [Op.dropRef, Op.dropRefs]
    congr 1
    · omega
    · by_cases h1 : rc = 0
      · subst h1; simp
      · by_cases h2 : rc = 1
        · subst h2; simp
        · have a1 : (0 < rc ∧ rc ≤ 1) = False := by simp; omega
          have a2 : (0 < rc ∧ rc ≤ n + 1) = (0 < rc - 1 ∧ rc - 1 ≤ n) := by
            apply propext; constructor <;> intro h <;> omega
          simp only [a1, a2, if_false]
    · by_cases h1 : rc < 1
      · have : rc < n + 1 := by omega
        simp [h1, this]
      · have : (rc < n + 1) = (rc - 1 < n) := by apply propext; constructor <;> intro h <;> omega
        simp [h1, this]

/-- occurrences of the op's key in the queue it waits on -/
def qcount (reg : Reg) (o : Op) : Nat := ((reg o.fd).sel o.dir).count o.id

/-- the number of places that own a key of the op -/
def holders (reg : Reg) (o : Op) : Nat :=
  o.user + b2n o.inFl + o.chan.length + b2n o.poolRun + qcount reg o

/-- the release bookkeeping of one op: no key was used or dropped after the storage was released; the
storage is released (freed or handed back to the caller) exactly when the count is zero, and at most once -/
structure RcOk (o : Op) : Prop where
  no_uaf : o.uaf = false
  rel0 : o.rc = 0 → o.freed + o.returned = 1
  rel1 : 0 < o.rc → o.freed + o.returned = 0

theorem rcok_dropRefs {o : Op} {n : Nat} (h : RcOk o) (hn : n ≤ o.rc) : RcOk (o.dropRefs n) := by
  obtain ⟨h1, h2, h3⟩ := h
  constructor
  · simp [Op.dropRefs, h1]; omega
  · intro h0
    simp only [Op.dropRefs] at h0 ⊢
    by_cases hr : 0 < o.rc
    · have : 0 < o.rc ∧ o.rc ≤ n := ⟨hr, by omega⟩
      simp only [this, and_self, if_true]
      have := h3 hr
      omega
    · have h00 : o.rc = 0 := by omega
      have : ¬(0 < o.rc ∧ o.rc ≤ n) := by omega
      simp only [this, if_false]
      exact h2 h00
  · intro h0
    simp only [Op.dropRefs] at h0 ⊢
    have hr : 0 < o.rc := by omega
    have : ¬(0 < o.rc ∧ o.rc ≤ n) := by omega
    simp only [this, if_false]
    exact h3 hr

theorem rcok_dropRef {o : Op} (h : RcOk o) (hn : 0 < o.rc) : RcOk o.dropRef := rcok_dropRefs h hn

theorem rcok_takeResult {o : Op} (h : RcOk o) (hn : 0 < o.rc) : RcOk o.takeResult := by
  obtain ⟨h1, h2, h3⟩ := h
  constructor
  · exact h1
  · intro _
    have := h3 hn
    simp only [Op.takeResult]
    omega
  · intro h0; simp [Op.takeResult] at h0

/-- per-operation part of `Inv`; `ring` = the io_uring instance is open -/
structure OpOk (drv : Drv) (ring : Bool) (reg : Reg) (o : Op) : Prop where
  /-- the strong count is the number of holders -/
  rc_eq : o.rc = holders reg o
  rcok : RcOk o
  /-- while the ring is open, an op the kernel still works on keeps its leaked reference -/
  kern : ring = true → (o.kstat = .queued ∨ o.kstat = .inflight) → o.inFl = true
  /-- unseen CQEs belong to ops whose leaked reference is still there -/
  pend : (o.pendMore ≠ [] ∨ o.pendFinal.isSome = true) → o.inFl = true
  /-- the polling driver leaks nothing to the kernel -/
  poll_sep : drv = .poll → o.inFl = false ∧ o.kstat = .none
  /-- an unseen final CQE means the kernel is done with the op -/
  fin : o.pendFinal.isSome = true → o.kstat = .done
  /-- no CQEs outlive the ring -/
  closed : ring = false → o.pendMore = [] ∧ o.pendFinal = none

/-- the order of the `Drop` statements under which `Inv` survives `dropStep` (`dropProg_order`, `inv_dropStep`): drain the
CQ, close the ring, free the in-flight keys; `gen_good` checks it for the extracted order -/
def GoodCfg (c : Cfg) : Prop := c.iourDrop = [.drainCq, .closeRing, .freeInFlight]

/-- while the proactor is alive, what the poller watches for a descriptor is `event()` of that descriptor's
queues: the user-data key stored in the poller is the head of a queue, a key the driver still owns -/
def ArmInv (s : State) : Prop := s.alive = true → ∀ fd, s.armed fd = (s.reg fd).event

/-- per op `OpOk`, plus one clause for each phase of the proactor: alive (`alive_ok`, `arm_ok`), inside `Drop` at
statement `k` (`pc_ok`: the ring is open until `closeRing` has run, nothing is leaked once `freeInFlight` has run), dropped
(`dead_ok`); `chan_ok`: once the channel is closed and no pool job runs, no entry is queued. Consumed by C01. -/
structure Inv (c : Cfg) (s : State) : Prop where
  ops : ∀ (i : Nat) (o : Op), s.ops[i]? = some o → OpOk s.drv s.ring s.reg o ∧ o.id = i
  /-- fd queues only hold operations waiting on that descriptor in that direction -/
  qmem : ∀ fd d i, i ∈ (s.reg fd).sel d → ∃ o, s.ops[i]? = some o ∧ o.fd = fd ∧ o.dir = d
  iour_reg : s.drv = .iour → ∀ fd, s.reg fd = FdQ.empty
  alive_ok : s.alive = true → s.ring = true ∧ s.dropPc = none ∧ s.chanOpen = true
  pc_ok : ∀ k, s.dropPc = some k →
    s.alive = false ∧ s.chanOpen = true ∧ k < (dropProg c s.drv).length ∧
    s.ring = !(((dropProg c s.drv).take k).contains .closeRing) ∧
    ((((dropProg c s.drv).take k).contains .freeInFlight) = true → ∀ (i : Nat) (o : Op), s.ops[i]? = some o → o.inFl = false)
  dead_ok : s.alive = false → s.dropPc = none →
    s.chanOpen = false ∧ (∀ fd, s.reg fd = FdQ.empty) ∧ (∀ (i : Nat) (o : Op), s.ops[i]? = some o → o.inFl = false)
  chan_ok : s.chanOpen = false → (∀ (i : Nat) (o : Op), s.ops[i]? = some o → o.poolRun = false) →
    ∀ (i : Nat) (o : Op), s.ops[i]? = some o → o.chan = []
  arm_ok : ArmInv s

theorem inv_init (c : Cfg) (d : Drv) (cap : Nat) : Inv c (init d cap) := by
  constructor <;> simp [init, Reg.empty, FdQ.empty, FdQ.sel, ArmInv, FdQ.event, noInterest]
  intro d i h
  cases d <;> simp at h

/-- what `OpOk` reads of an op -/
def Op.acct (o : Op) :=
  (o.rc, o.user, o.inFl, o.chan, o.poolRun, o.fd, o.dir, o.id, o.uaf, o.freed, o.returned, o.kstat, o.pendMore,
    o.pendFinal)

theorem OpOk.reg {d : Drv} {r : Bool} {g g' : Reg} {o : Op} (ok : OpOk d r g o) (h : qcount g' o = qcount g o) :
    OpOk d r g' o :=
  { ok with rc_eq := by rw [ok.rc_eq]; unfold holders; rw [h] }

theorem OpOk.live {d r g} {o : Op} (ok : OpOk d r g o)
    (h : 0 < o.user ∨ o.inFl = true ∨ o.poolRun = true ∨ 0 < qcount g o) : 0 < o.rc ∧ o.freed = 0 ∧ o.returned = 0 := by
  have hrc : 0 < o.rc := by
    rw [ok.rc_eq]; unfold holders
    rcases h with h | h | h | h
    · omega
    · rw [h]; simp only [b2n_true]; omega
    · rw [h]; simp only [b2n_true]; omega
    · omega
  have := ok.rcok.rel1 hrc
  omega

/-- **holders and references move together**: `o1` is `o` after `k` clones of a live key, with the books brought
up to date for the `k` new holders and for `n` holders that go away (caller handles, channel entries, the pool job,
queue entries under the new registry); the `n` references are dropped afterwards -/
theorem ok_dropRefs {drv ring reg reg'} {o o1 : Op} {n k : Nat} (ok : OpOk drv ring reg o) (hk : k = 0 ∨ 0 < o.rc)
    (hrc : o1.rc = o.rc + k) (hh : holders reg' o1 + n = holders reg o + k)
    (hs : (o1.inFl, o1.uaf, o1.freed, o1.returned, o1.kstat, o1.pendMore, o1.pendFinal) =
      (o.inFl, o.uaf, o.freed, o.returned, o.kstat, o.pendMore, o.pendFinal)) :
    OpOk drv ring reg' (o1.dropRefs n) := by
  simp only [Prod.mk.injEq] at hs
  obtain ⟨s1, s2, s3, s4, s5, s6, s7⟩ := hs
  have a := ok.rc_eq
  have hn : n ≤ o1.rc := by omega
  have rc1 : RcOk o1 :=
    ⟨s2 ▸ ok.rcok.no_uaf, fun h0 => by rw [s3, s4]; exact ok.rcok.rel0 (by omega),
      fun h1 => by rw [s3, s4]; exact ok.rcok.rel1 (by omega)⟩
  exact {
    rc_eq := by show o1.rc - n = holders reg' o1; omega
    rcok := rcok_dropRefs rc1 hn
    kern := by
      show _ → (o1.kstat = _ ∨ o1.kstat = _) → o1.inFl = true
      rw [s5, s1]; exact ok.kern
    pend := by
      show (o1.pendMore ≠ [] ∨ o1.pendFinal.isSome = true) → o1.inFl = true
      rw [s6, s7, s1]; exact ok.pend
    poll_sep := by
      show _ → o1.inFl = false ∧ o1.kstat = _
      rw [s1, s5]; exact ok.poll_sep
    fin := by
      show o1.pendFinal.isSome = true → o1.kstat = _
      rw [s7, s5]; exact ok.fin
    closed := by
      show _ → o1.pendMore = [] ∧ o1.pendFinal = none
      rw [s6, s7]; exact ok.closed }

theorem OpOk.congr {d : Drv} {r : Bool} {g : Reg} {o o' : Op} (ok : OpOk d r g o) (h : o'.acct = o.acct) :
    OpOk d r g o' := by
  simp only [Op.acct, Prod.mk.injEq] at h
  obtain ⟨h1, h2, h3, h4, h5, h6, h7, h8, h9, h10, h11, h12, h13, h14⟩ := h
  rw [← dropRefs_zero o']
  exact ok_dropRefs (k := 0) ok (.inl rfl) h1 (by simp only [holders, qcount, h2, h3, h4, h5, h6, h7, h8])
    (by rw [h3, h9, h10, h11, h12, h13, h14])

/-- what the global clauses of `Inv` read of an op rewritten in place -/
structure Keeps (o o' : Op) : Prop where
  id : o'.id = o.id
  fd : o'.fd = o.fd
  dir : o'.dir = o.dir
  inFl : o'.inFl = true → o.inFl = true
  pool : o'.poolRun = o.poolRun
  chan : o'.chan = o.chan ∨ o'.chan = []

theorem Keeps.rfl' (o : Op) : Keeps o o := ⟨rfl, rfl, rfl, fun h => h, rfl, Or.inl rfl⟩

theorem Keeps.of_eq {o o' : Op} (h : (o'.id, o'.fd, o'.dir, o'.inFl, o'.poolRun, o'.chan) =
    (o.id, o.fd, o.dir, o.inFl, o.poolRun, o.chan)) : Keeps o o' := by
  simp only [Prod.mk.injEq] at h
  obtain ⟨h1, h2, h3, h4, h5, h6⟩ := h
  exact ⟨h1, h2, h3, fun h => h4 ▸ h, h5, Or.inl h6⟩

theorem Keeps.of_acct {o o' : Op} (h : o'.acct = o.acct) : Keeps o o' := by
  simp only [Op.acct, Prod.mk.injEq] at h
  obtain ⟨_, _, h3, h4, h5, h6, h7, h8, _⟩ := h
  exact ⟨h8, h6, h7, fun h => h3 ▸ h, h5, Or.inl h4⟩

theorem inFl_false {o o' : Op} (hk : o'.inFl = true → o.inFl = true) (h : o.inFl = false) : o'.inFl = false := by
  cases hf : o'.inFl
  · rfl
  · rw [hk hf] at h; cases h

theorem inv_rel {c : Cfg} {s s' : State} (hi : Inv c s)
    (hops : OpsRel (fun _ o o' => o'.id = o.id ∧ o'.fd = o.fd ∧ o'.dir = o.dir ∧ (o'.inFl = true → o.inFl = true) ∧
      (OpOk s.drv s.ring s.reg o → OpOk s.drv s.ring s.reg o')) s.ops s'.ops)
    (hdrv : s'.drv = s.drv) (hring : s'.ring = s.ring) (hreg : s'.reg = s.reg) (halive : s'.alive = s.alive)
    (hpc : s'.dropPc = s.dropPc) (hch : s'.chanOpen = s.chanOpen) (harm : s'.armed = s.armed)
    (hchan : s'.chanOpen = false → (∀ (i : Nat) (o : Op), s'.ops[i]? = some o → o.poolRun = false) →
      ∀ (i : Nat) (o : Op), s'.ops[i]? = some o → o.chan = []) :
    Inv c s' := by
  constructor
  · intro j o' h
    obtain ⟨o, ho, hid, _, _, _, hok⟩ := hops.get' h
    rw [hdrv, hring, hreg]
    exact ⟨hok (hi.ops j o ho).1, hid.trans (hi.ops j o ho).2⟩
  · intro fd d i hm
    rw [hreg] at hm
    obtain ⟨o, ho, h1, h2⟩ := hi.qmem fd d i hm
    obtain ⟨o', ho', _, hfd, hdir, _⟩ := hops.get ho
    exact ⟨o', ho', hfd.trans h1, hdir.trans h2⟩
  · rw [hdrv, hreg]; exact hi.iour_reg
  · rw [halive, hring, hpc, hch]; exact hi.alive_ok
  · intro k hk
    rw [hpc] at hk
    obtain ⟨a, b, c1, d, e⟩ := hi.pc_ok k hk
    rw [halive, hch, hdrv, hring]
    refine ⟨a, b, c1, d, fun hfree j o' h => ?_⟩
    obtain ⟨o, ho, _, _, _, hfl, _⟩ := hops.get' h
    exact inFl_false hfl (e hfree j o ho)
  · intro ha hp
    rw [halive] at ha
    rw [hpc] at hp
    obtain ⟨a, b, c1⟩ := hi.dead_ok ha hp
    rw [hch, hreg]
    refine ⟨a, b, fun j o' h => ?_⟩
    obtain ⟨o, ho, _, _, _, hfl, _⟩ := hops.get' h
    exact inFl_false hfl (c1 j o ho)
  · exact hchan
  · unfold ArmInv
    rw [halive, harm, hreg]; exact hi.arm_ok

theorem inv_keeps {c : Cfg} {s s' : State} (hi : Inv c s)
    (hops : OpsRel (fun _ o o' => Keeps o o' ∧ (OpOk s.drv s.ring s.reg o → OpOk s.drv s.ring s.reg o')) s.ops s'.ops)
    (hdrv : s'.drv = s.drv) (hring : s'.ring = s.ring) (hreg : s'.reg = s.reg) (halive : s'.alive = s.alive)
    (hpc : s'.dropPc = s.dropPc) (hch : s'.chanOpen = s.chanOpen) (harm : s'.armed = s.armed) : Inv c s' := by
  refine inv_rel hi (hops.mono fun _ o o' h => ⟨h.1.id, h.1.fd, h.1.dir, h.1.inFl, h.2⟩) hdrv hring hreg halive hpc hch
    harm ?_
  intro hc hall j o' h
  obtain ⟨o, ho, hk, _⟩ := hops.get' h
  rcases hk.chan with h3 | h3
  · rw [h3]
    refine hi.chan_ok (hch ▸ hc) (fun i x hx => ?_) j o ho
    obtain ⟨x', hx', hk', _⟩ := hops.get hx
    rw [← hk'.pool]; exact hall i x' hx'
  · exact h3

theorem inv_modAt {c : Cfg} {s : State} {id : Nat} {o : Op} {f : Op → Op} (hi : Inv c s) (ho : s.ops[id]? = some o)
    (hk : Keeps o (f o)) (hf : OpOk s.drv s.ring s.reg (f o)) : Inv c { s with ops := modAt f s.ops id } :=
  inv_keeps hi (OpsRel.modAt (fun _ x => ⟨Keeps.rfl' x, fun h => h⟩) fun x hx => by
    rw [ho] at hx; obtain rfl := Option.some.inj hx; exact ⟨hk, fun _ => hf⟩) rfl rfl rfl rfl rfl rfl rfl

theorem inv_map {c : Cfg} {s : State} {f : Op → Op} (hi : Inv c s) (hk : ∀ o, Keeps o (f o))
    (hf : ∀ o, OpOk s.drv s.ring s.reg o → OpOk s.drv s.ring s.reg (f o)) : Inv c { s with ops := s.ops.map f } :=
  inv_keeps hi (OpsRel.map fun _ x _ => ⟨hk x, hf x⟩) rfl rfl rfl rfl rfl rfl rfl

theorem inv_plain {c : Cfg} {s : State} (hi : Inv c s) (id : Nat) {f : Op → Op} (hf : ∀ o, (f o).acct = o.acct) :
    Inv c { s with ops := modAt f s.ops id } :=
  inv_keeps hi (OpsRel.modAt (fun _ x => ⟨Keeps.rfl' x, fun h => h⟩) fun x _ => ⟨Keeps.of_acct (hf x), fun ok => ok.congr (hf x)⟩)
    rfl rfl rfl rfl rfl rfl rfl

/-- `Inv` reads eight fields of the state; `s'` has written others (`sqLen`, `needNotifier`, `panicked`) -/
theorem inv_frame {c : Cfg} {s s' : State} (hi : Inv c s)
    (hops : s'.ops = s.ops := by rfl) (hdrv : s'.drv = s.drv := by rfl) (hring : s'.ring = s.ring := by rfl)
    (hreg : s'.reg = s.reg := by rfl) (halive : s'.alive = s.alive := by rfl) (hpc : s'.dropPc = s.dropPc := by rfl)
    (hch : s'.chanOpen = s.chanOpen := by rfl) (harm : s'.armed = s.armed := by rfl) : Inv c s' :=
  inv_keeps hi (hops ▸ OpsRel.refl (fun _ x => ⟨Keeps.rfl' x, fun h => h⟩) _) hdrv hring hreg halive hpc hch harm

theorem inv_alive {c : Cfg} {s s' : State} (hi : Inv c s) (ha : s.alive = true)
    (hdrv : s'.drv = s.drv) (hring : s'.ring = s.ring) (halive : s'.alive = s.alive) (hpc : s'.dropPc = s.dropPc)
    (hch : s'.chanOpen = s.chanOpen)
    (hops : ∀ (j : Nat) (o : Op), s'.ops[j]? = some o → OpOk s.drv s.ring s'.reg o ∧ o.id = j)
    (hq : ∀ fd d i, i ∈ (s'.reg fd).sel d → ∃ o, s'.ops[i]? = some o ∧ o.fd = fd ∧ o.dir = d)
    (hir : s.drv = .iour → ∀ fd, s'.reg fd = FdQ.empty)
    (harm : ∀ fd, s'.armed fd = (s'.reg fd).event) : Inv c s' := by
  obtain ⟨hr, hp, hc⟩ := hi.alive_ok ha
  refine ⟨by rw [hdrv, hring]; exact hops, hq, by rw [hdrv]; exact hir, ?_, ?_, ?_, ?_, fun _ => harm⟩
  · intro _; rw [hring, hpc, hch]; exact ⟨hr, hp, hc⟩
  · intro k hk; rw [hpc, hp] at hk; cases hk
  · intro h; rw [halive, ha] at h; cases h
  · intro h; rw [hch, hc] at h; cases h

theorem arm_upd {s : State} (h : ∀ fd, s.armed fd = (s.reg fd).event) (fd : Nat) (q : FdQ) (fd' : Nat) :
    upd s.armed fd q.event fd' = (upd s.reg fd q fd').event := by
  by_cases hf : fd' = fd
  · subst hf; simp only [upd_same]
  · simp only [upd_other _ _ _ _ hf]; exact h fd'

theorem inv_append {c : Cfg} {s s' : State} (hi : Inv c s) (ha : s.alive = true) (o : Op)
    (hops : s'.ops = s.ops ++ [o]) (hdrv : s'.drv = s.drv) (hring : s'.ring = s.ring)
    (halive : s'.alive = s.alive) (hpc : s'.dropPc = s.dropPc) (hch : s'.chanOpen = s.chanOpen)
    (hid : o.id = s.ops.length)
    (hnew : OpOk s.drv s.ring s'.reg o)
    (hold : ∀ (j : Nat) (x : Op), s.ops[j]? = some x → qcount s'.reg x = qcount s.reg x)
    (hq : ∀ fd d i, i ∈ (s'.reg fd).sel d → i ∈ (s.reg fd).sel d ∨ (i = s.ops.length ∧ o.fd = fd ∧ o.dir = d))
    (hir : s.drv = .iour → ∀ fd, s'.reg fd = FdQ.empty)
    (harm : ∀ fd, s'.armed fd = (s'.reg fd).event) : Inv c s' := by
  refine inv_alive hi ha hdrv hring halive hpc hch ?_ ?_ hir harm
  · intro j o' h
    rw [hops] at h
    rcases getElem?_append_one h with h | ⟨rfl, rfl⟩
    · exact ⟨(hi.ops j o' h).1.reg (hold j o' h), (hi.ops j o' h).2⟩
    · exact ⟨hnew, hid⟩
  · intro fd d i hm
    rcases hq fd d i hm with h | ⟨rfl, h1, h2⟩
    · obtain ⟨x, hx, h1, h2⟩ := hi.qmem fd d i h
      refine ⟨x, ?_, h1, h2⟩
      rw [hops, List.getElem?_append_left (List.getElem?_eq_some_iff.mp hx).1]
      exact hx
    · exact ⟨o, by rw [hops]; simp, h1, h2⟩

theorem inv_modAt_reg {c : Cfg} {s s' : State} (hi : Inv c s) (ha : s.alive = true) {id : Nat} {o : Op} {f : Op → Op}
    (ho : s.ops[id]? = some o)
    (hops : s'.ops = modAt f s.ops id) (hdrv : s'.drv = s.drv) (hring : s'.ring = s.ring)
    (halive : s'.alive = s.alive) (hpc : s'.dropPc = s.dropPc) (hch : s'.chanOpen = s.chanOpen)
    (hkid : (f o).id = o.id ∧ (f o).fd = o.fd ∧ (f o).dir = o.dir)
    (hold : ∀ (j : Nat) (x : Op), j ≠ id → s.ops[j]? = some x → qcount s'.reg x = qcount s.reg x)
    (hq : ∀ fd d i, i ∈ (s'.reg fd).sel d → i ∈ (s.reg fd).sel d)
    (hir : s.drv = .iour → ∀ fd, s'.reg fd = FdQ.empty)
    (harm : ∀ fd, s'.armed fd = (s'.reg fd).event)
    (hf : OpOk s.drv s.ring s'.reg (f o)) : Inv c s' := by
  refine inv_alive hi ha hdrv hring halive hpc hch ?_ ?_ hir harm
  · intro j o' h
    rw [hops] at h
    rcases modAt_cases h with ⟨rfl, x, hx, rfl⟩ | ⟨hij, h⟩
    · rw [ho] at hx; obtain rfl := Option.some.inj hx
      exact ⟨hf, hkid.1.trans (hi.ops _ o ho).2⟩
    · exact ⟨(hi.ops j o' h).1.reg (hold j o' (Ne.symm hij) h), (hi.ops j o' h).2⟩
  · intro fd d i hm
    obtain ⟨x, hx, h1, h2⟩ := hi.qmem fd d i (hq fd d i hm)
    rw [hops, getElem?_modAt]
    by_cases hij : id = i
    · subst hij
      rw [ho] at hx; obtain rfl := Option.some.inj hx
      simp only [if_true, ho, Option.map_some]
      exact ⟨f o, rfl, hkid.2.1.trans h1, hkid.2.2.trans h2⟩
    · simp only [hij, if_false]
      exact ⟨x, hx, h1, h2⟩

theorem not_mem_queue_len {c : Cfg} {s : State} (hi : Inv c s) (fd : Nat) (d : Dir) :
    ((s.reg fd).sel d).count s.ops.length = 0 := by
  apply List.count_eq_zero.mpr
  intro hm
  obtain ⟨x, hx, _, _⟩ := hi.qmem fd d _ hm
  have := (List.getElem?_eq_some_iff.mp hx).1
  omega

/-- the other direction's queue never holds the op's key -/
theorem occ_eq_qcount {c : Cfg} {s : State} (hi : Inv c s) {id : Nat} {o : Op} (ho : s.ops[id]? = some o) :
    (s.reg o.fd).occ id = qcount s.reg o := by
  have hid := (hi.ops id o ho).2
  unfold FdQ.occ qcount
  rw [hid]
  have other : ∀ d, d ≠ o.dir → ((s.reg o.fd).sel d).count id = 0 := by
    intro d hd
    apply List.count_eq_zero.mpr
    intro hm
    obtain ⟨x, hx, _, h2⟩ := hi.qmem o.fd d id hm
    rw [ho] at hx; obtain rfl := Option.some.inj hx
    exact hd h2.symm
  cases hdir : o.dir
  · have := other .wr (by rw [hdir]; simp)
    simp only [FdQ.sel] at this ⊢; omega
  · have := other .rd (by rw [hdir]; simp)
    simp only [FdQ.sel] at this ⊢; omega

end Compio.KeyLife
