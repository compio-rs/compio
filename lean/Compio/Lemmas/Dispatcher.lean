/-
Lemmas for Model/Dispatcher.lean (property C18).  `step?` is read as a relation (`Step`).  What depends on one task
alone (ghost counters, channel, worker index) goes through the life cycle of a task object, `TTrans`, which
every event follows (`step_view`).  What ties a task's place to the loop of its worker (`WInv`) or to `join` (`JInv`)
is proved on `Step` itself, with one lemma per primitive change of the state: a point update, `clearExec`, `gc`.
`Inv` collects the invariants of reachable states.  `Frame` says what one event leaves alone (the fields of `join`
unless it is a step of `join`, a wake flag unless the event wakes or polls that task): the other C18 files start there.
-/
import Compio.Model.Dispatcher
import Compio.Lemmas.Lts
import Compio.Lemmas.ListFacts

namespace Compio.Dispatcher

@[simp] theorem upd_same {α : Type} (f : Nat → α) (i : Nat) (x : α) : upd f i x i = x := by simp [upd]
theorem upd_other {α : Type} (f : Nat → α) {i k : Nat} (x : α) (h : k ≠ i) : upd f i x k = f k := by
  simp [upd, h]
theorem upd_apply {α : Type} (f : Nat → α) (i k : Nat) (x : α) :
    upd f i x k = if k = i then x else f k := rfl
theorem upd_rel {α : Type} (R : α → α → Prop) (f : Nat → α) {i : Nat} {x : α} (hx : R x (f i)) (hr : ∀ a, R a a)
    (k : Nat) : R (upd f i x k) (f k) := by
  rw [upd_apply]; split
  · rename_i h; rw [h]; exact hx
  · exact hr _

theorem upd_self {α : Type} (f : Nat → α) (i : Nat) : upd f i (f i) = f := by
  funext k; rw [upd_apply]; split
  · rename_i h; rw [h]
  · rfl

theorem fresh_iff {s : St} {t : Nat} : fresh s t = true ↔ s.stat t = .absent ∧ t ∉ s.rejected := by
  simp [fresh]

/-- the model event of the hand-over of the joiner closure -/
def handEvent (onPool : Bool) : Event := if onPool then .joinPool else .joinFallbackThread

/-- `step?` as a relation: one constructor for each branch that succeeds, with the guard of the branch as
hypotheses and the new state written out -/
inductive Step (s : St) : Event → St → Prop
  | accept (d t : Nat) (b : Body) : s.sender = true → s.stat t = .absent → t ∉ s.rejected → anyRx s = true →
      Step s (.dispatch d t b) { s with queue := s.queue ++ [t], body := upd s.body t b, stat := upd s.stat t .queued, chan := upd s.chan t .pending, accepted := s.accepted ++ [t] }
  | reject (d t : Nat) (b : Body) : s.sender = true → s.stat t = .absent → t ∉ s.rejected → anyRx s = false →
      Step s (.dispatch d t b) { s with rejected := s.rejected ++ [t] }
  | acceptBlocking (d t : Nat) (b : Body) : s.sender = true → s.stat t = .absent → t ∉ s.rejected →
      Step s (.dispatchBlocking d t b true) { s with body := upd s.body t b, stat := upd s.stat t .pooled, chan := upd s.chan t .pending, accepted := s.accepted ++ [t] }
  | rejectBlocking (d t : Nat) (b : Body) : s.sender = true → s.stat t = .absent → t ∉ s.rejected →
      Step s (.dispatchBlocking d t b false) { s with rejected := s.rejected ++ [t] }
  | blockingOk (t v : Nat) : s.stat t = .pooled → (s.body t).out = .ok v →
      Step s (.runBlocking t) { s with stat := upd s.stat t .poolDone, chan := upd s.chan t ((s.chan t).send v), started := upd s.started t (s.started t + 1), ended := upd s.ended t (s.ended t + 1), sent := upd s.sent t (s.sent t + 1) }
  | blockingPanic (t : Nat) : s.stat t = .pooled → (s.body t).out = .panic →
      Step s (.runBlocking t) { s with stat := upd s.stat t .poolDone, chan := upd s.chan t (s.chan t).cancel, started := upd s.started t (s.started t + 1), ended := upd s.ended t (s.ended t + 1) }
  | rxDrop (t : Nat) : s.chan t ≠ .none → s.chan t ≠ .closed → Step s (.rxDrop t) { s with chan := upd s.chan t .closed }
  | recv (w t : Nat) : w < s.nw → s.main w = .idle → t ∈ s.queue →
      Step s (.recv w t) { s with queue := s.queue.erase t, stat := upd s.stat t (.spawned w), main := if s.conc then s.main else upd s.main w (.awaiting t) }
  | start (w t : Nat) : w < s.nw → (s.main w).canPoll = true → s.stat t = .spawned w →
      Step s (.poll w t) { s with stat := upd s.stat t (.running w (s.body t).steps), started := upd s.started t (s.started t + 1), startedOn := upd s.startedOn t (w :: s.startedOn t), woken := upd s.woken t false }
  | resume (w t k : Nat) : w < s.nw → (s.main w).canPoll = true → s.stat t = .running w (k + 1) →
      Step s (.poll w t) { s with stat := upd s.stat t (.running w k), woken := upd s.woken t false }
  | finishOk (w t v : Nat) : w < s.nw → (s.main w).canPoll = true → s.stat t = .running w 0 → (s.body t).out = .ok v →
      Step s (.poll w t) { s with stat := upd s.stat t (.done w), chan := upd s.chan t ((s.chan t).send v), main := resume s.main w (decide (s.main w = .awaiting t)), ended := upd s.ended t (s.ended t + 1), sent := upd s.sent t (s.sent t + 1), woken := upd s.woken t false }
  | finishPanic (w t : Nat) : w < s.nw → (s.main w).canPoll = true → s.stat t = .running w 0 → (s.body t).out = .panic →
      Step s (.poll w t) { s with stat := upd s.stat t (.done w), chan := upd s.chan t (s.chan t).cancel, main := resume s.main w (decide (s.main w = .awaiting t)), ended := upd s.ended t (s.ended t + 1), woken := upd s.woken t false }
  | remoteWake (t : Nat) : s.stat t ≠ .absent → Step s (.remoteWake t) { s with woken := upd s.woken t true }
  | die (w p : Nat) : w < s.nw → (s.main w).inLoop = true → Step s (.die w p) { s with main := upd s.main w (.dying p) }
  | reap (w p : Nat) : w < s.nw → s.main w = .dying p →
      Step s (.reap w) (gc (clearExec { s with main := upd s.main w (.dead p) } w))
  | joinStart : s.sender = true → Step s .joinStart (gc { s with sender := false })
  | joinPool : s.sender = false → s.joiner = none → Step s .joinPool { s with joiner := some true }
  | joinFallbackThread : s.sender = false → s.joiner = none →
      Step s .joinFallbackThread { s with joiner := some false }
  | exitLoop (w : Nat) : w < s.nw → s.main w = .idle → s.sender = false → s.queue = [] →
      Step s (.exitLoop w) { s with main := upd s.main w .draining }
  | teardown (w : Nat) : w < s.nw → s.main w = .draining →
      Step s (.teardown w) (clearExec { s with main := upd s.main w .exited } w)
  | joinReturn : s.sender = false → s.joiner.isSome = true → s.joined = none → allGone s = true →
      Step s .joinReturn { s with joined := some (firstDead s) }

theorem dispatch?_some {s s' : St} {d t : Nat} {b : Body} (h : dispatch? s t b = some s') :
    Step s (.dispatch d t b) s' := by
  simp only [dispatch?, Option.ite_none_right_eq_some, Bool.and_eq_true, fresh_iff] at h
  obtain ⟨⟨hs, ha, hr⟩, h⟩ := h
  cases hrx : anyRx s <;> simp only [hrx, if_true, Bool.false_eq_true, if_false, Option.some.injEq] at h <;> subst h
  · exact .reject d t b hs ha hr hrx
  · exact .accept d t b hs ha hr hrx

theorem dispatchBlocking?_some {s s' : St} {d t : Nat} {b : Body} {ok : Bool}
    (h : dispatchBlocking? s t b ok = some s') : Step s (.dispatchBlocking d t b ok) s' := by
  simp only [dispatchBlocking?, Option.ite_none_right_eq_some, Bool.and_eq_true, fresh_iff] at h
  obtain ⟨⟨hs, ha, hr⟩, h⟩ := h
  cases ok <;> simp only [if_true, Bool.false_eq_true, if_false, Option.some.injEq] at h <;> subst h
  · exact .rejectBlocking d t b hs ha hr
  · exact .acceptBlocking d t b hs ha hr

theorem runBlocking?_some {s s' : St} {t : Nat} (h : runBlocking? s t = some s') : Step s (.runBlocking t) s' := by
  simp only [runBlocking?, Option.ite_none_right_eq_some] at h
  obtain ⟨hp, h⟩ := h
  split at h <;> cases h
  · rename_i v hv; exact .blockingOk t v hp hv
  · rename_i hv; exact .blockingPanic t hp hv

theorem rxDrop?_some {s s' : St} {t : Nat} (h : rxDrop? s t = some s') : Step s (.rxDrop t) s' := by
  simp only [rxDrop?, Option.ite_none_right_eq_some, Option.some.injEq, Bool.and_eq_true, decide_eq_true_eq] at h
  obtain ⟨⟨h1, h2⟩, rfl⟩ := h
  exact .rxDrop t h1 h2

theorem recv?_some {s s' : St} {w t : Nat} (h : recv? s w t = some s') : Step s (.recv w t) s' := by
  simp only [recv?, Option.ite_none_right_eq_some, Option.some.injEq, Bool.and_eq_true, decide_eq_true_eq,
    List.contains_iff_mem] at h
  obtain ⟨⟨⟨hw, hi⟩, hq⟩, rfl⟩ := h
  exact .recv w t hw hi hq

theorem poll?_some {s s' : St} {w t : Nat} (h : poll? s w t = some s') : Step s (.poll w t) s' := by
  simp only [poll?, Option.ite_none_right_eq_some, Bool.and_eq_true, decide_eq_true_eq] at h
  obtain ⟨⟨hw, hc⟩, h⟩ := h
  split at h <;> simp only [Option.ite_none_right_eq_some, reduceCtorEq] at h
  · rename_i hst; obtain ⟨rfl, h⟩ := h; cases h
    exact .start _ t hw hc hst
  · rename_i k hst; obtain ⟨rfl, h⟩ := h; cases h
    exact .resume _ t k hw hc hst
  · rename_i hst; obtain ⟨rfl, h⟩ := h
    split at h <;> cases h
    · rename_i v hv; exact .finishOk _ t v hw hc hst hv
    · rename_i hv; exact .finishPanic _ t hw hc hst hv

theorem remoteWake?_some {s s' : St} {t : Nat} (h : remoteWake? s t = some s') : Step s (.remoteWake t) s' := by
  simp only [remoteWake?, Option.ite_none_right_eq_some, Option.some.injEq] at h
  obtain ⟨h1, rfl⟩ := h
  exact .remoteWake t h1

theorem die?_some {s s' : St} {w p : Nat} (h : die? s w p = some s') : Step s (.die w p) s' := by
  simp only [die?, Option.ite_none_right_eq_some, Option.some.injEq, Bool.and_eq_true, decide_eq_true_eq] at h
  obtain ⟨⟨h1, h2⟩, rfl⟩ := h
  exact .die w p h1 h2

theorem reap?_some {s s' : St} {w : Nat} (h : reap? s w = some s') : Step s (.reap w) s' := by
  unfold reap? at h
  split at h
  · rename_i p hp
    simp only [Option.ite_none_right_eq_some, Option.some.injEq] at h
    obtain ⟨h1, rfl⟩ := h
    exact .reap w p h1 hp
  · cases h

theorem joinStart?_some {s s' : St} (h : joinStart? s = some s') : Step s .joinStart s' := by
  simp only [joinStart?, Option.ite_none_right_eq_some, Option.some.injEq] at h
  obtain ⟨h1, rfl⟩ := h
  exact .joinStart h1

theorem joinHand?_some {s s' : St} {b : Bool} (h : joinHand? s b = some s') : Step s (handEvent b) s' := by
  simp only [joinHand?, Option.ite_none_right_eq_some, Option.some.injEq, Bool.and_eq_true, Bool.not_eq_true',
    Option.isNone_iff_eq_none] at h
  obtain ⟨⟨h1, h2⟩, rfl⟩ := h
  cases b
  · exact .joinFallbackThread h1 h2
  · exact .joinPool h1 h2

theorem exitLoop?_some {s s' : St} {w : Nat} (h : exitLoop? s w = some s') : Step s (.exitLoop w) s' := by
  simp only [exitLoop?, Option.ite_none_right_eq_some, Option.some.injEq, Bool.and_eq_true, decide_eq_true_eq,
    Bool.not_eq_true', List.isEmpty_iff] at h
  obtain ⟨⟨⟨⟨h1, h2⟩, h3⟩, h4⟩, rfl⟩ := h
  exact .exitLoop w h1 h2 h3 h4

theorem teardown?_some {s s' : St} {w : Nat} (h : teardown? s w = some s') : Step s (.teardown w) s' := by
  simp only [teardown?, Option.ite_none_right_eq_some, Option.some.injEq, Bool.and_eq_true, decide_eq_true_eq] at h
  obtain ⟨⟨h1, h2⟩, rfl⟩ := h
  exact .teardown w h1 h2

theorem joinReturn?_some {s s' : St} (h : joinReturn? s = some s') : Step s .joinReturn s' := by
  simp only [joinReturn?, Option.ite_none_right_eq_some, Option.some.injEq, Bool.and_eq_true, Bool.not_eq_true',
    Option.isNone_iff_eq_none] at h
  obtain ⟨⟨⟨⟨h1, h2⟩, h3⟩, h4⟩, rfl⟩ := h
  exact .joinReturn h1 h2 h3 h4

theorem step?_some {s s' : St} {e : Event} (h : step? s e = some s') : Step s e s' := by
  cases e with
  | dispatch d t b => exact dispatch?_some h
  | dispatchBlocking d t b ok => exact dispatchBlocking?_some h
  | runBlocking t => exact runBlocking?_some h
  | rxDrop t => exact rxDrop?_some h
  | recv w t => exact recv?_some h
  | poll w t => exact poll?_some h
  | remoteWake t => exact remoteWake?_some h
  | die w p => exact die?_some h
  | reap w => exact reap?_some h
  | joinStart => exact joinStart?_some h
  | joinPool => exact joinHand?_some (b := true) h
  | joinFallbackThread => exact joinHand?_some (b := false) h
  | exitLoop w => exact exitLoop?_some h
  | teardown w => exact teardown?_some h
  | joinReturn => exact joinReturn?_some h

theorem isRun : IsRun step? run? :=
  ⟨fun _ => rfl, fun s e es => by rw [run?]; cases step? s e <;> rfl⟩

theorem run?_cons {s : St} {e : Event} {es : List Event} {s'' : St} (h : run? s (e :: es) = some s'') :
    ∃ s', step? s e = some s' ∧ run? s' es = some s'' :=
  isRun.cons_some.1 h

/-- the channel is being freed -/
def freed (s : St) : Bool := !s.sender && !anyRx s

theorem gc_eq (s : St) : gc s = if freed s then { s with queue := [], stat := fun t => if t ∈ s.queue then .dropped none else s.stat t, chan := fun t => if t ∈ s.queue then (s.chan t).cancel else s.chan t } else s := rfl

theorem gc_stat (s : St) (t : Nat) :
    (gc s).stat t = if freed s = true ∧ t ∈ s.queue then .dropped none else s.stat t := by
  rw [gc_eq]; by_cases h : freed s = true <;> simp [h]
theorem gc_chan (s : St) (t : Nat) :
    (gc s).chan t = if freed s = true ∧ t ∈ s.queue then (s.chan t).cancel else s.chan t := by
  rw [gc_eq]; by_cases h : freed s = true <;> simp [h]
theorem gc_queue (s : St) : (gc s).queue = if freed s = true then [] else s.queue := by
  rw [gc_eq]; by_cases h : freed s = true <;> simp [h]
theorem gc_proj {α : Type} (f : St → α) (s : St)
    (hf : ∀ q st ch, f { s with queue := q, stat := st, chan := ch } = f s) : f (gc s) = f s := by
  rw [gc_eq]; split
  · exact hf _ _ _
  · rfl

@[simp] theorem gc_main (s : St) : (gc s).main = s.main := gc_proj St.main s fun _ _ _ => rfl
@[simp] theorem gc_body (s : St) : (gc s).body = s.body := gc_proj St.body s fun _ _ _ => rfl
@[simp] theorem gc_nw (s : St) : (gc s).nw = s.nw := gc_proj St.nw s fun _ _ _ => rfl
@[simp] theorem gc_conc (s : St) : (gc s).conc = s.conc := gc_proj St.conc s fun _ _ _ => rfl
@[simp] theorem gc_sender (s : St) : (gc s).sender = s.sender := gc_proj St.sender s fun _ _ _ => rfl
@[simp] theorem gc_joined (s : St) : (gc s).joined = s.joined := gc_proj St.joined s fun _ _ _ => rfl
@[simp] theorem gc_woken (s : St) : (gc s).woken = s.woken := gc_proj St.woken s fun _ _ _ => rfl
@[simp] theorem gc_joiner (s : St) : (gc s).joiner = s.joiner := gc_proj St.joiner s fun _ _ _ => rfl
@[simp] theorem gc_accepted (s : St) : (gc s).accepted = s.accepted := gc_proj St.accepted s fun _ _ _ => rfl
@[simp] theorem gc_rejected (s : St) : (gc s).rejected = s.rejected := gc_proj St.rejected s fun _ _ _ => rfl
@[simp] theorem gc_started (s : St) : (gc s).started = s.started := gc_proj St.started s fun _ _ _ => rfl
@[simp] theorem gc_startedOn (s : St) : (gc s).startedOn = s.startedOn := gc_proj St.startedOn s fun _ _ _ => rfl
@[simp] theorem gc_ended (s : St) : (gc s).ended = s.ended := gc_proj St.ended s fun _ _ _ => rfl
@[simp] theorem gc_sent (s : St) : (gc s).sent = s.sent := gc_proj St.sent s fun _ _ _ => rfl

theorem clearExec_stat (s : St) (w t : Nat) :
    (clearExec s w).stat t = if (s.stat t).activeOn w then (s.stat t).dropIt else s.stat t := rfl
theorem clearExec_chan (s : St) (w t : Nat) :
    (clearExec s w).chan t = if (s.stat t).activeOn w then (s.chan t).cancel else s.chan t := rfl
@[simp] theorem clearExec_queue (s : St) (w : Nat) : (clearExec s w).queue = s.queue := rfl
@[simp] theorem clearExec_main (s : St) (w : Nat) : (clearExec s w).main = s.main := rfl
@[simp] theorem clearExec_body (s : St) (w : Nat) : (clearExec s w).body = s.body := rfl
@[simp] theorem clearExec_nw (s : St) (w : Nat) : (clearExec s w).nw = s.nw := rfl
@[simp] theorem clearExec_conc (s : St) (w : Nat) : (clearExec s w).conc = s.conc := rfl
@[simp] theorem clearExec_sender (s : St) (w : Nat) : (clearExec s w).sender = s.sender := rfl
@[simp] theorem clearExec_joined (s : St) (w : Nat) : (clearExec s w).joined = s.joined := rfl
@[simp] theorem clearExec_woken (s : St) (w : Nat) : (clearExec s w).woken = s.woken := rfl
@[simp] theorem clearExec_joiner (s : St) (w : Nat) : (clearExec s w).joiner = s.joiner := rfl
@[simp] theorem clearExec_accepted (s : St) (w : Nat) : (clearExec s w).accepted = s.accepted := rfl
@[simp] theorem clearExec_rejected (s : St) (w : Nat) : (clearExec s w).rejected = s.rejected := rfl
@[simp] theorem clearExec_started (s : St) (w : Nat) : (clearExec s w).started = s.started := rfl
@[simp] theorem clearExec_startedOn (s : St) (w : Nat) : (clearExec s w).startedOn = s.startedOn := rfl
@[simp] theorem clearExec_ended (s : St) (w : Nat) : (clearExec s w).ended = s.ended := rfl
@[simp] theorem clearExec_sent (s : St) (w : Nat) : (clearExec s w).sent = s.sent := rfl

theorem anyRx_iff (s : St) : anyRx s = true ↔ ∃ w, w < s.nw ∧ (s.main w).holdsRx = true := by
  simp [anyRx, List.any_eq_true, List.mem_range]

theorem anyRx_false_iff (s : St) : anyRx s = false ↔ ∀ w, w < s.nw → (s.main w).holdsRx = false := by
  rw [← Bool.not_eq_true, anyRx_iff]; simp

theorem allGone_iff (s : St) : allGone s = true ↔ ∀ w, w < s.nw → (s.main w).gone = true := by
  simp [allGone, List.all_eq_true, List.mem_range]

theorem resume_of_awaiting {main : Nat → Main} {w t : Nat} (h : main w = .awaiting t) :
    resume main w (decide (main w = .awaiting t)) = upd main w .idle := by
  rw [resume, decide_eq_true h]; rfl

theorem resume_of_not_awaiting {main : Nat → Main} {w t : Nat} (h : main w ≠ .awaiting t) :
    resume main w (decide (main w = .awaiting t)) = main := by
  rw [resume, decide_eq_false h]; rfl

/-- what the state records about task `t`, the wake flag `woken t` apart -/
structure TView where
  stat : TStat
  chan : Chan
  body : Body
  started : Nat
  startedOn : List Nat
  ended : Nat
  sent : Nat
  /-- `t ∈ accepted` -/
  acc : Bool
  /-- `t ∈ rejected` -/
  rej : Bool

def St.view (s : St) (t : Nat) : TView :=
  ⟨s.stat t, s.chan t, s.body t, s.started t, s.startedOn t, s.ended t, s.sent t,
   s.accepted.contains t, s.rejected.contains t⟩

/-- the local transitions of a task object: every event changes the view of every task either not at all
or by one of these.
`TTrans nw ext v v'`: `nw` workers (`recv` is by one of them); `ext = true` for the transitions made by a `dispatch` / `dispatch_blocking` call (new
work entering the system), `false` for everything the dispatcher does with it afterwards -/
inductive TTrans (nw : Nat) : Bool → TView → TView → Prop where
  | accept (v : TView) (b : Body) : v.stat = .absent → v.rej = false →
      TTrans nw true v { v with stat := .queued, chan := .pending, body := b, acc := true }
  | acceptBlocking (v : TView) (b : Body) : v.stat = .absent → v.rej = false →
      TTrans nw true v { v with stat := .pooled, chan := .pending, body := b, acc := true }
  | reject (v : TView) : v.stat = .absent → TTrans nw true v { v with rej := true }
  | recv (v : TView) (w : Nat) : v.stat = .queued → w < nw → TTrans nw false v { v with stat := .spawned w }
  | start (v : TView) (w : Nat) : v.stat = .spawned w →
      TTrans nw false v { v with stat := .running w v.body.steps, started := v.started + 1, startedOn := w :: v.startedOn }
  | resume (v : TView) (w k : Nat) : v.stat = .running w (k + 1) → TTrans nw false v { v with stat := .running w k }
  | finishOk (v : TView) (w x : Nat) : v.stat = .running w 0 → v.body.out = .ok x →
      TTrans nw false v { v with stat := .done w, chan := v.chan.send x, ended := v.ended + 1, sent := v.sent + 1 }
  | finishPanic (v : TView) (w : Nat) : v.stat = .running w 0 → v.body.out = .panic →
      TTrans nw false v { v with stat := .done w, chan := v.chan.cancel, ended := v.ended + 1 }
  | dropQueued (v : TView) : v.stat = .queued → TTrans nw false v { v with stat := .dropped none, chan := v.chan.cancel }
  | dropActive (v : TView) (w : Nat) : v.stat.activeOn w = true →
      TTrans nw false v { v with stat := v.stat.dropIt, chan := v.chan.cancel }
  | blockingOk (v : TView) (x : Nat) : v.stat = .pooled → v.body.out = .ok x →
      TTrans nw false v { v with stat := .poolDone, chan := v.chan.send x, started := v.started + 1, ended := v.ended + 1, sent := v.sent + 1 }
  | blockingPanic (v : TView) : v.stat = .pooled → v.body.out = .panic →
      TTrans nw false v { v with stat := .poolDone, chan := v.chan.cancel, started := v.started + 1, ended := v.ended + 1 }
  | rxDrop (v : TView) : v.chan ≠ .none → v.chan ≠ .closed → TTrans nw false v { v with chan := .closed }

structure QInv (s : St) : Prop where
  nodup : s.queue.Nodup
  mem : ∀ t, t ∈ s.queue ↔ s.stat t = .queued

theorem QInv.gc {s : St} (h : QInv s) : QInv (gc s) := by
  constructor
  · rw [gc_queue]; split
    · exact List.nodup_nil
    · exact h.nodup
  · intro t
    rw [gc_queue, gc_stat]
    by_cases hf : freed s = true
    · by_cases hq : t ∈ s.queue <;> simp [hf, hq, ← h.mem t]
    · simp [hf, h.mem t]

theorem dropIt_ne_queued (x : TStat) : x.dropIt ≠ .queued := by
  cases x <;> simp [TStat.dropIt]

theorem QInv.clearExec {s : St} (h : QInv s) (w : Nat) : QInv (clearExec s w) := by
  refine ⟨h.nodup, fun t => ?_⟩
  rw [clearExec_queue, clearExec_stat, h.mem t]
  split
  · rename_i ha
    constructor
    · intro hq; rw [hq] at ha; cases ha
    · intro hq; exact (dropIt_ne_queued _ hq).elim
  · rfl

theorem QInv.same {s : St} (h : QInv s) {s' : St} (hq : s'.queue = s.queue) (hs : s'.stat = s.stat) :
    QInv s' := by
  constructor
  · rw [hq]; exact h.nodup
  · intro t; rw [hq, hs]; exact h.mem t

theorem QInv.setStat {s s' : St} (h : QInv s) {t : Nat} {x : TStat} (hq : s'.queue = s.queue)
    (hs : s'.stat = upd s.stat t x) (h1 : s.stat t ≠ .queued) (h2 : x ≠ .queued) : QInv s' := by
  constructor
  · rw [hq]; exact h.nodup
  · intro t'
    rw [hq, hs, h.mem t']
    exact upd_rel (fun a b => b = .queued ↔ a = .queued) s.stat (iff_of_false h1 h2) (fun _ => .rfl) t'

theorem QInv.step {s s' : St} {e : Event} (h : QInv s) (hs : Step s e s') : QInv s' := by
  cases hs with
  | accept d t b _ ha =>
    have hnq : t ∉ s.queue := fun hm => by rw [h.mem t, ha] at hm; cases hm
    constructor
    · exact nodup_snoc h.nodup hnq
    · intro t'
      show t' ∈ s.queue ++ [t] ↔ upd s.stat t .queued t' = .queued
      rw [upd_apply, List.mem_append, List.mem_singleton, h.mem t']
      by_cases ht : t' = t <;> simp [ht]
  | recv w t =>
    refine ⟨h.nodup.erase t, fun t' => ?_⟩
    show t' ∈ s.queue.erase t ↔ upd s.stat t (.spawned w) t' = .queued
    rw [upd_apply, h.nodup.mem_erase_iff, h.mem t']
    by_cases ht : t' = t <;> simp [ht]
  | reject | rejectBlocking | rxDrop | remoteWake | die | joinPool | joinFallbackThread | exitLoop | joinReturn => exact h.same rfl rfl
  | acceptBlocking _ t _ _ hst | blockingOk t _ hst | blockingPanic t hst | start _ t _ _ hst
  | resume _ t _ _ _ hst | finishOk _ t _ _ _ hst | finishPanic _ t _ _ hst =>
    exact h.setStat (t := t) rfl rfl (by rw [hst]; nofun) nofun
  | reap w p => exact ((h.same (s' := { s with main := upd s.main w (.dead p) }) rfl rfl).clearExec w).gc
  | joinStart => exact (h.same (s' := { s with sender := false }) rfl rfl).gc
  | teardown w => exact (h.same (s' := { s with main := upd s.main w .exited }) rfl rfl).clearExec w

theorem QInv.init (nw : Nat) (conc : Bool) : QInv (init nw conc) :=
  ⟨List.nodup_nil, by intro t; simp [Compio.Dispatcher.init]⟩

theorem view_gc {s : St} (hq : QInv s) (t : Nat) :
    (gc s).view t = s.view t ∨ TTrans s.nw false (s.view t) ((gc s).view t) := by
  by_cases h : freed s = true ∧ t ∈ s.queue
  · right
    have := TTrans.dropQueued (nw := s.nw) (s.view t) ((hq.mem t).mp h.2)
    simpa [St.view, gc_stat, gc_chan, h] using this
  · left; simp [St.view, gc_stat, gc_chan, h]

theorem view_clearExec (s : St) (w t : Nat) :
    (clearExec s w).view t = s.view t ∨ TTrans s.nw false (s.view t) ((clearExec s w).view t) := by
  by_cases h : (s.stat t).activeOn w = true
  · right
    have := TTrans.dropActive (nw := s.nw) (s.view t) w h
    simpa [St.view, clearExec_stat, clearExec_chan, h] using this
  · left; simp [St.view, clearExec_stat, clearExec_chan, h]

/-- a task dropped by `clearExec` is not queued afterwards, so `gc` after `clearExec` touches a task at most
once -/
theorem view_gc_clearExec {s : St} (hq : QInv s) (w t : Nat) :
    (gc (clearExec s w)).view t = s.view t ∨ TTrans s.nw false (s.view t) ((gc (clearExec s w)).view t) := by
  have hq' := hq.clearExec w
  by_cases h : (s.stat t).activeOn w = true
  · have hnq : t ∉ s.queue := fun hm => by
      rw [← clearExec_queue s w, hq'.mem t, clearExec_stat, if_pos h] at hm
      exact dropIt_ne_queued _ hm
    have : (gc (clearExec s w)).view t = (clearExec s w).view t := by
      simp [St.view, gc_stat, gc_chan, hnq]
    rw [this]; exact view_clearExec s w t
  · have : (clearExec s w).view t = s.view t := by
      simp [St.view, clearExec_stat, clearExec_chan, h]
    rw [← this]; exact view_gc hq' t

/-- the event is a call that brings new work -/
def Event.external : Event → Bool
  | .dispatch .. | .dispatchBlocking .. => true
  | _ => false

theorem view_local {R : TView → TView → Prop} {s s' : St} (t : Nat)
    (hoth : ∀ t', t' ≠ t → s'.view t' = s.view t') (ht : R (s.view t) (s'.view t)) (t' : Nat) :
    s'.view t' = s.view t' ∨ R (s.view t') (s'.view t') := by
  by_cases h : t' = t
  · rw [h]; exact .inr ht
  · exact .inl (hoth t' h)

theorem step_view {s s' : St} {e : Event} (hq : QInv s) (h : Step s e s') (t' : Nat) :
    s'.view t' = s.view t' ∨ TTrans s.nw e.external (s.view t') (s'.view t') := by
  cases h with
  | accept d t b _ ha hr =>
    exact view_local t (fun t' ht => by simp [St.view, upd_other _ _ ht, ht])
      (by simpa [St.view, Event.external] using TTrans.accept (s.view t) b ha (by simpa [St.view] using hr)) t'
  | acceptBlocking d t b _ ha hr =>
    exact view_local t (fun t' ht => by simp [St.view, upd_other _ _ ht, ht])
      (by simpa [St.view, Event.external] using TTrans.acceptBlocking (s.view t) b ha (by simpa [St.view] using hr)) t'
  | reject d t b _ ha | rejectBlocking d t b _ ha =>
    exact view_local t (fun t' ht => by simp [St.view, ht])
      (by simpa [St.view, Event.external] using TTrans.reject (s.view t) ha) t'
  | blockingOk t v hp hv =>
    exact view_local t (fun t' ht => by simp only [St.view, upd_other _ _ ht])
      (by simpa only [St.view, upd_same, Event.external] using TTrans.blockingOk (s.view t) v hp hv) t'
  | blockingPanic t hp hv =>
    exact view_local t (fun t' ht => by simp only [St.view, upd_other _ _ ht])
      (by simpa only [St.view, upd_same, Event.external] using TTrans.blockingPanic (s.view t) hp hv) t'
  | rxDrop t hn hn2 =>
    exact view_local t (fun t' ht => by simp only [St.view, upd_other _ _ ht])
      (by simpa only [St.view, upd_same, Event.external] using TTrans.rxDrop (s.view t) hn hn2) t'
  | recv w t hw _ hmem =>
    exact view_local t (fun t' ht => by simp only [St.view, upd_other _ _ ht])
      (by simpa only [St.view, upd_same, Event.external] using TTrans.recv (s.view t) w ((hq.mem t).mp hmem) hw) t'
  | start w t _ _ hst =>
    exact view_local t (fun t' ht => by simp only [St.view, upd_other _ _ ht])
      (by simpa only [St.view, upd_same, Event.external] using TTrans.start (s.view t) w hst) t'
  | resume w t k _ _ hst =>
    exact view_local t (fun t' ht => by simp only [St.view, upd_other _ _ ht])
      (by simpa only [St.view, upd_same, Event.external] using TTrans.resume (s.view t) w k hst) t'
  | finishOk w t v _ _ hst hv =>
    exact view_local t (fun t' ht => by simp only [St.view, upd_other _ _ ht])
      (by simpa only [St.view, upd_same, Event.external] using TTrans.finishOk (s.view t) w v hst hv) t'
  | finishPanic w t _ _ hst hv =>
    exact view_local t (fun t' ht => by simp only [St.view, upd_other _ _ ht])
      (by simpa only [St.view, upd_same, Event.external] using TTrans.finishPanic (s.view t) w hst hv) t'
  | remoteWake | die | joinPool | joinFallbackThread | exitLoop | joinReturn => exact .inl rfl
  | reap w p => exact view_gc_clearExec (s := { s with main := upd s.main w (.dead p) }) (hq.same rfl rfl) w t'
  | joinStart => exact view_gc (s := { s with sender := false }) (hq.same rfl rfl) t'
  | teardown w => exact view_clearExec { s with main := upd s.main w .exited } w t'

def startedOf : TStat → Nat
  | .running _ _ | .done _ | .poolDone | .dropped (some _) => 1
  | _ => 0

def startedOnOf : TStat → List Nat
  | .running w _ | .done w | .dropped (some w) => [w]
  | _ => []

def endedOf : TStat → Nat
  | .done _ | .poolDone => 1
  | _ => 0

def TStat.isDone : TStat → Bool
  | .done _ | .poolDone => true
  | _ => false

def sentOf (st : TStat) (b : Body) : Nat :=
  match b.out with
  | .ok _ => if st.isDone then 1 else 0
  | _ => 0

/-- the `oneshot::Sender` still exists (inside the task object) -/
def TStat.holdsSender : TStat → Bool
  | .queued | .spawned _ | .running _ _ | .pooled => true
  | _ => false

/-- what the receiver of a task can see, given where the task object is -/
def chanOk (st : TStat) (b : Body) (c : Chan) : Prop :=
  match st with
  | .absent => c = .none
  | .queued | .spawned _ | .running _ _ | .pooled => c = .pending ∨ c = .closed
  | .done _ | .poolDone =>
    c = .closed ∨ (match b.out with | .ok v => c = .value v | .panic => c = .cancelled | .never => False)
  | .dropped _ => c = .cancelled ∨ c = .closed

/-- the per-task invariant: the counters are determined by the place `stat` (and the body), the channel is limited by
them (`chanOk`); `acc` / `rej` tie the place to the lists `accepted` / `rejected` -/
structure TView.Ok (v : TView) : Prop where
  started : v.started = startedOf v.stat
  startedOn : v.startedOn = startedOnOf v.stat
  ended : v.ended = endedOf v.stat
  sent : v.sent = sentOf v.stat v.body
  chan : chanOk v.stat v.body v.chan
  acc : v.acc = true ↔ v.stat ≠ .absent
  rej : v.rej = true → v.stat = .absent

theorem sentOf_of_not_done {st : TStat} (b : Body) (h : st.isDone = false) : sentOf st b = 0 := by
  unfold sentOf; split <;> simp [h]

theorem sentOf_ok {st : TStat} {b : Body} {x : Nat} (h : st.isDone = true) (ho : b.out = .ok x) :
    sentOf st b = 1 := by
  simp [sentOf, ho, h]

theorem sentOf_panic (st : TStat) {b : Body} (ho : b.out = .panic) : sentOf st b = 0 := by
  simp [sentOf, ho]

/-- the hypothesis: the task object still holds the `oneshot::Sender` -/
theorem send_of_pending {c : Chan} (x : Nat) (h : c = .pending ∨ c = .closed) :
    c.send x = .closed ∨ c.send x = .value x := by
  rcases h with rfl | rfl
  · exact .inr rfl
  · exact .inl rfl

theorem cancel_of_pending {c : Chan} (h : c = .pending ∨ c = .closed) :
    c.cancel = .cancelled ∨ c.cancel = .closed := by
  rcases h with rfl | rfl
  · exact .inl rfl
  · exact .inr rfl

theorem TTrans.ok {nw : Nat} {ext : Bool} {v v' : TView} (h : TTrans nw ext v v') (hv : v.Ok) : v'.Ok := by
  obtain ⟨h1, h2, h3, h4, h5, h6, h7⟩ := hv
  -- nothing has been sent before and nothing is sent by a step between two places that are not `done`
  have notDone : ∀ {a a' : TStat} {b b' : Body}, a.isDone = false → a'.isDone = false → v.sent = sentOf a b →
      v.sent = sentOf a' b' := fun ha ha' h => by rw [h, sentOf_of_not_done _ ha, sentOf_of_not_done _ ha']
  -- the place before the step, as a variable: one substitution per case puts its value into all clauses
  generalize hst : v.stat = st at h1 h2 h3 h4 h5 h6 h7
  cases h with
  | accept _ b ha hr | acceptBlocking _ b ha hr =>
    cases hst.symm.trans ha
    exact ⟨h1, h2, h3, notDone rfl rfl h4, .inl rfl, by simp, by simp [hr]⟩
  | reject _ ha => subst hst; exact ⟨h1, h2, h3, h4, h5, h6, fun _ => ha⟩
  | recv _ w hs =>
    cases hst.symm.trans hs
    exact ⟨h1, h2, h3, notDone rfl rfl h4, h5, h6.trans (by simp), fun h => nomatch h7 h⟩
  | start _ w hs =>
    cases hst.symm.trans hs
    exact ⟨congrArg (· + 1) h1, congrArg (w :: ·) h2, h3, notDone rfl rfl h4, h5, h6.trans (by simp),
      fun h => nomatch h7 h⟩
  | resume _ w k hs =>
    cases hst.symm.trans hs
    exact ⟨h1, h2, h3, h4, h5, h6.trans (by simp), fun h => nomatch h7 h⟩
  | finishOk _ w x hs ho =>
    cases hst.symm.trans hs
    refine ⟨h1, h2, congrArg (· + 1) h3, ?_, ?_, h6.trans (by simp), fun h => nomatch h7 h⟩
    · show v.sent + 1 = _
      rw [h4, sentOf_of_not_done _ rfl, sentOf_ok rfl ho]
    · show _ ∨ _
      rw [ho]; exact send_of_pending x h5
  | finishPanic _ w hs ho =>
    cases hst.symm.trans hs
    refine ⟨h1, h2, congrArg (· + 1) h3, ?_, ?_, h6.trans (by simp), fun h => nomatch h7 h⟩
    · rw [h4, sentOf_of_not_done _ rfl, sentOf_panic _ ho]
    · show _ ∨ _
      rw [ho]; exact (cancel_of_pending h5).symm
  | dropQueued _ hs =>
    cases hst.symm.trans hs
    exact ⟨h1, h2, h3, notDone rfl rfl h4, cancel_of_pending h5, h6.trans (by simp), fun h => nomatch h7 h⟩
  | dropActive _ w ha =>
    cases hs : v.stat <;> rw [hs] at ha <;> try cases ha
    all_goals
      cases hst.symm.trans hs
      exact ⟨h1, h2, h3, notDone rfl rfl h4, cancel_of_pending h5, h6.trans (by simp [TStat.dropIt]),
        fun h => nomatch h7 h⟩
  | blockingOk _ x hs ho =>
    cases hst.symm.trans hs
    refine ⟨congrArg (· + 1) h1, h2, congrArg (· + 1) h3, ?_, ?_, h6.trans (by simp), fun h => nomatch h7 h⟩
    · show v.sent + 1 = _
      rw [h4, sentOf_of_not_done _ rfl, sentOf_ok rfl ho]
    · show _ ∨ _
      rw [ho]; exact send_of_pending x h5
  | blockingPanic _ hs ho =>
    cases hst.symm.trans hs
    refine ⟨congrArg (· + 1) h1, h2, congrArg (· + 1) h3, ?_, ?_, h6.trans (by simp), fun h => nomatch h7 h⟩
    · rw [h4, sentOf_of_not_done _ rfl, sentOf_panic _ ho]
    · show _ ∨ _
      rw [ho]; exact (cancel_of_pending h5).symm
  | rxDrop _ hn hn2 =>
    subst hst
    refine ⟨h1, h2, h3, h4, ?_, h6, h7⟩
    show chanOk v.stat v.body .closed
    cases hs : v.stat <;> rw [hs] at h5
    · exact (hn h5).elim
    all_goals first | exact .inr rfl | exact .inl rfl

/-- `QInv` (which `step_view` needs) and `TView.Ok` of every task -/
structure TInv (s : St) : Prop where
  q : QInv s
  ok : ∀ t, (s.view t).Ok

theorem TInv.init (nw : Nat) (conc : Bool) : TInv (init nw conc) :=
  ⟨QInv.init nw conc, fun _ => ⟨rfl, rfl, rfl, (sentOf_of_not_done _ rfl).symm, rfl, by simp [St.view, Compio.Dispatcher.init],
    fun h => nomatch h⟩⟩

theorem TInv.step {s s' : St} {e : Event} (h : TInv s) (hs : Step s e s') : TInv s' := by
  refine ⟨h.q.step hs, fun t => ?_⟩
  rcases step_view h.q hs t with heq | htr
  · rw [heq]; exact h.ok t
  · exact htr.ok (h.ok t)

theorem TInv.started_eq {s : St} (h : TInv s) (t : Nat) : s.started t = startedOf (s.stat t) := (h.ok t).started
theorem TInv.startedOn_eq {s : St} (h : TInv s) (t : Nat) : s.startedOn t = startedOnOf (s.stat t) :=
  (h.ok t).startedOn
theorem TInv.ended_eq {s : St} (h : TInv s) (t : Nat) : s.ended t = endedOf (s.stat t) := (h.ok t).ended
theorem TInv.sent_eq {s : St} (h : TInv s) (t : Nat) : s.sent t = sentOf (s.stat t) (s.body t) := (h.ok t).sent
theorem TInv.chanOk {s : St} (h : TInv s) (t : Nat) : chanOk (s.stat t) (s.body t) (s.chan t) := (h.ok t).chan
theorem TInv.mem_accepted {s : St} (h : TInv s) (t : Nat) : t ∈ s.accepted ↔ s.stat t ≠ .absent :=
  List.contains_iff_mem.symm.trans (h.ok t).acc
theorem TInv.absent_of_rejected {s : St} (h : TInv s) {t : Nat} (hr : t ∈ s.rejected) : s.stat t = .absent :=
  (h.ok t).rej (List.contains_iff_mem.mpr hr)

/-- task `t` lives, unfinished, in the executor of worker `w` -/
def St.active (s : St) (t w : Nat) : Prop := (s.stat t).activeOn w = true

theorem active_spawned {s : St} {t w : Nat} (h : s.stat t = .spawned w) : s.active t w := by
  unfold St.active; rw [h]; exact beq_self_eq_true w

theorem active_running {s : St} {t w k : Nat} (h : s.stat t = .running w k) : s.active t w := by
  unfold St.active; rw [h]; exact beq_self_eq_true w

theorem activeOn_unique {x : TStat} {w w' : Nat} (h : x.activeOn w = true) (h' : x.activeOn w' = true) :
    w = w' := by
  cases x <;> simp [TStat.activeOn] at h h' <;> omega

theorem dropIt_not_active (x : TStat) (w : Nat) : x.dropIt.activeOn w = false := by
  cases x <;> simp [TStat.dropIt, TStat.activeOn]

theorem active_clearExec {s : St} {w t w' : Nat} :
    (clearExec s w).active t w' ↔ s.active t w' ∧ ¬ s.active t w := by
  unfold St.active
  rw [clearExec_stat]
  by_cases h : (s.stat t).activeOn w = true
  · simp [h, dropIt_not_active]
  · simp [h]

theorem active_gc {s : St} (hq : QInv s) {t w' : Nat} : (gc s).active t w' ↔ s.active t w' := by
  unfold St.active
  rw [gc_stat]
  by_cases h : freed s = true ∧ t ∈ s.queue
  · have := (hq.mem t).mp h.2
    simp [h, this, TStat.activeOn]
  · simp [h]

structure WInv (s : St) : Prop where
  /-- tasks live only in executors of existing, unfinished worker threads -/
  alive : ∀ t w, s.active t w → w < s.nw ∧ (s.main w).gone = false
  /-- the loop awaits a task only in sequential mode, and that task lives in its executor -/
  awaiting : ∀ w t, s.main w = .awaiting t → s.conc = false ∧ s.active t w
  /-- sequential mode: a task lives in an executor only while the loop awaits it (or the thread is dying) -/
  seq : s.conc = false → ∀ t w, s.active t w → s.main w = .awaiting t ∨ ∃ p, s.main w = .dying p
  /-- sequential mode: at most one task per executor -/
  uniq : s.conc = false → ∀ t t' w, s.active t w → s.active t' w → t = t'

theorem WInv.init (nw : Nat) (conc : Bool) : WInv (init nw conc) := by
  constructor <;> simp [St.active, Compio.Dispatcher.init, TStat.activeOn]

theorem WInv.congr {s s' : St} (h : WInv s) (key : ∀ t w, s'.active t w ↔ s.active t w) (h2 : s'.main = s.main)
    (h3 : s'.nw = s.nw) (h4 : s'.conc = s.conc) : WInv s' := by
  constructor
  · intro t w; rw [key, h2, h3]; exact h.alive t w
  · intro w t; rw [key, h2, h4]; exact h.awaiting w t
  · rw [h4]; intro hc t w; rw [key, h2]; exact h.seq hc t w
  · rw [h4]; intro hc t t' w; rw [key, key]; exact h.uniq hc t t' w

theorem WInv.setSame {s s' : St} (h : WInv s) {t : Nat} {x : TStat}
    (hx : ∀ w, x.activeOn w = (s.stat t).activeOn w)
    (h1 : s'.stat = upd s.stat t x) (h2 : s'.main = s.main) (h3 : s'.nw = s.nw) (h4 : s'.conc = s.conc) :
    WInv s' := by
  refine h.congr (fun t' w => ?_) h2 h3 h4
  unfold St.active; rw [h1]
  exact upd_rel (fun a b => a.activeOn w = true ↔ b.activeOn w = true) s.stat (by rw [hx]) (fun _ => .rfl) t'

theorem WInv.gc {s : St} (h : WInv s) (hq : QInv s) : WInv (gc s) :=
  h.congr (fun _ _ => active_gc hq) (gc_main s) (gc_nw s) (gc_conc s)

/-- an event at worker `w`: the other workers keep their loop state and their tasks, so only what `WInv` says
about `w` is left to show -/
theorem WInv.atWorker {s s' : St} (h : WInv s) {w : Nat} {m : Main} (h2 : s'.main = upd s.main w m)
    (h3 : s'.nw = s.nw) (h4 : s'.conc = s.conc) (hoth : ∀ t w', w' ≠ w → (s'.active t w' ↔ s.active t w'))
    (alive : ∀ t, s'.active t w → w < s.nw ∧ m.gone = false)
    (awaiting : ∀ t, m = .awaiting t → s.conc = false ∧ s'.active t w)
    (seq : s.conc = false → ∀ t, s'.active t w → m = .awaiting t ∨ ∃ p, m = .dying p)
    (uniq : s.conc = false → ∀ t t', s'.active t w → s'.active t' w → t = t') : WInv s' := by
  have same : ∀ {w'}, w' ≠ w → s'.main w' = s.main w' := fun hw => by rw [h2, upd_other _ _ hw]
  have here : s'.main w = m := by rw [h2, upd_same]
  constructor
  · intro t w' ha
    rw [h3]
    by_cases hw : w' = w
    · subst hw; rw [here]; exact alive t ha
    · rw [same hw]; exact h.alive t w' ((hoth t w' hw).mp ha)
  · intro w' t hm
    rw [h4]
    by_cases hw : w' = w
    · subst hw; rw [here] at hm; exact awaiting t hm
    · rw [same hw] at hm; rw [hoth t w' hw]; exact h.awaiting w' t hm
  · rw [h4]; intro hc t w' ha
    by_cases hw : w' = w
    · subst hw; rw [here]; exact seq hc t ha
    · rw [same hw]; exact h.seq hc t w' ((hoth t w' hw).mp ha)
  · rw [h4]; intro hc t t' w' a1 a2
    by_cases hw : w' = w
    · subst hw; exact uniq hc t t' a1 a2
    · exact h.uniq hc t t' w' ((hoth t w' hw).mp a1) ((hoth t' w' hw).mp a2)

theorem WInv.clear {s : St} (h : WInv s) {w : Nat} {m : Main} (hm : ∀ t, m ≠ .awaiting t) :
    WInv (clearExec { s with main := upd s.main w m } w) := by
  have none : ∀ t, ¬ (clearExec { s with main := upd s.main w m } w).active t w :=
    fun t ha => (active_clearExec.mp ha).2 (active_clearExec.mp ha).1
  refine h.atWorker (w := w) (m := m) rfl rfl rfl (fun t w' hw => ?_) (fun t ha => (none t ha).elim)
    (fun t he => (hm t he).elim) (fun _ t ha => (none t ha).elim) (fun _ t _ ha => (none t ha).elim)
  rw [active_clearExec]
  exact ⟨fun ha => ha.1, fun ha => ⟨ha, fun ha' => hw (activeOn_unique ha ha')⟩⟩

theorem WInv.setMain {s : St} (h : WInv s) {w : Nat} {m : Main} (hg : m.gone = false) (hna : ∀ t, m ≠ .awaiting t)
    (hseq : s.conc = false → ∀ t, s.active t w → ∃ p, m = .dying p) :
    WInv { s with main := upd s.main w m } :=
  h.atWorker rfl rfl rfl (fun _ _ _ => .rfl) (fun t ha => ⟨(h.alive t w ha).1, hg⟩)
    (fun t he => (hna t he).elim) (fun hc t ha => .inr (hseq hc t ha)) (fun hc t t' => h.uniq hc t t' w)

theorem WInv.idle_not_active {s : St} (h : WInv s) (hc : s.conc = false) {w : Nat} (hi : s.main w = .idle)
    (t : Nat) : ¬ s.active t w := by
  intro ha
  rcases h.seq hc t w ha with h1 | ⟨q, h1⟩ <;> rw [hi] at h1 <;> cases h1

theorem WInv.recv {s s' : St} (h : WInv s) {w t : Nat} (hw : w < s.nw) (hi : s.main w = .idle)
    (hq : s.stat t = .queued) (h1 : s'.stat = upd s.stat t (.spawned w))
    (h2 : s'.main = if s.conc then s.main else upd s.main w (.awaiting t))
    (h3 : s'.nw = s.nw) (h4 : s'.conc = s.conc) : WInv s' := by
  have key : ∀ t' w', s'.active t' w' ↔ (t' = t ∧ w' = w) ∨ (t' ≠ t ∧ s.active t' w') := by
    intro t' w'
    unfold St.active; rw [h1, upd_apply]
    by_cases ht : t' = t
    · subst ht
      simp only [TStat.activeOn, beq_iff_eq, ne_eq, not_true_eq_false, false_and, or_false, true_and, if_true]
      exact eq_comm
    · simp [ht]
  have hoth : ∀ t' w', w' ≠ w → (s'.active t' w' ↔ s.active t' w') := fun t' w' hne =>
    (key t' w').trans ⟨fun a => a.elim (fun a => (hne a.2).elim) (·.2),
      fun a => .inr ⟨fun e => (by rw [e, St.active, hq] at a; cases a), a⟩⟩
  by_cases hc : s.conc = true
  · -- concurrent mode: the loop stays in `recv_async()`
    rw [if_pos hc, ← upd_self s.main w, hi] at h2
    exact h.atWorker h2 h3 h4 hoth (fun _ _ => ⟨hw, rfl⟩) (fun _ he => nomatch he)
      (fun hf => by rw [hc] at hf; cases hf) (fun hf => by rw [hc] at hf; cases hf)
  · -- sequential mode: the loop awaits `t`, the only task in its executor
    rw [if_neg hc] at h2
    have only : ∀ t', s'.active t' w → t' = t := fun t' ha =>
      ((key t' w).mp ha).elim (·.1) fun a => (h.idle_not_active (by simpa using hc) hi t' a.2).elim
    exact h.atWorker h2 h3 h4 hoth (fun _ _ => ⟨hw, rfl⟩)
      (fun t' he => ⟨by simpa using hc, (key t' w).mpr (.inl ⟨(Main.awaiting.inj he).symm, rfl⟩)⟩)
      (fun _ t' ha => .inl (by rw [only t' ha])) (fun _ t1 t2 a1 a2 => (only t1 a1).trans (only t2 a2).symm)

theorem WInv.finish {s s' : St} (h : WInv s) {w t : Nat} (hst : s.stat t = .running w 0)
    (h1 : s'.stat = upd s.stat t (.done w))
    (h2 : s'.main = resume s.main w (decide (s.main w = .awaiting t)))
    (h3 : s'.nw = s.nw) (h4 : s'.conc = s.conc) : WInv s' := by
  have hat : s.active t w := active_running hst
  have key : ∀ t' w', s'.active t' w' ↔ t' ≠ t ∧ s.active t' w' := by
    intro t' w'
    unfold St.active; rw [h1, upd_apply]
    by_cases ht : t' = t
    · subst ht; simp [TStat.activeOn]
    · simp [ht]
  have hoth : ∀ t' w', w' ≠ w → (s'.active t' w' ↔ s.active t' w') := fun t' w' hne =>
    (key t' w').trans ⟨(·.2), fun a => ⟨fun e => hne (activeOn_unique (e ▸ a) hat), a⟩⟩
  -- in sequential mode `t` was the only task of `w`
  have only : s.conc = false → ∀ t', ¬ s'.active t' w := fun hc t' ha =>
    ((key t' w).mp ha).1 (h.uniq hc t' t w ((key t' w).mp ha).2 hat)
  by_cases hk : s.main w = .awaiting t
  · rw [resume_of_awaiting hk] at h2
    exact h.atWorker h2 h3 h4 hoth (fun _ _ => ⟨(h.alive t w hat).1, rfl⟩) (fun _ he => nomatch he)
      (fun hc t' ha => (only hc t' ha).elim) (fun hc t' _ ha => (only hc t' ha).elim)
  · rw [resume_of_not_awaiting hk, ← upd_self s.main w] at h2
    exact h.atWorker h2 h3 h4 hoth (fun t' ha => h.alive t' w ((key t' w).mp ha).2)
      (fun t' he => ⟨(h.awaiting w t' he).1, (key t' w).mpr ⟨fun e => hk (e ▸ he), (h.awaiting w t' he).2⟩⟩)
      (fun hc t' ha => (only hc t' ha).elim) (fun hc t' _ ha => (only hc t' ha).elim)

theorem WInv.step {s s' : St} {e : Event} (h : WInv s) (hq : QInv s) (hs : Step s e s') : WInv s' := by
  cases hs with
  | reject | rejectBlocking | rxDrop | remoteWake | joinPool | joinFallbackThread | joinReturn =>
    exact h.congr (fun _ _ => .rfl) rfl rfl rfl
  | accept _ t _ _ hst | acceptBlocking _ t _ _ hst | blockingOk t _ hst | blockingPanic t hst
  | start _ t _ _ hst | resume _ t _ _ _ hst =>
    exact h.setSame (t := t) (fun w => by rw [hst]; rfl) rfl rfl rfl rfl
  | recv w t hw hi hmem => exact h.recv hw hi ((hq.mem t).mp hmem) rfl rfl rfl rfl
  | finishOk _ t _ _ _ hst | finishPanic _ t _ _ hst => exact h.finish hst rfl rfl rfl rfl
  | die w p => exact h.setMain rfl (fun _ => nofun) (fun _ _ _ => ⟨p, rfl⟩)
  | reap w p =>
    exact (h.clear (m := .dead p) (fun _ => nofun)).gc
      ((hq.same (s' := { s with main := upd s.main w (.dead p) }) rfl rfl).clearExec w)
  | joinStart =>
    exact (h.congr (s' := { s with sender := false }) (fun _ _ => .rfl) rfl rfl rfl).gc (hq.same rfl rfl)
  | exitLoop w _ hi => exact h.setMain rfl (fun _ => nofun) (fun hc t ha => (h.idle_not_active hc hi t ha).elim)
  | teardown w => exact h.clear (m := .exited) (fun _ => nofun)

theorem anyRx_congr {s s' : St} (hn : s'.nw = s.nw)
    (h : ∀ w, w < s.nw → (s'.main w).holdsRx = (s.main w).holdsRx) : anyRx s' = anyRx s := by
  rw [Bool.eq_iff_iff, anyRx_iff, anyRx_iff, hn]
  constructor
  · rintro ⟨w, hw, hr⟩; exact ⟨w, hw, by rw [← h w hw]; exact hr⟩
  · rintro ⟨w, hw, hr⟩; exact ⟨w, hw, by rw [h w hw]; exact hr⟩

@[simp] theorem anyRx_gc (s : St) : anyRx (gc s) = anyRx s := anyRx_congr (by simp) (by simp)
@[simp] theorem anyRx_clearExec (s : St) (w : Nat) : anyRx (clearExec s w) = anyRx s := rfl

/-- the worker thread panicked (unwinding, or already joined with its payload) -/
def Main.failed : Main → Prop
  | .dying _ | .dead _ => True
  | _ => False

/-- the part of the join invariant that also holds between the two halves of `reap` / `joinStart`
(before the freed channel drops its queue) -/
structure JPre (s : St) : Prop where
  /-- a worker leaves its loop only when the sender is gone and the queue is empty -/
  drained : ∀ w, s.main w = .draining ∨ s.main w = .exited → s.sender = false ∧ s.queue = []
  /-- a queued item was accepted while some worker held a `Receiver`: worker 0 exists -/
  qpos : s.queue ≠ [] → 0 < s.nw
  /-- `join` returns after every worker thread has finished, with the first panic in thread order -/
  joined : ∀ r, s.joined = some r → s.sender = false ∧ allGone s = true ∧ r = firstDead s
  /-- sequential mode: a task object is dropped unfinished only when a worker thread panicked -/
  seqdrop : s.conc = false → ∀ t o, s.stat t = .dropped o → ∃ w, w < s.nw ∧ (s.main w).failed
  /-- in any mode: a task object is dropped unfinished only after `join` was called or a worker panicked -/
  anydrop : ∀ t o, s.stat t = .dropped o → s.sender = false ∨ ∃ w, w < s.nw ∧ (s.main w).failed

structure JInv (s : St) : Prop extends JPre s where
  /-- once the sender and all receivers are gone, the queue has been dropped -/
  freedq : s.sender = false → anyRx s = false → s.queue = []

theorem JInv.init (nw : Nat) (conc : Bool) : JInv (init nw conc) := by
  refine ⟨⟨?_, ?_, ?_, ?_, ?_⟩, ?_⟩ <;> simp [Compio.Dispatcher.init]

theorem gone_of_allGone {s : St} (h : allGone s = true) {w : Nat} (hw : w < s.nw) : (s.main w).gone = true :=
  (allGone_iff s).mp h w hw

/-- events that leave workers, sender and `joined` alone, keep an empty queue empty and drop no task, whatever
they do to the other fields: the `with` lists every field but `nw conc sender main joined`, so that the state a
`Step` constructor produces matches it -/
theorem JInv.same {s : St} (h : JInv s) {q : List Nat} {st : Nat → TStat} {b : Nat → Body} {c : Nat → Chan}
    {j : Option Bool} {a r : List Nat} {x z u : Nat → Nat} {y : Nat → List Nat} {v : Nat → Bool}
    (hq : s.queue = [] → q = []) (hd : ∀ t o, st t = .dropped o → ∃ o', s.stat t = .dropped o') :
    JInv { s with queue := q, body := b, stat := st, chan := c, joiner := j, accepted := a, rejected := r,
                  started := x, startedOn := y, ended := z, sent := u, woken := v } := by
  refine ⟨⟨fun w hw => ⟨(h.drained w hw).1, hq (h.drained w hw).2⟩, fun hn => h.qpos fun he => hn (hq he), h.joined,
    fun hc t o ht => ?_, fun t o ht => ?_⟩, fun hs hr => hq (h.freedq hs hr)⟩
  · obtain ⟨o', ht'⟩ := hd t o ht; exact h.seqdrop hc t o' ht'
  · obtain ⟨o', ht'⟩ := hd t o ht; exact h.anydrop t o' ht'

theorem JPre.setMain {s : St} (h : JPre s) {w : Nat} {m : Main} (hw : w < s.nw)
    (hng : (s.main w).gone = false) (hm : m = .draining ∨ m = .exited → s.sender = false ∧ s.queue = [])
    (hf : (s.main w).failed → m.failed) : JPre { s with main := upd s.main w m } := by
  have hfail : ∀ w0, (s.main w0).failed → (upd s.main w m w0).failed :=
    upd_rel (fun a b => b.failed → a.failed) s.main hf fun _ => id
  constructor
  · intro w' hw'
    replace hw' : upd s.main w m w' = .draining ∨ upd s.main w m w' = .exited := hw'
    rw [upd_apply] at hw'
    split at hw'
    · exact hm hw'
    · exact h.drained w' hw'
  · exact h.qpos
  · intro r hj
    have := gone_of_allGone (h.joined r hj).2.1 hw
    rw [hng] at this; cases this
  · intro hc t o hd
    obtain ⟨w0, hw0, hf0⟩ := h.seqdrop hc t o hd
    exact ⟨w0, hw0, hfail w0 hf0⟩
  · intro t o hd
    rcases h.anydrop t o hd with hsd | ⟨w0, hw0, hf0⟩
    · exact .inl hsd
    · exact .inr ⟨w0, hw0, hfail w0 hf0⟩

theorem JInv.setMain {s : St} (h : JInv s) {w : Nat} {m : Main} (hw : w < s.nw)
    (hng : (s.main w).gone = false) (hm : m = .draining ∨ m = .exited → s.sender = false ∧ s.queue = [])
    (hf : (s.main w).failed → m.failed) (hrx : m.holdsRx = (s.main w).holdsRx ∨ s.queue = []) :
    JInv { s with main := upd s.main w m } := by
  refine ⟨h.toJPre.setMain hw hng hm hf, ?_⟩
  rcases hrx with hrx | hrx
  · have hany : anyRx { s with main := upd s.main w m } = anyRx s := by
      exact anyRx_congr (s := s) rfl fun w' _ =>
        upd_rel (fun a b => a.holdsRx = b.holdsRx) s.main hrx (fun _ => rfl) w'
    rw [hany]; exact h.freedq
  · intro _ _; exact hrx

theorem dropped_upd {s : St} {t : Nat} {x : TStat} (hx : ∀ o, x ≠ .dropped o) :
    ∀ t' o, upd s.stat t x t' = .dropped o → ∃ o', s.stat t' = .dropped o' := by
  intro t' o h
  rw [upd_apply] at h
  by_cases ht : t' = t
  · simp [ht] at h; exact (hx o h).elim
  · simp [ht] at h; exact ⟨o, h⟩

theorem dropped_clearExec {s : St} {w t : Nat} {o : Option Nat} (h : (clearExec s w).stat t = .dropped o) :
    s.active t w ∨ s.stat t = .dropped o := by
  rw [clearExec_stat] at h
  by_cases ha : (s.stat t).activeOn w = true
  · exact .inl ha
  · rw [if_neg ha] at h; exact .inr h

theorem dropped_gc {s : St} {t : Nat} {o : Option Nat} (h : (gc s).stat t = .dropped o) :
    (s.sender = false ∧ anyRx s = false ∧ t ∈ s.queue) ∨ s.stat t = .dropped o := by
  rw [gc_stat] at h
  by_cases hg : freed s = true ∧ t ∈ s.queue
  · have hf := hg.1
    simp only [freed, Bool.and_eq_true, Bool.not_eq_true'] at hf
    exact .inl ⟨hf.1, hf.2, hg.2⟩
  · rw [if_neg hg] at h; exact .inr h

theorem JPre.clearExec {s : St} (h : JPre s) {w : Nat}
    (hd : s.conc = false → ∀ t, s.active t w → w < s.nw ∧ (s.main w).failed)
    (hd' : s.sender = false ∨ (w < s.nw ∧ (s.main w).failed)) : JPre (clearExec s w) := by
  constructor
  · intro w'; simpa using h.drained w'
  · simpa using h.qpos
  · intro r; simpa [allGone, firstDead] using h.joined r
  · intro hc t o hdr
    simp only [clearExec_conc, clearExec_nw, clearExec_main] at hc ⊢
    rcases dropped_clearExec hdr with ha | hdr
    · exact ⟨w, hd hc t ha⟩
    · exact h.seqdrop hc t o hdr
  · intro t o hdr
    simp only [clearExec_sender, clearExec_nw, clearExec_main] at ⊢
    rcases dropped_clearExec hdr with _ | hdr
    · exact hd'.imp_right fun h1 => ⟨w, h1⟩
    · exact h.anydrop t o hdr

theorem JPre.gc {s : St} (h : JPre s) : JInv (gc s) := by
  refine ⟨⟨?_, ?_, ?_, ?_, ?_⟩, ?_⟩
  · intro w hw
    simp only [gc_main, gc_sender] at hw ⊢
    have := h.drained w hw
    exact ⟨this.1, by rw [gc_queue, this.2]; simp⟩
  · intro hq; rw [gc_queue] at hq; simp only [gc_nw]
    split at hq
    · exact (hq rfl).elim
    · exact h.qpos hq
  · intro r; simpa [allGone, firstDead] using h.joined r
  · intro hc t o hdr
    simp only [gc_conc, gc_nw, gc_main] at hc ⊢
    rcases dropped_gc hdr with ⟨_, hr, hq⟩ | hdr
    · -- the queue is not empty, so worker 0 exists; it holds no `Receiver`, and a worker that left its loop in the
      -- normal way left an empty queue: it has panicked
      have hq := List.ne_nil_of_mem hq
      have h0 := h.qpos hq
      have hr := (anyRx_false_iff s).mp hr 0 h0
      refine ⟨0, h0, ?_⟩
      cases hm : s.main 0 <;> simp [hm, Main.holdsRx] at hr
      · exact (hq (h.drained 0 (Or.inl hm)).2).elim
      · exact (hq (h.drained 0 (Or.inr hm)).2).elim
      · simp [Main.failed]
    · exact h.seqdrop hc t o hdr
  · intro t o hdr
    simp only [gc_sender, gc_nw, gc_main] at ⊢
    rcases dropped_gc hdr with ⟨hs, _, _⟩ | hdr
    · exact .inl hs
    · exact h.anydrop t o hdr
  · intro hs hr
    simp only [gc_sender, anyRx_gc] at hs hr
    rw [gc_queue]; simp [freed, hs, hr]

theorem JInv.step {s s' : St} {e : Event} (h : JInv s) (hw : WInv s) (hs : Step s e s') : JInv s' := by
  cases hs with
  | accept d t b hsend ha _ hrx =>
    -- the sender is alive: no worker has left its loop, `join` has not returned, nothing was freed
    have alive : ∀ {p : Prop}, s.sender = false → p := fun hf => by rw [hsend] at hf; cases hf
    have old := dropped_upd (s := s) (t := t) (x := .queued) nofun
    refine ⟨⟨fun w hm => alive (h.drained w hm).1, fun _ => ?_, fun r hj => alive (h.joined r hj).1,
      fun hc t' o hd => ?_, fun t' o hd => ?_⟩, fun hf => alive hf⟩
    · obtain ⟨w, hw', _⟩ := (anyRx_iff s).mp hrx
      exact Nat.lt_of_le_of_lt (Nat.zero_le w) hw'
    · obtain ⟨o', hd'⟩ := old t' o hd
      exact h.seqdrop hc t' o' hd'
    · obtain ⟨o', hd'⟩ := old t' o hd
      exact h.anydrop t' o' hd'
  | reject | rejectBlocking | rxDrop | remoteWake | joinPool | joinFallbackThread =>
    exact h.same id (fun t o hd => ⟨o, hd⟩)
  | acceptBlocking | blockingOk | blockingPanic | start | resume =>
    exact h.same id (dropped_upd nofun)
  | recv w t hlt hi =>
    -- the task leaves the queue for the executor; then a sequential loop starts awaiting it
    have h1 : JInv { s with queue := s.queue.erase t, stat := upd s.stat t (.spawned w) } :=
      h.same (fun hq => by rw [hq]; rfl) (dropped_upd nofun)
    by_cases hc : s.conc = true
    · rw [if_pos hc]; exact h1
    · rw [if_neg hc]
      exact h1.setMain (m := .awaiting t) hlt (hi ▸ rfl) (by simp) (hi ▸ id) (.inl (hi ▸ rfl))
  | finishOk w t _ hlt | finishPanic w t hlt =>
    -- the body has ended; then a sequential loop that awaited it is back in `recv_async()`
    have h1 : JInv { s with stat := upd s.stat t (.done w) } := h.same id (dropped_upd nofun)
    by_cases hk : s.main w = .awaiting t
    · rw [resume_of_awaiting hk]
      exact (h1.setMain (m := .idle) hlt (hk ▸ rfl) (by simp) (hk ▸ id) (.inl (hk ▸ rfl))).same
        id (fun t o hd => ⟨o, hd⟩)
    · rw [resume_of_not_awaiting hk]
      exact h1.same id (fun t o hd => ⟨o, hd⟩)
  | die w p hlt hil =>
    -- a worker inside its loop has not finished and holds its `Receiver`, as the dying one still does
    have hm : (s.main w).gone = false ∧ (s.main w).holdsRx = true := by
      cases hm : s.main w <;> rw [hm] at hil <;> first | exact ⟨rfl, rfl⟩ | cases hil
    exact h.setMain hlt hm.1 (by simp) (fun _ => trivial) (.inl hm.2.symm)
  | reap w p hlt hdy =>
    have h1 := h.toJPre.setMain (m := .dead p) hlt (hdy ▸ rfl) (by simp) (fun _ => trivial)
    have hf : w < s.nw ∧ (upd s.main w (.dead p) w).failed := ⟨hlt, by rw [upd_same]; trivial⟩
    exact (h1.clearExec (fun _ _ _ => hf) (.inr hf)).gc
  | joinStart hsend =>
    have alive : ∀ {p : Prop}, s.sender = false → p := fun hf => by rw [hsend] at hf; cases hf
    have h1 : JPre { s with sender := false } :=
      ⟨fun w hm => alive (h.drained w hm).1, h.qpos, fun r hj => alive (h.joined r hj).1, h.seqdrop,
        fun _ _ _ => .inl rfl⟩
    exact h1.gc
  | exitLoop w hlt hi hsend hq =>
    exact h.setMain hlt (hi ▸ rfl) (fun _ => ⟨hsend, hq⟩) (hi ▸ id) (.inr hq)
  | teardown w hlt hdr =>
    have hd := h.drained w (.inl hdr)
    have h1 := h.toJPre.setMain (m := .exited) hlt (hdr ▸ rfl) (fun _ => hd) (hdr ▸ id)
    -- sequential mode: a worker that has left its loop has nothing left to drop
    have h2 : JPre (clearExec { s with main := upd s.main w .exited } w) :=
      h1.clearExec (fun hc t ha => by rcases hw.seq hc t w ha with h3 | ⟨q, h3⟩ <;> rw [hdr] at h3 <;> cases h3)
        (.inl hd.1)
    exact ⟨h2, fun _ _ => hd.2⟩
  | joinReturn hsend _ hj hall =>
    exact ⟨⟨h.drained, h.qpos, fun r hr => ⟨hsend, hall, (Option.some.inj hr).symm⟩, h.seqdrop, h.anydrop⟩,
      h.freedq⟩

def deadPayload (m : Main) : Option Nat := match m with | .dead p => some p | _ => none

theorem deadPayload_eq_some {m : Main} {p : Nat} : deadPayload m = some p ↔ m = .dead p := by
  cases m <;> simp [deadPayload]

theorem deadPayload_eq_none {m : Main} : deadPayload m = none ↔ ∀ q, m ≠ .dead q := by
  cases m <;> simp [deadPayload]

theorem findSome_range_first (f : Nat → Option Nat) {n p : Nat} (h : (List.range n).findSome? f = some p) :
    ∃ w, w < n ∧ f w = some p ∧ ∀ w', w' < w → f w' = none := by
  induction n with
  | zero => cases h
  | succ n ih =>
    rw [List.range_succ, List.findSome?_append] at h
    cases hn : (List.range n).findSome? f with
    | some q =>
      rw [hn, Option.some_or] at h
      obtain ⟨w, hw, hf, hlt⟩ := ih (hn.trans h)
      exact ⟨w, Nat.lt_succ_of_lt hw, hf, hlt⟩
    | none =>
      rw [hn, Option.none_or, List.findSome?_cons, List.findSome?_nil] at h
      refine ⟨n, Nat.lt_succ_self n, ?_, fun w' hw' => List.findSome?_eq_none_iff.mp hn w' (List.mem_range.mpr hw')⟩
      split at h
      · rename_i b hb; exact hb.trans h
      · cases h

theorem firstDead_none {s : St} (h : firstDead s = none) (w : Nat) (hw : w < s.nw) (p : Nat) :
    s.main w ≠ .dead p :=
  deadPayload_eq_none.mp (List.findSome?_eq_none_iff.mp h w (List.mem_range.mpr hw)) p

theorem firstDead_some {s : St} {p : Nat} (h : firstDead s = some p) :
    ∃ w, w < s.nw ∧ s.main w = .dead p ∧ ∀ w', w' < w → ∀ q, s.main w' ≠ .dead q := by
  obtain ⟨w, hw, hf, hlt⟩ := findSome_range_first (fun w => deadPayload (s.main w)) h
  exact ⟨w, hw, deadPayload_eq_some.mp hf, fun w' hw' => deadPayload_eq_none.mp (hlt w' hw')⟩

def Event.isJoin : Event → Bool
  | .joinStart | .joinPool | .joinFallbackThread | .joinReturn => true
  | _ => false

/-- the steps of `join`: the only events that touch `sender`, `joiner` and `joined`, each with its guard -/
inductive JoinStep (s s' : St) : Event → Prop
  | start : s.sender = true → s'.sender = false → s'.joiner = s.joiner → s'.joined = s.joined →
      JoinStep s s' .joinStart
  | hand (b : Bool) : s.sender = false → s.joiner = none → s'.sender = false → s'.joiner = some b →
      s'.joined = s.joined → JoinStep s s' (handEvent b)
  | ret : s.sender = false → s.joiner.isSome = true → s.joined = none → s'.sender = false →
      s'.joiner = s.joiner → s'.joined.isSome = true → JoinStep s s' .joinReturn

/-- what one event leaves alone: `nw`, `conc`; the join fields unless it is a step of `join`; `accepted` unless it is a
dispatch call; a task's wake flag unless it is a wake-up or a poll of that task -/
structure Frame (s : St) (e : Event) (s' : St) : Prop where
  nw : s'.nw = s.nw
  conc : s'.conc = s.conc
  join : (e.isJoin = false ∧ s'.sender = s.sender ∧ s'.joiner = s.joiner ∧ s'.joined = s.joined) ∨ JoinStep s s' e
  accepted : e.external = false → s'.accepted = s.accepted
  woken : ∀ t, s'.woken t = s.woken t ∨ e = .remoteWake t ∨ ∃ w, e = .poll w t

theorem Frame.join_same {s s' : St} {e : Event} (h : Frame s e s') (he : e.isJoin = false) :
    s'.sender = s.sender ∧ s'.joiner = s.joiner ∧ s'.joined = s.joined := by
  rcases h.join with h | h
  · exact h.2
  · cases h with
    | hand b => cases b <;> cases he
    | _ => cases he

theorem Frame.of_eq {s s' : St} {e : Event} (he : e.isJoin = false) (h1 : s'.nw = s.nw) (h2 : s'.conc = s.conc)
    (h3 : s'.sender = s.sender) (h4 : s'.joiner = s.joiner) (h5 : s'.joined = s.joined)
    (h6 : s'.accepted = s.accepted) (h7 : s'.woken = s.woken) : Frame s e s' :=
  ⟨h1, h2, .inl ⟨he, h3, h4, h5⟩, fun _ => h6, fun t => .inl (congrFun h7 t)⟩

theorem Step.frame {s s' : St} {e : Event} (hs : Step s e s') : Frame s e s' := by
  cases hs with
  | accept | acceptBlocking => exact ⟨rfl, rfl, .inl ⟨rfl, rfl, rfl, rfl⟩, nofun, fun _ => .inl rfl⟩
  | reject | rejectBlocking | blockingOk | blockingPanic | rxDrop | recv | die | exitLoop | teardown =>
    exact .of_eq rfl rfl rfl rfl rfl rfl rfl rfl
  | start w t | resume w t | finishOk w t | finishPanic w t =>
    exact ⟨rfl, rfl, .inl ⟨rfl, rfl, rfl, rfl⟩, fun _ => rfl,
      fun t' => if h : t' = t then .inr (.inr ⟨w, h ▸ rfl⟩) else .inl (upd_other _ _ h)⟩
  | remoteWake t =>
    exact ⟨rfl, rfl, .inl ⟨rfl, rfl, rfl, rfl⟩, fun _ => rfl,
      fun t' => if h : t' = t then .inr (.inl (h ▸ rfl)) else .inl (upd_other _ _ h)⟩
  | reap =>
    exact .of_eq rfl (gc_nw _) (gc_conc _) (gc_sender _) (gc_joiner _) (gc_joined _) (gc_accepted _) (gc_woken _)
  | joinStart h1 =>
    exact ⟨gc_nw _, gc_conc _, .inr (.start h1 (gc_sender _) (gc_joiner _) (gc_joined _)), fun _ => gc_accepted _,
      fun t => .inl (congrFun (gc_woken _) t)⟩
  | joinPool h1 h2 => exact ⟨rfl, rfl, .inr (.hand true h1 h2 h1 rfl rfl), fun _ => rfl, fun _ => .inl rfl⟩
  | joinFallbackThread h1 h2 => exact ⟨rfl, rfl, .inr (.hand false h1 h2 h1 rfl rfl), fun _ => rfl, fun _ => .inl rfl⟩
  | joinReturn h1 h2 h3 => exact ⟨rfl, rfl, .inr (.ret h1 h2 h3 h1 rfl rfl), fun _ => rfl, fun _ => .inl rfl⟩

theorem step?_frame {s s' : St} {e : Event} (hs : step? s e = some s') : Frame s e s' := (step?_some hs).frame

theorem wakes_change_nothing_else {s s' : St} (ts : List Nat) (h : run? s (ts.map .remoteWake) = some s') :
    s'.main = s.main ∧ s'.nw = s.nw ∧ s'.queue = s.queue ∧ s'.sender = s.sender ∧ s'.stat = s.stat ∧
      s'.chan = s.chan ∧ s'.joined = s.joined ∧ s'.joiner = s.joiner := by
  induction ts generalizing s with
  | nil => simp [run?] at h; subst h; simp
  | cons t ts ih =>
    obtain ⟨s1, h1, h2⟩ := run?_cons h
    cases remoteWake?_some h1
    simpa using ih h2

/-- the worker index a place mentions -/
def widx : TStat → Option Nat
  | .spawned w | .running w _ | .done w | .dropped (some w) => some w
  | _ => none

/-- every worker index a task's place mentions is a worker of this dispatcher -/
def XInv (s : St) : Prop := ∀ t w, widx (s.stat t) = some w → w < s.nw

theorem TTrans.widx_cases {nw : Nat} {ext : Bool} {v v' : TView} (h : TTrans nw ext v v') {w : Nat}
    (hw : widx v'.stat = some w) : widx v.stat = some w ∨ w < nw := by
  cases h with
  | recv _ w' hq hlt => exact .inr (by cases hw; exact hlt)
  | start _ w' hs | resume _ w' k hs | finishOk _ w' x hs _ | finishPanic _ w' hs _ => rw [hs]; exact .inl hw
  | dropActive _ w' ha =>
    have hw : widx v.stat.dropIt = some w := hw
    cases hs : v.stat <;> rw [hs] at ha hw <;> try cases ha
    · cases hw
    · exact .inl hw
  | reject | rxDrop => exact .inl hw
  | accept | acceptBlocking | dropQueued | blockingOk | blockingPanic => cases hw

theorem XInv.step {s s' : St} {e : Event} (h : XInv s) (hq : QInv s) (hs : Step s e s') : XInv s' := by
  intro t w hw
  rw [hs.frame.nw]
  rcases step_view hq hs t with heq | htr
  · exact h t w (by rw [← show s'.stat t = s.stat t from congrArg TView.stat heq]; exact hw)
  · exact (htr.widx_cases hw).elim (h t w) id

/-- `sender` dropped before the joiner is handed over, the joiner handed over before `join` returns
(`joinPhase_step` in Lemmas/DispatcherGen.lean needs exactly this to read the join history off the state) -/
structure JGood (s : St) : Prop where
  unhanded : s.sender = true → s.joiner = none
  unreturned : s.joiner = none → s.joined = none

theorem JGood.init (nw : Nat) (conc : Bool) : JGood (init nw conc) := ⟨fun _ => rfl, fun _ => rfl⟩

theorem JGood.step {s s' : St} {e : Event} (h : JGood s) (hs : Step s e s') : JGood s' := by
  rcases hs.frame.join with ⟨_, h1, h2, h3⟩ | hj
  · exact ⟨by rw [h1, h2]; exact h.unhanded, by rw [h2, h3]; exact h.unreturned⟩
  · -- after a step of `join` the sender is gone
    have dropped : ∀ {p : Prop}, s'.sender = false → s'.sender = true → p := fun h1 h2 => by rw [h1] at h2; cases h2
    cases hj with
    | start h1 h2 h3 h4 => exact ⟨dropped h2, by rw [h3, h4]; exact h.unreturned⟩
    | hand b _ _ h3 h4 _ => exact ⟨dropped h3, fun hn => by rw [h4] at hn; cases hn⟩
    | ret _ hj _ h4 h5 _ => exact ⟨dropped h4, fun hn => by rw [h5] at hn; rw [hn] at hj; cases hj⟩

/-- `join` has returned only if the closure joining the threads was handed over -- to the pool or to the
fallback thread -/
def NInv (s : St) : Prop := ∀ r, s.joined = some r → s.joiner.isSome = true

theorem JGood.ninv {s : St} (h : JGood s) : NInv s := by
  intro r hr
  cases hn : s.joiner
  · rw [h.unreturned hn] at hr; cases hr
  · rfl

/-- the invariant of reachable states -/
structure Inv (s : St) : Prop where
  t : TInv s
  w : WInv s
  j : JInv s
  x : XInv s
  g : JGood s

theorem Inv.init (nw : Nat) (conc : Bool) : Inv (init nw conc) :=
  ⟨TInv.init nw conc, WInv.init nw conc, JInv.init nw conc, fun _ _ h => (nomatch h), JGood.init nw conc⟩

theorem Inv.step {s s' : St} {e : Event} (h : Inv s) (hs : step? s e = some s') : Inv s' :=
  have hs' := step?_some hs
  have hw := h.w.step h.t.q hs'
  ⟨h.t.step hs', hw, h.j.step h.w hs', h.x.step h.t.q hs', h.g.step hs'⟩

theorem Reachable.inv {nw : Nat} {conc : Bool} {s : St} (h : Reachable nw conc s) : Inv s := by
  obtain ⟨evs, h⟩ := h
  exact isRun.invariant (P := Inv) (fun _ _ _ hp hs => hp.step hs) (Inv.init nw conc) h

theorem Reachable.tinv {nw : Nat} {conc : Bool} {s : St} (h : Reachable nw conc s) : TInv s := h.inv.t

theorem Reachable.done_chan {nw : Nat} {conc : Bool} {s : St} (h : Reachable nw conc s) (t : Nat)
    (hd : (s.stat t).isDone = true) :
    s.chan t = .closed ∨
      match (s.body t).out with
      | .ok v => s.chan t = .value v
      | .panic => s.chan t = .cancelled
      | .never => False := by
  have h5 := h.tinv.chanOk t
  cases hst : s.stat t <;> rw [hst] at hd h5 <;> first | exact h5 | cases hd

theorem Reachable.settled_of_allGone {nw : Nat} {conc : Bool} {s : St} (h : Reachable nw conc s) (hsend : s.sender = false)
    (hall : allGone s = true) (t : Nat) : s.stat t ≠ .queued ∧ ∀ w, ¬ s.active t w := by
  constructor
  · intro hst
    have hnorx : anyRx s = false := by
      rw [anyRx_false_iff]
      intro w hw
      have := gone_of_allGone hall hw
      cases hm : s.main w <;> rw [hm] at this <;> first | rfl | cases this
    -- the channel has been freed
    have := (h.inv.t.q.mem t).mpr hst
    rw [h.inv.j.freedq hsend hnorx] at this
    cases this
  · intro w ha
    have := h.inv.w.alive t w ha
    rw [gone_of_allGone hall this.1] at this
    cases this.2

theorem Reachable.chan_of_active {nw : Nat} {conc : Bool} {s : St} (h : Reachable nw conc s) {t w : Nat}
    (ha : s.active t w) : s.chan t = .pending ∨ s.chan t = .closed := by
  have h5 := h.tinv.chanOk t
  unfold St.active at ha
  cases hst : s.stat t <;> rw [hst] at ha h5 <;> first | exact h5 | cases ha

theorem Reachable.nw_conc {nw : Nat} {conc : Bool} {s : St} (h : Reachable nw conc s) :
    s.nw = nw ∧ s.conc = conc := by
  obtain ⟨evs, h⟩ := h
  refine isRun.invariant (P := fun s => s.nw = nw ∧ s.conc = conc) ?_ ⟨rfl, rfl⟩ h
  intro s e s' hp hs
  exact ⟨(step?_frame hs).nw.trans hp.1, (step?_frame hs).conc.trans hp.2⟩

end Compio.Dispatcher
