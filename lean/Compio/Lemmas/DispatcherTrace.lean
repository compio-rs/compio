/-
The driver's canonical scheduler (`Sched`) only ever moves through `step?`: whatever it prints is read off
a state reachable by the schedule it has logged.  (The trace acceptor re-checks its schedule at run time,
see `accepts`.)
-/
import Compio.Lemmas.Dispatcher
import Compio.Model.DispatcherTrace

namespace Compio.Dispatcher

/-- unless the scheduler has marked itself `bad` (an event it fired was refused by `step?`), its state is the result of
running its log (kept newest first) from the initial state -/
structure Sched.Valid (nw : Nat) (conc : Bool) (d : Sched) : Prop where
  run : d.bad = false → run? (init nw conc) d.log.reverse = some d.s

theorem Sched.Valid.fire_valid {nw : Nat} {conc : Bool} {d : Sched} (h : d.Valid nw conc) (e : Event) :
    (d.fire e).Valid nw conc := by
  unfold Sched.fire
  cases hs : step? d.s e with
  | none => exact ⟨fun hb => by simp at hb⟩
  | some s' =>
    refine ⟨fun hb => ?_⟩
    simp only at hb ⊢
    rw [List.reverse_cons, isRun.snoc, h.run hb]
    exact hs

theorem Sched.Valid.settleN_valid {nw : Nat} {conc : Bool} (n : Nat) {d : Sched} (h : d.Valid nw conc) :
    (d.settleN n).Valid nw conc := by
  induction n generalizing d with
  | zero => exact h
  | succ n ih =>
    unfold Sched.settleN
    cases nextInternal d.s with
    | none => exact h
    | some e => exact ih (h.fire_valid e)

theorem Sched.Valid.settle_valid {nw : Nat} {conc : Bool} {d : Sched} (h : d.Valid nw conc) :
    d.settle.Valid nw conc := Sched.Valid.settleN_valid _ h

theorem foldl_valid {α : Type} {nw : Nat} {conc : Bool} (f : Sched → α → Sched)
    (hf : ∀ d a, d.Valid nw conc → (f d a).Valid nw conc) (l : List α) {d : Sched} (h : d.Valid nw conc) :
    (l.foldl f d).Valid nw conc := by
  induction l generalizing d with
  | nil => exact h
  | cons a l ih => exact ih (hf d a h)

theorem Sched.Valid.explode_valid {nw : Nat} {conc : Bool} {d : Sched} (h : d.Valid nw conc) :
    d.explode.Valid nw conc := by
  unfold Sched.explode
  -- the fold runs over the bombs of the initial `d`; every step fires at most two events
  refine foldl_valid _ ?_ _ h
  intro d' t hd'
  cases hst : d'.s.stat t with
  | running w k =>
    simp only []
    by_cases hl : (d'.s.main w).inLoop = true
    · simp only [hl, if_true]; exact (hd'.fire_valid _).fire_valid _
    · simp only [hl]; exact hd'
  | _ => exact hd'

theorem Sched.Valid.settleAllN_valid {nw : Nat} {conc : Bool} (n : Nat) {d : Sched} (h : d.Valid nw conc) :
    (d.settleAllN n).Valid nw conc := by
  induction n generalizing d with
  | zero => exact h
  | succ n ih =>
    unfold Sched.settleAllN
    simp only
    split
    · exact h.settle_valid.explode_valid
    · exact ih h.settle_valid.explode_valid

theorem Sched.Valid.settleAll_valid {nw : Nat} {conc : Bool} {d : Sched} (h : d.Valid nw conc) :
    d.settleAll.Valid nw conc := Sched.Valid.settleAllN_valid _ h

theorem Sched.Valid.joinAll_valid {nw : Nat} {conc : Bool} {d : Sched} (h : d.Valid nw conc) (fb : Bool) :
    (d.joinAll fb).Valid nw conc := by
  unfold Sched.joinAll
  apply Sched.Valid.fire_valid
  refine foldl_valid _ ?_ _ ((h.fire_valid _).fire_valid _).settleAll_valid
  intro d' w hd'
  split
  · exact (hd'.fire_valid _).fire_valid _
  · exact hd'

theorem Sched.init_valid (nw : Nat) (conc : Bool) : Sched.Valid nw conc { s := init nw conc } :=
  ⟨fun _ => rfl⟩

theorem Sched.Valid.reachable {nw : Nat} {conc : Bool} {d : Sched} (h : d.Valid nw conc) (hb : d.bad = false) :
    Reachable nw conc d.s := ⟨d.log.reverse, h.run hb⟩

theorem accepts_sound {nw : Nat} {conc : Bool} {h : List Obs} (ha : accepts nw conc h = true) :
    ∃ s, run? (init nw conc) (witness nw conc h) = some s := by
  simp only [accepts, Bool.and_eq_true] at ha
  exact Option.isSome_iff_exists.mp ha.2

end Compio.Dispatcher
