/-
`ProcessGroup` as a sequential object: `join`, `Membership::drop` and `send` each hold the group mutex for their
whole body, so a concurrent history is linearized by the order of the critical sections. A section appends the
fresh id or only removes members (`Moves`); the invariants of the group state over arbitrary sequences of these
operations are read off that.
-/
import Compio.Lemmas.Group
import Compio.Lemmas.ListFacts

namespace Compio.Group

/-- one critical section -/
inductive GEv where
  | join
  | leave (id : Nat)
  | send (status : Nat → Status)

/-- state after the operation and, for a `send`, its outcome -/
def GState.stepEv (g : GState) : GEv → GState × Option (Outcome Nat)
  | .join => (g.join.1, none)
  | .leave id => (g.leave id, none)
  | .send st => let (o, g') := g.send st; (g', some o)

/-- final state and the outcomes of the sends, in order -/
def GState.runEv (g : GState) : List GEv → GState × List (Outcome Nat)
  | [] => (g, [])
  | e :: es =>
    let (g1, o) := g.stepEv e
    let (g2, os) := g1.runEv es
    (g2, o.toList ++ os)

/-- the member ids are distinct and were all handed out -/
structure GInv (g : GState) : Prop where
  nodup : g.members.Nodup
  below : ∀ m ∈ g.members, m < g.nextId

theorem ginv_init : GInv {} := ⟨by simp, by simp⟩

theorem leave_shrinks (g : GState) (id : Nat) :
    (g.leave id).members.Sublist g.members ∧ (g.leave id).nextId = g.nextId := by
  unfold GState.leave
  split
  · exact ⟨List.eraseIdx_sublist .., rfl⟩
  · exact ⟨.refl _, rfl⟩

/-- what a critical section does to the membership: `join` appends the next id; `leave` and `send` only remove
members, and a `send` delivers to one of them -/
inductive Moves (g g' : GState) (o : Option (Outcome Nat)) : Prop
  | grow (hm : g'.members = g.members ++ [g.nextId]) (hn : g'.nextId = g.nextId + 1) (ho : o = none)
  | shrink (hm : g'.members.Sublist g.members) (hn : g'.nextId = g.nextId)
      (ho : ∀ m, o = some (.delivered m) → m ∈ g.members)

theorem stepEv_moves (g : GState) (e : GEv) (hw : g.nextId + 1 < usizeMod) :
    Moves g (g.stepEv e).1 (g.stepEv e).2 := by
  cases e with
  | join => exact .grow rfl (Nat.mod_eq_of_lt hw) rfl
  | leave id => exact .shrink (leave_shrinks g id).1 (leave_shrinks g id).2 nofun
  | send st =>
    exact .shrink (send_members_sublist st g.cursor g.members) rfl
      fun m h => send_delivered_mem st g.cursor g.members m (Option.some.inj h)

theorem ginv_step (g : GState) (e : GEv) (hi : GInv g) (hw : g.nextId + 1 < usizeMod) : GInv (g.stepEv e).1 := by
  cases stepEv_moves g e hw with
  | grow hm hn =>
    refine ⟨hm ▸ nodup_snoc hi.nodup fun h => Nat.lt_irrefl _ (hi.below _ h), fun m h => ?_⟩
    rw [hm, List.mem_append, List.mem_singleton] at h
    rw [hn]
    exact h.elim (fun h => Nat.lt_succ_of_lt (hi.below m h)) (· ▸ Nat.lt_succ_self _)
  | shrink hm hn => exact ⟨hi.nodup.sublist hm, fun m h => hn ▸ hi.below m (hm.subset h)⟩

/-- an id that was handed out and is not a member; it stays so (`departed_step`), since ids are not reused -/
def Departed (id : Nat) (g : GState) : Prop := id ∉ g.members ∧ id < g.nextId

theorem departed_step (id : Nat) (g : GState) (e : GEv) (hd : Departed id g) (hw : g.nextId + 1 < usizeMod) :
    Departed id (g.stepEv e).1 ∧ (g.stepEv e).2 ≠ some (.delivered id) := by
  cases stepEv_moves g e hw with
  | grow hm hn ho =>
    refine ⟨⟨fun h => ?_, hn ▸ Nat.lt_succ_of_lt hd.2⟩, ho ▸ nofun⟩
    rw [hm, List.mem_append, List.mem_singleton] at h
    exact h.elim hd.1 (Nat.ne_of_lt hd.2)
  | shrink hm hn ho => exact ⟨⟨fun h => hd.1 (hm.subset h), hn ▸ hd.2⟩, fun h => hd.1 (ho id h)⟩

theorem leave_departs (g : GState) (id : Nat) (hi : GInv g) (hid : id < g.nextId) : Departed id (g.leave id) := by
  refine ⟨?_, ?_⟩
  · unfold GState.leave
    cases hf : g.members.findIdx? (· == id) with
    | none =>
      simp only []
      intro hm
      rw [List.findIdx?_eq_none_iff] at hf
      have := hf id hm
      simp at this
    | some i =>
      -- `id` sits at index `i`, which is erased; it occurs nowhere else (Nodup)
      obtain ⟨hlt, hget, _⟩ := List.findIdx?_eq_some_iff_getElem.mp hf
      intro hm
      obtain ⟨j, hj, hne, hjid⟩ := List.mem_eraseIdx_iff_getElem.mp hm
      have hgi : g.members[i] = id := by simpa using hget
      exact hne ((List.getElem_inj hi.nodup).mp (hjid.trans hgi.symm))
  · exact (leave_shrinks g id).2 ▸ hid

theorem stepEv_nextId (g : GState) (e : GEv) (hw : g.nextId + 1 < usizeMod) :
    g.nextId ≤ (g.stepEv e).1.nextId ∧ (g.stepEv e).1.nextId ≤ g.nextId + 1 := by
  cases stepEv_moves g e hw with
  | grow _ hn => rw [hn]; omega
  | shrink _ hn => rw [hn]; omega

theorem runEv_rule {P : GState → Prop} {Q : Outcome Nat → Prop}
    (hstep : ∀ g e, P g → g.nextId + 1 < usizeMod → P (g.stepEv e).1 ∧ ∀ o ∈ (g.stepEv e).2, Q o) :
    ∀ (es : List GEv) (g : GState), P g → g.nextId + es.length < usizeMod →
      P (g.runEv es).1 ∧ (∀ o ∈ (g.runEv es).2, Q o) ∧
      g.nextId ≤ (g.runEv es).1.nextId ∧ (g.runEv es).1.nextId ≤ g.nextId + es.length := by
  intro es
  induction es with
  | nil => intro g hp _; exact ⟨hp, nofun, Nat.le_refl _, Nat.le_refl _⟩
  | cons e es ih =>
    intro g hp hw
    simp only [List.length_cons] at hw
    have hw1 : g.nextId + 1 < usizeMod := by omega
    have h1 := hstep g e hp hw1
    have hn := stepEv_nextId g e hw1
    have := ih (g.stepEv e).1 h1.1 (by omega)
    simp only [GState.runEv, List.length_cons, List.mem_append, Option.mem_toList]
    exact ⟨this.1, fun o ho => ho.elim (h1.2 o) (this.2.1 o), by omega, by omega⟩

theorem runEv_inv : ∀ (es : List GEv) (g : GState), GInv g → g.nextId + es.length < usizeMod →
    GInv (g.runEv es).1 ∧ g.nextId ≤ (g.runEv es).1.nextId ∧ (g.runEv es).1.nextId ≤ g.nextId + es.length :=
  fun es g hi hw =>
    have := runEv_rule (Q := fun _ => True) (fun g e hi hw => ⟨ginv_step g e hi hw, fun _ _ => trivial⟩) es g hi hw
    ⟨this.1, this.2.2⟩

theorem runEv_departed : ∀ (es : List GEv) (g : GState) (id : Nat), Departed id g →
    g.nextId + es.length < usizeMod → Outcome.delivered id ∉ (g.runEv es).2 :=
  fun es g id hd hw hm => (runEv_rule (Q := (· ≠ .delivered id))
    (fun g e hd hw => ⟨(departed_step id g e hd hw).1, fun _ ho h => (departed_step id g e hd hw).2 (h ▸ ho)⟩)
    es g hd hw).2.1 _ hm rfl

end Compio.Group
