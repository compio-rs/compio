/-
Lemmas about the compio-ws model (`Model/WsShim.lean`). Every level (stream write, stream flush, write buffer,
protocol flush, `Sink::poll_flush`) conserves one quantity: the frames on the wire followed by those still queued.
Then the read side: the reply that reading a frame queues (`engRead_spec`), `Stream::poll_next` with an item parked
(`pollNext_parked`) and without one (`pollNext_empty`).
-/
import Compio.Model.WsShim

namespace Compio.WsShim
open Compio.TlsNet (Pend)

/-- everything written so far, in order: in the pipe, then in the buffering stream -/
def WView.wire (v : WView) : List Frame := v.tx ++ v.tbuf

/-- a non-buffering stream never holds anything back -/
def NoBuf (sc : WSched) (v : WView) : Prop := sc.buffering = false → v.tbuf = []

/-- the reply that reading `f` queues -/
def replyOf (e : Eng) (f : Frame) : List Frame :=
  match f.kind with
  | .ping => [⟨.pong, f.data⟩]
  | .close => if e.closeSent then [] else [⟨.close, f.data⟩]
  | _ => []

/-- the reply the engine has parked (`additional`), as the list of frames it still owes the wire -/
def addList (e : Eng) : List Frame := match e.additional with | some f => [f] | none => []

theorem sWrite_spec {sc : WSched} {v v' : WView} {f : Frame} {r : R Unit} (hn : NoBuf sc v)
    (h : sWrite sc v f = (v', r)) :
    NoBuf sc v' ∧ v'.rx = v.rx ∧
      match (generalizing := false) r with
      | .ready () => v'.wire = v.wire ++ [f]
      | .pending p => p = .self ∧ v'.wire = v.wire := by
  unfold sWrite at h
  split at h
  · cases h
    exact ⟨hn, rfl, rfl, rfl⟩
  · cases hb : sc.buffering with
    | true =>
      simp only [hb, if_true] at h
      cases h
      exact ⟨by simp [NoBuf, hb], rfl, by simp [WView.wire]⟩
    | false =>
      simp only [hb, Bool.false_eq_true, if_false] at h
      cases h
      exact ⟨hn, rfl, by simp [WView.wire, hn hb]⟩

theorem sFlush_spec {sc : WSched} {v v' : WView} {r : R Unit} (hn : NoBuf sc v) (h : sFlush sc v = (v', r)) :
    NoBuf sc v' ∧ v'.rx = v.rx ∧ v'.wire = v.wire ∧
      match (generalizing := false) r with
      | .ready () => v'.tbuf = []
      | .pending p => p = .self := by
  unfold sFlush at h
  split at h
  · cases h
    exact ⟨hn, rfl, rfl, rfl⟩
  · cases h
    exact ⟨fun _ => rfl, rfl, by simp [WView.wire], rfl⟩

theorem writeOut_spec (sc : WSched) : ∀ (l : List Frame) (v : WView) (rest : List Frame) (v' : WView) (r : R Unit),
    NoBuf sc v → writeOut sc l v = (rest, v', r) →
    NoBuf sc v' ∧ v'.rx = v.rx ∧ v'.wire ++ rest = v.wire ++ l ∧
      match (generalizing := false) r with
      | .ready () => rest = []
      | .pending p => p = .self
  | [], v, rest, v', r, hn, h => by
    rw [writeOut] at h
    cases h
    exact ⟨hn, rfl, rfl, rfl⟩
  | f :: l, v, rest, v', r, hn, h => by
    rw [writeOut] at h
    rcases hw : sWrite sc v f with ⟨v1, r1⟩
    rw [hw] at h
    obtain ⟨g0, g1, g2⟩ := sWrite_spec hn hw
    cases r1 with
    | ready u =>
      obtain ⟨hn', h1, h2, hr⟩ := writeOut_spec sc l v1 rest v' r g0 h
      exact ⟨hn', h1.trans g1, by rw [h2, show v1.wire = v.wire ++ [f] from g2]; simp, hr⟩
    | pending p =>
      cases h
      exact ⟨g0, g1, by rw [g2.2], g2.1⟩

theorem queueReply_spec (e : Eng) :
    e.queueReply.additional = none ∧ e.queueReply.out = e.out ++ addList e := by
  unfold Eng.queueReply addList
  cases h : e.additional <;> simp [h]

theorem engFlush_spec {sc : WSched} {e e' : Eng} {v v' : WView} {r : R Unit} (hn : NoBuf sc v)
    (h : engFlush sc e v = (e', v', r)) :
    NoBuf sc v' ∧ e'.additional = none ∧ v'.rx = v.rx ∧ v'.wire ++ e'.out = v.wire ++ e.out ++ addList e ∧
      match (generalizing := false) r with
      | .ready () => e'.out = [] ∧ v'.tbuf = []
      | .pending p => p = .self := by
  unfold engFlush at h
  obtain ⟨ha, ho⟩ := queueReply_spec e
  rw [List.append_assoc, ← ho]
  simp only at h
  generalize e.queueReply = e1 at h ha
  rcases hw : writeOut sc e1.out v with ⟨rest, v1, r1⟩
  simp only [hw] at h
  obtain ⟨hn1, h1, h2, hr⟩ := writeOut_spec sc _ _ _ _ _ hn hw
  cases r1 with
  | pending p1 =>
    cases h
    exact ⟨hn1, ha, h1, h2, hr⟩
  | ready u =>
    obtain rfl : rest = [] := hr
    rcases hf : sFlush sc v1 with ⟨v2, r2⟩
    simp only [hf] at h
    obtain ⟨f0, f1, f2, f3⟩ := sFlush_spec hn1 hf
    cases r2 with
    | ready u =>
      cases h
      exact ⟨f0, ha, f1.trans h1, by rw [f2]; exact h2, rfl, f3⟩
    | pending p2 =>
      cases h
      exact ⟨f0, ha, f1.trans h1, by rw [f2]; exact h2, f3⟩

theorem engRead_spec (e : Eng) (v : WView) :
    (v.rx = [] ∧ engRead e v = (e, { v with rwait := true }, .pending .reg)) ∨
    (∃ f rest e', v.rx = f :: rest ∧ engRead e v = (e', { v with rx := rest }, .ready f) ∧ e'.out = e.out ∧
      (e.additional = none → addList e' = replyOf e f)) := by
  cases hrx : v.rx with
  | nil => left; simp [engRead, sRead, hrx]
  | cons f rest =>
    refine .inr ⟨f, rest, (engRead e v).1, rfl, ?_⟩
    -- the engine state after the read is determined by the kind of `f` and, for a close, by `closeSent`
    simp only [engRead, sRead, hrx, addList, replyOf]
    cases f.kind <;> cases e.closeSent <;> simp +contextual

theorem pollFlush_spec {sc : WSched} {w w' : Ws} {v v' : WView} {r : R Unit} (hn : NoBuf sc v)
    (h : pollFlush sc w v = (w', v', r)) :
    NoBuf sc v' ∧ w'.e.additional = none ∧ v'.rx = v.rx ∧ w'.nextItem = w.nextItem ∧
      v'.wire ++ w'.e.out = v.wire ++ w.e.out ++ addList w.e ∧
      match (generalizing := false) r with
      | .ready () => w'.e.out = [] ∧ v'.tbuf = []
      | .pending p => p = .self := by
  unfold pollFlush at h
  rcases he : engFlush sc w.e v with ⟨e1, v1, r1⟩
  simp only [he] at h
  obtain ⟨g0, g1, g2, g3, g4⟩ := engFlush_spec hn he
  cases r1 with
  | pending p1 =>
    cases h
    exact ⟨g0, g1, g2, rfl, g3, g4⟩
  | ready u =>
    rcases hf : sFlush sc v1 with ⟨v2, r2⟩
    simp only [hf] at h
    obtain ⟨f0, f1, f2, f3⟩ := sFlush_spec g0 hf
    cases r2 with
    | ready u =>
      cases h
      exact ⟨f0, g1, f1.trans g2, rfl, by rw [f2]; exact g3, g4.1, f3⟩
    | pending p2 =>
      cases h
      exact ⟨f0, g1, f1.trans g2, rfl, by rw [f2]; exact g3, f3⟩

theorem pollNext_parked {sc : WSched} {w w' : Ws} {v v' : WView} {it : Frame} {r : R Frame} (hn : NoBuf sc v)
    (hni : w.nextItem = some it) (h : pollNext sc w v = (w', v', r)) :
    w'.e.additional = none ∧ v'.rx = v.rx ∧ v'.wire ++ w'.e.out = v.wire ++ w.e.out ++ addList w.e ∧
      match (generalizing := false) r with
      | .ready f => f = it ∧ w'.nextItem = none ∧ w'.e.out = [] ∧ v'.tbuf = []
      | .pending p => p = .self ∧ w'.nextItem = some it := by
  simp only [pollNext, hni] at h
  rcases hf : pollFlush sc w v with ⟨w1, v1, r1⟩
  rw [hf] at h
  obtain ⟨_, g1, g2, g3, g4, g5⟩ := pollFlush_spec hn hf
  cases r1 with
  | pending p => cases h; exact ⟨g1, g2, g4, g5, g3.trans hni⟩
  | ready u => cases h; exact ⟨g1, g2, g4, rfl, rfl, g5⟩

theorem pollNext_empty (sc : WSched) {w : Ws} (v : WView) (hni : w.nextItem = none) :
    (v.rx = [] ∧ pollNext sc w v = (w, { v with rwait := true }, .pending .reg)) ∨
    (∃ f rest e', v.rx = f :: rest ∧ e'.out = w.e.out ∧ (w.e.additional = none → addList e' = replyOf w.e f) ∧
      pollNext sc w v = pollNext sc { w with e := e', nextItem := some f } { v with rx := rest }) := by
  rcases engRead_spec w.e v with ⟨hrx, heq⟩ | ⟨f, rest, e', hrx, heq, hout, hadd⟩
  · refine .inl ⟨hrx, ?_⟩
    simp only [pollNext, hni, heq]
    cases w; cases hni; rfl
  · exact .inr ⟨f, rest, e', hrx, hout, hadd, by simp only [pollNext, hni, heq]⟩

end Compio.WsShim
