/-
The two-party progress argument of C15: every poll of the executor preserves the global invariant and
lowers the progress measure; an unfinished system always has a runnable task; hence `run` ends with both tasks
finished (`run_done`), within `hsBound` passes from the initial state (`init_inv`, `handshake_final`).
`Inv` covers the handshake only: both tasks have no step after it (`TaskHs.steps`), both streams are native-tls
(`Sys.phi` is 0 for any other pair), and the transport is the plain duplex (`Local.direct`: `astream = false`).
-/
import Compio.Lemmas.TlsHs
import Compio.Model.TlsSys

namespace Compio.TlsSys
open Compio.TlsNet Compio.TlsShim

/-- an endpoint task that only performs the handshake, not finished yet -/
structure TaskHs (t : Task) (fut : HsFut) (o : Ossl) : Prop where
  s : t.s = .ossl fut o
  pc : t.pc = .hs
  steps : t.steps = []
  idx : t.idx = 0
  res : t.res.length = 1

/-- ... and after it has finished -/
structure TaskDone (t : Task) (o : Ossl) : Prop where
  s : t.s = .ossl .done o
  pc : t.pc = .finished
  res : t.res = [.ok 0]

theorem setRes_one (l : List StepRes) (h : l.length = 1) (r : StepRes) : setRes l 0 r = [r] := by
  cases l with
  | nil => simp at h
  | cons x xs =>
    cases xs with
    | nil => simp [setRes]
    | cons _ _ => simp at h

theorem pollTask_hs (sc : Sched) (f : Nat) (t : Task) (v : View) {fut : HsFut} {o : Ossl} (ht : TaskHs t fut o) :
    pollTask sc (f + 2) t v =
      (match TlsShim.pollHandshake sc fut o v with
        | (fut', o', v', .ready ()) =>
          ({ t with s := .ossl fut' o', pc := .finished, res := [.ok 0] },
            { v' with tp := { v'.tp with hsDone := true } }, .done)
        | (fut', o', v', .pending p) => ({ t with s := .ossl fut' o', res := [.running 0] }, v', .pending p)
        | (fut', o', v', .err) =>
          ({ t with s := .ossl fut' o', pc := .finished, res := [.err] },
            { v' with tp := { v'.tp with hsDone := true } }, .done)
        | (fut', o', v', .panic) => ({ t with s := .ossl fut' o' }, v', .panic)) := by
  obtain ⟨hs, hpc, hst, hidx, hres⟩ := ht
  rw [pollTask]
  simp only [hpc, hs, Stream.pollHandshake]
  generalize TlsShim.pollHandshake sc fut o v = r
  obtain ⟨fut', o', v', r⟩ := r
  cases r with
  | ready u =>
    cases u
    simp only [setRes_one _ hres]
    rw [pollTask]
    simp [hst]
  | pending p => simp [setRes_one _ hres]
  | err => simp [hidx, setRes_one _ hres]
  | panic => simp

/-- an endpoint's share of the progress measure between polls: `Spot` without the wake flag (`Spot_eq`), over the
transport state alone since the pipes belong to both endpoints -/
def Epot (sc : Sched) (fut : HsFut) (o : Ossl) (tp : Tp) : Nat :=
  2 * K sc * (3 * (o.tape.length + o.post) + tp.wbuf.length + b2n o.written) + ctr sc tp + 4 * K sc * rank fut

theorem Spot_eq (sc : Sched) (fut : HsFut) (o : Ossl) (v : View) :
    Spot sc fut o v = Epot sc fut o v.tp + K sc * b2n v.wake := by
  simp only [Spot, S0, mainPot, Epot]; omega

theorem mul_b2n_le (k : Nat) (b : Bool) : k * b2n b ≤ k := by
  have := Nat.mul_le_mul_left k (b2n_le b); simpa using this

/-- the arithmetic of one poll in `Sys.phi`: the polled side, whose wake flag was set (`+ k`), goes from `e` to
`e'` paying for the wake-ups `own` and `wake` it arranged; the peer's flag `fl`, which counts while the peer has not
finished (`nd`), may come up by `wake` -/
theorem phi_step (k e e' : Nat) (own wake fl nd : Bool) (h : e' + k * b2n wake + k * b2n own + 1 ≤ e + k) :
    e' + k * b2n own + k * b2n ((fl || wake) && nd) < e + k + k * b2n (fl && nd) := by
  have : b2n ((fl || wake) && nd) ≤ b2n (fl && nd) + b2n wake := by
    cases fl <;> cases wake <;> cases nd <;> simp [b2n]
  have := Nat.mul_le_mul_left k this
  rw [Nat.mul_add] at this
  omega

/-- a server cell followed (somewhere later) by a client cell: the handshake has at least a client flight
after a server flight, so neither side can finish inside its first poll -/
def HasSC (l : List Side) : Prop := ∃ l1 l2, l = l1 ++ Side.server :: l2 ∧ Side.client ∈ l2

theorem not_ok_of {sc : Sched} {p : Peer} {b' : Nat} {o : Ossl} {v : View} (g : Good sc p b' o v)
    (hfuel : o.tape.length + o.post < sc.fuel) {x : Side} (hx : x ∈ p.tape) (hxo : x = o.me.other) :
    (sslDoHandshake sc sc.fuel o v).2.2 ≠ .ok () := by
  intro hok
  have hspec := doHs_spec sc p b' sc.fuel o v g hfuel
  obtain ⟨⟨_, _, _, a, b, a', hk⟩, hme, _, _, hres⟩ := hspec
  rw [hok] at hres
  simp only at hres
  have hal := hk.align
  rw [hres.1, hme] at hal
  rcases hal with ⟨X, h1, h2, _, _⟩ | ⟨Y, h1, _, _, _⟩
  · simp at h1
    rw [h1] at hx
    have := h2 x hx
    rw [hxo] at this
    exact Side.other_ne _ this
  · rw [(List.nil_eq_append_iff.1 h1).2] at hx; simp at hx

theorem client_cell_of {m p : List Side} {a a' : Nat} (h : Align .client m p a a') (hsc : HasSC p)
    (hlen : m.length ≤ p.length) : Side.client ∈ m := by
  obtain ⟨l1, l2, hp, hc⟩ := hsc
  rcases h with ⟨X, h1, h2, _, _⟩ | ⟨Y, h1, _, _, _⟩
  · rw [hp] at h1
    rcases List.append_eq_append_iff.1 h1 with ⟨a1, hX, hm⟩ | ⟨c1, _, hm⟩
    · cases a1 with
      | nil => simp at hm; rw [← hm]; simp [hc]
      | cons y ys =>
        simp only [List.cons_append, List.cons.injEq] at hm
        have : Side.server ∈ X := by rw [hX, ← hm.1]; simp
        have := h2 _ this
        simp at this
    · rw [hm]; simp [hc]
  · have hY : Y = [] := by
      have := congrArg List.length h1; simp at this
      exact List.eq_nil_of_length_eq_zero (by omega)
    subst hY
    simp at h1; rw [h1, hp]; simp [hc]

theorem server_cell_of_hasSC {l : List Side} (h : HasSC l) : Side.server ∈ l := by
  obtain ⟨l1, l2, hp, _⟩ := h; rw [hp]; simp

/-- the phase clause of `Rest` -/
def PhaseOk (fut : HsFut) (o : Ossl) (v : View) : Prop :=
  match fut with
  | .start => Hs o v
  | .mid => Hs o v
  | .flush => o.handshaken = true ∧ o.tape = [] ∧ o.post = 0 ∧ v.tp.hsDone = false
  | .done => o.tape = [] ∧ o.post = 0 ∧ v.tp.wbuf.toList = []
  | .failed => False

theorem phase_review {fut : HsFut} {o : Ossl} {v : View} (h : PhaseOk fut o v) (tx rx : Pipe) (w x : Bool) :
    PhaseOk fut o ⟨v.tp, tx, rx, w, x⟩ := by
  cases fut with
  | start => exact { h with }
  | mid => exact { h with }
  | flush => exact h
  | done => exact h
  | failed => exact h

/-- the view a task is polled with: `wake` and `own` down -/
abbrev polled (tp : Tp) (tx rx : Pipe) : View := ⟨tp, tx, rx, false, false⟩

/-- the clauses of the global invariant that speak of one endpoint: it plays `me`, runs the task `t`, sees the
transport as `v` and has the wake flag `flag` -/
structure SideW (sc : Sched) (me : Side) (t : Task) (fut : HsFut) (o : Ossl) (v : View) (flag done : Bool) :
    Prop where
  task : if done then TaskDone t o ∧ fut = .done else TaskHs t fut o ∧ fut ≠ .done
  side : o.me = me
  loc : Local sc o v
  ctx : o.ctx = false
  ph : PhaseOk fut o v
  fuel : o.tape.length + o.post + 2 < sc.fuel
  wait : done = false → flag = false →
    fut = .mid ∧ v.rx.q.toList = [] ∧ v.rx.rwait = true ∧ v.tp.wbuf.toList = [] ∧ ∃ tl, o.tape = me.other :: tl

theorem SideW.stream {sc : Sched} {me : Side} {t : Task} {fut : HsFut} {o : Ossl} {v : View} {fl dn : Bool}
    (h : SideW sc me t fut o v fl dn) : t.s = .ossl fut o := by
  have := h.task
  split at this
  · rw [this.2]; exact this.1.s
  · exact this.1.s

theorem SideW.idle {sc : Sched} {me : Side} {t : Task} {fut : HsFut} {o : Ossl} {v : View} {fl dn : Bool}
    (h : SideW sc me t fut o v fl dn) (hr : (fl && !dn) = false) :
    v.tp.wbuf.toList = [] ∧
      (dn = true ∧ o.tape = [] ∨ dn = false ∧ v.rx.q.toList = [] ∧ ∃ tl, o.tape = me.other :: tl) := by
  cases dn with
  | true =>
    have ht : TaskDone t o ∧ fut = .done := h.task
    have hph := ht.2 ▸ h.ph
    exact ⟨hph.2.2, .inl ⟨rfl, hph.1⟩⟩
  | false =>
    obtain ⟨_, c2, _, c4, c5⟩ := h.wait rfl (by simpa using hr)
    exact ⟨c4, .inr ⟨rfl, c2, c5⟩⟩

/-- **one poll of an endpoint** whose wake flag was set: its clauses hold again (`dn`: the task has finished), the link
is kept, and its share of the progress measure pays for the poll and for the wake-ups it arranged (`own`, and
`wake` which may bring the peer's flag `fl` up). In state `start` the peer must still have a cell of its own to send
(`hcell`), so that the engine cannot finish inside the first call. -/
theorem side_step {sc : Sched} {me : Side} {t : Task} {fut : HsFut} {o : Ossl} {tp : Tp} {tx rx : Pipe} {p : Peer}
    {a b a' b' : Nat} (h : SideW sc me t fut o (polled tp tx rx) true false)
    (hk : Link o (polled tp tx rx) p a b a' b') (hcell : fut = .start → ∃ x ∈ p.tape, x = me.other) :
    ∃ t' v' r dn fut' o' a2 b2 a2', pollTask sc sc.fuel t (polled tp tx rx) = (t', v', r) ∧
      (r = .done ∧ dn = true ∨ (∃ pd, r = .pending pd) ∧ dn = false) ∧
      SideW sc me t' fut' o' (polled v'.tp v'.tx v'.rx) v'.own dn ∧
      Link o' (polled v'.tp v'.tx v'.rx) p a2 b2 a2' b' ∧ Mono (polled tp tx rx) v' ∧
      o'.tape.length + o'.post ≤ o.tape.length + o.post ∧ fut' ≠ .start ∧
      ∀ fl nd, Epot sc fut' o' v'.tp + K sc * b2n (v'.own && !dn) + K sc * b2n ((fl || v'.wake) && nd) <
        Epot sc fut o tp + K sc + K sc * b2n (fl && nd) := by
  obtain ⟨⟨ht, hne⟩, hme0, hl, hc, hph, hfuel, -⟩ := h
  have hf0 : o.tape.length + o.post < sc.fuel := Nat.lt_of_le_of_lt (Nat.le_add_right _ 2) hfuel
  have hnd : fut = .start →
      (sslDoHandshake sc sc.fuel { o with ctx := true } (polled tp tx rx)).2.2 ≠ .ok () := by
    intro hst
    obtain ⟨x, hx, hxo⟩ := hcell hst
    subst hst
    exact not_ok_of (p := p) (b' := b') ⟨{ hl with }, { (hph : Hs o _) with }, rfl, a, b, a', { hk with }⟩ hf0 hx
      (hme0 ▸ hxo)
  obtain ⟨f, hf⟩ : ∃ f, sc.fuel = f + 2 := ⟨sc.fuel - 2, by omega⟩
  have hspec := pollHandshake_spec ⟨hl, hc, ⟨a, b, a', hk⟩, hph⟩ hf0 hne hnd
  have hS := Spot_eq sc fut o (polled tp tx rx)
  simp only [b2n, Bool.false_eq_true, if_false, Nat.mul_zero, Nat.add_zero] at hS
  have hKdr := dr_lt_K sc
  rw [hf, pollTask_hs sc f t _ ht]
  generalize TlsShim.pollHandshake sc fut o (polled tp tx rx) = res at hspec
  obtain ⟨fut', o', v', r⟩ := res
  obtain ⟨hrest', hme, hmono, hmeas, hfirst, hns, hres⟩ := hspec
  simp only at hrest' hme hmono hmeas hfirst hns hres
  have hS' := Spot_eq sc fut' o' v'
  have hown := mul_b2n_le (K sc) v'.own
  have hph' : PhaseOk fut' o' v' := hrest'.phase
  obtain ⟨hl', hc', ⟨a2, b2, a2', hk'⟩, -⟩ := hrest'
  have hfuel' := Nat.lt_of_le_of_lt (Nat.add_le_add_right hmeas 2) hfuel
  -- `omega` takes in every arithmetic hypothesis of the context: here and below, those it does not need are cleared
  clear hnd hf0
  cases r with
  | pending pd =>
    refine ⟨_, _, _, false, fut', o', a2, b2, a2', rfl, .inr ⟨⟨pd, rfl⟩, rfl⟩,
      ⟨⟨⟨rfl, ht.pc, ht.steps, ht.idx, rfl⟩, ?_⟩, hme.trans hme0, { hl' with }, hc', phase_review hph' _ _ _ _, hfuel',
        fun _ hown => ?_⟩,
      { hk' with }, hmono, hmeas, hns, fun fl nd => phi_step _ _ _ _ _ fl nd ?_⟩
    · cases pd with
      | self => exact hres.2.2
      | reg => rw [hres.1]; nofun
    · cases pd with
      | self => rw [hres.1] at hown; cases hown
      | reg =>
        obtain ⟨h1, _, _, h4, h5, h6, tl, h7⟩ := hres
        exact ⟨h1, h4, h5, h6, tl, hme0 ▸ h7⟩
    · simp only [Bool.not_false, Bool.and_true]
      clear hmeas hf hfuel hfuel'
      cases pd with
      | self => rw [← hS', ← hS, Nat.add_right_comm]; exact Nat.add_le_add hres.2.1 hown
      | reg =>
        obtain ⟨_, hor, hdec, _⟩ := hres
        rcases hor with hstart | hown'
        · have := hfirst hstart; omega
        · have : b2n v'.own = 0 := by rw [show v'.own = false from hown']; rfl
          rw [this]; omega
  | ready u =>
    obtain ⟨hfd, hdec, hhd, hcf⟩ := hres
    subst hfd
    refine ⟨_, _, _, true, .done, o', a2, b2, a2', rfl, .inl ⟨rfl, rfl⟩,
      ⟨⟨⟨rfl, rfl, rfl⟩, rfl⟩, hme.trans hme0, { hl' with ctrok := ⟨hl'.ctrok.1, hl'.ctrok.2.1, by simp [hcf]⟩ }, hc', hph',
        hfuel', nofun⟩,
      { hk' with }, ⟨⟨hmono.1.1, hmono.1.2⟩, hmono.2⟩, hmeas, nofun, fun fl nd => phi_step _ _ _ _ _ fl nd ?_⟩
    -- `hs_done.set(true)`: the flush delay to come is `df`, not `dfh`
    have hE : Epot sc .done o' { v'.tp with hsDone := true } + sc.dfh = Epot sc .done o' v'.tp + sc.df := by
      simp [Epot, ctr, flushDelay, hhd, hcf]; omega
    rw [show b2n (v'.own && !true) = 0 by simp [b2n]]
    clear hfirst hmeas hf hfuel hfuel'
    dsimp only at hE ⊢
    omega
  | err => exact absurd hres id
  | panic => exact absurd hres id

/-- the clauses of the endpoint that is not polled, after a poll of its peer (`v → v'` in the peer's view, whose
`tx` is this endpoint's `rx`) -/
theorem SideW.peer_kept {sc : Sched} {me : Side} {t : Task} {fut : HsFut} {o : Ossl} {tp ptp : Tp} {tx rx : Pipe}
    {fl dn : Bool} {v' : View} (h : SideW sc me t fut o (polled tp rx tx) fl dn)
    (hm : Mono (polled ptp tx rx) v') (htx : v'.tx.closed = false) (hrx : v'.rx.closed = false) :
    SideW sc me t fut o (polled tp v'.rx v'.tx) (fl || v'.wake) dn :=
  ⟨h.task, h.side, { h.loc with open_tx := hrx, open_rx := htx }, h.ctx, phase_review h.ph _ _ _ _, h.fuel,
    fun hd hfl => by
      -- it waits, flag down, its waker registered on the empty pipe the peer writes to: a poll that does not wake it
      -- has left that pipe and the registration alone
      simp only [Bool.or_eq_false_iff] at hfl
      obtain ⟨g1, g2, g3, g4⟩ := h.wait hd hfl.1
      obtain ⟨e1, e2⟩ := hm.1.2 hfl.2 g3
      exact ⟨g1, e1 ▸ g2, e2, g4⟩⟩

/-- the views the executor hands to the two tasks (`pollClient`, `pollServer`): `wake` and `own` down, the pipes crossed -/
def Sys.viewC (y : Sys) : View := ⟨y.tpC, y.c2s, y.s2c, false, false⟩
def Sys.viewS (y : Sys) : View := ⟨y.tpS, y.s2c, y.c2s, false, false⟩

/-- the global invariant with its witnesses (`fc oc`, `fs os`: future state and engine of client and server; `a b`
handshake / post-handshake cells in flight client → server, `a' b'` server → client): the clauses of `SideW` for both
endpoints, the `Link` seen from the client, and what holds before the first polls. `startS` is what lets
`side_step` exclude the `Done` arm of the first engine call (`hcell`); `round` polls the client first, hence `startC`. -/
structure InvW (y : Sys) (fc : HsFut) (oc : Ossl) (fs : HsFut) (os : Ossl) (a b a' b' : Nat) : Prop where
  tc : if y.doneC then TaskDone y.c oc ∧ fc = .done else TaskHs y.c fc oc ∧ fc ≠ .done
  ts : if y.doneS then TaskDone y.s os ∧ fs = .done else TaskHs y.s fs os ∧ fs ≠ .done
  mec : oc.me = .client
  mes : os.me = .server
  locC : Local y.sc oc y.viewC
  locS : Local y.sc os y.viewS
  ctxC : oc.ctx = false
  ctxS : os.ctx = false
  link : Link oc y.viewC ⟨os.tape, y.tpS.wbuf.toList⟩ a b a' b'
  phC : PhaseOk fc oc y.viewC
  phS : PhaseOk fs os y.viewS
  fuelC : oc.tape.length + oc.post + 2 < y.sc.fuel
  fuelS : os.tape.length + os.post + 2 < y.sc.fuel
  waitC : y.doneC = false → y.flagC = false →
    fc = .mid ∧ y.s2c.q.toList = [] ∧ y.s2c.rwait = true ∧ y.tpC.wbuf.toList = [] ∧ ∃ t, oc.tape = .server :: t
  waitS : y.doneS = false → y.flagS = false →
    fs = .mid ∧ y.c2s.q.toList = [] ∧ y.c2s.rwait = true ∧ y.tpS.wbuf.toList = [] ∧ ∃ t, os.tape = .client :: t
  startC : fc = .start → y.flagC = true ∧ fs = .start
  startS : fs = .start → y.flagS = true ∧ HasSC os.tape ∧ oc.tape.length + oc.post ≤ os.tape.length
  nopanic : y.panicked = false

def Inv (y : Sys) : Prop := ∃ fc oc fs os a b a' b', InvW y fc oc fs os a b a' b'

theorem Link.swap {o o' : Ossl} {v v' : View} {a b a' b' : Nat} (hme : o'.me = o.me.other)
    (htx : v'.tx = v.rx) (hrx : v'.rx = v.tx) (h : Link o v ⟨o'.tape, v'.tp.wbuf.toList⟩ a b a' b') :
    Link o' v' ⟨o.tape, v.tp.wbuf.toList⟩ a' b' a b := by
  obtain ⟨h1, h2, h3, h4, h5⟩ := h
  refine ⟨?_, h4, ?_, h2, hme ▸ h5.symm⟩
  · simp only [View.txs, htx]; simpa [View.rxs] using h3
  · simp only [View.rxs, hrx]; simpa [View.txs] using h1

section
variable {y : Sys} {fc fs : HsFut} {oc os : Ossl} {a b a' b' : Nat}

theorem InvW.sideC (w : InvW y fc oc fs os a b a' b') : SideW y.sc .client y.c fc oc y.viewC y.flagC y.doneC :=
  ⟨w.tc, w.mec, w.locC, w.ctxC, w.phC, w.fuelC, w.waitC⟩

theorem InvW.sideS (w : InvW y fc oc fs os a b a' b') : SideW y.sc .server y.s fs os y.viewS y.flagS y.doneS :=
  ⟨w.ts, w.mes, w.locS, w.ctxS, w.phS, w.fuelS, w.waitS⟩

theorem InvW.of_sides (hc : SideW y.sc .client y.c fc oc y.viewC y.flagC y.doneC)
    (hs : SideW y.sc .server y.s fs os y.viewS y.flagS y.doneS)
    (hk : Link oc y.viewC ⟨os.tape, y.tpS.wbuf.toList⟩ a b a' b') (stc : fc = .start → y.flagC = true ∧ fs = .start)
    (sts : fs = .start → y.flagS = true ∧ HasSC os.tape ∧ oc.tape.length + oc.post ≤ os.tape.length)
    (np : y.panicked = false) : InvW y fc oc fs os a b a' b' :=
  ⟨hc.task, hs.task, hc.side, hs.side, hc.loc, hs.loc, hc.ctx, hs.ctx, hk, hc.ph, hs.ph, hc.fuel, hs.fuel, hc.wait, hs.wait,
    stc, sts, np⟩

end

/-- progress measure of the system: both endpoints' `Epot`, and `K` for every set wake flag of an unfinished task (the
poll that flag stands for). Lowered by every poll (`client_step`, `server_step`); `run_done` takes it as fuel. -/
def Sys.phi (y : Sys) : Nat :=
  match y.c.s, y.s.s with
  | .ossl fc oc, .ossl fs os =>
    Epot y.sc fc oc y.tpC + Epot y.sc fs os y.tpS + K y.sc * b2n (y.flagC && !y.doneC)
      + K y.sc * b2n (y.flagS && !y.doneS)
  | _, _ => 0

theorem pollClient_eq (y : Sys) (hd : y.doneC = false) {t' : Task} {v' : View} {r : TaskPoll} {dn : Bool}
    (h : pollTask y.sc y.sc.fuel y.c y.viewC = (t', v', r))
    (hr : r = .done ∧ dn = true ∨ (∃ pd, r = .pending pd) ∧ dn = false) :
    pollClient { y with flagC := false } =
      { y with c := t', tpC := v'.tp, c2s := v'.tx, s2c := v'.rx, polls := y.polls + 1,
               flagS := (y.flagS || v'.wake), flagC := v'.own, doneC := dn } := by
  unfold pollClient
  rw [Sys.viewC] at h
  rcases hr with ⟨rfl, rfl⟩ | ⟨⟨pd, rfl⟩, rfl⟩ <;> simp [h, hd]

theorem pollServer_eq (y : Sys) (hd : y.doneS = false) {t' : Task} {v' : View} {r : TaskPoll} {dn : Bool}
    (h : pollTask y.sc y.sc.fuel y.s y.viewS = (t', v', r))
    (hr : r = .done ∧ dn = true ∨ (∃ pd, r = .pending pd) ∧ dn = false) :
    pollServer { y with flagS := false } =
      { y with s := t', tpS := v'.tp, s2c := v'.tx, c2s := v'.rx, polls := y.polls + 1,
               flagC := (y.flagC || v'.wake), flagS := v'.own, doneS := dn } := by
  unfold pollServer
  rw [Sys.viewS] at h
  rcases hr with ⟨rfl, rfl⟩ | ⟨⟨pd, rfl⟩, rfl⟩ <;> simp [h, hd]

theorem client_step {y : Sys} (h : Inv y) (hf : y.flagC = true) (hd : y.doneC = false) :
    Inv (pollClient { y with flagC := false }) ∧ (pollClient { y with flagC := false }).phi < y.phi ∧
      (∀ fc oc, (pollClient { y with flagC := false }).c.s = .ossl fc oc → fc ≠ .start) := by
  obtain ⟨fc, oc, fs, os, a, b, a', b', w⟩ := h
  have hC := w.sideC
  rw [hf, hd] at hC
  -- in state `start` the server has not been polled: its tape, the whole handshake, has a server cell
  obtain ⟨t', v', r, dn, fut', o', a2, b2, a2', heq, hr, hC', hk', hmono, hmeas, hns, hpot⟩ :=
    side_step hC w.link fun hst => ⟨.server, server_cell_of_hasSC (w.startS (w.startC hst).2).2.1, rfl⟩
  rw [pollClient_eq y hd heq hr]
  refine ⟨⟨fut', o', fs, os, a2, b2, a2', b',
    .of_sides hC' (w.sideS.peer_kept hmono hC'.loc.open_tx hC'.loc.open_rx) hk' (fun hst => absurd hst hns)
      (fun hst => ?_) w.nopanic⟩, ?_, ?_⟩
  · obtain ⟨g1, g2, g3⟩ := w.startS hst
    exact ⟨by rw [g1]; rfl, g2, Nat.le_trans hmeas g3⟩
  · have := hpot y.flagS (!y.doneS)
    simp only [Sys.phi, hC'.stream, hC.stream, w.sideS.stream, hf, hd, Bool.not_false, Bool.and_true, b2n, if_true]
    simp only [b2n] at this
    omega
  · intro fc2 oc2 hs2
    simp only [hC'.stream, Stream.ossl.injEq] at hs2
    exact hs2.1 ▸ hns

/-- `hcs`: the client has been polled at least once before (in `round` the client comes first) -/
theorem server_step {y : Sys} (h : Inv y) (hf : y.flagS = true) (hd : y.doneS = false)
    (hcs : ∀ fc oc, y.c.s = .ossl fc oc → fc ≠ .start) :
    Inv (pollServer { y with flagS := false }) ∧ (pollServer { y with flagS := false }).phi < y.phi := by
  obtain ⟨fc, oc, fs, os, a, b, a', b', w⟩ := h
  have hfc : fc ≠ .start := hcs fc oc w.sideC.stream
  have hS := w.sideS
  rw [hf, hd] at hS
  -- in state `start` the client is at most as far from the end as the server: it still has a cell to send
  obtain ⟨t', v', r, dn, fut', o', a2', b2', a2, heq, hr, hS', hk', hmono, hmeas, hns, hpot⟩ :=
    side_step hS (Link.swap (v := y.viewC) (by rw [w.mes, w.mec]; rfl) rfl rfl w.link) fun hst => by
      obtain ⟨_, hsc, hlen⟩ := w.startS hst
      exact ⟨.client, client_cell_of (w.mec ▸ w.link.align) hsc (Nat.le_trans (Nat.le_add_right _ _) hlen), rfl⟩
  rw [pollServer_eq y hd heq hr]
  refine ⟨⟨fc, oc, fut', o', a2, b, a2', b2',
    .of_sides (w.sideC.peer_kept hmono hS'.loc.open_tx hS'.loc.open_rx) hS'
      (Link.swap (v := polled v'.tp v'.tx v'.rx) (v' := polled y.tpC v'.rx v'.tx) (by rw [w.mec, hS'.side]; rfl) rfl rfl hk')
      (fun hst => absurd hst hfc) (fun hst => absurd hst hns) w.nopanic⟩, ?_⟩
  have := hpot y.flagC (!y.doneC)
  simp only [Sys.phi, hS'.stream, hS.stream, w.sideC.stream, hf, hd, Bool.not_false, Bool.and_true, b2n, if_true]
  simp only [b2n] at this
  omega

theorem hsN_postN_nil {a b : Nat} (h : [] = hsN a ++ postN b) : a = 0 ∧ b = 0 := by
  have := congrArg List.length h
  rw [length_hsN_postN] at this
  simp at this; omega

/-- **no deadlock**: an unfinished system always has a task whose wake flag is set. A side that is not runnable
has finished (tape and buffer empty) or waits for the peer's cell on an empty pipe with its own buffer empty
(`SideW.idle`); if that held of both, no cell would be in flight towards a waiting side, so its tape would be a suffix
of the peer's (`Align.peer_tape_of_empty`) - but that one is empty, or starts with a cell of the other side. -/
theorem runnable_of_inv {y : Sys} (h : Inv y) (hnd : y.allDone = false) : y.runnable = true := by
  obtain ⟨fc, oc, fs, os, a, b, a', b', w⟩ := h
  refine Decidable.by_contra fun hr => ?_
  simp only [Sys.runnable, Bool.or_eq_true, not_or, Bool.not_eq_true] at hr
  obtain ⟨hbC, hC⟩ := w.sideC.idle hr.1
  obtain ⟨hbS, hS⟩ := w.sideS.idle hr.2
  have htx := w.link.tx
  have hrx := w.link.rx
  have hal : Align .client oc.tape os.tape a a' := w.mec ▸ w.link.align
  simp only [View.txs, View.rxs, Sys.viewC, Sys.viewS] at htx hrx hbC hbS hC hS
  rw [hbC] at htx
  rw [hbS] at hrx
  rcases hC with ⟨hdc, tC⟩ | ⟨_, qC, tlc, tC⟩
  · rcases hS with ⟨hds, _⟩ | ⟨_, qS, tls, tS⟩
    · simp [Sys.allDone, hdc, hds] at hnd
    · rw [qS] at htx
      obtain rfl := (hsN_postN_nil htx).1
      obtain ⟨X, h1, _, _⟩ := hal.symm.peer_tape_of_empty
      rw [tC, tS] at h1; simp at h1
  · -- nothing is in flight towards the client: the server's tape ends with the client's
    rw [qC] at hrx
    obtain rfl := (hsN_postN_nil hrx).1
    obtain ⟨X, h1, _, h3⟩ := hal.peer_tape_of_empty
    rcases hS with ⟨_, tS⟩ | ⟨_, qS, tls, tS⟩
    · rw [tS, tC] at h1; simp at h1
    · rw [qS] at htx
      obtain rfl := (hsN_postN_nil htx).1
      obtain rfl := List.eq_nil_of_length_eq_zero h3
      rw [tC, tS] at h1; simp [Side.other] at h1

theorem flag_set {fl dn : Bool} (h : (fl && !dn) = true) : fl = true ∧ dn = false := by simpa using h

theorem round_step {y : Sys} (h : Inv y) (hr : y.runnable = true) : Inv (round y) ∧ (round y).phi < y.phi := by
  unfold round
  by_cases hc : (y.flagC && !y.doneC) = true
  · obtain ⟨hi1, hp1, hns⟩ := client_step h (flag_set hc).1 (flag_set hc).2
    simp only [hc, if_true]
    generalize pollClient { y with flagC := false } = y1 at hi1 hp1 hns
    by_cases hs : (y1.flagS && !y1.doneS) = true
    · obtain ⟨hi2, hp2⟩ := server_step hi1 (flag_set hs).1 (flag_set hs).2 hns
      simp only [hs, if_true]
      exact ⟨hi2, Nat.lt_trans hp2 hp1⟩
    · simp only [hs, Bool.false_eq_true, if_false]
      exact ⟨hi1, hp1⟩
  · simp only [hc, Bool.false_eq_true, if_false]
    have hs : (y.flagS && !y.doneS) = true := by
      simp only [Sys.runnable, Bool.or_eq_true] at hr
      exact hr.resolve_left hc
    -- the client is not runnable: it is not in state `start`, where its flag is set and it has not finished
    have hns : ∀ fc oc, y.c.s = .ossl fc oc → fc ≠ .start := by
      obtain ⟨fc, oc, fs, os, a, b, a', b', w⟩ := h
      intro fc2 oc2 hs2 hst
      rw [w.sideC.stream] at hs2
      simp only [Stream.ossl.injEq] at hs2
      rw [← hs2.1] at hst
      have hfl := (w.startC hst).1
      have htc := w.tc
      cases hdc : y.doneC with
      | true => simp only [hdc, if_true] at htc; rw [htc.2] at hst; simp at hst
      | false => rw [hfl, hdc] at hc; simp at hc
    simp only [hs, if_true]
    exact server_step h (flag_set hs).1 (flag_set hs).2 hns

theorem run_done : ∀ (fuel : Nat) (y : Sys), Inv y → y.phi < fuel →
    (run fuel y).2 = .done ∧ Inv (run fuel y).1 ∧ (run fuel y).1.allDone = true := by
  intro fuel
  induction fuel with
  | zero => intro y _ h; omega
  | succ fuel ih =>
    intro y hi hp
    rw [run]
    by_cases hd : y.allDone = true
    · simp only [hd, if_true]; exact ⟨trivial, hi, trivial⟩
    · have hd' : y.allDone = false := by simpa using hd
      have hr := runnable_of_inv hi hd'
      simp only [hd', Bool.false_eq_true, if_false, hr, Bool.not_true]
      obtain ⟨hi2, hp2⟩ := round_step hi hr
      exact ih _ hi2 (Nat.lt_of_lt_of_le hp2 (Nat.le_of_lt_succ hp))

/-- explicit bound on the number of executor passes of a handshake: `O((delays + 1) * (cells + post))`. It is
`Sys.phi` of the initial state (`init_inv`) plus one: the two `mainPot` terms (the client has no post-handshake
cells), the counters, and `26 * K = 2 * (4 * K * rank .start) + 2 * K` for the two flags. -/
def hsBound (sc : Sched) (tape : List Side) (post : Nat) : Nat :=
  2 * K sc * (3 * (tape.length + 0)) + 2 * K sc * (3 * (tape.length + post)) + 2 * (sc.dr + sc.dw + sc.dfh)
    + 26 * K sc + 1

theorem init_inv (sc : Sched) (tape : List Side) (post : Nat) (hlim : 1 ≤ sc.lim) (hdir : sc.astream = false)
    (hwf : HasSC tape) (hfuel : tape.length + post + 2 < sc.fuel) :
    Inv (Sys.init sc false tape post [] []) ∧ (Sys.init sc false tape post [] []).phi < hsBound sc tape post := by
  constructor
  · refine ⟨.start, Ossl.new .client tape 0, .start, Ossl.new .server tape post, 0, 0, 0, 0, ?_⟩
    have hctr : CtrOk sc Tp.new := by simp [CtrOk, Tp.new]
    have hloc : ∀ o : Ossl, o.out = [] ∧ o.close = .none ∧ o.rcvdClose = false →
        Local sc o ⟨Tp.new, Pipe.empty, Pipe.empty, false, false⟩ :=
      fun o ho => ⟨hlim, hdir, hctr, rfl, rfl, ho, fun _ => rfl⟩
    exact ⟨⟨⟨rfl, rfl, rfl, rfl, rfl⟩, nofun⟩, ⟨⟨rfl, rfl, rfl, rfl, rfl⟩, nofun⟩, rfl, rfl,
      hloc _ ⟨rfl, rfl, rfl⟩, hloc _ ⟨rfl, rfl, rfl⟩, rfl, rfl,
      ⟨rfl, fun _ => rfl, rfl, fun _ => rfl, .inl ⟨[], rfl, nofun, rfl, rfl⟩⟩, ⟨rfl, rfl, fun _ => rfl⟩,
      ⟨rfl, rfl, fun _ => rfl⟩, (by show tape.length + 0 + 2 < sc.fuel; omega), hfuel, nofun, nofun,
      fun _ => ⟨rfl, rfl⟩, fun _ => ⟨rfl, hwf, Nat.le_refl _⟩, rfl⟩
  · simp only [Sys.phi, Sys.init, Sys.initX, mkTask, mkStream, Bool.false_eq_true, if_false, Epot, Ossl.new, Tp.new, ctr,
      flushDelay, rank, hsBound, b2n, Q.length, Q.empty]
    simp
    have h1 := K4 sc 2
    omega

theorem handshake_final (sc : Sched) (tape : List Side) (post : Nat) (hlim : 1 ≤ sc.lim)
    (hdir : sc.astream = false) (hwf : HasSC tape) (hfuel : tape.length + post + 2 < sc.fuel)
    (n : Nat) (hn : hsBound sc tape post ≤ n) :
    (run n (Sys.init sc false tape post [] [])).2 = .done ∧
    ∃ oc os, TaskDone (run n (Sys.init sc false tape post [] [])).1.c oc ∧
      TaskDone (run n (Sys.init sc false tape post [] [])).1.s os ∧ oc.me = .client ∧ os.me = .server ∧
      PhaseOk .done oc (run n (Sys.init sc false tape post [] [])).1.viewC ∧
      PhaseOk .done os (run n (Sys.init sc false tape post [] [])).1.viewS ∧
      (run n (Sys.init sc false tape post [] [])).1.panicked = false := by
  obtain ⟨hinv, hphi⟩ := init_inv sc tape post hlim hdir hwf hfuel
  obtain ⟨hdone, ⟨fc, oc, fs, os, a, b, a', b', w⟩, hall⟩ := run_done n _ hinv (by omega)
  simp only [Sys.allDone, Bool.and_eq_true] at hall
  have htc := w.tc
  have hts := w.ts
  simp only [hall.1, hall.2, if_true] at htc hts
  exact ⟨hdone, oc, os, htc.1, hts.1, w.mec, w.mes, htc.2 ▸ w.phC, hts.2 ▸ w.phS, w.nopanic⟩

end Compio.TlsSys
