/- C08, the buffer model (Model/BufShape): an OS fill of the writable range changes the window of a buffer and nothing
outside it; `advance_to` is a store into the length field (`advanceTo_eq`); the same member by member for vectored
buffers, with `AllPairs` to speak of members pairwise. Second part: `pread` / `pwrite` / `ftruncate` of the reference
file (Model/FileRef). -/
import Compio.Model.BufShape
import Compio.Model.FileRef

namespace Compio.BufShape

open Compio.Gen.OpTable (Kind)

theorem storeAt_length (mem : Bytes) (off : Nat) (data : Bytes) (h : off + data.length ≤ mem.length) :
    (storeAt mem off data).length = mem.length := by
  simp [storeAt, List.length_append, List.length_take, List.length_drop]
  omega

theorem storeAt_take (mem : Bytes) (off : Nat) (data : Bytes) (h : off ≤ mem.length) :
    (storeAt mem off data).take off = mem.take off := by
  unfold storeAt
  rw [List.append_assoc]
  exact List.take_left' (by simp [List.length_take]; omega)

theorem storeAt_drop (mem : Bytes) (off : Nat) (data : Bytes) (h : off ≤ mem.length) :
    (storeAt mem off data).drop (off + data.length) = mem.drop (off + data.length) := by
  unfold storeAt
  exact List.drop_left' (by simp [List.length_append, List.length_take]; omega)

theorem storeAt_window (mem : Bytes) (off w : Nat) (data : Bytes) (h : off + w ≤ mem.length)
    (hd : data.length ≤ w) :
    ((storeAt mem off data).drop off).take w = data ++ ((mem.drop off).take w).drop data.length := by
  unfold storeAt
  rw [List.append_assoc, List.drop_left' (by simp [List.length_take]; omega)]
  rw [List.take_append, List.take_of_length_le hd]
  congr 1
  rw [List.drop_take, List.drop_drop]

theorem storeAt_nil (mem : Bytes) (off : Nat) : storeAt mem off [] = mem := by
  simp [storeAt]

theorem endOrCap_le (b : Buf) : b.endOrCap ≤ b.root.cap := Nat.min_le_right ..

theorem window_length (b : Buf) : b.window.length = b.bufCap := by
  have := endOrCap_le b
  simp only [Buf.window, Buf.bufCap, Root.cap, List.length_take, List.length_drop] at *
  omega

theorem window_in_mem {b : Buf} (h : b.wf) : b.start + b.bufCap ≤ b.root.mem.length := by
  obtain ⟨h1, h2, h3⟩ := h
  have := endOrCap_le b
  unfold Buf.bufCap Buf.endOrCap Root.cap at *
  cases hs : b.stop with
  | none => simp; omega
  | some e => have := h3 e hs; simp; omega

theorem bufLen_eq {b : Buf} (h : b.root.len ≤ b.root.cap) : b.bufLen = min b.bufCap (b.root.len - b.start) := by
  rw [Buf.bufLen, Buf.endOrLen, Buf.bufCap, Buf.endOrCap, Nat.sub_min_sub_right, Nat.min_assoc, Nat.min_eq_right h]
  cases b.stop with
  | none => rw [Option.getD_none, Option.getD_none, Nat.min_self, Nat.min_eq_right h]
  | some e => rfl

theorem bufLen_le_bufCap {b : Buf} (h : b.wf) : b.bufLen ≤ b.bufCap := by
  rw [bufLen_eq h.1]; exact Nat.min_le_left ..

theorem visible_eq_window_take {b : Buf} (h : b.wf) : b.visible = b.window.take b.bufLen := by
  rw [Buf.window, List.take_take, Nat.min_eq_left (bufLen_le_bufCap h)]; rfl

theorem offered_writable (b : Buf) : b.offered .writable = (b.start, b.bufCap) := rfl
theorem offered_init (b : Buf) : b.offered .init = (b.start, b.bufLen) := rfl

theorem osFill_shape (k : Kind) (b : Buf) (data : Bytes) :
    (b.osFill k data).start = b.start ∧ (b.osFill k data).stop = b.stop ∧
    (b.osFill k data).root.len = b.root.len := by
  simp [Buf.osFill]

theorem osFill_cap (b : Buf) (data : Bytes) (h : b.wf) :
    (b.osFill .writable data).root.cap = b.root.cap := by
  have := window_in_mem h
  exact storeAt_length _ _ _ (by simp only [List.length_take]; omega)

theorem osFill_bufCap (b : Buf) (data : Bytes) (h : b.wf) :
    (b.osFill .writable data).bufCap = b.bufCap := by
  obtain ⟨h1, h2, _⟩ := osFill_shape .writable b data
  rw [Buf.bufCap, Buf.endOrCap, h1, h2, osFill_cap b data h]; rfl

theorem osFill_bufLen (k : Kind) (b : Buf) (data : Bytes) : (b.osFill k data).bufLen = b.bufLen := by
  obtain ⟨h1, h2, h3⟩ := osFill_shape k b data
  rw [Buf.bufLen, Buf.endOrLen, h1, h2, h3]; rfl

theorem osFill_wf (b : Buf) (data : Bytes) (h : b.wf) : (b.osFill .writable data).wf := by
  obtain ⟨h1, h2, h3⟩ := osFill_shape .writable b data
  rw [Buf.wf, h1, h2, h3, osFill_cap b data h]
  exact h

theorem osFill_window (b : Buf) (data : Bytes) (h : b.wf) :
    (b.osFill .writable data).window
      = data.take b.bufCap ++ b.window.drop (min data.length b.bufCap) := by
  have := window_in_mem h
  rw [Buf.window, osFill_bufCap b data h]
  simp only [Buf.osFill, offered_writable]
  rw [storeAt_window _ _ _ _ this (by simp only [List.length_take]; omega)]
  simp [List.length_take, Nat.min_comm, Buf.window]

theorem osFill_before (b : Buf) (data : Bytes) (h : b.wf) :
    (b.osFill .writable data).root.mem.take b.start = b.root.mem.take b.start := by
  have := window_in_mem h
  exact storeAt_take _ _ _ (by omega)

theorem osFill_after (b : Buf) (data : Bytes) (h : b.wf) :
    (b.osFill .writable data).root.mem.drop (b.start + b.bufCap)
      = b.root.mem.drop (b.start + b.bufCap) := by
  have := window_in_mem h
  have hl : (data.take b.bufCap).length ≤ b.bufCap := by simp only [List.length_take]; omega
  -- `storeAt_drop` speaks of the end of the stored bytes: drop on to the end of the window
  have e := storeAt_drop b.root.mem b.start (data.take b.bufCap) (by omega)
  have : b.start + b.bufCap
      = (b.start + (data.take b.bufCap).length) + (b.bufCap - (data.take b.bufCap).length) := by omega
  simp only [Buf.osFill, offered_writable]
  rw [this, ← List.drop_drop, e, List.drop_drop]

theorem setLen_bufLen {b : Buf} (h : b.wf) {n : Nat} (hn : n ≤ b.bufCap) : (b.setLen n).bufLen = n := by
  have := window_in_mem h
  rw [bufLen_eq (show b.start + n ≤ b.root.mem.length by omega)]
  show min b.bufCap (b.start + n - b.start) = n
  omega

theorem setLen_wf {b : Buf} (h : b.wf) {n : Nat} (hn : n ≤ b.bufCap) : (b.setLen n).wf := by
  have := window_in_mem h
  exact ⟨show b.start + n ≤ b.root.mem.length by omega, Nat.le_add_right .., h.2.2⟩

theorem setLen_window (b : Buf) (n : Nat) : (b.setLen n).window = b.window := rfl

theorem advanceTo_eq {b : Buf} (h : b.wf) {n : Nat} (hn : n ≤ b.bufCap) :
    b.advanceTo n = { b with root := { b.root with len := max b.root.len (b.start + n) } } := by
  have h1 := bufLen_eq h.1
  have h2 := h.2.1
  unfold Buf.advanceTo Buf.setLen
  split
  · rw [Nat.max_eq_right (by omega)]
  · rw [Nat.max_eq_left (by omega)]

theorem advanceTo_wf {b : Buf} (h : b.wf) {n : Nat} (hn : n ≤ b.bufCap) : (b.advanceTo n).wf := by
  unfold Buf.advanceTo
  split
  · exact setLen_wf h hn
  · exact h

theorem advanceTo_bufLen {b : Buf} (h : b.wf) {n : Nat} (hn : n ≤ b.bufCap) :
    (b.advanceTo n).bufLen = max b.bufLen n := by
  unfold Buf.advanceTo
  split
  · rw [setLen_bufLen h hn]; omega
  · omega

theorem windowVec_cons (b : Buf) (bs : List Buf) : windowVec (b :: bs) = b.window ++ windowVec bs := by
  simp [windowVec]

theorem visibleVec_cons (b : Buf) (bs : List Buf) : visibleVec (b :: bs) = b.visible ++ visibleVec bs := by
  simp [visibleVec]

theorem totalCap_cons (b : Buf) (bs : List Buf) : totalCap (b :: bs) = b.bufCap + totalCap bs := by
  simp [totalCap]

theorem totalLen_cons (b : Buf) (bs : List Buf) : totalLen (b :: bs) = b.bufLen + totalLen bs := by
  simp [totalLen]

theorem offeredLen_writable (bs : List Buf) : offeredLen .writable bs = totalCap bs := rfl

theorem offeredLen_init (bs : List Buf) : offeredLen .init bs = totalLen bs := by
  simp [offeredLen, totalLen, offered_init]

theorem windowVec_length (bs : List Buf) : (windowVec bs).length = totalCap bs := by
  induction bs with
  | nil => simp [windowVec, totalCap]
  | cons b bs ih => rw [windowVec_cons, totalCap_cons, List.length_append, window_length, ih]

theorem totalLen_fresh {bs : List Buf} (hf : ∀ b ∈ bs, b.bufLen = 0) : totalLen bs = 0 := by
  induction bs with
  | nil => rfl
  | cons b bs ih => rw [totalLen_cons, hf b (.head _), ih fun x hx => hf x (.tail _ hx)]

theorem visibleVec_fresh {bs : List Buf} (hf : ∀ b ∈ bs, b.bufLen = 0) : visibleVec bs = [] := by
  induction bs with
  | nil => rfl
  | cons b bs ih =>
    rw [visibleVec_cons, ih fun x hx => hf x (.tail _ hx), Buf.visible, hf b (.head _)]; rfl

theorem totalLen_eq_length {bs : List Buf} (hw : ∀ b ∈ bs, b.wf) : totalLen bs = (visibleVec bs).length := by
  induction bs with
  | nil => rfl
  | cons b bs ih =>
    obtain ⟨hb, hrest⟩ := List.forall_mem_cons.mp hw
    have := bufLen_le_bufCap hb
    rw [totalLen_cons, visibleVec_cons, List.length_append, ← ih hrest, visible_eq_window_take hb,
      List.length_take, window_length]
    omega

theorem osFillVec_window (bs : List Buf) (hw : ∀ b ∈ bs, b.wf) (data : Bytes)
    (hd : data.length ≤ totalCap bs) :
    windowVec (osFillVec .writable bs data) = data ++ (windowVec bs).drop data.length := by
  induction bs generalizing data with
  | nil =>
    simp [totalCap] at hd
    simp [osFillVec, windowVec, hd]
  | cons b bs ih =>
    obtain ⟨hb, hrest⟩ := List.forall_mem_cons.mp hw
    rw [totalCap_cons] at hd
    simp only [osFillVec, offered_writable]
    rw [windowVec_cons, windowVec_cons, osFill_window b data hb,
      ih hrest (data.drop b.bufCap) (by simp only [List.length_drop]; omega)]
    have hwl := window_length b
    by_cases hc : data.length ≤ b.bufCap
    · rw [List.take_of_length_le hc, List.drop_of_length_le hc, Nat.min_eq_left hc,
        List.drop_append_of_le_length (by omega)]
      simp
    · have hc' : b.bufCap ≤ data.length := by omega
      rw [Nat.min_eq_right hc', List.drop_of_length_le (l := b.window) (by omega)]
      rw [List.drop_append, List.drop_of_length_le (l := b.window) (by omega)]
      simp only [List.length_drop, List.append_nil, List.nil_append, hwl]
      rw [← List.append_assoc, List.take_append_drop]

theorem osFillVec_length (k : Kind) (bs : List Buf) (data : Bytes) : (osFillVec k bs data).length = bs.length := by
  induction bs generalizing data with
  | nil => simp [osFillVec]
  | cons b bs ih => simp [osFillVec, ih]

def AllPairs (R : Buf → Buf → Prop) : List Buf → List Buf → Prop
  | [], [] => True
  | a :: as, b :: bs => R a b ∧ AllPairs R as bs
  | _, _ => False

theorem AllPairs.refl {R : Buf → Buf → Prop} (hR : ∀ b, R b b) (bs : List Buf) : AllPairs R bs bs := by
  induction bs with
  | nil => trivial
  | cons b bs ih => exact ⟨hR b, ih⟩

theorem AllPairs.trans {R S T : Buf → Buf → Prop} (h : ∀ a b c, R a b → S b c → T a c) :
    ∀ {as bs cs : List Buf}, AllPairs R as bs → AllPairs S bs cs → AllPairs T as cs
  | [], [], [], _, _ => trivial
  | _ :: _, _ :: _, _ :: _, h1, h2 => ⟨h _ _ _ h1.1 h2.1, h1.2.trans h h2.2⟩
  | [], _ :: _, _, h1, _ => h1.elim
  | _ :: _, [], _, h1, _ => h1.elim
  | [], [], _ :: _, _, h2 => h2.elim
  | _ :: _, _ :: _, [], _, h2 => h2.elim

theorem AllPairs.mem_right {R : Buf → Buf → Prop} :
    ∀ {as bs : List Buf}, AllPairs R as bs → ∀ b ∈ bs, ∃ a ∈ as, R a b
  | _ :: _, _ :: _, h, _, .head _ => ⟨_, .head _, h.1⟩
  | _ :: _, _ :: _, h, b, .tail _ hb => let ⟨a, ha, hab⟩ := h.2.mem_right b hb; ⟨a, .tail _ ha, hab⟩
  | [], _ :: _, h, _, _ => h.elim

theorem osFillVec_members (bs : List Buf) (hw : ∀ b ∈ bs, b.wf) (data : Bytes) :
    AllPairs (fun b b' : Buf => b'.start = b.start ∧ b'.stop = b.stop ∧ b'.root.len = b.root.len ∧
        b'.root.cap = b.root.cap ∧ b'.wf ∧
        b'.root.mem.take b.start = b.root.mem.take b.start ∧
        b'.root.mem.drop (b.start + b.bufCap) = b.root.mem.drop (b.start + b.bufCap))
      bs (osFillVec .writable bs data) := by
  induction bs generalizing data with
  | nil => trivial
  | cons b bs ih =>
    obtain ⟨hb, hrest⟩ := List.forall_mem_cons.mp hw
    obtain ⟨h1, h2, h3⟩ := osFill_shape .writable b data
    exact ⟨⟨h1, h2, h3, osFill_cap b data hb, osFill_wf b data hb, osFill_before b data hb,
      osFill_after b data hb⟩, ih hrest _⟩

theorem osFillVec_wf (bs : List Buf) (hw : ∀ b ∈ bs, b.wf) (data : Bytes) :
    ∀ b ∈ osFillVec .writable bs data, b.wf := fun b' hb' =>
  let ⟨_, _, h⟩ := (osFillVec_members bs hw data).mem_right b' hb'
  h.2.2.2.2.1

theorem osFillVec_fresh (bs : List Buf) (hw : ∀ b ∈ bs, b.wf) (hf : ∀ b ∈ bs, b.bufLen = 0) (data : Bytes) :
    ∀ b ∈ osFillVec .writable bs data, b.bufLen = 0 := fun b' hb' => by
  obtain ⟨b, hb, h1, h2, h3, _⟩ := (osFillVec_members bs hw data).mem_right b' hb'
  rw [← hf b hb, Buf.bufLen, Buf.endOrLen, h1, h2, h3]; rfl

theorem defaultSetLen_zero (bs : List Buf) : defaultSetLen bs 0 = bs := by
  cases bs <;> simp [defaultSetLen]

theorem advanceVecTo_eq (bs : List Buf) (n : Nat) :
    advanceVecTo bs n = defaultSetLen bs (if totalLen bs < n then n else 0) := by
  unfold advanceVecTo
  split <;> simp [*, defaultSetLen_zero]

theorem defaultSetLen_wf (bs : List Buf) (hw : ∀ b ∈ bs, b.wf) (n : Nat) :
    ∀ b ∈ defaultSetLen bs n, b.wf := by
  induction bs generalizing n with
  | nil => simp [defaultSetLen]
  | cons b bs ih =>
    obtain ⟨hb, hrest⟩ := List.forall_mem_cons.mp hw
    unfold defaultSetLen
    split
    · exact hw
    · exact List.forall_mem_cons.mpr ⟨setLen_wf hb (Nat.min_le_left ..), ih hrest _⟩

theorem defaultSetLen_visible (bs : List Buf) (hw : ∀ b ∈ bs, b.wf) (hf : ∀ b ∈ bs, b.bufLen = 0)
    (n : Nat) (hn : n ≤ totalCap bs) :
    visibleVec (defaultSetLen bs n) = (windowVec bs).take n := by
  induction bs generalizing n with
  | nil => simp [defaultSetLen, visibleVec, windowVec]
  | cons b bs ih =>
    obtain ⟨hb, hrest⟩ := List.forall_mem_cons.mp hw
    rw [totalCap_cons] at hn
    unfold defaultSetLen
    split
    · next h0 => rw [h0, visibleVec_fresh hf, List.take_zero]
    · have hsub : min b.bufCap n ≤ b.bufCap := Nat.min_le_left ..
      rw [visibleVec_cons, windowVec_cons, ih hrest (fun x hx => hf x (.tail _ hx)) _ (by omega),
        visible_eq_window_take (setLen_wf hb hsub), setLen_bufLen hb hsub, setLen_window,
        List.take_append, window_length, show n - min b.bufCap n = n - b.bufCap by omega]
      congr 1
      by_cases hc : n ≤ b.bufCap
      · rw [Nat.min_eq_right hc]
      · rw [List.take_of_length_le (by rw [window_length]; omega),
          List.take_of_length_le (by rw [window_length]; omega)]

theorem defaultSetLen_windowVec (bs : List Buf) (n : Nat) : windowVec (defaultSetLen bs n) = windowVec bs := by
  induction bs generalizing n with
  | nil => rfl
  | cons b bs ih =>
    unfold defaultSetLen
    split
    · rfl
    · rw [windowVec_cons, windowVec_cons, setLen_window, ih]

theorem defaultSetLen_members (bs : List Buf) (n : Nat) :
    AllPairs (fun b b' : Buf => b'.start = b.start ∧ b'.stop = b.stop ∧ b'.root.mem = b.root.mem)
      bs (defaultSetLen bs n) := by
  induction bs generalizing n with
  | nil => trivial
  | cons b bs ih =>
    unfold defaultSetLen
    split
    · exact AllPairs.refl (fun b => ⟨rfl, rfl, rfl⟩) _
    · exact ⟨⟨rfl, rfl, rfl⟩, ih _⟩

theorem offeredBytes_init {b : Buf} : b.offeredBytes .init = b.visible := rfl

theorem offeredBytesVec_init (bs : List Buf) : offeredBytesVec .init bs = visibleVec bs := rfl

end Compio.BufShape

namespace Compio.FileRef

open Compio.BufShape

theorem pread_length (f : Bytes) (pos n : Nat) : (pread f pos n).length = min n (f.length - pos) := by
  simp [pread, List.length_take, List.length_drop]

theorem pread_length_le (f : Bytes) (pos n : Nat) : (pread f pos n).length ≤ n := List.length_take_le ..

theorem pread_beyond (f : Bytes) (pos n : Nat) (h : f.length ≤ pos) : pread f pos n = [] := by
  simp [pread, List.drop_of_length_le h]

theorem pread_zero (f : Bytes) (pos : Nat) : pread f pos 0 = [] := by simp [pread]

theorem zeros_length (n : Nat) : (zeros n).length = n := by simp [zeros]

theorem pwrite_nil (f : Bytes) (pos : Nat) : pwrite f pos [] = f := rfl

theorem pwrite_ne (f : Bytes) (pos : Nat) (d : Bytes) (hd : d ≠ []) :
    pwrite f pos d = f.take pos ++ zeros (pos - f.length) ++ d ++ f.drop (pos + d.length) := by
  simp [pwrite, hd]

theorem pad_length (f : Bytes) (pos : Nat) : (f.take pos ++ zeros (pos - f.length)).length = pos := by
  simp only [List.length_append, List.length_take, zeros_length]; omega

theorem pwrite_length (f : Bytes) (pos : Nat) (d : Bytes) (hd : d ≠ []) :
    (pwrite f pos d).length = max f.length (pos + d.length) := by
  rw [pwrite_ne f pos d hd, List.length_append, List.length_append, pad_length, List.length_drop]
  omega

theorem pread_pwrite (f : Bytes) (pos : Nat) (d : Bytes) : pread (pwrite f pos d) pos d.length = d := by
  by_cases hd : d = []
  · subst hd; simp [pread]
  · rw [pwrite_ne f pos d hd, pread, List.append_assoc, List.drop_left' (pad_length f pos)]
    exact List.take_left' rfl

theorem pwrite_before (f : Bytes) (pos : Nat) (d : Bytes) :
    (pwrite f pos d).take (min pos f.length) = f.take (min pos f.length) := by
  by_cases hd : d = []
  · subst hd; rfl
  · rw [pwrite_ne f pos d hd, List.append_assoc, List.append_assoc,
      List.take_append_of_le_length (by simp [List.length_take]), List.take_take]
    congr 1
    omega

theorem pwrite_after (f : Bytes) (pos : Nat) (d : Bytes) :
    (pwrite f pos d).drop (pos + d.length) = f.drop (pos + d.length) := by
  by_cases hd : d = []
  · subst hd; rfl
  · rw [pwrite_ne f pos d hd]
    exact List.drop_left' (by rw [List.length_append, pad_length])

theorem pwrite_append (f : Bytes) (pos : Nat) (a b : Bytes) :
    pwrite f pos (a ++ b) = pwrite (pwrite f pos a) (pos + a.length) b := by
  by_cases ha : a = []
  · subst ha; simp [pwrite_nil]
  by_cases hb : b = []
  · subst hb; simp [pwrite_nil]
  rw [pwrite_ne _ _ _ (by simp [ha] : a ++ b ≠ []), pwrite_ne _ _ b hb, pwrite_ne f pos a ha]
  -- the first write ends at `pos + a.length`: the second takes it whole, fills no gap, and drops on in `f`
  have hl : (f.take pos ++ zeros (pos - f.length) ++ a).length = pos + a.length := by
    rw [List.length_append, pad_length]
  have hd : (f.take pos ++ zeros (pos - f.length) ++ a ++ f.drop (pos + a.length)).drop (pos + a.length + b.length)
      = f.drop (pos + (a ++ b).length) := by
    rw [← List.drop_drop, List.drop_left' hl, List.drop_drop, List.length_append, Nat.add_assoc]
  have hz : pos + a.length
      - (f.take pos ++ zeros (pos - f.length) ++ a ++ f.drop (pos + a.length)).length = 0 := by
    rw [List.length_append, hl]; omega
  rw [List.take_left' hl, hd, hz]
  simp [zeros, List.append_assoc]

theorem ftruncate_length (f : Bytes) (n : Nat) : (ftruncate f n).length = n := by
  simp [ftruncate, List.length_append, List.length_take, zeros_length]; omega

theorem ftruncate_keeps (f : Bytes) (n : Nat) :
    (ftruncate f n).take (min n f.length) = f.take (min n f.length) := by
  simp only [ftruncate]
  rw [List.take_append_of_le_length (by simp [List.length_take]), List.take_take]
  congr 1; omega

theorem ftruncate_extension (f : Bytes) (n : Nat) : (ftruncate f n).drop f.length = zeros (n - f.length) := by
  simp only [ftruncate]
  by_cases h : n ≤ f.length
  · have : n - f.length = 0 := by omega
    rw [this]
    simp [zeros, List.length_take]; omega
  · rw [List.take_of_length_le (by omega)]
    exact List.drop_left' rfl

end Compio.FileRef
