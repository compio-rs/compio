/-
List facts about `hotPush`, the hot queue and the id prefetched by the tick (`nextHot`), and two tactics that unfold
a step of the model and split it into the branches of `rtStep` / `wStep`, for looking at a step by hand; the proofs
go by `cases` on the relations of Compio.Lemmas.WakeStep.
-/
import Compio.Lemmas.Wake
import Compio.Lemmas.ListFacts

namespace Compio.Wake
open Compio.TaskWord Compio.Gen

/-- one goal per branch of `rtStep` (in the order of its source) that returns `some s'`, with `s'` replaced by the
record it is and the helper functions of the step unfolded; the tests of the branch are in context -/
macro "rt_step" h:ident : tactic => `(tactic| (
  unfold rtStep at $h:ident
  try unfold startLocal at $h:ident
  try unfold drainDone at $h:ident
  try unfold afterTick at $h:ident
  repeat' split at $h:ident
  all_goals (try simp only [Option.some.injEq, reduceCtorEq] at $h:ident)
  all_goals (try subst $h:ident)
  all_goals (try simp only [subPending, dropTask, startPoll, kWrite, overflowPush, doSubmit])))

@[simp] theorem kWrite_wk (s : State) : (kWrite s).wk = s.wk := rfl

/-- the same for `wStep` -/
macro "w_step" h:ident : tactic => `(tactic| (
  unfold wStep at $h:ident
  try unfold mainDone at $h:ident
  try simp only [kWrite_wk] at $h:ident
  repeat' split at $h:ident
  all_goals (try simp only [Option.some.injEq, reduceCtorEq] at $h:ident)
  all_goals (try subst $h:ident)
  all_goals (try simp only [setWk, subPending, kWrite])))

theorem mem_hotPush {d : Nat → Bool} {hot : List Nat} {t x : Nat} :
    x ∈ hotPush d hot t ↔ x ∈ hot ∨ (x = t ∧ d t = false) := by
  unfold hotPush
  by_cases h1 : d t = true
  · simp [h1]
  · have h1' : d t = false := by simpa using h1
    by_cases h2 : t ∈ hot
    · simp [h1', h2]
      rintro rfl; exact h2
    · simp [h1', h2]

theorem nodup_hotPush {d : Nat → Bool} {hot : List Nat} (x : Nat) (h : hot.Nodup) : (hotPush d hot x).Nodup := by
  unfold hotPush
  split
  · exact h
  · rename_i hc
    simp only [Bool.or_eq_true, List.contains_eq_mem, decide_eq_true_eq, not_or] at hc
    exact nodup_snoc h hc.2

theorem length_hotPush_le {d : Nat → Bool} {hot : List Nat} (x : Nat) : (hotPush d hot x).length ≤ hot.length + 1 := by
  unfold hotPush; split <;> simp

theorem idxOf_hotPush {d : Nat → Bool} {hot : List Nat} {t : Nat} (x : Nat) (h : t ∈ hot) :
    (hotPush d hot x).idxOf t = hot.idxOf t := by
  unfold hotPush
  split
  · rfl
  · simp [List.idxOf_append, h]

theorem idxOf_hotPush_self {d : Nat → Bool} {hot : List Nat} {t : Nat} (h : t ∉ hot) (hd : d t = false) :
    (hotPush d hot t).idxOf t = hot.length := by
  unfold hotPush
  have : (d t || hot.contains t) = false := by simp [hd, h]
  simp only [this]
  simp [List.idxOf_append, h]

theorem head_hotPush {d : Nat → Bool} {hot : List Nat} {x n : Nat} (h : hot.head? = some n) :
    (hotPush d hot x).head? = some n := by
  obtain ⟨l, rfl⟩ := List.head?_eq_some_iff.1 h
  unfold hotPush
  split <;> rfl

theorem nextHot_head (t : Nat) (rest : List Nat) : nextHot (t :: rest) t = rest.head? := by
  simp [nextHot]

theorem head_erase_head {hot : List Nat} {t : Nat} (h : hot.head? = some t) : (hot.erase t).head? = nextHot hot t := by
  obtain ⟨l, rfl⟩ := List.head?_eq_some_iff.1 h
  rw [List.erase_cons_head, nextHot_head]

theorem nextHot_ne_self {hot : List Nat} {t : Nat} (hn : hot.Nodup) (h : hot.head? = some t) :
    nextHot hot t ≠ some t := by
  obtain ⟨l, rfl⟩ := List.head?_eq_some_iff.1 h
  rw [nextHot_head]
  exact fun e => (List.nodup_cons.1 hn).1 (List.mem_of_head? e)

theorem erase_erase_self {hot : List Nat} {t : Nat} (hn : hot.Nodup) : (hot.erase t).erase t = hot.erase t :=
  List.erase_of_not_mem fun hm => (hn.mem_erase_iff.1 hm).1 rfl

theorem head_erase_ne {hot : List Nat} {c n : Nat} (h : hot.head? = some n) (hne : n ≠ c) :
    (hot.erase c).head? = some n := by
  obtain ⟨l, rfl⟩ := List.head?_eq_some_iff.1 h
  rw [List.erase_cons_tail (by simpa using hne)]; rfl

end Compio.Wake
