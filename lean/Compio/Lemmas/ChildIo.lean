/-
C20 — lemmas about the child-process model (`Compio.Model.ChildIo`). `step` is inverted once (`Step`); the invariant
`Inv`, the conserved denotation `den` and the decreasing measure `mu` are one case analysis over it each. A state
without a step is finished unless the child is blocked on a pipe the parent cannot serve (`progress`); every deadlock
is a child reading to end of file whose stdin can never be closed (`reading_run`). The echoing child's bytes are counted
(`CatInv`): what fits the two pipes finishes, what exceeds them and the child's buffer deadlocks while stdout stays
unread (`Unread`, `OneWrite`). Completed waits are counted; a handle left in the `Child` goes only after the wait. The
canonical scheduler offers the largest transfer of each kind: where it stops nothing can fire. Last, example `Cfg`s.
-/
import Compio.Model.ChildIo
import Compio.Lemmas.Lts

namespace Compio.ChildIo

@[simp] theorem atLeast_iff {α : Type} (l : List α) (k : Nat) : atLeast l k = true ↔ k ≤ l.length := by
  induction l generalizing k with
  | nil => cases k <;> simp [atLeast]
  | cons a r ih => cases k <;> simp [atLeast, ih]

theorem of_ite_none {α : Type} {p : Prop} [Decidable p] {x : Option α} {b : α}
    (h : (if p then x else none) = some b) : p ∧ x = some b :=
  Option.ite_none_right_eq_some.mp h

/-- The successful steps, one constructor per shape: `step c s e = some s'` iff `Step c s e s'`
(`step_some`, `Step.eq`). In `fallOff` the script is already empty; it is written like `exit` and `kill`. -/
inductive Step (c : Cfg) (s : St) : Ev → St → Prop
  | wr {k : Nat} (hd : depsOk c s .W = true) (he : s.wepipe = false) (hc : s.wclosed = false)
      (hst : s.status = none) (h1 : 1 ≤ k) (ho : k ≤ offered c s) (hl : k ≤ s.wleft.length)
      (hcap : s.nin + k ≤ c.capIn) :
      Step c s (.wr k) { s with pin := s.pin ++ s.wleft.take k, nin := s.nin + k, wleft := s.wleft.drop k,
                                wsent := s.wsent ++ s.wleft.take k,
                                wblock := if c.blocking then offered c s - k else 0 }
  | wrEpipe (hd : depsOk c s .W = true) (he : s.wepipe = false) (hc : s.wclosed = false) (hne : s.wleft ≠ [])
      (hx : s.status.isSome = true) : Step c s .wrEpipe { s with wepipe := true, wblock := 0 }
  | wclose (hd : depsOk c s .W = true) (hb : s.wblock = 0) (hc : s.wclosed = false)
      (hq : s.wleft = [] ∨ s.wepipe = true) : Step c s .wclose { s with wclosed := true }
  | rdOut {k : Nat} (hd : depsOk c s .Ro = true) (hb : s.wblock = 0) (hnd : s.routDone = false) (h1 : 1 ≤ k)
      (hk : k ≤ c.rchunk) (hl : k ≤ s.pout.length) :
      Step c s (.rd .out k) { s with rout := s.rout ++ s.pout.take k, pout := s.pout.drop k, nout := s.nout - k }
  | rdErr {k : Nat} (hd : depsOk c s .Re = true) (hb : s.wblock = 0) (hnd : s.rerrDone = false) (h1 : 1 ≤ k)
      (hk : k ≤ c.rchunk) (hl : k ≤ s.perr.length) :
      Step c s (.rd .err k) { s with rerr := s.rerr ++ s.perr.take k, perr := s.perr.drop k, nerr := s.nerr - k }
  | rdEofOut (hd : depsOk c s .Ro = true) (hb : s.wblock = 0) (hnd : s.routDone = false) (hp : s.pout = [])
      (hx : s.status.isSome = true) : Step c s (.rdEof .out) { s with routDone := true }
  | rdEofErr (hd : depsOk c s .Re = true) (hb : s.wblock = 0) (hnd : s.rerrDone = false) (hp : s.perr = [])
      (hx : s.status.isSome = true) : Step c s (.rdEof .err) { s with rerrDone := true }
  | wtStart (hd : depsOk c s .Wt = true) (hb : s.wblock = 0) (hw : s.wt = .idle) :
      Step c s .wtStart { s with wt := .started, fdRefs := if c.pidfd then s.fdRefs + 1 else s.fdRefs }
  | wtReady (hd : depsOk c s .Wt = true) (hb : s.wblock = 0) (hpf : c.pidfd = true) (hw : s.wt = .started)
      (hx : s.status.isSome = true) : Step c s .wtReady { s with wt := .ready, fdRefs := s.fdRefs - 1 }
  | wtTake (hd : depsOk c s .Wt = true) (hb : s.wblock = 0) (hpf : c.pidfd = true) (hw : s.wt = .ready)
      (hr : s.fdRefs = 1) : Step c s .wtTake { s with wt := .taken, fdRefs := 0 }
  | wtDone {st : Status} (hd : depsOk c s .Wt = true) (hb : s.wblock = 0) (hw : s.wt = c.lastPc)
      (hx : s.status = some st) : Step c s .wtDone { s with wt := .done st }
  | cReadNull {k : Nat} {lim : Option Nat} {blk : Nat} {r : List CAct} (hs : s.script = .copy lim blk .null :: r)
      (hst : s.status = none) (hpe : s.pend = []) (h1 : 1 ≤ k) (hk : k ≤ blk) (hl : k ≤ s.pin.length)
      (hlim : limOk lim k = true) :
      Step c s (.cRead k) { s with pin := s.pin.drop k, nin := s.nin - k, got := s.got ++ s.pin.take k,
                                   script := .copy (limSub lim k) blk .null :: r, sunk := s.sunk + k }
  | cReadTo {k : Nat} {lim : Option Nat} {blk : Nat} {dst : Dst} {r : List CAct}
      (hs : s.script = .copy lim blk dst :: r) (hst : s.status = none) (hpe : s.pend = []) (h1 : 1 ≤ k)
      (hk : k ≤ blk) (hl : k ≤ s.pin.length) (hlim : limOk lim k = true) (hdst : dst ≠ .null) :
      Step c s (.cRead k) { s with pin := s.pin.drop k, nin := s.nin - k, got := s.got ++ s.pin.take k,
                                   script := .copy (limSub lim k) blk dst :: r, pend := s.pin.take k, pdst := dst }
  | cEof {lim : Option Nat} {blk : Nat} {dst : Dst} {r : List CAct} (hs : s.script = .copy lim blk dst :: r)
      (hst : s.status = none) (hpe : s.pend = []) (hp : s.pin = []) (hc : s.wclosed = true) (hlim : lim ≠ some 0) :
      Step c s .cEof { s with script := r }
  | cWriteOut {k : Nat} (hst : s.status = none) (h1 : 1 ≤ k) (hl : k ≤ s.pend.length) (hdst : s.pdst = .out)
      (hcap : s.nout + k ≤ c.capOut) :
      Step c s (.cWrite k) { s with pout := s.pout ++ s.pend.take k, nout := s.nout + k,
                                    cout := s.cout ++ s.pend.take k, pend := s.pend.drop k }
  | cWriteErr {k : Nat} (hst : s.status = none) (h1 : 1 ≤ k) (hl : k ≤ s.pend.length) (hdst : s.pdst = .err)
      (hcap : s.nerr + k ≤ c.capErr) :
      Step c s (.cWrite k) { s with perr := s.perr ++ s.pend.take k, nerr := s.nerr + k,
                                    cerr := s.cerr ++ s.pend.take k, pend := s.pend.drop k }
  | fallOff (hs : s.script = []) (hst : s.status = none) (hpe : s.pend = []) :
      Step c s .cStep { s with script := [], status := some (.exited 0) }
  | copyDone {blk : Nat} {dst : Dst} {r : List CAct} (hs : s.script = .copy (some 0) blk dst :: r)
      (hst : s.status = none) (hpe : s.pend = []) : Step c s .cStep { s with script := r }
  | emitNull {bs : Bytes} {r : List CAct} (hs : s.script = .emit .null bs :: r) (hst : s.status = none)
      (hpe : s.pend = []) : Step c s .cStep { s with script := r }
  | emit {d : Dst} {bs : Bytes} {r : List CAct} (hs : s.script = .emit d bs :: r) (hst : s.status = none)
      (hpe : s.pend = []) (hdst : d ≠ .null) : Step c s .cStep { s with script := r, pend := bs, pdst := d }
  | nop {r : List CAct} (hs : s.script = .nop :: r) (hst : s.status = none) (hpe : s.pend = []) :
      Step c s .cStep { s with script := r }
  | exit {code : Nat} {r : List CAct} (hs : s.script = .exit code :: r) (hst : s.status = none)
      (hpe : s.pend = []) : Step c s .cStep { s with script := [], status := some (.exited code) }
  | kill {sg : Nat} {r : List CAct} (hs : s.script = .kill sg :: r) (hst : s.status = none) (hpe : s.pend = []) :
      Step c s .cStep { s with script := [], status := some (.signaled sg) }

theorem step_some {c : Cfg} {s s' : St} {e : Ev} (h : step c s e = some s') : Step c s e s' := by
  cases e with
  | wr k =>
    obtain ⟨⟨g1, g2, g3, g4, g5, g6, g7, g8⟩, h⟩ := of_ite_none h
    cases h; exact .wr g1 g2 g3 g4 g5 g6 ((atLeast_iff _ _).mp g7) g8
  | wrEpipe =>
    obtain ⟨⟨g1, g2, g3, g4, g5⟩, h⟩ := of_ite_none h
    cases h; exact .wrEpipe g1 g2 g3 g4 g5
  | wclose =>
    obtain ⟨⟨g1, g2, g3, g4⟩, h⟩ := of_ite_none h
    cases h; exact .wclose g1 g2 g3 g4
  | rd d k =>
    cases d with
    | out =>
      obtain ⟨⟨g1, g2, g3, g4, g5, g6⟩, h⟩ := of_ite_none h
      cases h; exact .rdOut g1 g2 g3 g4 g5 ((atLeast_iff _ _).mp g6)
    | err =>
      obtain ⟨⟨g1, g2, g3, g4, g5, g6⟩, h⟩ := of_ite_none h
      cases h; exact .rdErr g1 g2 g3 g4 g5 ((atLeast_iff _ _).mp g6)
    | null => cases h
  | rdEof d =>
    cases d with
    | out =>
      obtain ⟨⟨g1, g2, g3, g4, g5⟩, h⟩ := of_ite_none h
      cases h; exact .rdEofOut g1 g2 g3 g4 g5
    | err =>
      obtain ⟨⟨g1, g2, g3, g4, g5⟩, h⟩ := of_ite_none h
      cases h; exact .rdEofErr g1 g2 g3 g4 g5
    | null => cases h
  | wtStart =>
    obtain ⟨⟨g1, g2, g3⟩, h⟩ := of_ite_none h
    cases h; exact .wtStart g1 g2 g3
  | wtReady =>
    obtain ⟨⟨g1, g2, g3, g4, g5⟩, h⟩ := of_ite_none h
    cases h; exact .wtReady g1 g2 g3 g4 g5
  | wtTake =>
    obtain ⟨⟨g1, g2, g3, g4, g5⟩, h⟩ := of_ite_none h
    cases h; exact .wtTake g1 g2 g3 g4 g5
  | wtDone =>
    obtain ⟨⟨g1, g2, g3⟩, h⟩ := of_ite_none h
    split at h
    · cases h; exact .wtDone g1 g2 g3 ‹_›
    · cases h
  | cRead k =>
    obtain ⟨⟨g1, g2⟩, h⟩ := of_ite_none h
    split at h
    · rename_i lim blk dst r hs
      obtain ⟨⟨g3, g4, g5, g6⟩, h⟩ := of_ite_none h
      have g5 := (atLeast_iff _ _).mp g5
      cases dst <;> cases h
      · exact .cReadTo hs g1 g2 g3 g4 g5 g6 nofun
      · exact .cReadTo hs g1 g2 g3 g4 g5 g6 nofun
      · exact .cReadNull hs g1 g2 g3 g4 g5 g6
    · cases h
  | cEof =>
    obtain ⟨⟨g1, g2, g3, g4⟩, h⟩ := of_ite_none h
    split at h
    · split at h
      · cases h
      · cases h; exact .cEof ‹_› g1 g2 g3 g4 ‹_›
    · cases h
  | cWrite k =>
    obtain ⟨⟨g1, g2, g3⟩, h⟩ := of_ite_none h
    have g3 := (atLeast_iff _ _).mp g3
    split at h
    · obtain ⟨g4, h⟩ := of_ite_none h
      cases h; exact .cWriteOut g1 g2 g3 ‹_› g4
    · obtain ⟨g4, h⟩ := of_ite_none h
      cases h; exact .cWriteErr g1 g2 g3 ‹_› g4
    · cases h
  | cStep =>
    obtain ⟨⟨g1, g2⟩, h⟩ := of_ite_none h
    split at h
    · rename_i hs; cases h; rw [hs]; exact .fallOff hs g1 g2
    · split at h
      · rename_i hs hl; cases h; subst hl; exact .copyDone hs g1 g2
      · cases h
    · cases h; exact .emitNull ‹_› g1 g2
    · rename_i d bs r hd hs; cases h
      exact .emit hs g1 g2 (fun hn => hd (hn ▸ rfl))
    · cases h; exact .nop ‹_› g1 g2
    · cases h; exact .exit ‹_› g1 g2
    · cases h; exact .kill ‹_› g1 g2

theorem Step.eq {c : Cfg} {s s' : St} {e : Ev} (h : Step c s e s') : step c s e = some s' := by
  cases h <;>
    simp [step, stepWr, stepWrEpipe, stepWclose, stepRd, stepRdEof, stepWtStart, stepWtReady, stepWtTake,
      stepWtDone, stepCRead, stepCEof, stepCWrite, stepCStep, *]

theorem stepRd_null {c : Cfg} {s : St} {k : Nat} : stepRd c s .null k = none := rfl

theorem stepRdEof_null {c : Cfg} {s : St} : stepRdEof c s .null = none := rfl

theorem wScript_cons (a : CAct) (r : List CAct) : wScript (a :: r) = wAct a + wScript r := rfl

theorem mu_decrease {c : Cfg} {s s' : St} {e : Ev} (h : step c s e = some s') : mu s' < mu s := by
  cases step_some h with
  | wr _ he _ _ h1 _ hl => simp [mu, he, List.length_drop]; omega
  | wrEpipe _ he _ hne => have := List.length_pos_iff.mpr hne; simp [mu, he]; omega
  | wclose _ _ hc => simp [mu, b2n, hc]
  | rdOut _ _ _ h1 _ hl | rdErr _ _ _ h1 _ hl => simp [mu, List.length_drop]; omega
  | rdEofOut _ _ hnd | rdEofErr _ _ hnd => simp [mu, b2n, hnd]
  | wtStart _ _ hw | wtReady _ _ _ hw | wtTake _ _ _ hw => simp [mu, hw, wtRank]
  | wtDone _ _ hw => cases hp : c.pidfd <;> simp [mu, hw, wtRank, Cfg.lastPc, hp]
  | cReadNull hs _ hpe h1 _ hl | cReadTo hs _ hpe h1 _ hl =>
    simp [mu, hs, hpe, wScript_cons, wAct, List.length_drop, List.length_take]; omega
  | cWriteOut _ h1 hl | cWriteErr _ h1 hl => simp [mu, List.length_drop, List.length_take]; omega
  | cEof hs | copyDone hs | nop hs => simp [mu, hs, wScript_cons, wAct]
  | emitNull hs => simp [mu, hs, wScript_cons, wAct]; omega
  | emit hs _ hpe => simp [mu, hs, hpe, wScript_cons, wAct]; omega
  | fallOff _ hst | exit _ hst | kill _ hst => simp [mu, hst, b2n, wScript]; omega

theorem run_nil (c : Cfg) (s : St) : run c s [] = some s := rfl

theorem run_cons (c : Cfg) (s : St) (e : Ev) (es : List Ev) :
    run c s (e :: es) = (match step c s e with | some s' => run c s' es | none => none) := rfl

theorem isRun (c : Cfg) : IsRun (step c) (run c) :=
  ⟨fun _ => rfl, fun s e es => by rw [run]; cases step c s e <;> rfl⟩

theorem run_cons_some {c : Cfg} {s s' : St} {e : Ev} {es : List Ev} (h : run c s (e :: es) = some s') :
    ∃ s2, step c s e = some s2 ∧ run c s2 es = some s' :=
  (isRun c).cons_some.1 h

theorem run_append {c : Cfg} {s s1 : St} {es1 es2 : List Ev} (h : run c s es1 = some s1) :
    run c s (es1 ++ es2) = run c s1 es2 :=
  (isRun c).append_of_some h es2

theorem run_induct {c : Cfg} {P : St → Prop} (hstep : ∀ {s s' e}, P s → step c s e = some s' → P s')
    {s s' : St} {es : List Ev} (h0 : P s) (h : run c s es = some s') : P s' :=
  (isRun c).invariant (fun _ _ _ => hstep) h0 h

theorem run_mu {c : Cfg} {s s' : St} {es : List Ev} (h : run c s es = some s') :
    mu s' + es.length ≤ mu s := by
  induction es generalizing s with
  | nil => cases h; exact Nat.le_refl _
  | cons e es ih =>
    obtain ⟨s2, h1, h2⟩ := run_cons_some h
    have := ih h2
    have := mu_decrease h1
    simp only [List.length_cons]; omega

/-- strong count of the `SharedFd<PidFdWrap>` at each point of the wait -/
def refsAt (c : Cfg) : WaitPc → Nat
  | .idle => 1
  | .started => if c.pidfd then 2 else 1
  | .ready => 1
  | .taken => 0
  | .done _ => if c.pidfd then 0 else 1

/-- invariant of every reachable state (`p` = the payload the writer started with) -/
structure Inv (c : Cfg) (p : Bytes) (s : St) : Prop where
  nin : s.nin = s.pin.length
  nout : s.nout = s.pout.length
  nerr : s.nerr = s.perr.length
  capIn : s.pin.length ≤ c.capIn
  capOut : s.pout.length ≤ c.capOut
  capErr : s.perr.length ≤ c.capErr
  sent : s.wsent ++ s.wleft = p
  gotpin : s.got ++ s.pin = s.wsent
  outs : s.rout ++ s.pout = s.cout
  errs : s.rerr ++ s.perr = s.cerr
  epipe : s.wepipe = true → s.status.isSome = true
  epipeLeft : s.wepipe = true → s.wleft ≠ []
  closed : s.wclosed = true → s.wleft = [] ∨ s.wepipe = true
  dead : s.status.isSome = true → s.script = [] ∧ s.pend = []
  pdst : s.pend ≠ [] → s.pdst ≠ .null
  routDone : s.routDone = true → s.status.isSome = true ∧ s.pout = []
  rerrDone : s.rerrDone = true → s.status.isSome = true ∧ s.perr = []
  wtExited : (s.wt = .ready ∨ s.wt = .taken) → s.status.isSome = true
  wtDone : ∀ st, s.wt = .done st → s.status = some st
  refs : s.fdRefs = refsAt c s.wt
  wtPidfd : (s.wt = .ready ∨ s.wt = .taken) → c.pidfd = true
  wblockLe : s.wblock ≤ s.wleft.length
  wblockNB : c.blocking = false → s.wblock = 0
  wblockOpen : 0 < s.wblock → s.wepipe = false ∧ s.wclosed = false ∧ depsOk c s .W = true

theorem inv_init (c : Cfg) (script : List CAct) (payload : Bytes) (b : Bool) :
    Inv c (init script payload b).wleft (init script payload b) := by
  constructor <;> simp [init, refsAt] <;> intro h1 h2 <;> simp_all

theorem offered_le {c : Cfg} {s : St} (h : s.wblock ≤ s.wleft.length) : offered c s ≤ s.wleft.length := by
  unfold offered; split
  · simp [List.length_take]; omega
  · omega

theorem one_le_offered {c : Cfg} {s : St} (hw : 0 < c.wchunk) (hne : s.wleft ≠ []) : 1 ≤ offered c s := by
  have := List.length_pos_iff.mpr hne
  unfold offered; split
  · rw [List.length_take]; omega
  · omega

theorem unset_elim {b : Bool} {P : Prop} (h0 : b = false) (h : b = true) : P :=
  absurd h (ne_true_of_eq_false h0)

theorem alive_elim {α : Type} {o : Option α} {P : Prop} (h0 : o = none) (h : o.isSome = true) : P := by
  rw [h0] at h; cases h

theorem wblock_free {n : Nat} {P : Prop} (h0 : n = 0) (h : 0 < n) : P := by omega

/-- `k` bytes leave a pipe (`n` its fill level, `rd` what was taken out before, `cw` what was put in): the three
clauses of `Inv` about that pipe, for stdin, stdout and stderr alike. -/
theorem pipe_pop {rd pipe cw : Bytes} {n cap : Nat} (k : Nat) (hn : n = pipe.length) (hc : pipe.length ≤ cap)
    (he : rd ++ pipe = cw) :
    n - k = (pipe.drop k).length ∧ (pipe.drop k).length ≤ cap ∧ rd ++ pipe.take k ++ pipe.drop k = cw := by
  rw [List.length_drop, List.append_assoc, List.take_append_drop]
  exact ⟨by rw [hn], by omega, he⟩

theorem pipe_push {rd pipe cw src : Bytes} {n cap k : Nat} (hn : n = pipe.length) (he : rd ++ pipe = cw)
    (hl : k ≤ src.length) (hcap : n + k ≤ cap) :
    n + k = (pipe ++ src.take k).length ∧ (pipe ++ src.take k).length ≤ cap ∧
      rd ++ (pipe ++ src.take k) = cw ++ src.take k := by
  rw [List.length_append, List.length_take_of_le hl, ← List.append_assoc, he, ← hn]
  exact ⟨rfl, hcap, rfl⟩

/-- The clauses listed in each case are those that mention a field the step changes. -/
theorem inv_step {c : Cfg} {p : Bytes} {s s' : St} {e : Ev} (hi : Inv c p s) (h : step c s e = some s') :
    Inv c p s' := by
  cases step_some h with
  | wr hd he hc _ _ _ hl hcap =>
    have hoff := offered_le (c := c) hi.wblockLe
    obtain ⟨a, b, e⟩ := pipe_push hi.nin hi.gotpin hl hcap
    exact { hi with
      nin := a, capIn := b, gotpin := e
      sent := by rw [List.append_assoc, List.take_append_drop]; exact hi.sent
      epipeLeft := unset_elim he
      closed := unset_elim hc
      wblockLe := by dsimp only; rw [List.length_drop]; split <;> omega
      wblockNB := fun hb => if_neg (ne_true_of_eq_false hb)
      wblockOpen := fun _ => ⟨he, hc, hd⟩ }
  | wrEpipe _ _ hc hne hx =>
    exact { hi with
      epipe := fun _ => hx
      epipeLeft := fun _ => hne
      closed := unset_elim hc
      wblockLe := Nat.zero_le _
      wblockNB := fun _ => rfl
      wblockOpen := wblock_free rfl }
  | wclose _ hb _ hq => exact { hi with closed := fun _ => hq, wblockOpen := wblock_free hb }
  | @rdOut k _ _ hnd =>
    obtain ⟨a, b, e⟩ := pipe_pop k hi.nout hi.capOut hi.outs
    exact { hi with nout := a, capOut := b, outs := e, routDone := unset_elim hnd }
  | @rdErr k _ _ hnd =>
    obtain ⟨a, b, e⟩ := pipe_pop k hi.nerr hi.capErr hi.errs
    exact { hi with nerr := a, capErr := b, errs := e, rerrDone := unset_elim hnd }
  | rdEofOut _ hb _ hp hx => exact { hi with routDone := fun _ => ⟨hx, hp⟩, wblockOpen := wblock_free hb }
  | rdEofErr _ hb _ hp hx => exact { hi with rerrDone := fun _ => ⟨hx, hp⟩, wblockOpen := wblock_free hb }
  | wtStart _ hb hw =>
    exact { hi with
      wtExited := by rintro (h | h) <;> cases h
      wtDone := nofun
      refs := by dsimp only; rw [hi.refs, hw]; cases hpf : c.pidfd <;> simp [refsAt, hpf]
      wtPidfd := by rintro (h | h) <;> cases h
      wblockOpen := wblock_free hb }
  | wtReady _ hb hpf hw hx =>
    exact { hi with
      wtExited := fun _ => hx
      wtDone := nofun
      refs := by rw [hi.refs, hw]; simp [refsAt, hpf]
      wtPidfd := fun _ => hpf
      wblockOpen := wblock_free hb }
  | wtTake _ hb hpf hw =>
    exact { hi with
      wtExited := fun _ => hi.wtExited (Or.inl hw)
      wtDone := nofun
      refs := rfl
      wtPidfd := fun _ => hpf
      wblockOpen := wblock_free hb }
  | wtDone _ hb hw hx =>
    exact { hi with
      wtExited := by rintro (h | h) <;> cases h
      wtDone := fun st h => by cases h; exact hx
      refs := by rw [hi.refs, hw]; cases hpf : c.pidfd <;> simp [refsAt, Cfg.lastPc, hpf]
      wtPidfd := by rintro (h | h) <;> cases h
      wblockOpen := wblock_free hb }
  | @cReadNull k _ _ _ _ hst =>
    obtain ⟨a, b, e⟩ := pipe_pop k hi.nin hi.capIn hi.gotpin
    exact { hi with nin := a, capIn := b, gotpin := e, dead := alive_elim hst }
  | @cReadTo k _ _ _ _ _ hst _ _ _ _ _ hdst =>
    obtain ⟨a, b, e⟩ := pipe_pop k hi.nin hi.capIn hi.gotpin
    exact { hi with nin := a, capIn := b, gotpin := e, dead := alive_elim hst, pdst := fun _ => hdst }
  | cWriteOut hst _ hl hdst hcap =>
    obtain ⟨a, b, e⟩ := pipe_push hi.nout hi.outs hl hcap
    exact { hi with
      nout := a, capOut := b, outs := e
      dead := alive_elim hst
      pdst := fun _ h => by rw [hdst] at h; cases h
      routDone := fun h => alive_elim hst (hi.routDone h).1 }
  | cWriteErr hst _ hl hdst hcap =>
    obtain ⟨a, b, e⟩ := pipe_push hi.nerr hi.errs hl hcap
    exact { hi with
      nerr := a, capErr := b, errs := e
      dead := alive_elim hst
      pdst := fun _ h => by rw [hdst] at h; cases h
      rerrDone := fun h => alive_elim hst (hi.rerrDone h).1 }
  | cEof _ hst | copyDone _ hst | emitNull _ hst | nop _ hst => exact { hi with dead := alive_elim hst }
  | emit _ hst _ hdst => exact { hi with dead := alive_elim hst, pdst := fun _ => hdst }
  | fallOff _ hst hpe | exit _ hst hpe | kill _ hst hpe =>
    exact { hi with
      epipe := fun _ => rfl
      dead := fun _ => ⟨rfl, hpe⟩
      routDone := fun h => alive_elim hst (hi.routDone h).1
      rerrDone := fun h => alive_elim hst (hi.rerrDone h).1
      wtExited := fun _ => rfl
      wtDone := fun st h => alive_elim hst (by rw [hi.wtDone st h]; rfl) }

theorem inv_run {c : Cfg} {p : Bytes} {s s' : St} {es : List Ev} (hi : Inv c p s) (h : run c s es = some s') :
    Inv c p s' :=
  run_induct inv_step hi h

theorem inv_reach {c : Cfg} {script : List CAct} {payload : Bytes} {b : Bool} {es : List Ev} {s : St}
    (hr : run c (init script payload b) es = some s) : Inv c (init script payload b).wleft s :=
  inv_run (inv_init c script payload b) hr

theorem limTake_split {lim : Option Nat} {k : Nat} (inp : Bytes) (h : limOk lim k = true) :
    limTake lim inp = inp.take k ++ limTake (limSub lim k) (inp.drop k) := by
  cases lim with
  | none => simp [limTake, limSub]
  | some n =>
    simp [limOk] at h
    simp only [limTake, limSub]
    have : n = k + (n - k) := by omega
    conv => lhs; rw [this, List.take_add]

theorem limDrop_split {lim : Option Nat} {k : Nat} (inp : Bytes) (h : limOk lim k = true) :
    limDrop lim inp = limDrop (limSub lim k) (inp.drop k) := by
  cases lim with
  | none => simp [limDrop, limSub]
  | some n =>
    simp [limOk] at h
    simp only [limDrop, limSub, List.drop_drop]
    congr 1; omega

@[simp] theorem limTake_nil (lim : Option Nat) : limTake lim [] = [] := by cases lim <;> simp [limTake]
@[simp] theorem limDrop_nil (lim : Option Nat) : limDrop lim [] = [] := by cases lim <;> simp [limDrop]
@[simp] theorem limTake_zero (inp : Bytes) : limTake (some 0) inp = [] := by simp [limTake]
@[simp] theorem limDrop_zero (inp : Bytes) : limDrop (some 0) inp = inp := by simp [limDrop]

@[simp] theorem Den.read_nil (d : Den) (dst : Dst) : d.read dst [] = d := by
  cases dst <;> simp [Den.read, Den.emit]

theorem den_alive {s : St} (h : s.status = none) :
    den s = ⟨s.cout ++ pendFor s .out ++ (denS s.script (s.pin ++ s.wleft)).out,
             s.cerr ++ pendFor s .err ++ (denS s.script (s.pin ++ s.wleft)).err,
             s.got ++ (denS s.script (s.pin ++ s.wleft)).got,
             s.sunk + (denS s.script (s.pin ++ s.wleft)).sunk,
             (denS s.script (s.pin ++ s.wleft)).st⟩ := by
  simp [den, h]

theorem den_dead {s : St} {st : Status} (h : s.status = some st) :
    den s = ⟨s.cout, s.cerr, s.got, s.sunk, st⟩ := by
  simp [den, h]

/-- Every step conserves `den`: `wr` moves bytes from `wleft` to `pin`, which `den` reads only concatenated; a step of
the child performs what `denS` foresees for the head of the script; the parent's other steps touch nothing `den` reads
(the closing `rfl`). -/
theorem den_step {c : Cfg} {p : Bytes} {s s' : St} {e : Ev} (hi : Inv c p s) (h : step c s e = some s') :
    den s' = den s := by
  cases step_some h with
  | wr _ _ _ hst => simp [den, hst, pendFor, List.append_assoc]
  | cReadNull hs hst hpe _ _ hl hlim =>
    simp [den, hst, pendFor, hpe, hs, denS, limTake_split (s.pin ++ s.wleft) hlim,
      limDrop_split (s.pin ++ s.wleft) hlim, List.take_append_of_le_length hl, List.drop_append_of_le_length hl,
      Den.read, List.append_assoc, List.length_take]
    omega
  | @cReadTo _ _ _ dst _ hs hst hpe _ _ hl hlim hdst =>
    cases dst with
    | null => exact absurd rfl hdst
    | _ =>
      simp [den, hst, pendFor, hpe, hs, denS, limTake_split (s.pin ++ s.wleft) hlim,
        limDrop_split (s.pin ++ s.wleft) hlim, List.take_append_of_le_length hl,
        List.drop_append_of_le_length hl, Den.read, Den.emit, List.append_assoc]
  | cEof hs hst hpe hp hc =>
    have hw : s.wleft = [] := (hi.closed hc).elim id fun h1 => alive_elim hst (hi.epipe h1)
    simp [den, hst, pendFor, hpe, hp, hw, hs, denS]
  | cWriteOut hst _ _ hdst | cWriteErr hst _ _ hdst => simp [den, hst, pendFor, hdst, List.append_assoc]
  | copyDone hs hst hpe | emitNull hs hst hpe | nop hs hst hpe | fallOff hs hst hpe | exit hs hst hpe
  | kill hs hst hpe => simp [den, hst, hpe, hs, denS, pendFor, Den.emit]
  | @emit d _ _ hs hst hpe hdst => cases d <;> simp [den, hst, pendFor, hpe, hs, denS, Den.emit] at hdst ⊢
  | _ => rfl

theorem den_run {c : Cfg} {p : Bytes} {s s' : St} {es : List Ev} (hi : Inv c p s) (h : run c s es = some s') :
    den s' = den s :=
  (run_induct (P := fun t => Inv c p t ∧ den t = den s)
    (fun ⟨hi, hd⟩ hs => ⟨inv_step hi hs, (den_step hi hs).trans hd⟩) ⟨hi, rfl⟩ h).2

theorem wf_step {c : Cfg} {s s' : St} {e : Ev} (hw : wfScript s.script = true) (h : step c s e = some s') :
    wfScript s'.script = true := by
  cases step_some h with
  | cReadNull hs | cReadTo hs | emitNull hs | emit hs | nop hs => rw [hs] at hw; simpa [wfScript] using hw
  | cEof hs | copyDone hs => rw [hs] at hw; simp [wfScript] at hw; exact hw.2
  | fallOff | exit | kill => rfl
  | _ => exact hw

theorem wf_run {c : Cfg} {s s' : St} {es : List Ev} (hw : wfScript s.script = true) (h : run c s es = some s') :
    wfScript s'.script = true :=
  run_induct (P := fun t => wfScript t.script = true) wf_step hw h

def CanStep (c : Cfg) (s : St) : Prop := ∃ e, (step c s e).isSome = true

theorem Step.can {c : Cfg} {s s' : St} {e : Ev} (h : Step c s e s') : CanStep c s := ⟨e, by rw [h.eq]; rfl⟩

theorem not_stuck_of_canStep {c : Cfg} {s : St} (h : CanStep c s) : ¬ Stuck c s := by
  obtain ⟨e, he⟩ := h
  intro hs; rw [hs e] at he; cases he

/-- sizes that make sense: every pipe holds at least a byte, every operation offers at least a byte -/
structure Cfg.Pos (c : Cfg) : Prop where
  capIn : 0 < c.capIn
  capOut : 0 < c.capOut
  capErr : 0 < c.capErr
  wchunk : 0 < c.wchunk
  rchunk : 0 < c.rchunk

theorem depsOk_iff {c : Cfg} {s : St} {a : Act} :
    depsOk c s a = true ↔ ∀ b, c.plan.deps a b = true → s.done b = true := by
  simp only [depsOk, Bool.and_eq_true, Bool.or_eq_true, Bool.not_eq_true']
  constructor
  · rintro ⟨⟨⟨h1, h2⟩, h3⟩, h4⟩ b hb
    cases b <;> simp_all
  · intro h
    refine ⟨⟨⟨?_, ?_⟩, ?_⟩, ?_⟩ <;> exact (Bool.eq_false_or_eq_true _).symm.imp_right (h _)

theorem depsOk_free {c : Cfg} {s : St} {a : Act} (h : ∀ x, c.plan.deps a x = false) : depsOk c s a = true :=
  depsOk_iff.mpr fun b hb => by rw [h b] at hb; cases hb

theorem Plan.acyclic (pl : Plan) (w ro re wt : Bool) (h : (w && ro && re && wt) = false) :
    let d : Act → Bool := fun | .W => w | .Ro => ro | .Re => re | .Wt => wt
    ∃ a ∈ [Act.W, .Ro, .Re, .Wt], d a = false ∧ ∀ b ∈ [Act.W, .Ro, .Re, .Wt], pl.deps a b = true → d b = true := by
  revert w ro re wt; cases pl <;> decide +kernel

theorem exists_ready (c : Cfg) (s : St) (h : s.completed = false) :
    ∃ a, s.done a = false ∧ depsOk c s a = true := by
  obtain ⟨a, -, h1, h2⟩ := Plan.acyclic c.plan s.wclosed s.routDone s.rerrDone s.wt.isDone h
  exact ⟨a, h1, depsOk_iff.mpr fun b hb => h2 b (by cases b <;> decide) hb⟩

theorem can_rd_out {c : Cfg} {s : St} (hp : c.Pos) (h1 : depsOk c s .Ro = true) (h2 : s.wblock = 0)
    (h3 : s.routDone = false) (h4 : s.pout ≠ []) : CanStep c s :=
  (Step.rdOut (k := 1) h1 h2 h3 (Nat.le_refl 1) hp.rchunk (List.length_pos_iff.mpr h4)).can

theorem can_rd_err {c : Cfg} {s : St} (hp : c.Pos) (h1 : depsOk c s .Re = true) (h2 : s.wblock = 0)
    (h3 : s.rerrDone = false) (h4 : s.perr ≠ []) : CanStep c s :=
  (Step.rdErr (k := 1) h1 h2 h3 (Nat.le_refl 1) hp.rchunk (List.length_pos_iff.mpr h4)).can

theorem can_wr {c : Cfg} {s : St} (hp : c.Pos) (hd : depsOk c s .W = true) (he : s.wepipe = false)
    (hc : s.wclosed = false) (hst : s.status = none) (hl : s.wleft ≠ []) (hroom : s.nin < c.capIn) : CanStep c s :=
  (Step.wr (k := 1) hd he hc hst (Nat.le_refl 1) (one_le_offered hp.wchunk hl) (List.length_pos_iff.mpr hl) hroom).can

theorem Inv.wblock_nil {c : Cfg} {p : Bytes} {s : St} (hi : Inv c p s) (hl : s.wleft = []) : s.wblock = 0 := by
  have := hi.wblockLe
  rw [hl] at this
  exact Nat.le_zero.mp this

theorem can_wait {c : Cfg} {p : Bytes} {s : St} (hi : Inv c p s) (h1 : depsOk c s .Wt = true) (h2 : s.wblock = 0)
    (h3 : s.wt.isDone = false) (h5 : s.status.isSome = true) : CanStep c s := by
  obtain ⟨st, hst⟩ := Option.isSome_iff_exists.mp h5
  cases hw : s.wt with
  | idle => exact (Step.wtStart h1 h2 hw).can
  | started =>
    cases hp : c.pidfd with
    | true => exact (Step.wtReady h1 h2 hp hw h5).can
    | false => exact (Step.wtDone h1 h2 (by simp [hw, Cfg.lastPc, hp]) hst).can
  | ready =>
    have hr := hi.refs
    rw [hw] at hr
    exact (Step.wtTake h1 h2 (hi.wtPidfd (Or.inl hw)) hw hr).can
  | taken => exact (Step.wtDone h1 h2 (by simp [hw, Cfg.lastPc, hi.wtPidfd (Or.inr hw)]) hst).can
  | done st' => simp [hw, WaitPc.isDone] at h3

theorem progress_dead {c : Cfg} {p : Bytes} {s : St} (hp : c.Pos) (hi : Inv c p s)
    (hst : s.status.isSome = true) (hn : s.completed = false) : CanStep c s := by
  by_cases hb : 0 < s.wblock
  · obtain ⟨e1, e2, e3⟩ := hi.wblockOpen hb
    exact (Step.wrEpipe e3 e1 e2 (fun h0 => absurd (hi.wblock_nil h0) (Nat.ne_of_gt hb)) hst).can
  · have hb0 : s.wblock = 0 := by omega
    obtain ⟨a, hd, hr⟩ := exists_ready c s hn
    cases a with
    | W =>
      by_cases hq : s.wleft = [] ∨ s.wepipe = true
      · exact (Step.wclose hr hb0 hd hq).can
      · simp at hq
        exact (Step.wrEpipe hr hq.2 hd hq.1 hst).can
    | Ro =>
      by_cases hq : s.pout = []
      · exact (Step.rdEofOut hr hb0 hd hq hst).can
      · exact can_rd_out hp hr hb0 hd hq
    | Re =>
      by_cases hq : s.perr = []
      · exact (Step.rdEofErr hr hb0 hd hq hst).can
      · exact can_rd_err hp hr hb0 hd hq
    | Wt => exact can_wait hi hr hb0 hd hst

/-- the child is blocked in a write: the pipe it writes to is full -/
def Jammed (c : Cfg) (s : St) : Prop :=
  s.status = none ∧ s.pend ≠ [] ∧
    ((s.pdst = .out ∧ s.nout = c.capOut) ∨ (s.pdst = .err ∧ s.nerr = c.capErr))

/-- the child is blocked in a read: stdin is empty and still open -/
def Starved (s : St) : Prop :=
  s.status = none ∧ s.pend = [] ∧ s.pin = [] ∧ s.wclosed = false ∧
    ∃ lim blk dst r, s.script = .copy lim blk dst :: r ∧ lim ≠ some 0

theorem progress_alive {c : Cfg} {p : Bytes} {s : St} (hi : Inv c p s) (hw : wfScript s.script = true)
    (hst : s.status = none) (hj : ¬ Jammed c s) (hs : ¬ Starved s) : CanStep c s := by
  by_cases hpe : s.pend = []
  · cases hscr : s.script with
    | nil => exact (Step.fallOff hscr hst hpe).can
    | cons a r =>
      cases a with
      | nop => exact (Step.nop hscr hst hpe).can
      | exit code => exact (Step.exit hscr hst hpe).can
      | kill sg => exact (Step.kill hscr hst hpe).can
      | emit d bs =>
        by_cases hd : d = .null
        · exact (Step.emitNull (hd ▸ hscr) hst hpe).can
        · exact (Step.emit hscr hst hpe hd).can
      | copy lim blk dst =>
        by_cases hl : lim = some 0
        · exact (Step.copyDone (hl ▸ hscr) hst hpe).can
        have hblk : 0 < blk := by rw [hscr] at hw; simp [wfScript] at hw; exact hw.1
        by_cases hpin : s.pin = []
        · by_cases hcl : s.wclosed = true
          · exact (Step.cEof hscr hst hpe hpin hcl hl).can
          · exact absurd ⟨hst, hpe, hpin, by simpa using hcl, lim, blk, dst, r, hscr, hl⟩ hs
        · have h1 : 1 ≤ s.pin.length := List.length_pos_iff.mpr hpin
          have h2 : limOk lim 1 = true := by
            cases lim with
            | none => rfl
            | some n => simp at hl; simp [limOk]; omega
          by_cases hd : dst = .null
          · exact (Step.cReadNull (hd ▸ hscr) hst hpe (Nat.le_refl 1) hblk h1 h2).can
          · exact (Step.cReadTo hscr hst hpe (Nat.le_refl 1) hblk h1 h2 hd).can
  · have hd := hi.pdst hpe
    have h1 : 1 ≤ s.pend.length := List.length_pos_iff.mpr hpe
    cases hdst : s.pdst with
    | null => exact absurd hdst hd
    | out =>
      by_cases hf : s.nout = c.capOut
      · exact absurd ⟨hst, hpe, Or.inl ⟨hdst, hf⟩⟩ hj
      · have := hi.capOut; have := hi.nout
        exact (Step.cWriteOut hst (Nat.le_refl 1) h1 hdst (by omega)).can
    | err =>
      by_cases hf : s.nerr = c.capErr
      · exact absurd ⟨hst, hpe, Or.inr ⟨hdst, hf⟩⟩ hj
      · have := hi.capErr; have := hi.nerr
        exact (Step.cWriteErr hst (Nat.le_refl 1) h1 hdst (by omega)).can

theorem Inv.alive {c : Cfg} {p : Bytes} {s : St} (hi : Inv c p s) (hst : s.status = none) :
    s.wepipe = false ∧ s.routDone = false ∧ s.rerrDone = false :=
  ⟨Bool.eq_false_iff.mpr fun h => alive_elim hst (hi.epipe h),
   Bool.eq_false_iff.mpr fun h => alive_elim hst (hi.routDone h).1,
   Bool.eq_false_iff.mpr fun h => alive_elim hst (hi.rerrDone h).1⟩

theorem full_ne_nil {l : Bytes} {n cap : Nat} (hn : n = l.length) (hc : 0 < cap) (hf : n = cap) : l ≠ [] := by
  rintro rfl; exact absurd (hf.symm.trans hn) (Nat.ne_of_gt hc)

theorem jam_out {c : Cfg} {p : Bytes} {s : St} (hp : c.Pos) (hi : Inv c p s) (hst : s.status = none)
    (hf : s.nout = c.capOut) (hb : s.wblock = 0) (hd : depsOk c s .Ro = true) : CanStep c s :=
  can_rd_out hp hd hb (hi.alive hst).2.1 (full_ne_nil hi.nout hp.capOut hf)

theorem jam_err {c : Cfg} {p : Bytes} {s : St} (hp : c.Pos) (hi : Inv c p s) (hst : s.status = none)
    (hf : s.nerr = c.capErr) (hb : s.wblock = 0) (hd : depsOk c s .Re = true) : CanStep c s :=
  can_rd_err hp hd hb (hi.alive hst).2.2 (full_ne_nil hi.nerr hp.capErr hf)

theorem starve_writer {c : Cfg} {p : Bytes} {s : St} (hp : c.Pos) (hi : Inv c p s) (hs : Starved s)
    (hw : depsOk c s .W = true) : CanStep c s := by
  obtain ⟨hst, hpe, hpin, hcl, -⟩ := hs
  by_cases hl : s.wleft = []
  · exact (Step.wclose hw (hi.wblock_nil hl) hcl (Or.inl hl)).can
  · have hnin : s.nin = 0 := by rw [hi.nin, hpin]; rfl
    exact can_wr hp hw (hi.alive hst).1 hcl hst hl (hnin ▸ hp.capIn)

/-- progress: from a reachable state that is not finished some step is possible, unless the child is
blocked on a pipe and the parent cannot serve that pipe -/
theorem progress {c : Cfg} {p : Bytes} {s : St} (hp : c.Pos) (hi : Inv c p s) (hw : wfScript s.script = true)
    (hn : s.completed = false) (hj : Jammed c s → CanStep c s) (hs : Starved s → CanStep c s) : CanStep c s := by
  cases hst : s.status with
  | some st => exact progress_dead hp hi (by simp [hst]) hn
  | none =>
    by_cases h1 : Jammed c s
    · exact hj h1
    · by_cases h2 : Starved s
      · exact hs h2
      · exact progress_alive hi hw hst h1 h2

theorem den_init (script : List CAct) (payload : Bytes) (b : Bool) :
    den (init script payload b) = denS script (init script payload b).wleft := by
  simp [den, init, pendFor]

theorem den_reach {c : Cfg} {script : List CAct} {payload : Bytes} {b : Bool} {es : List Ev} {s : St}
    (hr : run c (init script payload b) es = some s) : den s = denS script (init script payload b).wleft :=
  (den_run (inv_init c script payload b) hr).trans (den_init script payload b)

theorem Inv.wt_done {c : Cfg} {p : Bytes} {s : St} (hi : Inv c p s) (hd : s.wt.isDone = true) :
    ∃ st, s.wt = .done st ∧ s.status = some st := by
  cases hw : s.wt with
  | done st => exact ⟨st, rfl, hi.wtDone st hw⟩
  | _ => rw [hw] at hd; cases hd

theorem Inv.rout_eof {c : Cfg} {p : Bytes} {s : St} (hi : Inv c p s) (h : s.routDone = true) :
    s.status.isSome = true ∧ s.rout = s.cout := by
  have := hi.outs
  rw [(hi.routDone h).2, List.append_nil] at this
  exact ⟨(hi.routDone h).1, this⟩

theorem Inv.rerr_eof {c : Cfg} {p : Bytes} {s : St} (hi : Inv c p s) (h : s.rerrDone = true) :
    s.status.isSome = true ∧ s.rerr = s.cerr := by
  have := hi.errs
  rw [(hi.rerrDone h).2, List.append_nil] at this
  exact ⟨(hi.rerrDone h).1, this⟩

/-- what a finished run leaves, as the caller sees it: the streams read in full, and everything as `D` says -/
structure Outcome (D : Den) (s : St) : Prop where
  rout : s.rout = D.out
  rerr : s.rerr = D.err
  got : s.got = D.got
  sunk : s.sunk = D.sunk
  wt : s.wt = .done D.st
  status : s.status = some D.st
  outAll : s.rout = s.cout
  errAll : s.rerr = s.cerr

theorem completed_den {c : Cfg} {script : List CAct} {payload : Bytes} {b : Bool} {es : List Ev} {s : St}
    (hr : run c (init script payload b) es = some s) (hc : s.completed = true) :
    Outcome (denS script (init script payload b).wleft) s := by
  have hi := inv_reach hr
  simp only [St.completed, Bool.and_eq_true] at hc
  obtain ⟨⟨⟨-, h2⟩, h3⟩, h4⟩ := hc
  obtain ⟨st, hw, hst⟩ := hi.wt_done h4
  have e1 := (hi.rout_eof h2).2
  have e2 := (hi.rerr_eof h3).2
  rw [← den_reach hr, den_dead hst]
  exact ⟨e1, e2, rfl, rfl, hw, hst, e1, e2⟩

theorem Inv.counts {c : Cfg} {p : Bytes} {s : St} (hi : Inv c p s) :
    s.got.length + s.pin.length = s.wsent.length ∧ s.wsent.length + s.wleft.length = p.length ∧
    s.rout.length + s.pout.length = s.cout.length ∧ s.rerr.length + s.perr.length = s.cerr.length := by
  have h1 := congrArg List.length hi.gotpin
  have h2 := congrArg List.length hi.sent
  have h3 := congrArg List.length hi.outs
  have h4 := congrArg List.length hi.errs
  simp only [List.length_append] at h1 h2 h3 h4
  exact ⟨h1, h2, h3, h4⟩

theorem epipe_short {c : Cfg} {p : Bytes} {s : St} (hi : Inv c p s) (he : s.wepipe = true) :
    s.got.length < p.length := by
  have := hi.counts
  have : 0 < s.wleft.length := List.length_pos_iff.mpr (hi.epipeLeft he)
  omega

theorem ok_long {c : Cfg} {p : Bytes} {s : St} (hi : Inv c p s) (hl : s.wleft = []) :
    p.length ≤ s.got.length + c.capIn := by
  have := hi.counts
  have := hi.capIn
  have : s.wleft.length = 0 := congrArg List.length hl
  omega

theorem stuck_completed {c : Cfg} {p : Bytes} {s : St} (hp : c.Pos) (hi : Inv c p s)
    (hw : wfScript s.script = true) (hW : ∀ x, c.plan.deps .W x = false) (hj : Jammed c s → CanStep c s)
    (hs : Stuck c s) : s.completed = true := by
  cases hn : s.completed with
  | true => rfl
  | false =>
    exact absurd hs (not_stuck_of_canStep
      (progress hp hi hw hn hj fun hst => starve_writer hp hi hst (depsOk_free hW)))

theorem out_le_den {s : St} (hst : s.status = none) :
    s.cout.length + (pendFor s .out).length ≤ (den s).out.length ∧
    s.cerr.length + (pendFor s .err).length ≤ (den s).err.length := by
  rw [den_alive hst]
  simp only [List.length_append]
  omega

/-- A pipe is not full while the child is writing to it, if all the child will ever have written (`total`) fits:
the pipe holds part of what was written (`rd ++ pipe = cw`), and `pend` is still to come. -/
theorem room_of_fits {rd pipe cw pend : Bytes} {n cap total : Nat} (hn : n = pipe.length) (he : rd ++ pipe = cw)
    (hp : pend ≠ []) (hb : cw.length + pend.length ≤ total) (hfit : total ≤ cap) : n ≠ cap := by
  have := List.length_pos_iff.mpr hp
  have e := congrArg List.length he
  rw [List.length_append] at e
  omega

/-- no `write` ever keeps the runtime thread waiting: io_uring, or the whole payload fits into the stdin pipe -/
def NoWait (c : Cfg) (p : Bytes) : Prop := c.blocking = false ∨ p.length ≤ c.capIn

theorem thread_free {c : Cfg} {p : Bytes} {s : St} (hp : c.Pos) (hi : Inv c p s) (hst : s.status = none)
    (hn : NoWait c p) : s.wblock = 0 ∨ CanStep c s := by
  rcases hn with hn | hn
  · exact Or.inl (hi.wblockNB hn)
  · by_cases hb : s.wblock = 0
    · exact Or.inl hb
    · obtain ⟨e1, e2, e3⟩ := hi.wblockOpen (by omega)
      have := hi.counts
      have := hi.wblockLe
      have := hi.nin
      exact Or.inr (can_wr hp e3 e1 e2 hst (List.length_pos_iff.mp (by omega)) (by omega))

theorem stuck_completed_streams {c : Cfg} {p : Bytes} {s : St} (hp : c.Pos) (hi : Inv c p s)
    (hw : wfScript s.script = true) (hW : ∀ x, c.plan.deps .W x = false)
    (ho : ((∀ x, c.plan.deps .Ro x = false) ∧ NoWait c p) ∨ (den s).out.length ≤ c.capOut)
    (he : ((∀ x, c.plan.deps .Re x = false) ∧ NoWait c p) ∨ (den s).err.length ≤ c.capErr)
    (hs : Stuck c s) : s.completed = true := by
  refine stuck_completed hp hi hw hW ?_ hs
  rintro ⟨hst, hpe, ⟨hd, hf⟩ | ⟨hd, hf⟩⟩
  · rcases ho with ⟨ho, hn⟩ | ho
    · exact (thread_free hp hi hst hn).elim (jam_out hp hi hst hf · (depsOk_free ho)) id
    · have hb := (out_le_den hst).1
      rw [pendFor, if_pos hd] at hb
      exact absurd hf (room_of_fits hi.nout hi.outs hpe hb ho)
  · rcases he with ⟨he, hn⟩ | he
    · exact (thread_free hp hi hst hn).elim (jam_err hp hi hst hf · (depsOk_free he)) id
    · have hb := (out_le_den hst).2
      rw [pendFor, if_pos hd] at hb
      exact absurd hf (room_of_fits hi.nerr hi.errs hpe hb he)

/-- statements that neither read nor write -/
def quiet : List CAct → Bool
  | [] => true
  | .nop :: r => quiet r
  | .exit _ :: r => quiet r
  | .kill _ :: r => quiet r
  | _ => false

/-- The child is `copy none blk out` (`cat`, `dd bs=blk`) followed by statements without io (`shape`); what it has
read is what it has written to stdout followed by its buffer `pend`, which holds at most `blk` bytes (`acct`,
`pendLen`). -/
structure CatInv (blk : Nat) (s : St) : Prop where
  shape : (∃ tail, s.script = .copy none blk .out :: tail ∧ quiet tail = true) ∨ quiet s.script = true
  acct : s.got = s.cout ++ s.pend
  pendOut : s.pend ≠ [] → s.pdst = .out
  pendLen : s.pend.length ≤ blk

theorem catInv_init (blk : Nat) (tail : List CAct) (hq : quiet tail = true) (payload : Bytes) (b : Bool) :
    CatInv blk (init (.copy none blk .out :: tail) payload b) :=
  ⟨Or.inl ⟨tail, rfl, hq⟩, rfl, fun h => absurd rfl h, Nat.zero_le _⟩

theorem catInv_step {c : Cfg} {blk : Nat} {s s' : St} {e : Ev} (hi : CatInv blk s) (h : step c s e = some s') :
    CatInv blk s' := by
  obtain ⟨i1, i2, i3, i4⟩ := hi
  cases step_some h with
  | cReadNull hs | copyDone hs | emitNull hs | emit hs =>
    rcases i1 with ⟨tail, ht, -⟩ | hq
    · rw [hs] at ht; cases ht
    · rw [hs] at hq; cases hq
  | cReadTo hs _ hpe _ hk hl =>
    rcases i1 with ⟨tail, ht, hq⟩ | hq
    · rw [hs] at ht; cases ht
      exact ⟨Or.inl ⟨_, rfl, hq⟩, by simp [i2, hpe], fun _ => rfl, by simp [List.length_take]; omega⟩
    · rw [hs] at hq; cases hq
  | cEof hs =>
    refine ⟨?_, i2, i3, i4⟩
    rcases i1 with ⟨tail, ht, hq⟩ | hq
    · rw [hs] at ht; cases ht; exact Or.inr hq
    · rw [hs] at hq; cases hq
  | cWriteOut _ _ _ hdst =>
    exact ⟨i1, by simp [i2, List.append_assoc], fun _ => hdst, by simp [List.length_drop]; omega⟩
  | cWriteErr _ h1 hl hdst =>
    have hne : s.pend ≠ [] := fun h0 => by rw [h0] at hl; exact absurd (Nat.le_trans h1 hl) (by decide)
    rw [i3 hne] at hdst; cases hdst
  | nop hs =>
    rcases i1 with ⟨tail, ht, -⟩ | hq
    · rw [hs] at ht; cases ht
    · rw [hs] at hq; exact ⟨Or.inr hq, i2, i3, i4⟩
  | fallOff | exit | kill => exact ⟨Or.inr rfl, i2, i3, i4⟩
  | _ => exact ⟨i1, i2, i3, i4⟩

theorem catInv_run {c : Cfg} {blk : Nat} {s s' : St} {es : List Ev} (hi : CatInv blk s) (h : run c s es = some s') :
    CatInv blk s' :=
  run_induct catInv_step hi h

theorem cat_count {c : Cfg} {p : Bytes} {blk : Nat} {s : St} (hi : Inv c p s) (hc : CatInv blk s) :
    p.length = s.wleft.length + s.pin.length + s.pend.length + s.pout.length + s.rout.length := by
  have := hi.counts
  have h4 := congrArg List.length hc.acct
  rw [List.length_append] at h4
  omega

theorem stuck_completed_cat {c : Cfg} {p : Bytes} {blk : Nat} {s : St} (hp : c.Pos) (hi : Inv c p s)
    (hc : CatInv blk s) (hw : wfScript s.script = true) (hpl : p.length ≤ c.capIn + c.capOut)
    (hW : ∀ x, c.plan.deps .W x = false) (hRo : ∀ x, c.plan.deps .Ro x = true → x = .W)
    (hs : Stuck c s) : s.completed = true := by
  refine stuck_completed hp hi hw hW ?_ hs
  rintro ⟨hst, hpe, hh⟩
  have hd := hc.pendOut hpe
  have hfull : s.nout = c.capOut := by
    rcases hh with ⟨-, hf⟩ | ⟨he, -⟩
    · exact hf
    · rw [hd] at he; cases he
  cases hcl : s.wclosed with
  | true =>
    have hb : s.wblock = 0 := Nat.eq_zero_of_not_pos fun hb => by
      have := (hi.wblockOpen hb).2.1; rw [hcl] at this; cases this
    exact jam_out hp hi hst hfull hb (depsOk_iff.mpr fun b hb => by cases hRo b hb; exact hcl)
  | false =>
    by_cases hl : s.wleft = []
    · exact (Step.wclose (depsOk_free hW) (hi.wblock_nil hl) hcl (Or.inl hl)).can
    · have h1 : 1 ≤ s.wleft.length := List.length_pos_iff.mpr hl
      have h2 : 1 ≤ s.pend.length := List.length_pos_iff.mpr hpe
      have hcount := cat_count hi hc
      have := hi.nout
      have := hi.nin
      exact can_wr hp (depsOk_free hW) (hi.alive hst).1 hcl hst hl (by omega)

/-- the child lives, its stdin is open, and it copies stdin to `dst` until end of file -/
structure Reading (blk : Nat) (dst : Dst) (s : St) : Prop where
  alive : s.status = none
  open_ : s.wclosed = false
  shape : ∃ tail, s.script = .copy none blk dst :: tail

theorem Reading.unfinished {blk : Nat} {dst : Dst} {s : St} (hk : Reading blk dst s) : s.completed = false := by
  simp [St.completed, hk.open_]

theorem reading_step {c : Cfg} {blk : Nat} {dst : Dst} {s s' : St} {e : Ev} (hk : Reading blk dst s)
    (h : step c s e = some s') (hne : e ≠ .wclose) : Reading blk dst s' := by
  obtain ⟨k1, k2, tail, k3⟩ := hk
  cases step_some h with
  | wclose => exact absurd rfl hne
  | cReadNull hs | cReadTo hs => rw [hs] at k3; cases k3; exact ⟨k1, k2, _, rfl⟩
  | cEof _ _ _ _ hc => rw [k2] at hc; cases hc
  | fallOff hs | copyDone hs | emitNull hs | emit hs | nop hs | exit hs | kill hs => rw [hs] at k3; cases k3
  | _ => exact ⟨k1, k2, tail, k3⟩

/-- The deadlocks of this file all have this form: a child that copies stdin until end of file lives, with its stdin
open, along every run on which an auxiliary property `A`, itself kept by the steps, keeps the close of stdin from
firing. -/
theorem reading_run {c : Cfg} {p : Bytes} {blk : Nat} {dst : Dst} {A : St → Prop}
    (hno : ∀ {s}, Inv c p s → Reading blk dst s → A s → stepWclose c s = none)
    (hA : ∀ {s s' e}, Inv c p s → Reading blk dst s → A s → step c s e = some s' → A s')
    {s s' : St} {es : List Ev} (hi : Inv c p s) (hk : Reading blk dst s) (ha : A s)
    (h : run c s es = some s') : Reading blk dst s' ∧ A s' :=
  (run_induct (P := fun t => Inv c p t ∧ Reading blk dst t ∧ A t)
    (fun ⟨hi, hk, ha⟩ hs =>
      ⟨inv_step hi hs, reading_step hk hs (by rintro rfl; cases (hno hi hk ha).symm.trans hs), hA hi hk ha hs⟩)
    ⟨hi, hk, ha⟩ h).2

/-- The child echoes, the parent has read nothing from stdout, and `A` rules every `read` of stdout out: the reader
has not started (plan `seq`, `noread_seq`), or the runtime thread sits in one `write(2)` of the whole payload
(polling driver, `OneWrite`). -/
structure Unread (blk : Nat) (A : St → Prop) (s : St) : Prop where
  cat : CatInv blk s
  noRead : s.rout = []
  aux : A s

theorem unread_wleft {c : Cfg} {p : Bytes} {blk : Nat} {s : St} (hi : Inv c p s) (hc : CatInv blk s)
    (hn : s.rout = []) (hbig : c.capIn + blk + c.capOut < p.length) : s.wleft ≠ [] := by
  intro h0
  have h1 := cat_count hi hc
  have := hi.capIn
  have := hi.capOut
  have := hc.pendLen
  simp only [hn, h0, List.length_nil] at h1
  omega

/-- `hA` may use that the writer still holds bytes after the step. -/
theorem unread_run {c : Cfg} {p : Bytes} {blk : Nat} {A : St → Prop}
    (hbig : c.capIn + blk + c.capOut < p.length)
    (hno : ∀ {s}, Inv c p s → CatInv blk s → Reading blk .out s → A s → ∀ k, stepRd c s .out k = none)
    (hA : ∀ {s s' e}, Inv c p s → Reading blk .out s → A s → s'.wleft ≠ [] → step c s e = some s' → A s')
    {s s' : St} {es : List Ev} (hi : Inv c p s) (hc : CatInv blk s) (hk : Reading blk .out s) (hn : s.rout = [])
    (ha : A s) (h : run c s es = some s') :
    s'.completed = false ∧ s'.wclosed = false ∧ s'.rout = [] ∧ s'.status = none := by
  have ⟨hk', hu⟩ := reading_run (A := Unread blk A)
    (fun {s} hi hk hu => by
      have := unread_wleft hi hu.cat hu.noRead hbig
      have := (hi.alive hk.alive).1
      simp [stepWclose, *])
    (fun {s s' e} hi hk hu hs => by
      have hc2 := catInv_step hu.cat hs
      have hn2 : s'.rout = [] := by
        cases step_some hs with
        | @rdOut k => cases (hno hi hu.cat hk hu.aux k).symm.trans hs
        | _ => exact hu.noRead
      exact ⟨hc2, hn2, hA hi hk hu.aux (unread_wleft (inv_step hi hs) hc2 hn2 hbig) hs⟩)
    hi hk ⟨hc, hn, ha⟩ h
  exact ⟨hk'.unfinished, hk'.open_, hu.noRead, hk'.alive⟩

theorem noread_seq {c : Cfg} {s : St} (hseq : c.plan.deps .Ro .W = true) (hcl : s.wclosed = false) (k : Nat) :
    stepRd c s .out k = none := by
  simp [stepRd, depsOk, St.done, hseq, hcl]

/-- polling driver, the whole payload offered in one `write`: either nothing was written yet, or the
runtime thread is inside that `write(2)` until the last byte is in the pipe -/
def OneWrite (s : St) : Prop :=
  (s.wsent = [] ∧ s.wblock = 0) ∨ (s.wblock = s.wleft.length ∧ s.wleft ≠ [])

theorem noread_oneWrite {c : Cfg} {p : Bytes} {blk : Nat} {s : St} (hi : Inv c p s) (hc : CatInv blk s)
    (ho : OneWrite s) (k : Nat) : stepRd c s .out k = none := by
  cases hs : stepRd c s .out k with
  | none => rfl
  | some s' =>
    cases step_some (e := .rd .out k) hs with
    | rdOut _ hb _ h1 _ hl =>
      rcases ho with ⟨hw, -⟩ | ⟨hw, hne⟩
      · have := cat_count hi hc
        have := hi.counts
        have : s.wsent.length = 0 := congrArg List.length hw
        omega
      · have := List.length_pos_iff.mpr hne
        omega

theorem oneWrite_offered {c : Cfg} {p : Bytes} {s : St} (hi : Inv c p s) (hch : p.length ≤ c.wchunk)
    (ho : OneWrite s) : offered c s = s.wleft.length := by
  unfold offered
  rcases ho with ⟨h1, h2⟩ | ⟨h1, h2⟩
  · have := hi.counts
    have : s.wsent.length = 0 := congrArg List.length h1
    rw [if_pos h2, List.length_take]; omega
  · have := List.length_pos_iff.mpr h2
    rw [if_neg (by omega), h1]

theorem oneWrite_step {c : Cfg} {p : Bytes} {s s' : St} {e : Ev} (hi : Inv c p s) (hst : s.status = none)
    (hne' : s'.wleft ≠ []) (hb : c.blocking = true) (hch : p.length ≤ c.wchunk) (ho : OneWrite s)
    (h : step c s e = some s') : OneWrite s' := by
  cases step_some h with
  | wr =>
    refine Or.inr ⟨?_, hne'⟩
    dsimp only
    rw [if_pos hb, oneWrite_offered hi hch ho, List.length_drop]
  | wrEpipe _ _ _ _ hx => exact alive_elim hst hx
  | _ => exact ho

theorem step_wt {c : Cfg} {s s' : St} {e : Ev} (h : step c s e = some s') :
    (e = .wtDone ∧ s.wt.isDone = false ∧ s'.wt.isDone = true) ∨ (e ≠ .wtDone ∧ s'.wt.isDone = s.wt.isDone) := by
  cases step_some h with
  | wtDone _ _ hw =>
    refine Or.inl ⟨rfl, ?_, rfl⟩
    rw [hw]; cases hp : c.pidfd <;> simp [Cfg.lastPc, hp, WaitPc.isDone]
  | wtStart _ _ hw | wtReady _ _ _ hw | wtTake _ _ _ hw => exact Or.inr ⟨nofun, by rw [hw]; rfl⟩
  | _ => exact Or.inr ⟨nofun, rfl⟩

/-- number of completed `wait`s in a schedule -/
def waits (es : List Ev) : Nat := es.count .wtDone

theorem waits_run {c : Cfg} {s s' : St} {es : List Ev} (h : run c s es = some s') :
    b2n s.wt.isDone + waits es = b2n s'.wt.isDone := by
  induction es generalizing s with
  | nil => cases h; rfl
  | cons e es ih =>
    obtain ⟨s2, hs, h2⟩ := run_cons_some h
    have := ih h2
    rcases step_wt hs with ⟨rfl, h0, h1⟩ | ⟨hne, he⟩
    · rw [h1] at this
      rw [h0, waits, List.count_cons_self]
      simp [b2n, waits] at this ⊢
      omega
    · rw [waits, List.count_cons_of_ne hne, ← he]; exact this

/-- the close waits for the wait, the wait for the exit of a child that waits for the close -/
theorem reading_held_run {c : Cfg} {p : Bytes} {blk : Nat} {dst : Dst} {s s' : St} {es : List Ev}
    (hheld : c.plan.deps .W .Wt = true) (hi : Inv c p s) (hk : Reading blk dst s) (hnw : s.wt.isDone = false)
    (h : run c s es = some s') : Reading blk dst s' ∧ s'.wt.isDone = false :=
  reading_run (A := fun s => s.wt.isDone = false)
    (fun _ _ hnw => by simp [stepWclose, depsOk, St.done, hheld, hnw])
    (fun {s s' e} _ hk hnw hs => by
      rcases step_wt hs with ⟨rfl, -, -⟩ | ⟨-, he⟩
      · cases step_some hs with
        | wtDone _ _ _ hx => rw [hk.alive] at hx; cases hx
      · rw [he]; exact hnw)
    hi hk hnw h

/-- a reader that waits for the wait finishes (= the handle is dropped) only after the wait -/
def HeldAfterWait (c : Cfg) (s : St) : Prop :=
  (c.plan.deps .Ro .Wt = true → s.routDone = true → s.wt.isDone = true) ∧
  (c.plan.deps .Re .Wt = true → s.rerrDone = true → s.wt.isDone = true)

theorem heldAfterWait_step {c : Cfg} {s s' : St} {e : Ev} (hh : HeldAfterWait c s) (h : step c s e = some s') :
    HeldAfterWait c s' := by
  have hmono : s.wt.isDone = true → s'.wt.isDone = true := by
    intro hd
    rcases step_wt h with ⟨-, hf, -⟩ | ⟨-, he⟩
    · rw [hd] at hf; cases hf
    · rw [he]; exact hd
  cases step_some h with
  | rdEofOut hd => exact ⟨fun hp _ => depsOk_iff.mp hd _ hp, hh.2⟩
  | rdEofErr hd => exact ⟨hh.1, fun hp _ => depsOk_iff.mp hd _ hp⟩
  | _ => exact ⟨fun a b => hmono (hh.1 a b), fun a b => hmono (hh.2 a b)⟩

theorem heldAfterWait_run {c : Cfg} {s s' : St} {es : List Ev} (hh : HeldAfterWait c s) (h : run c s es = some s') :
    HeldAfterWait c s' :=
  run_induct heldAfterWait_step hh h

theorem heldAfterWait_init (c : Cfg) (script : List CAct) (payload : Bytes) (b : Bool) :
    HeldAfterWait c (init script payload b) :=
  ⟨fun _ => nofun, fun _ => nofun⟩

theorem next_some {c : Cfg} {s s' : St} (h : next c s = some s') : ∃ e, step c s e = some s' := by
  unfold next at h
  obtain ⟨e, -, he⟩ := List.exists_of_findSome?_eq_some h
  exact ⟨e, he⟩

theorem next_none {c : Cfg} {s : St} (h : next c s = none) : ∀ e ∈ candidates c s, step c s e = none := by
  unfold next at h
  exact List.findSome?_eq_none_iff.mp h

theorem fixed_mem_candidates (c : Cfg) (s : St) :
    ∀ e ∈ [Ev.cStep, .cEof, .rdEof .out, .rdEof .err, .wrEpipe, .wclose, .wtStart, .wtReady, .wtTake, .wtDone],
      e ∈ candidates c s := by
  simp [candidates]

/-- If any event can fire, the candidate of the same kind (with the largest transfer) can.
`List.mem_of_getElem? (i := n)`: the candidate stands at position `n` of the list `candidates c s`
(Model/ChildIo.lean, counted from 0: 1 `cWrite`, 2 `cRead`, 4 `rd .out`, 6 `rd .err`, 8 `wr`). The position is
checked by `rfl`; membership decided by unfolding the list is slow to check. -/
theorem candidate_enabled {c : Cfg} {p : Bytes} {s s' : St} {e : Ev} (hi : Inv c p s) (h : step c s e = some s') :
    ∃ e' ∈ candidates c s, (step c s e').isSome = true := by
  have ok : ∀ {e' s''}, Step c s e' s'' → e' ∈ candidates c s → ∃ e' ∈ candidates c s, (step c s e').isSome = true :=
    fun h hm => ⟨_, hm, by rw [h.eq]; rfl⟩
  have self : e ∈ candidates c s → ∃ e' ∈ candidates c s, (step c s e').isSome = true :=
    fun hm => ⟨e, hm, by rw [h]; rfl⟩
  cases e with
  | wr k =>
    cases step_some h with
    | wr hd he hc hst h1 ho hl hcap =>
      have := offered_le (c := c) hi.wblockLe
      exact ok (.wr (k := min (offered c s) (c.capIn - s.nin)) hd he hc hst (by omega) (by omega) (by omega)
        (by omega)) (List.mem_of_getElem? (i := 8) rfl)
  | rd d k =>
    cases step_some h with
    | rdOut hd hb hnd h1 hk hl =>
      have := hi.nout
      exact ok (.rdOut (k := min c.rchunk s.nout) hd hb hnd (by omega) (by omega) (by omega))
        (List.mem_of_getElem? (i := 4) rfl)
    | rdErr hd hb hnd h1 hk hl =>
      have := hi.nerr
      exact ok (.rdErr (k := min c.rchunk s.nerr) hd hb hnd (by omega) (by omega) (by omega))
        (List.mem_of_getElem? (i := 6) rfl)
  | cRead k =>
    have hn := hi.nin
    have key : ∀ {lim blk dst r}, s.script = .copy lim blk dst :: r → 1 ≤ k → k ≤ blk → k ≤ s.pin.length →
        limOk lim k = true →
        ∃ k', .cRead k' ∈ candidates c s ∧ 1 ≤ k' ∧ k' ≤ blk ∧ k' ≤ s.pin.length ∧ limOk lim k' = true := by
      intro lim blk dst r hs h1 hk hl hlim
      cases lim with
      | none =>
        exact ⟨min (min blk s.nin) s.nin, List.mem_of_getElem? (i := 2) (by rw [candidates, hs]; rfl),
          by omega, by omega, by omega, rfl⟩
      | some n =>
        simp only [limOk, decide_eq_true_eq] at hlim ⊢
        exact ⟨min (min blk n) s.nin, List.mem_of_getElem? (i := 2) (by rw [candidates, hs]; rfl),
          by omega, by omega, by omega, by omega⟩
    cases step_some h with
    | cReadNull hs hst hpe h1 hk hl hlim =>
      obtain ⟨k', hm, a1, a2, a3, a4⟩ := key hs h1 hk hl hlim
      exact ok (.cReadNull hs hst hpe a1 a2 a3 a4) hm
    | cReadTo hs hst hpe h1 hk hl hlim hdst =>
      obtain ⟨k', hm, a1, a2, a3, a4⟩ := key hs h1 hk hl hlim
      exact ok (.cReadTo hs hst hpe a1 a2 a3 a4 hdst) hm
  | cWrite k =>
    cases step_some h with
    | cWriteOut hst h1 hl hdst hcap =>
      exact ok (.cWriteOut (k := (s.pend.take (c.capOut - s.nout)).length) hst (by rw [List.length_take]; omega)
        (by rw [List.length_take]; omega) hdst (by rw [List.length_take]; omega))
        (List.mem_of_getElem? (i := 1) (by rw [candidates, hdst]; rfl))
    | cWriteErr hst h1 hl hdst hcap =>
      exact ok (.cWriteErr (k := (s.pend.take (c.capErr - s.nerr)).length) hst (by rw [List.length_take]; omega)
        (by rw [List.length_take]; omega) hdst (by rw [List.length_take]; omega))
        (List.mem_of_getElem? (i := 1) (by rw [candidates, hdst]; rfl))
  | rdEof d =>
    cases d with
    | null => cases h
    | _ => exact self (fixed_mem_candidates c s _ (by decide))
  | _ => exact self (fixed_mem_candidates c s _ (by decide))

theorem next_none_stuck {c : Cfg} {p : Bytes} {s : St} (hi : Inv c p s) (h : next c s = none) : Stuck c s := by
  intro e
  cases hs : step c s e with
  | none => rfl
  | some s' =>
    obtain ⟨e', hm, he'⟩ := candidate_enabled hi hs
    rw [next_none h e' hm] at he'
    cases he'

theorem runCanon_run (c : Cfg) (n : Nat) (s : St) : ∃ es, run c s es = some (runCanon c n s) := by
  induction n generalizing s with
  | zero => exact ⟨[], rfl⟩
  | succ n ih =>
    simp only [runCanon]
    cases hn : next c s with
    | none => exact ⟨[], rfl⟩
    | some s' =>
      obtain ⟨e, he⟩ := next_some hn
      obtain ⟨es, hes⟩ := ih s'
      exact ⟨e :: es, by simp [run, he, hes]⟩

theorem runCanon_stuck {c : Cfg} {p : Bytes} {n : Nat} {s : St} (hi : Inv c p s) (hn : mu s ≤ n) :
    Stuck c (runCanon c n s) := by
  induction n generalizing s with
  | zero =>
    intro e
    cases hs : step c s e with
    | none => exact hs
    | some s' => have := mu_decrease hs; omega
  | succ n ih =>
    simp only [runCanon]
    cases hx : next c s with
    | none => exact next_none_stuck hi hx
    | some s' =>
      obtain ⟨e, he⟩ := next_some hx
      have := mu_decrease he
      exact ih (inv_step hi he) (by omega)

theorem runCanon_of_next_none {c : Cfg} {s : St} (h : next c s = none) (k : Nat) : runCanon c k s = s := by
  cases k with
  | zero => rfl
  | succ k => simp only [runCanon, h]

theorem runCanon_add (c : Cfg) (n k : Nat) (s : St) : runCanon c (n + k) s = runCanon c k (runCanon c n s) := by
  induction n generalizing s with
  | zero => rw [Nat.zero_add]; rfl
  | succ n ih =>
    rw [show n + 1 + k = (n + k) + 1 by omega]
    simp only [runCanon]
    cases hx : next c s with
    | none => exact (runCanon_of_next_none hx k).symm
    | some s' => exact ih s'

theorem runCanon_fuel {c : Cfg} {p : Bytes} {n : Nat} {s : St} (hi : Inv c p s) (hn : mu s ≤ n) (k : Nat) :
    runCanon c (n + k) s = runCanon c n s := by
  rw [runCanon_add]
  exact runCanon_of_next_none (List.findSome?_eq_none_iff.mpr fun e _ => runCanon_stuck hi hn e) k

/-- 2-byte pipes, io_uring, everything concurrent -/
def exCfg : Cfg :=
  { capIn := 2, capOut := 2, capErr := 2, wchunk := 3, rchunk := 1, blocking := false, pidfd := true, plan := .conc }

/-- write everything, then read; stdin pipe 2, stdout pipe 1 -/
def seqCfg : Cfg :=
  { capIn := 2, capOut := 1, capErr := 1, wchunk := 5, rchunk := 5, blocking := false, pidfd := false, plan := .seq }

/-- the polling driver with 1-byte pipes, 4 bytes in one `write`, everything concurrent -/
def f200Cfg : Cfg :=
  { capIn := 1, capOut := 1, capErr := 1, wchunk := 4, rchunk := 4, blocking := true, pidfd := false, plan := .conc }

end Compio.ChildIo
