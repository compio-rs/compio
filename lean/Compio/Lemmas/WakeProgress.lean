/-
Bounded progress of the runtime thread of the wake-up model: it can only block in its wait and a covered wait
returns; its deterministic continuation polls a queued task within an explicit number of steps (`posOf`, `wPc`,
`Advance`, `Due`, `due_progress`) and, after a wake of the main future has returned, starts the next poll of the
main future within `mOf s + 1` steps (`mPc`, `DueM`, `dueM_progress`). Both bounds come from `rtRun_progress`.
-/
import Compio.Lemmas.WakeInv

namespace Compio.Wake
open Compio.TaskWord Compio.Gen

theorem blocked_only_in_wait (s : State) (h : rtStep s .go = none) : s.rt = .wait ∨ s.rt = .xwait := by
  cases hr : s.rt with
  | wait | xwait => simp
  | poll b => cases b <;> simp [rtStep, hr] at h
  | _ =>
    simp only [rtStep, hr, drainDone, afterTick] at h
    (repeat' split at h) <;> simp at h

theorem wait_returns {s : State} (hi : Inv s) (hpc : s.rt = .wait) (hl : s.cfg.loop = .own)
    (hc : cov s = true ∨ covM s = true ∨ s.hot ≠ []) :
    (rtStep s .go).isSome = true ∨ 0 < cnt s inflightP := by
  have hph : phase s.cfg.loop s.rt = .sleep := by simp [hpc, hl, phase]
  have hmph : mphase s.cfg.loop s.rt = .sleep := by simp [hpc, hl, mphase, phase]
  have hz := hi.zeroHot (by simp [hpc, waitPcs])
  have hs := hi.sig hph
  have hk := hi.kq
  have ha := hi.armW
  simp only [cov, covM, hph, hmph, covOf] at hc
  unfold rtStep
  simp only [hpc]
  -- covered at this wait: `needWait = false` (`reset` saw NOTIFIED: first test of the wait), a zero timeout (also what
  -- a hot task gives, `hz`), or NOTIFIED set since the reset; then by `hs` its signal is still in flight (right disjunct)
  -- or the eventfd is readable, which the polling driver tests itself and which, with the notifier's poll live (`ha`),
  -- has posted the completion io_uring tests (`hk`)
  cases hd : s.cfg.drv <;> simp only [hd] at * <;> grind

theorem xwait_returns {s : State} (hi : Inv s) (hpc : s.rt = .xwait)
    (hc : cov s = true ∨ covM s = true ∨ s.hot ≠ []) :
    (rtStep s .go).isSome = true ∨ 0 < cnt s inflightP := by
  have en (h : (s.zero || fdReadable s) = true) : (rtStep s .go).isSome = true := by
    unfold rtStep; simp only [hpc, h]; rfl
  -- covered at this wait: a zero timeout (also what a hot task gives, `zeroHot`), or NOTIFIED set since `flush`'s reset
  have key : s.zero = true ∨ nbit s.flag = true := by
    simp only [cov, covM, covOf, phase, mphase, hpc, Bool.or_eq_true] at hc
    exact hc.elim id (·.elim id fun h => .inl (hi.zeroHot (by rw [hpc]; rfl) h))
  rcases key with hz | hb
  · exact .inl (en (by rw [hz]; rfl))
  -- the signal owed for NOTIFIED is still in flight, or it has made the descriptor readable
  · exact (hi.xsig (by rw [hpc]; rfl) hb).symm.imp (fun hr => en (by rw [hr, Bool.or_true])) id

theorem enabled_of_cov {s : State} (hi : Inv s) (hcov : cov s = true ∨ covM s = true ∨ s.hot ≠ [])
    (hni : cnt s inflightP = 0) : ∃ s', rtStep s .go = some s' := by
  have key : (rtStep s .go).isSome = true := by
    by_cases hw : s.rt = .wait
    · by_cases hl : s.cfg.loop = .own
      · rcases wait_returns hi hw hl hcov with h1 | h1
        · exact h1
        · omega
      · -- external loop: `poll_with(0)` never blocks
        have hl' : s.cfg.loop = .ext := by cases hx : s.cfg.loop <;> simp_all
        unfold rtStep
        simp only [hw]
        cases hd : s.cfg.drv <;> simp only [hl'] <;> (repeat' split) <;> simp_all
    · by_cases hx : s.rt = .xwait
      · rcases xwait_returns hi hx hcov with h1 | h1
        · exact h1
        · omega
      · cases hr : rtStep s .go with
        | some s' => rfl
        | none => rcases blocked_only_in_wait s hr with h1 | h1 <;> contradiction
  exact Option.isSome_iff_exists.1 key

/-- upper bound of the position t will have in the hot list: its index there, or behind everything hot and
behind its predecessors in the sync queue -/
def posOf (s : State) (t : Nat) : Nat :=
  if t ∈ s.hot then s.hot.idxOf t else s.hot.length + s.sync.idxOf t

/-- steps of the tick loop before the next poll of a hot task, L = length of the sync queue -/
def wRun (L : Nat) (nxt : Option Nat) (k : Nat) : Nat :=
  match k, nxt with
  | _ + 1, some _ => 0
  | _, _ => L + 20

def wPoll (L : Nat) : Back → Nat
  | .main => L + 3
  | .task _ nxt k => 1 + wRun L nxt k

/-- number of steps of the runtime thread (upper bound) before the next poll of a hot task starts: the program
points are numbered backwards along the loop from the tick loop with budget and a prefetched id (0), through the
drain (one step per queued id, hence `L`), the poll of the main future, `Driver::poll` and the external loop's
flush; a tick loop that ends at once is one whole iteration away (`L + 20`, see `wRun`) -/
def wPc (L : Nat) : RtPc → Nat
  | .run nxt k => wRun L nxt k
  | .poll b => wPoll L b
  | .lwrite b => 1 + wPoll L b
  | .lcas b => 2 + wPoll L b
  | .lwake b => 3 + wPoll L b
  | .draining (.loc _ b) _ => L + 4 + wPoll L b
  | .drainCheck (.loc _ b) => L + 5 + wPoll L b
  | .draining .tick _ => L + 1
  | .drainCheck .tick => L + 2
  | .mainStart => L + 4
  | .setAwake2 => L + 5
  | .clear => L + 6
  | .consume => L + 7
  | .setAwake1 => L + 8
  | .pswap => L + 9
  | .pclear => L + 10
  | .wait => L + 11
  | .submit => L + 12
  | .arm => L + 13
  | .reset => L + 14
  | .xclear => L + 15
  | .xwait => L + 16
  | .xreset => L + 17
  | .xsubmit => L + 18
  | .xarm => L + 19

def wOf (s : State) : Nat := wPc s.sync.length s.rt

theorem wRun_le (L : Nat) (nxt : Option Nat) (k : Nat) : wRun L nxt k ≤ L + 20 := by
  unfold wRun; split <;> omega

theorem wPoll_le (L : Nat) (b : Back) : wPoll L b ≤ L + 21 := by
  cases b with
  | main => simp [wPoll]
  | task c nxt k => have := wRun_le L nxt k; simp only [wPoll]; omega

theorem wPc_le (L : Nat) (pc : RtPc) : wPc L pc ≤ 2 * L + 26 := by
  have hr := wRun_le L
  have hp := wPoll_le L
  cases pc with
  | run nxt k => have := hr nxt k; simp only [wPc]; omega
  | poll b | lwrite b | lcas b | lwake b => have := hp b; simp only [wPc]; omega
  | drainCheck r | draining r =>
    cases r with
    | tick => simp only [wPc]; omega
    | loc _ b => have := hp b; simp only [wPc]; omega
  | _ => simp only [wPc]; omega

/-- "task t is queued, and nothing but the runtime thread has to move": `flush` arms the notifier, a tick runs at
least one task, t is alive and sits in the hot list or in the sync queue, no waker thread is between taking the
NOTIFIED bit and signalling, none is between its push and its wake-up of the driver. `L0` bounds the sync queue along
the run (`len`), so that `wOf ≤ L0 + 21` pays for a step forward in the hot list (`Advance`). -/
structure Due (L0 : Nat) (s : State) (t : Nat) : Prop where
  inv : Inv s
  fa : s.cfg.flushArms = true
  mpos : 1 ≤ s.cfg.maxInt
  alive : s.dropped t = false ∧ TaskState.isCancelled (s.word t) = false
  queued : t ∈ s.hot ∨ t ∈ s.sync
  noInflight : cnt s inflightP = 0
  noAbout : cnt s aboutP = 0
  len : s.sync.length ≤ L0

theorem due_enabled {L0 : Nat} {s : State} {t : Nat} (h : Due L0 s t) : ∃ s', rtStep s .go = some s' := by
  have hcov : cov s = true ∨ covM s = true ∨ s.hot ≠ [] := by
    rcases h.queued with hq | hq
    · right; right; intro e; rw [e] at hq; cases hq
    · have hne : s.sync ≠ [] := by intro e; rw [e] at hq; cases hq
      rcases h.inv.covSync hne with hc | hc
      · exact Or.inl hc
      · have := h.noAbout; omega
  exact enabled_of_cov h.inv hcov h.noInflight


theorem wRun_head {L M : Nat} {hot : List Nat} {t : Nat} (ht : t ∈ hot) (hm : 1 ≤ M) : wRun L hot.head? M = 0 := by
  cases hot with
  | nil => cases ht
  | cons a l =>
    obtain ⟨m, rfl⟩ : ∃ m, M = m + 1 := ⟨M - 1, by omega⟩
    simp [wRun]

theorem wRun_mono {L L' : Nat} (h : L' ≤ L) (nxt : Option Nat) (k : Nat) : wRun L' nxt k ≤ wRun L nxt k := by
  unfold wRun; split <;> omega

theorem wPoll_mono {L L' : Nat} (h : L' ≤ L) (b : Back) : wPoll L' b ≤ wPoll L b := by
  cases b with
  | main => simp only [wPoll]; omega
  | task c nxt k => have := wRun_mono h nxt k; simp only [wPoll]; omega

theorem posOf_erase_head {s : State} {t x : Nat} {hot' : List Nat} (hh : s.hot.head? = some x) (hx : x ≠ t)
    (hq : t ∈ s.hot ∨ t ∈ s.sync) (he : hot' = s.hot.erase x) :
    (t ∈ hot' ∨ t ∈ s.sync) ∧
    (if t ∈ hot' then hot'.idxOf t else hot'.length + s.sync.idxOf t) < posOf s t := by
  obtain ⟨l, hl⟩ := List.head?_eq_some_iff.1 hh
  have hm : t ∈ s.hot ↔ t ∈ l := by rw [hl, List.mem_cons]; exact or_iff_right fun e => hx e.symm
  have hxb : (x == t) = false := by simpa using hx
  rw [he, posOf, hl, List.erase_cons_head, ← hl]
  by_cases hth : t ∈ l
  · refine ⟨.inl hth, ?_⟩
    rw [if_pos hth, if_pos (hm.2 hth), hl, List.idxOf_cons, hxb]; exact Nat.lt_succ_self _
  · refine ⟨.inr (hq.resolve_left (mt hm.1 hth)), ?_⟩
    rw [if_neg hth, if_neg (mt hm.1 hth), hl, List.length_cons]; omega

theorem posOf_congr {s s' : State} {t : Nat} (h1 : s'.hot = s.hot) (h2 : s'.sync = s.sync) : posOf s' t = posOf s t := by
  simp [posOf, h1, h2]

theorem posOf_hotPush {s : State} {t x : Nat} (ht : t ∈ s.hot) :
    t ∈ hotPush s.dropped s.hot x ∧ ∀ s' : State, s'.hot = hotPush s.dropped s.hot x → posOf s' t = posOf s t :=
  have hm := mem_hotPush.2 (.inl ht)
  ⟨hm, fun s' hh => by simp only [posOf, hh, hm, ht, if_true, idxOf_hotPush x ht]⟩

/-- what one step of the runtime thread achieves for a queued task -/
def Advance (L0 : Nat) (s s' : State) (t : Nat) : Prop :=
  s'.polls t = s.polls t + 1 ∨
  (s'.polls t = s.polls t ∧ s'.cfg = s.cfg ∧ s'.wk = s.wk ∧ s'.dropped t = false ∧
    TaskState.isCancelled (s'.word t) = false ∧ (t ∈ s'.hot ∨ t ∈ s'.sync) ∧ s'.sync.length ≤ L0 ∧
    ((posOf s' t ≤ posOf s t ∧ wOf s' < wOf s) ∨ (posOf s' t < posOf s t ∧ wOf s' ≤ L0 + 21)))

theorem Advance.frame {L0 : Nat} {s s' : State} {t : Nat} (h : Due L0 s t) (hp : s'.polls = s.polls)
    (hc : s'.cfg = s.cfg) (hw : s'.wk = s.wk) (hd : s'.dropped = s.dropped) (hwd : s'.word = s.word)
    (hh : s'.hot = s.hot) (hsy : s'.sync = s.sync) (hlt : wPc s.sync.length s'.rt < wPc s.sync.length s.rt) :
    Advance L0 s s' t :=
  .inr ⟨by rw [hp], hc, hw, by rw [hd]; exact h.alive.1, by rw [hwd]; exact h.alive.2, by rw [hh, hsy]; exact h.queued,
    by rw [hsy]; exact h.len, .inl ⟨Nat.le_of_eq (posOf_congr hh hsy), by simp only [wOf, hsy]; exact hlt⟩⟩

theorem advance_step {L0 : Nat} {s s' : State} {t : Nat} (h : Due L0 s t) (hs : rtStep s .go = some s') :
    Advance L0 s s' t := by
  have hi := h.inv
  have hal := h.alive
  have hq := h.queued
  have hlen := h.len
  have hsync0 := hi.shared.sync_nil
  have hhot0 : s.sync = [] → t ∈ s.hot := fun h0 => hq.resolve_right (by rw [h0]; exact List.not_mem_nil)
  have hmv := rtStep_move hs
  clear hs
  generalize hpc : s.rt = pc at hmv
  cases hmv
  -- nothing to drain, or the drain is over: the tick loop starts at the head of the hot list, and t is in it
  case drainNone hp =>
    exact .frame h rfl rfl rfl rfl rfl rfl rfl
      (by rw [hpc]; simp only [wPc, wRun_head (hhot0 (hsync0 hp)) h.mpos]; omega)
  case drainEnd hsy | drainEndSub hsy _ =>
    exact .frame h rfl rfl rfl rfl rfl rfl rfl (by rw [hpc]; simp only [wPc, wRun_head (hhot0 hsy) h.mpos]; omega)
  -- the same inside a same-thread wake: the woken task goes behind t
  case drainNoneLoc x b hp =>
    have hp' := posOf_hotPush (x := x) (hhot0 (hsync0 hp))
    exact .inr ⟨rfl, rfl, rfl, hal.1, hal.2, .inl hp'.1, hlen, .inl ⟨Nat.le_of_eq (hp'.2 _ rfl), by simp only [wOf, wPc, hpc]; omega⟩⟩
  case drainEndLoc x b hsy | drainEndSubLoc x b _ hsy _ =>
    have hp' := posOf_hotPush (x := x) (hhot0 hsy)
    exact .inr ⟨rfl, rfl, rfl, hal.1, hal.2, .inl hp'.1, hlen, .inl ⟨Nat.le_of_eq (hp'.2 _ rfl), by simp only [wOf, wPc, hpc, subPending]; omega⟩⟩
  case drainSome r hp => exact .frame h rfl rfl rfl rfl rfl rfl rfl (by rw [hpc]; cases r <;> simp only [wPc] <;> omega)
  case drainPop r d x rest hsy =>
    have hlen' : rest.length ≤ L0 := by rw [hsy] at hlen; simp at hlen; omega
    have hw : wPc rest.length (RtPc.draining r (d + 1)) < wPc s.sync.length s.rt := by
      rw [hpc, hsy]
      cases r with
      | tick => simp only [wPc, List.length_cons]; omega
      | loc x b =>
        have := wPoll_mono (Nat.le_add_right rest.length 1) b
        simp only [wPc, List.length_cons]; omega
    by_cases hth : t ∈ s.hot
    · have hp' := posOf_hotPush (x := x) hth
      exact .inr ⟨rfl, rfl, rfl, hal.1, hal.2, .inl hp'.1, hlen', .inl ⟨Nat.le_of_eq (hp'.2 _ rfl), hw⟩⟩
    · have hts : t ∈ s.sync := hq.resolve_left hth
      by_cases hx : x = t
      · subst hx
        have hm : x ∈ hotPush s.dropped s.hot x := mem_hotPush.2 (.inr ⟨rfl, hal.1⟩)
        refine .inr ⟨rfl, rfl, rfl, hal.1, hal.2, .inl hm, hlen', .inl ⟨?_, hw⟩⟩
        simp only [posOf, hm, hth, if_true, if_false, idxOf_hotPush_self hth hal.1, hsy, List.idxOf_cons_self]; omega
      · have hm : t ∉ hotPush s.dropped s.hot x := fun hm => (mem_hotPush.1 hm).elim hth fun e => hx e.1.symm
        have hle := length_hotPush_le (d := s.dropped) (hot := s.hot) x
        have hts' : t ∈ rest := by
          rw [hsy] at hts
          exact (List.mem_cons.1 hts).resolve_left fun e => hx e.symm
        refine .inr ⟨rfl, rfl, rfl, hal.1, hal.2, .inr hts', hlen', .inl ⟨?_, hw⟩⟩
        have hxb : (x == t) = false := by simpa using hx
        simp only [posOf, hm, hth, if_false, hsy, List.idxOf_cons, hxb, cond_false]
        omega
  -- the prefetched id is dropped: impossible, it is the head of the hot list
  case tickGone x k hd =>
    have hh := hi.nxtHead x (by simp [hpc, nxtOf])
    rw [hi.hotLive x (List.mem_of_head? hh)] at hd; cases hd
  case runCancelled x k hnd hc =>
    have hh := hi.nxtHead x (by simp [hpc, nxtOf])
    have hx : x ≠ t := by intro e; subst e; rw [hal.2] at hc; cases hc
    have hxt : ¬ t = x := fun e => hx e.symm
    have hE : (s.hot.erase x).erase x = s.hot.erase x := erase_erase_self hi.hotNodup
    obtain ⟨h1, h2⟩ := posOf_erase_head hh hx hq rfl
    have hw := wRun_le s.sync.length (nextHot s.hot x) k
    refine .inr ⟨rfl, rfl, rfl, by simp [dropTask, startPoll, upd, hxt, hal.1], by simp [dropTask, startPoll, upd, hxt, hal.2],
      by simp only [dropTask, startPoll]; rw [hE]; exact h1, hlen, .inr ⟨?_, ?_⟩⟩
    · simp only [posOf, dropTask, startPoll, hE]; exact h2
    · simp only [wOf, wPc, dropTask, startPoll]; omega
  case runPoll x k hnd hc =>
    have hh := hi.nxtHead x (by simp [hpc, nxtOf])
    by_cases hx : x = t
    · subst hx; left; simp [upd]
    · have hxt : ¬ t = x := fun e => hx e.symm
      obtain ⟨h1, h2⟩ := posOf_erase_head hh hx hq rfl
      have hw := wRun_le s.sync.length (nextHot s.hot x) k
      refine .inr ⟨by simp [upd, hxt], rfl, rfl, hal.1, by simp [startPoll, upd, hxt, hal.2], h1, hlen, .inr ⟨?_, ?_⟩⟩
      · simp only [posOf, startPoll]; exact h2
      · simp only [wOf, wPc, wPoll, startPoll]; omega
  case tickSpent | tickEmpty =>
    refine .frame h rfl rfl rfl rfl rfl rfl rfl ?_
    rw [hpc]; show wPc _ (tickExit s.cfg.loop) < _
    cases s.cfg.loop <;> simp only [wPc, wRun, tickExit] <;> omega
  all_goals exact .frame h rfl rfl rfl rfl rfl rfl rfl (by rw [hpc]; simp only [wPc, wPoll]; omega)


theorem due_next {L0 : Nat} {s s' : State} {t : Nat} (h : Due L0 s t) (hs : rtStep s .go = some s') :
    s'.polls t = s.polls t + 1 ∨
    (Due L0 s' t ∧ s'.polls t = s.polls t ∧
      ((posOf s' t ≤ posOf s t ∧ wOf s' < wOf s) ∨ (posOf s' t < posOf s t ∧ wOf s' ≤ L0 + 21))) := by
  rcases advance_step h hs with h1 | ⟨h1, h2, h3, h4, h5, h6, h7, h8⟩
  · exact Or.inl h1
  · refine Or.inr ⟨?_, h1, h8⟩
    exact { inv := inv_rt s s' .go h.fa h.inv hs, fa := by rw [h2]; exact h.fa, mpos := by rw [h2]; exact h.mpos,
            alive := ⟨h4, h5⟩, queued := h6,
            noInflight := by rw [cnt_congr _ h2 h3]; exact h.noInflight,
            noAbout := by rw [cnt_congr _ h2 h3]; exact h.noAbout, len := h7 }

theorem rtRun_succ {s s' : State} (n : Nat) (hs : rtStep s .go = some s') : rtRun (n + 1) s = rtRun n s' := by
  simp [rtRun, rtNext, hs]

theorem rtRun_progress {D : State → Prop} {f μ : State → Nat} (en : ∀ s, D s → ∃ s', rtStep s .go = some s')
    (nx : ∀ s s', D s → rtStep s .go = some s' → f s' = f s + 1 ∨ (D s' ∧ f s' = f s ∧ μ s' < μ s)) :
    ∀ (r : Nat) (s : State), D s → μ s ≤ r → ∃ n, n ≤ r + 1 ∧ f (rtRun n s) = f s + 1 := by
  intro r
  induction r using Nat.strongRecOn with
  | _ r ih =>
    intro s h hr
    obtain ⟨s', hs⟩ := en s h
    rcases nx s s' h hs with h1 | ⟨h1, h2, h3⟩
    · exact ⟨1, by omega, by rw [rtRun_succ 0 hs]; exact h1⟩
    · obtain ⟨n, hn, hp⟩ := ih (μ s') (by omega) s' h1 (Nat.le_refl _)
      exact ⟨n + 1, by omega, by rw [rtRun_succ n hs, hp, h2]⟩

theorem due_progress {L0 : Nat} (t : Nat) :
    ∀ (r : Nat) (s : State), Due L0 s t → posOf s t * (L0 + 22) + wOf s ≤ r →
      ∃ n, n ≤ r + 1 ∧ (rtRun n s).polls t = s.polls t + 1 :=
  rtRun_progress (D := fun s => Due L0 s t) (f := fun s => s.polls t) (fun _ => due_enabled) fun s s' h hs => by
    rcases due_next h hs with h1 | ⟨h1, h2, h3⟩
    · exact .inl h1
    · refine .inr ⟨h1, h2, ?_⟩
      -- the measure is lexicographic: a step forward in the hot list pays for a whole turn of the loop
      rcases h3 with ⟨ha, hb⟩ | ⟨ha, hb⟩
      · have := Nat.mul_le_mul_right (L0 + 22) ha
        omega
      · have : (posOf s' t + 1) * (L0 + 22) ≤ posOf s t * (L0 + 22) := Nat.mul_le_mul_right _ ha
        rw [Nat.add_mul] at this
        omega

def mPoll (L M : Nat) : Back → Nat
  | .main => L + 2 * M + 19
  | .task _ _ k => 2 * k + 17

/-- number of steps of the runtime thread (upper bound) before it starts the next poll of the main future -/
def mPc (L M : Nat) : RtPc → Nat
  | .mainStart => 0
  | .setAwake2 => 1
  | .clear => 2
  | .consume => 3
  | .setAwake1 => 4
  | .pswap => 5
  | .pclear => 6
  | .wait => 7
  | .submit => 8
  | .arm => 9
  | .reset => 10
  | .xclear => 11
  | .xwait => 12
  | .xreset => 13
  | .xsubmit => 14
  | .xarm => 15
  | .run _ k => 2 * k + 16
  | .poll b => mPoll L M b
  | .lwrite b => 1 + mPoll L M b
  | .lcas b => 2 + mPoll L M b
  | .lwake b => 3 + mPoll L M b
  | .draining (.loc _ b) _ => L + 4 + mPoll L M b
  | .drainCheck (.loc _ b) => L + 5 + mPoll L M b
  | .draining .tick _ => L + 2 * M + 17
  | .drainCheck .tick => L + 2 * M + 18

def mOf (s : State) : Nat := mPc s.sync.length s.cfg.maxInt s.rt

theorem mPoll_mono {L L' : Nat} (h : L' ≤ L) (M : Nat) (b : Back) : mPoll L' M b ≤ mPoll L M b := by
  cases b <;> simp only [mPoll] <;> omega

/-- "a wake of the main future has returned, and nothing but the runtime thread has to move" -/
structure DueM (s : State) : Prop where
  inv : Inv s
  fa : s.cfg.flushArms = true
  woken : s.mainWoken = true
  noInflight : cnt s inflightP = 0

theorem dueM_enabled {s : State} (h : DueM s) : ∃ s', rtStep s .go = some s' :=
  enabled_of_cov h.inv (Or.inr (Or.inl (h.inv.covMain h.woken))) h.noInflight

theorem advanceM_step {s s' : State} (hs : rtStep s .go = some s') :
    s'.mainPolls = s.mainPolls + 1 ∨
    (s'.mainPolls = s.mainPolls ∧ s'.cfg = s.cfg ∧ s'.wk = s.wk ∧ s'.mainWoken = s.mainWoken ∧ mOf s' < mOf s) := by
  have hm := rtStep_move hs
  clear hs
  unfold mOf
  generalize s.rt = pc at hm ⊢
  cases hm
  case mainStart => exact .inl rfl
  all_goals refine .inr ⟨rfl, rfl, rfl, rfl, ?_⟩
  -- one pop: the queue is one shorter, which pays for the step
  case drainPop r d x rest hsy =>
    rw [hsy]
    cases r with
    | tick => simp only [mPc, List.length_cons]; omega
    | loc y b =>
      have := mPoll_mono (Nat.le_add_right rest.length 1) s.cfg.maxInt b
      simp only [mPc, List.length_cons]; omega
  case tickSpent | tickEmpty | tickGone =>
    show mPc _ _ (tickExit s.cfg.loop) < _
    cases s.cfg.loop <;> simp only [mPc, tickExit] <;> omega
  case drainSome r _ => cases r <;> simp only [mPc] <;> omega
  case mainPending | taskPending | runPoll => simp only [mPc, mPoll]; omega
  all_goals simp only [mPc, subPending, kWrite] <;> omega

theorem dueM_progress :
    ∀ (r : Nat) (s : State), DueM s → mOf s ≤ r → ∃ n, n ≤ r + 1 ∧ (rtRun n s).mainPolls = s.mainPolls + 1 :=
  rtRun_progress (f := fun s => s.mainPolls) (fun _ => dueM_enabled) fun s s' h hs => by
    rcases advanceM_step hs with h1 | ⟨h1, h2, h3, h4, h5⟩
    · exact .inl h1
    · exact .inr ⟨{ inv := inv_rt s s' .go h.fa h.inv hs, fa := by rw [h2]; exact h.fa, woken := by rw [h4]; exact h.woken,
                    noInflight := by rw [cnt_congr _ h2 h3]; exact h.noInflight }, h1, h5⟩

end Compio.Wake
