/-
Runs of a partial step function. Every transition-system model defines its own `run` by the same two equations
(`IsRun`); what follows from them alone is proved here once: a run of `es ++ fs` is a run of `es` then one of `fs`,
and what every step preserves every run preserves.
-/

namespace Compio

/-- `run` follows `step` along a list of events and fails where `step` fails. -/
structure IsRun {σ ε : Type} (step : σ → ε → Option σ) (run : σ → List ε → Option σ) : Prop where
  nil : ∀ s, run s [] = some s
  cons : ∀ s e es, run s (e :: es) = (step s e).bind fun s' => run s' es

namespace IsRun
variable {σ ε : Type} {step : σ → ε → Option σ} {run : σ → List ε → Option σ} (h : IsRun step run)
include h

theorem cons_some {s s' : σ} {e : ε} {es : List ε} :
    run s (e :: es) = some s' ↔ ∃ s1, step s e = some s1 ∧ run s1 es = some s' := by
  rw [h.cons, Option.bind_eq_some_iff]

theorem append (s : σ) (es fs : List ε) : run s (es ++ fs) = (run s es).bind fun s' => run s' fs := by
  induction es generalizing s with
  | nil => rw [h.nil]; rfl
  | cons e es ih =>
    rw [List.cons_append, h.cons, h.cons]
    cases step s e with
    | none => rfl
    | some s1 => exact ih s1

theorem append_of_some {s s1 : σ} {es : List ε} (hr : run s es = some s1) (fs : List ε) :
    run s (es ++ fs) = run s1 fs := by
  rw [h.append, hr]; rfl

theorem snoc (s : σ) (es : List ε) (e : ε) : run s (es ++ [e]) = (run s es).bind fun s' => step s' e := by
  rw [h.append]
  congr; funext s'
  rw [h.cons]
  cases step s' e with
  | none => rfl
  | some s1 => exact h.nil s1

theorem induct {P : σ → Prop} {Q : ε → Prop} (hstep : ∀ s e s', P s → Q e → step s e = some s' → P s')
    {s s' : σ} {es : List ε} (h0 : P s) (hq : ∀ e ∈ es, Q e) (hr : run s es = some s') : P s' := by
  induction es generalizing s with
  | nil => rw [h.nil] at hr; cases hr; exact h0
  | cons e es ih =>
    obtain ⟨s1, h1, h2⟩ := h.cons_some.1 hr
    exact ih (hstep s e s1 h0 (hq e List.mem_cons_self) h1) (fun e' he' => hq e' (List.mem_cons_of_mem _ he')) h2

theorem invariant {P : σ → Prop} (hstep : ∀ s e s', P s → step s e = some s' → P s')
    {s s' : σ} {es : List ε} (h0 : P s) (hr : run s es = some s') : P s' :=
  h.induct (Q := fun _ => True) (fun s e s' hp _ => hstep s e s' hp) h0 (fun _ _ => trivial) hr

end IsRun

end Compio
