/- Lemmas for Model/Buffer.lean: `overlay`, `Buffer` and its well-formedness `Buffer.WF`, and the two facts about
vectored reads into fresh buffers that C11 uses: the in-memory `read_vectored` (`memReadVectored_fresh`) and one
round of the default vectored loop (`fillView_filled`), both in terms of the reference `filled`, and both by what
`default_set_len` does to members that hold more than they record (`chunks`, `setLenAll_chunks`). -/
import Compio.Model.Buffer

namespace Compio.Io

@[simp] theorem overlay_nil (d : Bytes) (p : Nat) : overlay d p [] = d := by
  simp [overlay]

theorem overlay_length (d : Bytes) (p : Nat) (x : Bytes) (h : p ≤ d.length) :
    (overlay d p x).length = max d.length (p + x.length) := by
  rw [overlay, List.length_append, List.length_append, List.length_take_of_le h, List.length_drop]
  omega

theorem overlay_overlay (d : Bytes) (p : Nat) (x y : Bytes) (h : p ≤ d.length) :
    overlay (overlay d p x) (p + x.length) y = overlay d p (x ++ y) := by
  have h1 : (d.take p ++ x).length = p + x.length := by
    rw [List.length_append, List.length_take_of_le h]
  unfold overlay
  rw [List.take_left' h1, ← h1, List.drop_length_add_append, List.drop_drop, h1, List.length_append,
    Nat.add_assoc, List.append_assoc, List.append_assoc, List.append_assoc, List.append_assoc]

theorem overlay_zero_append (d x y : Bytes) : overlay (overlay d 0 x) x.length y = overlay d 0 (x ++ y) := by
  simpa using overlay_overlay d 0 x y (Nat.zero_le _)

theorem overlay_at_end (d x : Bytes) : overlay d d.length x = d ++ x := by
  simp [overlay]

theorem overlay_zero_take (d x : Bytes) : overlay d 0 x = x ++ d.drop x.length := by
  simp [overlay]

theorem overlay_getElem?_lt (d : Bytes) (p : Nat) (x : Bytes) (i : Nat) (h : p ≤ d.length) (hi : i < p) :
    (overlay d p x)[i]? = d[i]? := by
  unfold overlay
  rw [List.append_assoc, List.getElem?_append_left (by simp [List.length_take]; omega)]
  simp [hi]

theorem overlay_getElem?_ge (d : Bytes) (p : Nat) (x : Bytes) (i : Nat) (h : p ≤ d.length)
    (hi : p + x.length ≤ i) : (overlay d p x)[i]? = d[i]? := by
  unfold overlay
  have h1 : (d.take p).length = p := List.length_take_of_le h
  rw [List.getElem?_append_right (by simp [h1]; omega)]
  simp only [List.length_append, h1, List.getElem?_drop]
  congr 1
  omega

theorem overlay_getElem?_mid (d : Bytes) (p : Nat) (x : Bytes) (i : Nat) (h : p ≤ d.length)
    (hi : i < x.length) : (overlay d p x)[p + i]? = x[i]? := by
  unfold overlay
  have h1 : (d.take p).length = p := List.length_take_of_le h
  rw [List.append_assoc, List.getElem?_append_right (by simp [h1])]
  simp only [h1, Nat.add_sub_cancel_left]
  rw [List.getElem?_append_left hi]

theorem eq_nil_of_take {s : Bytes} {m : Nat} (hm : 0 < m) (h : (s.take m).length = 0) : s = [] := by
  rw [List.length_take] at h
  exact List.eq_nil_of_length_eq_zero (by omega)

theorem take_length_zero_drop (s : Bytes) (m : Nat) (h : (s.take m).length = 0) : s.drop m = s := by
  rcases Nat.eq_zero_or_pos m with rfl | hm
  · rfl
  · rw [eq_nil_of_take hm h, List.drop_nil]

theorem take_length_zero_take (s : Bytes) (m : Nat) (h : (s.take m).length = 0) : s.take m = [] :=
  List.eq_nil_of_length_eq_zero h

/-- well-formed: `begin <= len <= capacity` (maintained by every operation) -/
def Buffer.WF (b : Buffer) : Prop := b.begin ≤ b.data.length ∧ b.data.length ≤ b.cap

theorem Buffer.withCapacity_wf (c : Nat) : (Buffer.withCapacity c).WF := by
  simp [Buffer.WF, Buffer.withCapacity]

theorem Buffer.reset_wf (b : Buffer) : b.reset.WF := by
  simp [Buffer.WF, Buffer.reset]

@[simp] theorem Buffer.reset_pending (b : Buffer) : b.reset.pending = [] := by
  simp [Buffer.reset, Buffer.pending]

@[simp] theorem Buffer.reset_cap (b : Buffer) : b.reset.cap = b.cap := rfl

theorem Buffer.allDone_iff (b : Buffer) : b.allDone = true ↔ b.pending = [] := by
  rw [Buffer.allDone, decide_eq_true_iff, Buffer.pending, List.drop_eq_nil_iff]

theorem Buffer.pending_length (b : Buffer) : b.pending.length = b.data.length - b.begin := by
  simp [Buffer.pending]

theorem Buffer.allDone_pending (b : Buffer) (h : b.allDone = true) : b.pending = [] := b.allDone_iff.mp h

theorem Buffer.not_allDone_pending (b : Buffer) (h : b.allDone = false) : b.pending ≠ [] :=
  fun he => Bool.false_ne_true (h.symm.trans (b.allDone_iff.mpr he))

theorem Buffer.prep_wf (b : Buffer) (h : b.WF) : b.prep.WF := by
  unfold Buffer.prep
  split
  · exact Buffer.reset_wf b
  · exact h

theorem Buffer.prep_pending (b : Buffer) : b.prep.pending = b.pending := by
  unfold Buffer.prep
  split
  · rename_i h
    rw [Buffer.allDone_pending b h]
    simp
  · rfl

@[simp] theorem Buffer.prep_cap (b : Buffer) : b.prep.cap = b.cap := by
  unfold Buffer.prep
  split <;> rfl

theorem Buffer.prep_needFill_pending (b : Buffer) (h : b.prep.needFill = true) : b.prep.pending = [] := by
  simp [Buffer.needFill] at h
  simp [Buffer.pending, h]

theorem Buffer.prep_not_needFill_pending (b : Buffer) (h : b.prep.needFill = false) :
    b.prep.pending ≠ [] := by
  unfold Buffer.prep at *
  split
  · rename_i hd
    simp [hd, Buffer.needFill, Buffer.reset] at h
  · rename_i hd
    exact Buffer.not_allDone_pending b (by simpa using hd)

theorem Buffer.advance_some (b : Buffer) (n : Nat) (h : b.WF) (hn : n ≤ b.pending.length) :
    ∃ b', b.advance n = some b' ∧ b'.pending = b.pending.drop n ∧ b'.WF ∧ b'.cap = b.cap := by
  rw [Buffer.pending_length] at hn
  obtain ⟨h1, h2⟩ := h
  refine ⟨{ b with begin := b.begin + n }, ?_, ?_, ⟨?_, h2⟩, rfl⟩
  · rw [Buffer.advance, if_pos ⟨by omega, by omega⟩]
  · simp [Buffer.pending, List.drop_drop]
  · show b.begin + n ≤ b.data.length
    omega

theorem Buffer.advance_none (b : Buffer) (n : Nat) (hn : b.pending.length < n) : b.advance n = none := by
  rw [Buffer.pending_length] at hn
  rw [Buffer.advance, if_neg (by omega)]

theorem Buffer.compactTo_spec (b : Buffer) (c m : Nat) (h : b.WF) :
    (b.compactTo c m).pending = b.pending ∧ (b.compactTo c m).begin = 0 ∧ (b.compactTo c m).WF := by
  obtain ⟨h1, h2⟩ := h
  unfold Buffer.compactTo
  by_cases hm : 0 < b.begin ∧ b.begin < b.data.length
  · rw [if_pos hm]
    exact ⟨rfl, rfl, Nat.zero_le _, Nat.le_trans (List.length_drop ▸ Nat.sub_le ..) h2⟩
  · rw [if_neg hm]
    by_cases he : b.data.length ≤ b.begin
    · rw [if_pos he]
      exact ⟨(List.drop_eq_nil_of_le he).symm, rfl, Nat.le_refl _, Nat.zero_le _⟩
    · rw [if_neg he]
      have h0 : b.begin = 0 := by omega
      exact ⟨by rw [Buffer.pending, Buffer.pending, h0], rfl, Nat.zero_le _, h2⟩

theorem Buffer.push_spec (b : Buffer) (src : Bytes) (h : b.WF) :
    (b.push src).2.pending = b.pending ++ src.take (b.push src).1 ∧ (b.push src).2.WF ∧
    (b.push src).1 ≤ src.length ∧ (b.push src).2.cap = b.cap ∧
    ((b.push src).2.data.length = b.cap ∨ (b.push src).1 = src.length) := by
  obtain ⟨h1, h2⟩ := h
  have hn : (src.take (b.push src).1).length = min src.length (b.cap - b.data.length) :=
    List.length_take_of_le (Nat.min_le_left ..)
  have hl : (b.push src).2.data.length = b.data.length + min src.length (b.cap - b.data.length) := by
    rw [← hn]
    exact List.length_append
  refine ⟨?_, ⟨?_, ?_⟩, Nat.min_le_left .., rfl, ?_⟩
  · simp only [Buffer.push, Buffer.pending]
    rw [List.drop_append_of_le_length h1]
  · exact Nat.le_trans h1 (hl ▸ Nat.le_add_right ..)
  · rw [hl]
    show _ ≤ b.cap
    omega
  · rw [hl]
    show _ ∨ min src.length (b.cap - b.data.length) = _
    omega

/-- one empty `Vec::with_capacity(c)` per capacity -/
def fresh (caps : List Nat) : List MBuf := caps.map fun c => ⟨[], 0, c⟩

/-- the reference: the source cut by capacities, each member holding (and recording) its chunk -/
def filled : List Nat → Bytes → List MBuf
  | [], _ => []
  | c :: cs, s => ⟨s.take c, (s.take c).length, c⟩ :: filled cs (s.drop c)

/-- members between a copy and its `set_len`: they hold `s` cut by capacities, the lengths recorded are those of a shorter `d` -/
def chunks : List Nat → Bytes → Bytes → List MBuf
  | [], _, _ => []
  | c :: cs, s, d => ⟨s.take c, (d.take c).length, c⟩ :: chunks cs (s.drop c) (d.drop c)

theorem filled_nil (caps : List Nat) : filled caps [] = fresh caps := by
  induction caps with
  | nil => rfl
  | cons c cs ih => simp [filled, fresh] at ih ⊢; exact ih

theorem viewCaps_filled (caps : List Nat) (d : Bytes) : viewCaps (filled caps d) 0 = caps := by
  induction caps generalizing d with
  | nil => rfl
  | cons c cs ih => simp only [filled, viewCaps, ih]; simp

theorem viewCaps_fresh (caps : List Nat) : viewCaps (fresh caps) 0 = caps := by
  rw [← filled_nil, viewCaps_filled]

theorem chunks_self (caps : List Nat) (s : Bytes) : chunks caps s s = filled caps s := by
  induction caps generalizing s with
  | nil => rfl
  | cons c cs ih => simp only [chunks, filled, ih]

theorem chunks_nil (caps : List Nat) : chunks caps [] [] = fresh caps := by
  rw [chunks_self, filled_nil]

theorem chunks_take (caps : List Nat) (s d : Bytes) : chunks caps s (d.take (sumNat caps)) = chunks caps s d := by
  induction caps generalizing s d with
  | nil => rfl
  | cons c cs ih =>
    simp only [chunks, sumNat]
    rw [List.take_take, Nat.min_eq_left (Nat.le_add_right ..), List.drop_take, Nat.add_sub_cancel_left, ih]

theorem scatterGo_fresh : ∀ (caps : List Nat) (s : Bytes), scatterGo (fresh caps) 0 s = chunks caps s [] := by
  intro caps
  induction caps with
  | nil => intro s; rfl
  | cons c cs ih =>
    intro s
    have ht : overlay ([] : Bytes) 0 (s.take (min s.length c)) = s.take c := by
      rw [overlay_zero_take, Nat.min_comm, ← List.take_eq_take_min, List.drop_nil, List.append_nil]
    have hd : s.drop (min s.length c) = s.drop c := by rw [Nat.min_comm, ← List.drop_eq_drop_min]
    simp only [fresh, List.map_cons, scatterGo, chunks, Nat.sub_zero, ht, hd, List.take_nil, List.drop_nil,
      List.length_nil]
    split
    · rename_i he
      rw [List.isEmpty_iff.mp he, chunks_nil]
      rfl
    · rw [← ih]
      rfl

theorem sumNat_initLens_chunks (caps : List Nat) (s : Bytes) : sumNat (initLens (chunks caps s []) 0) = 0 := by
  induction caps generalizing s with
  | nil => rfl
  | cons c cs ih => simp [chunks, initLens, sumNat, ih]

theorem setLenAll_zero (bufs : List MBuf) : setLenAll bufs 0 = .ok bufs := by
  cases bufs <;> simp [setLenAll]

/-- where `default_set_len` stops early (`n` used up) the members keep what they had recorded: nothing, as `d` is
no longer than `n` -/
theorem setLenAll_chunks : ∀ (caps : List Nat) (s d : Bytes) (n : Nat), d.length ≤ n → n ≤ s.length →
    setLenAll (chunks caps s d) n = .ok (chunks caps s (s.take n)) := by
  intro caps
  induction caps with
  | nil => intro s d n _ _; rfl
  | cons c cs ih =>
    intro s d n hd hn
    simp only [chunks, setLenAll]
    split
    · rename_i h0
      subst h0
      rw [List.eq_nil_of_length_eq_zero (Nat.le_zero.mp hd), List.take_zero]
    · have hfit : min c n ≤ (s.take c).length :=
        List.length_take ▸ Nat.le_min.mpr ⟨Nat.min_le_left .., Nat.le_trans (Nat.min_le_right ..) hn⟩
      have hrec : ((s.take n).take c).length = min c n := by
        rw [List.length_take, List.length_take, Nat.min_eq_left hn]
      have hsub : n - min c n = n - c := by omega
      simp only [MBuf.setLen, if_pos hfit, hsub, ih (s.drop c) (d.drop c) (n - c)
        (List.length_drop ▸ Nat.sub_le_sub_right hd c) (List.length_drop ▸ Nat.sub_le_sub_right hn c)]
      rw [hrec, List.drop_take]

theorem memReadVectored_fresh (src : Bytes) (caps : List Nat) :
    memReadVectored src (VS.plain (fresh caps)) =
      (.ok (min src.length (sumNat caps)), VS.plain (filled caps src)) := by
  unfold memReadVectored
  simp only [VS.plain, VS.viewCaps, List.drop_zero, List.take_zero, List.nil_append, viewCaps_fresh,
    scatterGo_fresh]
  unfold VS.advanceVecTo
  have hinit : (⟨chunks caps src [], 0, 0, 0⟩ : VS).initOk = true := by
    unfold VS.initOk
    split <;> simp
  simp only [hinit, Bool.not_true, Bool.false_eq_true, if_false, VS.initLens, List.drop_zero,
    sumNat_initLens_chunks, Nat.zero_add]
  have hf : chunks caps src (src.take (min src.length (sumNat caps))) = filled caps src := by
    rw [Nat.min_comm, ← List.take_eq_take_min, chunks_take, chunks_self]
  by_cases h0 : min src.length (sumNat caps) = 0
  · rw [h0, if_neg (by omega), ← hf, h0, List.take_zero]
  · rw [if_pos (by omega), setLenAll_chunks _ _ _ _ (Nat.zero_le _) (Nat.min_le_left ..), hf]

theorem filled_flatten : ∀ (caps : List Nat) (s : Bytes),
    ((filled caps s).map MBuf.data).flatten = s.take (sumNat caps) := by
  intro caps
  induction caps with
  | nil => intro s; simp [filled, sumNat]
  | cons c cs ih =>
    intro s
    simp only [filled, List.map_cons, List.flatten_cons, ih, sumNat, MBuf.data]
    rw [List.take_of_length_le (Nat.le_refl _), List.take_add]

theorem sliceMut_filled : ∀ (caps : List Nat) (d : Bytes), d.length < sumNat caps →
    ∃ i o m, sliceMutPos (filled caps d) d.length = (i, o) ∧ (filled caps d)[i]? = some m ∧ m.len = o ∧ o < m.cap ∧
      m.cap - o ≤ sumNat caps - d.length ∧
      ∀ bs : Bytes, bs.length ≤ m.cap - o →
        modifyNth (fun b => { b with mem := overlay b.mem o bs }) (filled caps d) i = chunks caps (d ++ bs) d := by
  intro caps
  induction caps with
  | nil => intro d h; simp [sumNat] at h
  | cons c cs ih =>
    intro d h
    simp only [sumNat] at h
    simp only [filled, sliceMutPos, sumNat]
    split
    · rename_i hc
      have hdt : d.take c = d := List.take_of_length_le (Nat.le_of_lt hc)
      have hdd : d.drop c = [] := List.drop_of_length_le (Nat.le_of_lt hc)
      refine ⟨0, d.length, _, rfl, rfl, by rw [hdt], hc, by simp only []; omega, fun bs hb => ?_⟩
      simp only [] at hb
      simp only [modifyNth, chunks, hdt, hdd, overlay_at_end]
      rw [List.take_of_length_le (by rw [List.length_append]; omega),
        List.drop_of_length_le (by rw [List.length_append]; omega), filled_nil, chunks_nil]
    · rename_i hc
      have hl : (d.drop c).length = d.length - c := List.length_drop
      obtain ⟨i, o, m, h0, h1, h2, h4, h5, h6⟩ := ih (d.drop c) (by omega)
      rw [hl] at h0 h5
      refine ⟨i + 1, o, m, by rw [h0], by simpa using h1, h2, h4, by omega, fun bs hb => ?_⟩
      simp only [modifyNth, chunks, h6 bs hb]
      rw [List.take_append_of_le_length (by omega), List.drop_append_of_le_length (by omega)]

theorem modifyNth_id {α : Type} (f : α → α) (hf : ∀ a, f a = a) : ∀ (l : List α) (n : Nat), modifyNth f l n = l := by
  intro l
  induction l with
  | nil => intro n; rfl
  | cons a r ih => intro n; cases n <;> simp [modifyNth, hf, ih]

theorem fillView_filled (caps : List Nat) (d : Bytes) (h : d.length < sumNat caps) :
    ∃ room, 0 < room ∧ room ≤ sumNat caps - d.length ∧
      firstRoom (VS.sliceMut (filled caps d) d.length).viewCaps 0 = some (0, room) ∧
      ∀ bs : Bytes, bs.length ≤ room →
        (VS.sliceMut (filled caps d) d.length).fillView 0 bs =
          .ok { (VS.sliceMut (filled caps d) d.length) with bufs := filled caps (d ++ bs) } := by
  obtain ⟨i, o, m, h0, h1, h2, h4, h5, h6⟩ := sliceMut_filled caps d h
  have hdrop : (filled caps d).drop i = m :: (filled caps d).drop (i + 1) := by
    rw [List.getElem?_eq_some_iff] at h1
    obtain ⟨hlt, he⟩ := h1
    rw [← he]
    exact List.drop_eq_getElem_cons hlt
  refine ⟨m.cap - o, by omega, h5, ?_, ?_⟩
  · simp only [VS.sliceMut, h0, VS.viewCaps, hdrop, viewCaps, firstRoom]
    rw [if_pos (by omega)]
  · intro bs hb
    simp only [VS.fillView, VS.sliceMut, h0, VS.initOk, h1, h2, VS.initLens, hdrop, initLens]
    simp only [Nat.le_refl, decide_true, Bool.not_true, Bool.false_eq_true, if_false, if_true,
      List.getElem?_cons_zero, Option.getD_some, Nat.sub_self, Nat.add_zero, h6 bs hb]
    have hlen : d.length + bs.length = (d ++ bs).length := List.length_append.symm
    split
    · rw [setLenAll_chunks _ _ _ _ (Nat.le_add_right ..) (Nat.le_of_eq hlen), hlen, List.take_length, chunks_self]
    · rename_i hz
      rw [List.eq_nil_of_length_eq_zero (Nat.le_zero.mp (Nat.le_of_not_gt hz)), List.append_nil, chunks_self]

end Compio.Io
