/-
The Boolean acceptors of Model/History.lean against the `List` notions the invariants speak about.
-/
import Compio.Model.History

namespace Compio.History

theorem isPrefix_iff : ∀ (l m : List Nat), isPrefix l m = true ↔ l <+: m := by
  intro l
  induction l with
  | nil => intro m; simp [isPrefix]
  | cons a l ih =>
    intro m
    cases m with
    | nil => simp [isPrefix]
    | cons b m =>
      simp only [isPrefix, Bool.and_eq_true, beq_iff_eq, ih, List.cons_prefix_cons]

theorem nodup_iff : ∀ (l : List Nat), nodup l = true ↔ l.Nodup := by
  intro l
  induction l with
  | nil => simp [nodup]
  | cons a l ih =>
    simp only [nodup, Bool.and_eq_true, Bool.not_eq_true', List.nodup_cons, ih, List.contains_eq_mem,
      decide_eq_false_iff_not]

theorem filter_contains_of_sublist {acc l : List Nat} (hs : acc.Sublist l) (hn : l.Nodup) :
    l.filter acc.contains = acc := by
  induction hs with
  | slnil => simp
  | @cons acc l a hsub ih =>
    simp only [List.nodup_cons] at hn
    have hna : a ∉ acc := fun h => hn.1 (hsub.subset h)
    have : acc.contains a = false := by simpa using hna
    rw [List.filter_cons, this]
    simpa using ih hn.2
  | @cons_cons acc l a hsub ih =>
    simp only [List.nodup_cons] at hn
    have hself : (a :: acc).contains a = true := by simp
    rw [List.filter_cons, hself]
    simp only [if_true, List.cons.injEq, true_and]
    have : l.filter (a :: acc).contains = l.filter acc.contains := by
      apply List.filter_congr
      intro x hx
      have hxa : x ≠ a := fun h => hn.1 (h ▸ hx)
      simp [hxa]
    rw [this]
    exact ih hn.2

end Compio.History
