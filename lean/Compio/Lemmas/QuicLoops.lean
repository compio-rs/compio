/-
The chunk loops of compio-quic's send_stream.rs / recv_stream.rs (Model/QuicWakers.lean): in order, exactly once.
Write side: `write_all` (position: a byte count) and `write_all_chunks` (a chunk array with a chunk count) are one loop
`wloop` over an answer schedule, with an invariant rule (handed over ++ remaining is constant) and a progress rule.
Read side, in layers: `ClosOk` for the three closures, `PollOk` for one poll, `RInv` for a reader interleaved with
deliveries; over every run returned ++ buffered ++ still to be delivered is constant (`run_spec`).
`read_to_end`: pieces of a byte string placed at their offsets in any order give the string.
-/
import Compio.Model.QuicWakers

namespace Compio.QuicWakers

/-- Until `done`, one answer of quinn-proto per round; `Blocked` retries because the waker is in `writable`. -/
def wloop {σ : Type} (done : σ → Bool) (accept : Nat → σ → Bytes × σ) : σ → List WAns → WPoll Unit × Bytes × σ
  | s, [] => (if done s then .ready () else .pending, [], s)
  | s, a :: rest =>
    match done s, a with
    | true, _ => (.ready (), [], s)
    | false, .blocked => wloop done accept s rest
    | false, .stopped c => (.err (.stopped c), [], s)
    | false, .closed => (.err .closedStream, [], s)
    | false, .limit 0 => (.pending, [], s)
    | false, .limit (n + 1) =>
      ((wloop done accept (accept (n + 1) s).2 rest).1,
       (accept (n + 1) s).1 ++ (wloop done accept (accept (n + 1) s).2 rest).2.1,
       (wloop done accept (accept (n + 1) s).2 rest).2.2)

section
variable {σ : Type} {done : σ → Bool} {accept : Nat → σ → Bytes × σ}

/-- `rem s`: the bytes not yet handed over in position `s`; `I`: the loop invariant -/
theorem wloop_spec (rem : σ → Bytes) (I : σ → Prop)
    (hacc : ∀ n s, I s → done s = false →
      (accept (n + 1) s).1 ++ rem (accept (n + 1) s).2 = rem s ∧ I (accept (n + 1) s).2)
    (hdone : ∀ s, I s → done s = true → rem s = []) (sched : List WAns) : ∀ s, I s →
    (wloop done accept s sched).2.1 ++ rem (wloop done accept s sched).2.2 = rem s ∧
    I (wloop done accept s sched).2.2 ∧
    ((wloop done accept s sched).1 = .ready () → rem (wloop done accept s sched).2.2 = []) := by
  induction sched with
  | nil =>
    intro s hi
    refine ⟨rfl, hi, fun h => ?_⟩
    cases hd : done s with
    | true => exact hdone s hi hd
    | false => simp [wloop, hd] at h
  | cons a rest ih =>
    intro s hi
    unfold wloop
    cases hd : done s with
    | true => exact ⟨rfl, hi, fun _ => hdone s hi hd⟩
    | false =>
      have stay : ∀ r : WPoll Unit, r ≠ .ready () →
          ([] : Bytes) ++ rem s = rem s ∧ I s ∧ (r = .ready () → rem s = []) :=
        fun r hr => ⟨rfl, hi, fun h => absurd h hr⟩
      cases a with
      | blocked => exact ih s hi
      | stopped c => exact stay _ nofun
      | closed => exact stay _ nofun
      | limit n =>
        cases n with
        | zero => exact stay _ nofun
        | succ n =>
          obtain ⟨h1, h2⟩ := hacc n s hi hd
          obtain ⟨j1, j2, j3⟩ := ih _ h2
          exact ⟨by rw [List.append_assoc, j1, h1], j2, j3⟩

theorem wloop_completes (μ : σ → Nat) (hacc : ∀ n s, done s = false → μ (accept (n + 1) s).2 < μ s)
    (sched : List WAns) (hs : ∀ a ∈ sched, ∃ n, a = .limit (n + 1)) : ∀ s, μ s < sched.length →
    (wloop done accept s sched).1 = .ready () := by
  induction sched with
  | nil => intro s h; exact absurd h (Nat.not_lt_zero _)
  | cons a rest ih =>
    intro s h
    unfold wloop
    cases hd : done s with
    | true => rfl
    | false =>
      obtain ⟨n, rfl⟩ := hs a List.mem_cons_self
      exact ih (fun a ha => hs a (List.mem_cons_of_mem _ ha)) _
        (Nat.lt_of_lt_of_le (hacc n s hd) (Nat.le_of_lt_succ h))

end

/-- `stream.write(&buf[count..])` under a limit of `n` bytes: the bytes accepted, and `count` moved by their number,
`min n (buf.length - count)` -/
def waAccept (buf : Bytes) (n count : Nat) : Bytes × Nat :=
  ((buf.drop count).take n, count + min n (buf.length - count))

theorem writeAll_eq_wloop (buf : Bytes) (sched : List WAns) : ∀ count,
    writeAll buf count sched = wloop (fun c => decide (buf.length ≤ c)) (waAccept buf) count sched := by
  induction sched with
  | nil => intro count; unfold writeAll; by_cases h : count ≥ buf.length <;> simp [wloop, h]
  | cons a rest ih =>
    intro count
    unfold writeAll
    by_cases h : count ≥ buf.length
    · simp only [ge_iff_le, h, ↓reduceIte, wloop, decide_true]
    · -- a non-zero limit on a non-empty remainder accepts at least one byte: the model's stall branch is not taken
      have hpos : ∀ n, min (n + 1) (buf.length - count) ≠ 0 := fun n =>
        Nat.ne_of_gt (Nat.lt_min.mpr ⟨Nat.succ_pos n, Nat.sub_pos_of_lt (Nat.lt_of_not_ge h)⟩)
      rcases a with _ | (_ | n) | c | _ <;>
        simp only [ge_iff_le, h, ↓reduceIte, pollWrite, List.length_drop, hpos, ih, wloop, decide_false, waAccept,
          List.nil_append, Nat.zero_le, Nat.min_eq_left, List.take_zero]

theorem waAccept_conserves (buf : Bytes) (n count : Nat) :
    (waAccept buf n count).1 ++ buf.drop (waAccept buf n count).2 = buf.drop count := by
  rw [waAccept, ← List.drop_drop, ← List.length_drop, List.take_eq_take_min, List.take_append_drop]

theorem waAccept_le (buf : Bytes) (n : Nat) {count : Nat} (hc : count ≤ buf.length) :
    (waAccept buf n count).2 ≤ buf.length :=
  Nat.le_trans (Nat.add_le_add_left (Nat.min_le_right ..) _) (Nat.le_of_eq (Nat.add_sub_of_le hc))

theorem waAccept_lt (buf : Bytes) (n : Nat) {count : Nat} (hc : count < buf.length) :
    count < (waAccept buf (n + 1) count).2 :=
  Nat.lt_add_of_pos_right (Nat.lt_min.mpr ⟨Nat.succ_pos n, Nat.sub_pos_of_lt hc⟩)

theorem writeAll_spec (buf : Bytes) (sched : List WAns) (count : Nat) (hc : count ≤ buf.length) :
    (writeAll buf count sched).2.1 = (buf.drop count).take ((writeAll buf count sched).2.2 - count) ∧
    count ≤ (writeAll buf count sched).2.2 ∧ (writeAll buf count sched).2.2 ≤ buf.length ∧
    ((writeAll buf count sched).1 = .ready () → (writeAll buf count sched).2.1 = buf.drop count) := by
  rw [writeAll_eq_wloop]
  obtain ⟨h1, ⟨h2, h3⟩, h4⟩ := wloop_spec (fun c => buf.drop c) (fun c => count ≤ c ∧ c ≤ buf.length)
    (fun n s hi _ => ⟨waAccept_conserves buf _ s, Nat.le_trans hi.1 (Nat.le_add_right ..), waAccept_le buf _ hi.2⟩)
    (fun s _ hd => List.drop_eq_nil_of_le (of_decide_eq_true hd)) sched count ⟨Nat.le_refl _, hc⟩
  refine ⟨?_, h2, h3, fun hr => by rw [← h1, h4 hr, List.append_nil]⟩
  -- what remains is `buf.drop count` less its first (final position - `count`) bytes: cancel it against `take ++ drop`
  rw [← Nat.add_sub_of_le h2, ← List.drop_drop] at h1
  exact List.append_cancel_right (h1.trans (List.take_append_drop ..).symm)

theorem writeAll_completes (buf : Bytes) (count : Nat) (sched : List WAns)
    (hs : ∀ a ∈ sched, ∃ n, a = .limit (n + 1)) (hk : buf.length - count < sched.length) :
    (writeAll buf count sched).1 = .ready () := by
  rw [writeAll_eq_wloop]
  exact wloop_completes (fun c => buf.length - c)
    (fun n s hd =>
      have hlt := Nat.lt_of_not_ge (of_decide_eq_false hd)
      Nat.sub_lt_sub_left hlt (waAccept_lt buf n hlt))
    sched hs count hk

theorem popChunks_spec : ∀ (bufs : List Bytes) (limit : Nat),
    (popChunks limit bufs).1 ++ (popChunks limit bufs).2.2.flatten = bufs.flatten ∧
    ((popChunks limit bufs).2.2.take (popChunks limit bufs).2.1).flatten = [] := by
  intro bufs
  induction bufs with
  | nil => intro limit; exact ⟨rfl, rfl⟩
  | cons c rest ih =>
    intro limit
    rw [popChunks]
    by_cases h1 : c.length ≤ limit
    · obtain ⟨i1, i2⟩ := ih (limit - c.length)
      rw [if_pos h1]
      generalize popChunks (limit - c.length) rest = P at *
      obtain ⟨acc, n, rest'⟩ := P
      simp only at i1 i2 ⊢
      exact ⟨by rw [List.append_assoc, List.flatten_cons, List.nil_append, i1, List.flatten_cons],
        by rw [List.take_succ_cons, List.flatten_cons, i2]; rfl⟩
    · rw [if_neg h1]
      by_cases h2 : limit > 0
      · rw [if_pos h2]
        exact ⟨by rw [List.flatten_cons, List.flatten_cons, ← List.append_assoc, List.take_append_drop], rfl⟩
      · rw [if_neg h2]; exact ⟨rfl, rfl⟩

def wcDone (p : List Bytes × Nat) : Bool := decide (p.1.length ≤ p.2)

/-- `stream.write_chunks(&mut bufs[chunks..])` under a limit of `n` bytes, then `chunks += written.chunks` -/
def wcAccept (n : Nat) (p : List Bytes × Nat) : Bytes × List Bytes × Nat :=
  ((popChunks n (p.1.drop p.2)).1, p.1.take p.2 ++ (popChunks n (p.1.drop p.2)).2.2,
    p.2 + (popChunks n (p.1.drop p.2)).2.1)

theorem writeAllChunks_eq_wloop (sched : List WAns) : ∀ (bufs : List Bytes) (chunks : Nat),
    writeAllChunks bufs chunks sched =
      ((wloop wcDone wcAccept (bufs, chunks) sched).1, (wloop wcDone wcAccept (bufs, chunks) sched).2.1,
       (wloop wcDone wcAccept (bufs, chunks) sched).2.2.1) := by
  induction sched with
  | nil => intro bufs chunks; unfold writeAllChunks; by_cases h : chunks ≥ bufs.length <;> simp [wloop, wcDone, h]
  | cons a rest ih =>
    intro bufs chunks
    unfold writeAllChunks
    by_cases h : chunks ≥ bufs.length
    · simp only [ge_iff_le, h, ↓reduceIte, wloop, wcDone, decide_true]
    · rcases a with _ | (_ | n) | c | _ <;>
        simp only [ge_iff_le, h, ↓reduceIte, Nat.add_eq_zero_iff, Nat.succ_ne_self, and_false, ih, wloop, wcDone,
          decide_false, wcAccept]

/-- the loop invariant `(p.1.take p.2).flatten = []`: the chunks counted as consumed have been emptied in place -/
theorem wcAccept_spec (n : Nat) (p : List Bytes × Nat) (hinv : (p.1.take p.2).flatten = []) (h : wcDone p = false) :
    (wcAccept n p).1 ++ (wcAccept n p).2.1.flatten = p.1.flatten ∧
    ((wcAccept n p).2.1.take (wcAccept n p).2.2).flatten = [] := by
  obtain ⟨bufs, chunks⟩ := p
  obtain ⟨p1, p2⟩ := popChunks_spec (bufs.drop chunks) n
  have hlen : (bufs.take chunks).length = chunks :=
    List.length_take_of_le (Nat.le_of_lt (Nat.lt_of_not_ge (of_decide_eq_false h)))
  simp only [wcAccept] at hinv ⊢
  constructor
  · rw [List.flatten_append, hinv, List.nil_append, p1]
    conv => rhs; rw [← List.take_append_drop chunks bufs, List.flatten_append, hinv, List.nil_append]
  · rw [List.take_append, hlen, Nat.add_sub_cancel_left, List.flatten_append, p2,
      List.take_of_length_le (by rw [hlen]; exact Nat.le_add_right ..), hinv]; rfl

theorem writeAllChunks_spec (sched : List WAns) (bufs : List Bytes) (chunks : Nat)
    (hinv : (bufs.take chunks).flatten = []) :
    (writeAllChunks bufs chunks sched).2.1 ++ (writeAllChunks bufs chunks sched).2.2.flatten = bufs.flatten ∧
    ((writeAllChunks bufs chunks sched).1 = .ready () → (writeAllChunks bufs chunks sched).2.2.flatten = []) := by
  rw [writeAllChunks_eq_wloop]
  obtain ⟨h1, _, h3⟩ := wloop_spec (fun p : List Bytes × Nat => p.1.flatten) (fun p => (p.1.take p.2).flatten = [])
    (fun n p hi hd => wcAccept_spec (n + 1) p hi hd)
    (fun p hi hd => by rwa [List.take_of_length_le (of_decide_eq_true hd)] at hi) sched (bufs, chunks) hinv
  exact ⟨h1, h3⟩

/-- the receive buffer as quinn-proto keeps it while the stream is not reset: no empty segment -/
def SrcOk (s : Src) : Prop := s.reset = none ∧ ∀ seg ∈ s.segs, seg ≠ []

theorem next_cons {s : Src} (max : Nat) (h : SrcOk s) {seg : Bytes} {rest : List Bytes} (hs : s.segs = seg :: rest) :
    ∃ b s', s.next max = (.chunk b, s') ∧ b ++ s'.segs.flatten = s.segs.flatten ∧ SrcOk s' ∧ s'.fin = s.fin := by
  have hrest : ∀ x ∈ rest, x ≠ [] := fun x hx => h.2 x (by rw [hs]; exact List.mem_cons_of_mem _ hx)
  by_cases hl : seg.length ≤ max
  · exact ⟨seg, { s with segs := rest }, by simp [Src.next, h.1, hs, hl], by rw [hs]; rfl, ⟨h.1, hrest⟩, rfl⟩
  · refine ⟨seg.take max, { s with segs := seg.drop max :: rest }, by simp [Src.next, h.1, hs, hl], ?_,
      ⟨h.1, ?_⟩, rfl⟩
    · rw [hs, List.flatten_cons, List.flatten_cons, ← List.append_assoc, List.take_append_drop]
    · intro x hx
      cases hx with
      | head => exact fun h0 => hl (List.drop_eq_nil_iff.mp h0)
      | tail _ hx' => exact hrest x hx'

theorem next_empty {s : Src} (max : Nat) (h : SrcOk s) (hs : s.segs = []) :
    s.next max = (if s.fin then .finished else .blocked, s) := by
  simp [Src.next, h.1, hs]

def stData {α : Type} (dat : α → Bytes) : RStatus α → Bytes
  | .readable a => dat a
  | .finished a => (a.map dat).getD []
  | .failedBlocked a => (a.map dat).getD []
  | .failedReset a _ => (a.map dat).getD []

def pollData {α : Type} (dat : α → Bytes) : RPoll α → Bytes
  | .ready (some a) => dat a
  | _ => []

def isReset {α : Type} : RStatus α → Bool
  | .failedReset _ _ => true
  | _ => false

def isFinished {α : Type} : RStatus α → Bool
  | .finished _ => true
  | _ => false

theorem execRead_spec {α : Type} (dat : α → Bytes) (rs : RS) (st : RStatus α) (hr : isReset st = false)
    (hrs : rs.reset = none) :
    pollData dat (execRead rs none st).1 = stData dat st ∧ (execRead rs none st).2.reset = none ∧
    ((execRead rs none st).2.allDataRead = (rs.allDataRead || isFinished st)) ∧
    (∀ e, (execRead rs none st).1 ≠ .err e) ∧
    ((execRead rs none st).1 = .ready none → isFinished st = true) := by
  cases st with
  | readable a => simp [execRead, pollData, stData, hrs, isFinished]
  | finished a => cases a <;> simp [execRead, pollData, stData, hrs, isFinished]
  | failedBlocked a => cases a <;> simp [execRead, pollData, stData, hrs, isFinished]
  | failedReset a c => cases hr

/-- the payload of the `Option` a closure reports when it stops with `acc` accumulated -/
theorem optData {β : Type} (dat : List β → Bytes) (h : dat [] = []) (acc : List β) :
    ((if acc.isEmpty = true then (none : Option (List β)) else some acc).map dat).getD [] = dat acc := by
  cases acc <;> simp [h]

theorem optData_ite (acc : Bytes) :
    ((if acc.isEmpty = true then (none : Option Bytes) else some acc).map id).getD [] = acc :=
  optData id rfl acc

/-- what a closure run by `execute_poll_read` guarantees about the buffer -/
structure ClosOk {α : Type} (dat : α → Bytes) (s : Src) (st : RStatus α) (s' : Src) : Prop where
  cons : stData dat st ++ s'.segs.flatten = s.segs.flatten
  ok : SrcOk s'
  fin : s'.fin = s.fin
  noReset : isReset st = false
  finished : isFinished st = true → s'.segs = [] ∧ s.fin = true

theorem closOk_end {β : Type} (dat : List β → Bytes) (h0 : dat [] = []) {s0 s : Src} (hs : SrcOk s)
    (hf : s.fin = s0.fin) (hsegs : s.segs = []) (acc : List β) (hc : dat acc = s0.segs.flatten) :
    ClosOk dat s0 (if s.fin then .finished (if acc.isEmpty then none else some acc)
      else .failedBlocked (if acc.isEmpty then none else some acc)) s := by
  -- `.finished a` and `.failedBlocked a` carry the same payload
  have hd : (Option.map dat (if acc.isEmpty then none else some acc)).getD [] ++ s.segs.flatten = s0.segs.flatten := by
    rw [hsegs]; exact (List.append_nil _).trans ((optData dat h0 acc).trans hc)
  cases hfin : s.fin
  · exact ⟨hd, hs, hf, rfl, nofun⟩
  · exact ⟨hd, hs, hf, rfl, fun _ => ⟨hsegs, hf ▸ hfin⟩⟩

theorem fillLoop_clos (cap : Nat) (s0 : Src) : ∀ (fuel : Nat) (acc : Bytes) (s : Src), SrcOk s → s.fin = s0.fin →
    acc ++ s.segs.flatten = s0.segs.flatten →
    ClosOk id s0 (fillLoop cap fuel acc s).1 (fillLoop cap fuel acc s).2 := by
  intro fuel
  induction fuel with
  | zero => intro acc s hs hf hc; exact ⟨hc, hs, hf, rfl, nofun⟩
  | succ fuel ih =>
    intro acc s hs hf hc
    rw [fillLoop]
    by_cases hfull : acc.length ≥ cap
    · rw [if_pos hfull]; exact ⟨hc, hs, hf, rfl, nofun⟩
    · rw [if_neg hfull]
      cases hsegs : s.segs with
      | nil =>
        rw [hsegs, List.flatten_nil, List.append_nil] at hc
        have := closOk_end id rfl hs hf hsegs acc hc
        rw [next_empty _ hs hsegs]
        -- once `s.fin` is known the `match` on the answer of `next` computes to the status of `closOk_end`
        revert this
        cases s.fin <;> exact id
      | cons seg rest =>
        obtain ⟨b, s', hn, hb, hs', hf'⟩ := next_cons (cap - acc.length) hs hsegs
        rw [hn]
        exact ih (acc ++ b) s' hs' (hf'.trans hf) (by rw [List.append_assoc, hb, hc])

theorem chunksLoop_clos (n : Nat) (s0 : Src) : ∀ (fuel : Nat) (acc : List Bytes) (s : Src), SrcOk s →
    s.fin = s0.fin → acc.flatten ++ s.segs.flatten = s0.segs.flatten →
    ClosOk List.flatten s0 (chunksLoop n fuel acc s).1 (chunksLoop n fuel acc s).2 := by
  intro fuel
  induction fuel with
  | zero => intro acc s hs hf hc; exact ⟨hc, hs, hf, rfl, nofun⟩
  | succ fuel ih =>
    intro acc s hs hf hc
    rw [chunksLoop]
    by_cases hfull : acc.length ≥ n
    · rw [if_pos hfull]; exact ⟨hc, hs, hf, rfl, nofun⟩
    · rw [if_neg hfull]
      cases hsegs : s.segs with
      | nil =>
        rw [hsegs, List.flatten_nil, List.append_nil] at hc
        simpa [hs.1] using closOk_end List.flatten rfl hs hf hsegs acc hc
      | cons seg rest =>
        simp only [hs.1]
        refine ih (acc ++ [seg]) ⟨rest, s.fin, none⟩
          ⟨rfl, fun x hx => hs.2 x (by rw [hsegs]; exact List.mem_cons_of_mem _ hx)⟩ hf ?_
        rw [← hc, hsegs]; simp

theorem chunkOnce_clos (max : Nat) (s : Src) (hs : SrcOk s) : ClosOk id s (chunkOnce max s).1 (chunkOnce max s).2 := by
  rw [chunkOnce]
  cases hsegs : s.segs with
  | nil =>
    have := closOk_end id rfl hs rfl hsegs [] (by rw [hsegs]; rfl)
    rw [next_empty max hs hsegs]
    revert this
    cases s.fin <;> exact id
  | cons seg rest =>
    obtain ⟨b, s', hn, hb, hs', hf'⟩ := next_cons max hs hsegs
    rw [hn]
    exact ⟨hb.trans (by rw [hsegs]), hs', hf', rfl, nofun⟩

/-- the `RecvStream` fields agree with the buffer -/
structure BufOk (rs : RS) (s : Src) : Prop where
  src : SrcOk s
  rsReset : rs.reset = none
  adr : rs.allDataRead = true → s.segs = [] ∧ s.fin = true

/-- what one poll of a read future guarantees: `q` is the poll result with the `RecvStream` fields and the buffer
    afterwards -/
structure PollOk {α : Type} (dat : α → Bytes) (rs : RS) (s : Src) (q : RPoll α × RS × Src) : Prop where
  conserved : pollData dat q.1 ++ q.2.2.segs.flatten = s.segs.flatten
  ok : BufOk q.2.1 q.2.2
  fin : q.2.2.fin = s.fin
  noErr : ∀ e, q.1 ≠ .err e
  eos : q.1 = .ready none → q.2.1.allDataRead = true
  adrMono : rs.allDataRead = true → q.2.1.allDataRead = true

theorem pollOk_idle {α : Type} (dat : α → Bytes) {rs : RS} {s : Src} (hb : BufOk rs s) (p : RPoll α)
    (hd : pollData dat p = []) (he : ∀ e, p ≠ .err e) (heos : p = .ready none → rs.allDataRead = true) :
    PollOk dat rs s (p, rs, s) :=
  ⟨by rw [hd]; rfl, hb, rfl, he, heos, id⟩

/-- the part the three read polls share, after the guard on an empty buffer argument; `clos` is the result of the
    closure `execute_poll_read` runs -/
def pollBy {α : Type} (rs : RS) (s : Src) (clos : RStatus α × Src) : RPoll α × RS × Src :=
  if rs.allDataRead then (.ready none, rs, s)
  else ((execRead rs none clos.1).1, (execRead rs none clos.1).2, clos.2)

theorem pollBy_ok {α : Type} (dat : α → Bytes) {rs : RS} {s : Src} (hb : BufOk rs s) {clos : RStatus α × Src}
    (hc : ClosOk dat s clos.1 clos.2) : PollOk dat rs s (pollBy rs s clos) := by
  rw [pollBy]
  cases h : rs.allDataRead with
  | true => exact pollOk_idle dat hb _ rfl nofun (fun _ => h)
  | false =>
    obtain ⟨e1, e2, e3, e4, e5⟩ := execRead_spec dat rs clos.1 hc.noReset hb.rsReset
    rw [h, Bool.false_or] at e3
    rw [if_neg Bool.false_ne_true]
    refine ⟨(congrArg (· ++ _) e1).trans hc.cons, ⟨hc.ok, e2, fun h' => ?_⟩, hc.fin, e4, fun h' => e3 ▸ e5 h',
      fun h' => absurd (h.symm.trans h') Bool.false_ne_true⟩
    -- `all_data_read` was set by this poll: the closure finished
    have hfin := hc.finished (e3 ▸ h')
    exact ⟨hfin.1, hc.fin ▸ hfin.2⟩

theorem pollRead_eq {cap : Nat} (hcap : cap ≠ 0) {rs : RS} (hrs : rs.reset = none) (s : Src) :
    pollRead cap rs none s = pollBy rs s (fillLoop cap (cap + 1) [] s) := by
  simp [pollRead, pollBy, hcap, hrs]

theorem pollReadChunk_eq (max : Nat) {rs : RS} (hrs : rs.reset = none) (s : Src) :
    pollReadChunk max rs none s = pollBy rs s (chunkOnce max s) := by
  simp [pollReadChunk, pollBy, hrs]

theorem pollReadChunks_eq {n : Nat} (hn : n ≠ 0) {rs : RS} (hrs : rs.reset = none) (s : Src) :
    pollReadChunks n rs none s = pollBy rs s (chunksLoop n (n + 1) [] s) := by
  simp [pollReadChunks, pollBy, hn, hrs]

theorem pollRead_ok (cap : Nat) {rs : RS} {s : Src} (hb : BufOk rs s) : PollOk id rs s (pollRead cap rs none s) := by
  by_cases hcap : cap = 0
  · rw [pollRead, if_pos hcap]; exact pollOk_idle id hb _ rfl nofun nofun
  · rw [pollRead_eq hcap hb.rsReset]
    exact pollBy_ok id hb (fillLoop_clos cap s _ [] s hb.src rfl rfl)

theorem pollReadChunk_ok (max : Nat) {rs : RS} {s : Src} (hb : BufOk rs s) :
    PollOk id rs s (pollReadChunk max rs none s) := by
  rw [pollReadChunk_eq max hb.rsReset]
  exact pollBy_ok id hb (chunkOnce_clos max s hb.src)

theorem pollReadChunks_ok (n : Nat) {rs : RS} {s : Src} (hb : BufOk rs s) :
    PollOk List.flatten rs s (pollReadChunks n rs none s) := by
  by_cases hn : n = 0
  · rw [pollReadChunks, if_pos hn]; exact pollOk_idle _ hb _ rfl nofun nofun
  · rw [pollReadChunks_eq hn hb.rsReset]
    exact pollBy_ok _ hb (chunksLoop_clos n s _ [] s hb.src rfl rfl)

/-- the fields agree with the buffer, no poll has failed, end-of-stream was reported only with `all_data_read` set -/
structure RInv (r : Reader) : Prop extends BufOk r.rs r.src where
  errs : r.errs = 0
  eos : 0 < r.eos → r.rs.allDataRead = true

theorem rinv_init : RInv Reader.init :=
  ⟨⟨⟨rfl, nofun⟩, rfl, nofun⟩, rfl, nofun⟩

theorem got_cons (r : Reader) (b : Bytes) (rs : RS) (s : Src) (e p er : Nat) :
    Reader.got { rs := rs, src := s, rparts := b :: r.rparts, eos := e, pendings := p, errs := er } = r.got ++ b := by
  simp [Reader.got]

/-- `r'` is `r` after it took over the result `q` of a poll; `heos`: only the end-of-stream answer may start
    counting `eos` -/
theorem RInv.update {α : Type} {dat : α → Bytes} {r r' : Reader} (hr : RInv r) {q : RPoll α × RS × Src}
    (h : PollOk dat r.rs r.src q) (hrs : r'.rs = q.2.1) (hsrc : r'.src = q.2.2)
    (hgot : r'.got = r.got ++ pollData dat q.1) (herrs : r'.errs = r.errs)
    (heos : 0 < r'.eos → 0 < r.eos ∨ q.1 = .ready none) :
    RInv r' ∧ r'.got ++ r'.src.segs.flatten = r.got ++ r.src.segs.flatten ∧ r'.src.fin = r.src.fin := by
  refine ⟨⟨hrs ▸ hsrc ▸ h.ok, herrs ▸ hr.errs, fun he => hrs ▸ ?_⟩, ?_, hsrc ▸ h.fin⟩
  · exact (heos he).elim (fun h0 => h.adrMono (hr.eos h0)) h.eos
  · rw [hsrc, hgot, List.append_assoc, h.conserved]

theorem apply_spec (r : Reader) (hr : RInv r) (q : RPoll Bytes × RS × Src) (h : PollOk id r.rs r.src q) :
    RInv (r.apply q) ∧ (r.apply q).got ++ (r.apply q).src.segs.flatten = r.got ++ r.src.segs.flatten ∧
    (r.apply q).src.fin = r.src.fin := by
  obtain ⟨p, rs', s'⟩ := q
  cases p with
  | ready a =>
    cases a with
    | some b => exact hr.update h rfl rfl (got_cons r b ..) rfl Or.inl
    | none => exact hr.update h rfl rfl (List.append_nil _).symm rfl (fun _ => Or.inr rfl)
  | pending => exact hr.update h rfl rfl (List.append_nil _).symm rfl Or.inl
  | err e => exact absurd rfl (h.noErr e)

theorem applyChunks_spec (r : Reader) (hr : RInv r) (q : RPoll (List Bytes) × RS × Src)
    (h : PollOk List.flatten r.rs r.src q) :
    RInv (r.applyChunks q) ∧
    (r.applyChunks q).got ++ (r.applyChunks q).src.segs.flatten = r.got ++ r.src.segs.flatten ∧
    (r.applyChunks q).src.fin = r.src.fin := by
  obtain ⟨p, rs', s'⟩ := q
  cases p with
  | ready a =>
    cases a with
    | some bs => exact hr.update h rfl rfl (by simp [Reader.applyChunks, Reader.got, pollData]) rfl Or.inl
    | none => exact hr.update h rfl rfl (List.append_nil _).symm rfl (fun _ => Or.inr rfl)
  | pending => exact hr.update h rfl rfl (List.append_nil _).symm rfl Or.inl
  | err e => exact absurd rfl (h.noErr e)

/-- conserved: what was returned, what is buffered and what the steps `xs` that follow still deliver before the end of
    the stream is known -/
theorem step_spec (r : Reader) (hr : RInv r) (x : RStep) (xs : List RStep) :
    RInv (r.step x) ∧
    (r.step x).got ++ (r.step x).src.segs.flatten ++ (if (r.step x).src.fin then [] else deliveredBefore xs) =
      r.got ++ r.src.segs.flatten ++ (if r.src.fin then [] else deliveredBefore (x :: xs)) ∧
    ((r.step x).src.fin = true → r.src.fin = true ∨ x = .finish) := by
  have poll : ∀ r' : Reader, (RInv r' ∧ r'.got ++ r'.src.segs.flatten = r.got ++ r.src.segs.flatten ∧
      r'.src.fin = r.src.fin) →
      RInv r' ∧ r'.got ++ r'.src.segs.flatten ++ (if r'.src.fin then [] else deliveredBefore xs) =
        r.got ++ r.src.segs.flatten ++ (if r.src.fin then [] else deliveredBefore xs) ∧
      (r'.src.fin = true → r.src.fin = true ∨ x = .finish) :=
    fun r' h => ⟨h.1, by rw [h.2.1, h.2.2], fun hf => Or.inl (h.2.2 ▸ hf)⟩
  cases x with
  | deliver seg =>
    rw [Reader.step]
    by_cases hf : (r.src.fin || seg.isEmpty) = true
    · rw [if_pos hf]
      refine ⟨hr, ?_, Or.inl⟩
      cases hfin : r.src.fin
      · rw [hfin, Bool.false_or, List.isEmpty_iff] at hf; rw [hf]; rfl
      · rfl
    · rw [if_neg hf]
      simp only [Bool.or_eq_true, not_or, Bool.not_eq_true, List.isEmpty_eq_false_iff] at hf
      refine ⟨⟨⟨⟨hr.src.1, ?_⟩, hr.rsReset, fun h => ?_⟩, hr.errs, hr.eos⟩, ?_, Or.inl⟩
      · intro y hy
        rcases List.mem_append.mp hy with h | h
        · exact hr.src.2 y h
        · rw [List.mem_singleton.mp h]; exact hf.2
      · rw [(hr.adr h).2] at hf; cases hf.1
      · show r.got ++ (r.src.segs ++ [seg]).flatten ++ (if r.src.fin then [] else deliveredBefore xs) = _
        rw [hf.1]; simp [deliveredBefore]
  | finish =>
    refine ⟨⟨⟨hr.src, hr.rsReset, fun h => ⟨(hr.adr h).1, rfl⟩⟩, hr.errs, hr.eos⟩, ?_, fun _ => Or.inr rfl⟩
    show r.got ++ r.src.segs.flatten ++ [] = r.got ++ r.src.segs.flatten ++ (if r.src.fin then [] else [])
    rw [ite_self]
  | read cap => exact poll _ (apply_spec r hr _ (pollRead_ok cap hr.toBufOk))
  | readChunk max => exact poll _ (apply_spec r hr _ (pollReadChunk_ok max hr.toBufOk))
  | readChunks n => exact poll _ (applyChunks_spec r hr _ (pollReadChunks_ok n hr.toBufOk))

theorem run_spec (steps : List RStep) : ∀ r : Reader, RInv r →
    RInv (r.run steps) ∧
    (r.run steps).got ++ (r.run steps).src.segs.flatten =
      r.got ++ r.src.segs.flatten ++ (if r.src.fin then [] else deliveredBefore steps) ∧
    ((r.run steps).src.fin = true → r.src.fin = true ∨ RStep.finish ∈ steps) := by
  induction steps with
  | nil => intro r hr; exact ⟨hr, by simp [Reader.run, deliveredBefore], Or.inl⟩
  | cons x xs ih =>
    intro r hr
    obtain ⟨s1, s2, s3⟩ := step_spec r hr x xs
    obtain ⟨i1, i2, i3⟩ := ih (r.step x) s1
    refine ⟨i1, i2.trans s2, fun h => ?_⟩
    rcases i3 h with h' | h'
    · exact (s3 h').imp_right (fun hx => by rw [hx]; exact List.mem_cons_self)
    · exact Or.inr (List.mem_cons_of_mem _ h')

theorem pollRead_eos {cap : Nat} (hcap : cap ≠ 0) {rs : RS} {s : Src} (hs : SrcOk s) (hrs : rs.reset = none)
    (h : rs.allDataRead = true ∨ s.segs = [] ∧ s.fin = true) : (pollRead cap rs none s).1 = .ready none := by
  rw [pollRead_eq hcap hrs, pollBy]
  cases hadr : rs.allDataRead with
  | true => rfl
  | false =>
    obtain ⟨hsegs, hfin⟩ := h.resolve_left (by rw [hadr]; exact Bool.false_ne_true)
    have : fillLoop cap (cap + 1) [] s = (.finished none, s) := by
      rw [fillLoop, if_neg (by simpa using hcap), next_empty _ hs hsegs, hfin]; rfl
    rw [if_neg Bool.false_ne_true, this]; rfl

theorem apply_eos (r : Reader) {q : RPoll Bytes × RS × Src} (h : q.1 = .ready none) :
    (r.apply q).eos = r.eos + 1 ∧ (r.apply q).got = r.got := by
  obtain ⟨p, rs', s'⟩ := q
  cases h
  exact ⟨rfl, rfl⟩

theorem foldl_min_le (l : List (Nat × Bytes)) : ∀ m, l.foldl (fun m c => min m c.1) m ≤ m := by
  induction l with
  | nil => intro m; exact Nat.le_refl _
  | cons c r ih => intro m; exact Nat.le_trans (ih _) (Nat.min_le_left _ _)

theorem foldl_min_withOffsets (parts : List Bytes) : ∀ off m, m ≤ off →
    (withOffsets off parts).foldl (fun m c => min m c.1) m = m := by
  induction parts with
  | nil => intro off m _; rfl
  | cons b bs ih =>
    intro off m h
    rw [withOffsets, List.foldl_cons, Nat.min_eq_left h]
    exact ih _ _ (Nat.le_add_right_of_le h)

theorem foldl_max_withOffsets (parts : List Bytes) : ∀ off m, m ≤ off →
    (withOffsets off parts).foldl (fun m c => max m (c.1 + c.2.length)) m
      = if parts = [] then m else off + parts.flatten.length := by
  induction parts with
  | nil => intro off m _; rfl
  | cons b bs ih =>
    intro off m h
    rw [withOffsets, List.foldl_cons, Nat.max_eq_right (Nat.le_add_right_of_le h),
      ih (off + b.length) (off + b.length) (Nat.le_refl _)]
    by_cases hb : bs = []
    · subst hb; simp
    · simp [hb]; omega

theorem start_withOffsets {parts : List Bytes} (hp : parts ≠ []) {off : Nat} (hoff : off ≤ 2 ^ 64 - 1) :
    (withOffsets off parts).foldl (fun m c => min m c.1) (2 ^ 64 - 1) = off := by
  cases parts with
  | nil => exact absurd rfl hp
  | cons b bs =>
    rw [withOffsets, List.foldl_cons, Nat.min_eq_right hoff]
    exact foldl_min_withOffsets bs _ _ (Nat.le_add_right _ _)

theorem placeAt_take_length (buf b : Bytes) (o : Nat) (h : o + b.length ≤ buf.length) : (buf.take o).length = o :=
  List.length_take_of_le (Nat.le_trans (Nat.le_add_right _ _) h)

theorem placeAt_length (buf b : Bytes) (o : Nat) (h : o + b.length ≤ buf.length) :
    (placeAt buf o b).length = buf.length := by
  rw [placeAt, List.length_append, List.length_append, placeAt_take_length buf b o h, List.length_drop,
    Nat.add_sub_of_le h]

theorem placeAt_getElem? (buf b : Bytes) (o i : Nat) (h : o + b.length ≤ buf.length) :
    (placeAt buf o b)[i]? = if o ≤ i ∧ i < o + b.length then b[i - o]? else buf[i]? := by
  have hl := placeAt_take_length buf b o h
  rw [placeAt, List.getElem?_append, List.length_append, hl]
  by_cases h1 : i < o + b.length
  · rw [if_pos h1, List.getElem?_append, hl]
    by_cases h2 : i < o
    · rw [if_pos h2, List.getElem?_take, if_pos h2, if_neg (fun h => Nat.not_le.mpr h2 h.1)]
    · rw [if_neg h2, if_pos ⟨Nat.le_of_not_lt h2, h1⟩]
  · rw [if_neg h1, List.getElem?_drop, if_neg (fun h => h1 h.2), Nat.add_sub_of_le (Nat.le_of_not_lt h1)]

/-- chunk `c` is a piece of the byte string `D` that starts at stream offset `start` -/
def Piece (D : Bytes) (start : Nat) (c : Nat × Bytes) : Prop :=
  ∃ pre post, D = pre ++ c.2 ++ post ∧ pre.length = c.1 - start

theorem Piece.fits {D : Bytes} {start : Nat} {c : Nat × Bytes} (h : Piece D start c) :
    c.1 - start + c.2.length ≤ D.length := by
  obtain ⟨pre, post, rfl, hl⟩ := h
  rw [← hl, List.length_append, List.length_append]; exact Nat.le_add_right _ _

theorem Piece.get {D : Bytes} {start : Nat} {c : Nat × Bytes} (h : Piece D start c) {i : Nat}
    (h1 : c.1 - start ≤ i) (h2 : i < c.1 - start + c.2.length) : c.2[i - (c.1 - start)]? = D[i]? := by
  obtain ⟨pre, post, rfl, hl⟩ := h
  rw [← hl] at h1 h2 ⊢
  rw [List.getElem?_append_left (by rw [List.length_append]; exact h2), List.getElem?_append_right h1]

def Covered (start : Nat) (L : List (Nat × Bytes)) (i : Nat) : Prop :=
  ∃ c ∈ L, c.1 - start ≤ i ∧ i < c.1 - start + c.2.length

theorem fold_place_length (D : Bytes) (start : Nat) (L : List (Nat × Bytes)) :
    ∀ buf : Bytes, buf.length = D.length → (∀ c ∈ L, Piece D start c) →
    (L.foldl (fun buf c => placeAt buf (c.1 - start) c.2) buf).length = D.length := by
  induction L with
  | nil => intro buf h _; exact h
  | cons c L ih =>
    intro buf h hp
    rw [List.foldl_cons]
    apply ih
    · rw [placeAt_length _ _ _ (by rw [h]; exact (hp c List.mem_cons_self).fits)]; exact h
    · intro c' hc'; exact hp c' (List.mem_cons_of_mem _ hc')

theorem fold_place_correct (D : Bytes) (start : Nat) (L : List (Nat × Bytes)) :
    ∀ buf : Bytes, buf.length = D.length → (∀ c ∈ L, Piece D start c) →
    ∀ i, (buf[i]? = D[i]? ∨ Covered start L i) →
    (L.foldl (fun buf c => placeAt buf (c.1 - start) c.2) buf)[i]? = D[i]? := by
  induction L with
  | nil =>
    intro buf _ _ i h
    cases h with
    | inl h => exact h
    | inr h => obtain ⟨c, hc, _⟩ := h; cases hc
  | cons c L ih =>
    intro buf hlen hp i h
    rw [List.foldl_cons]
    have hpc := hp c List.mem_cons_self
    have hfit : c.1 - start + c.2.length ≤ buf.length := by rw [hlen]; exact hpc.fits
    apply ih _ (by rw [placeAt_length _ _ _ hfit]; exact hlen) (fun c' hc' => hp c' (List.mem_cons_of_mem _ hc'))
    -- after placing `c`: position `i` is right if it was right or `c` covers it
    have hget := placeAt_getElem? buf c.2 (c.1 - start) i hfit
    by_cases hin : c.1 - start ≤ i ∧ i < c.1 - start + c.2.length
    · left
      rw [hget, if_pos hin, hpc.get hin.1 hin.2]
    · cases h with
      | inl h => left; rw [hget, if_neg hin]; exact h
      | inr h =>
        obtain ⟨c', hc', hcov⟩ := h
        cases hc' with
        | head => exact absurd hcov hin
        | tail _ hc'' => right; exact ⟨c', hc'', hcov⟩

theorem pieces_withOffsets (start : Nat) (parts : List Bytes) : ∀ (pre : Bytes) (o : Nat), o = start + pre.length →
    ∀ post : Bytes, ∀ c ∈ withOffsets o parts, Piece (pre ++ parts.flatten ++ post) start c := by
  induction parts with
  | nil => intro pre o _ post c hc; cases hc
  | cons b bs ih =>
    intro pre o ho post c hc
    rcases List.mem_cons.mp hc with rfl | h
    · exact ⟨pre, bs.flatten ++ post, by simp [List.append_assoc], by rw [ho, Nat.add_sub_cancel_left]⟩
    · have := ih (pre ++ b) (o + b.length) (by rw [ho, List.length_append, Nat.add_assoc]) post c h
      rwa [List.append_assoc pre b] at this

theorem covered_withOffsets (start : Nat) (parts : List Bytes) : ∀ (k o : Nat), o = start + k →
    ∀ i, k ≤ i → i < k + parts.flatten.length → Covered start (withOffsets o parts) i := by
  induction parts with
  | nil => intro k o _ i h1 h2; exact absurd h2 (Nat.not_lt.mpr h1)
  | cons b bs ih =>
    intro k o ho i h1 h2
    have hk : o - start = k := by rw [ho, Nat.add_sub_cancel_left]
    by_cases hb : i < k + b.length
    · exact ⟨(o, b), List.mem_cons_self, by rw [hk]; exact h1, by rw [hk]; exact hb⟩
    · rw [List.flatten_cons, List.length_append, ← Nat.add_assoc] at h2
      obtain ⟨c, hc, hcov⟩ := ih (k + b.length) (o + b.length) (by rw [ho, Nat.add_assoc]) i (Nat.le_of_not_lt hb) h2
      exact ⟨c, List.mem_cons_of_mem _ hc, hcov⟩

theorem assemble_any_order (parts : List Bytes) (off : Nat) (chunks : List (Nat × Bytes))
    (hperm : chunks.Perm (withOffsets off parts)) (hoff : off + parts.flatten.length < 2 ^ 64 - 1) :
    assemble chunks = parts.flatten := by
  -- lowest offset and highest end do not depend on the arrival order
  have hmin : chunks.foldl (fun m c => min m c.1) (2 ^ 64 - 1)
      = (withOffsets off parts).foldl (fun m c => min m c.1) (2 ^ 64 - 1) :=
    hperm.foldl_eq' (fun x _ y _ z => Nat.min_right_comm z x.1 y.1) _
  have hmax : chunks.foldl (fun m c => max m (c.1 + c.2.length)) 0
      = (withOffsets off parts).foldl (fun m c => max m (c.1 + c.2.length)) 0 :=
    hperm.foldl_eq' (fun x _ y _ z => Nat.max_right_comm z _ _) _
  have hlt : off < 2 ^ 64 - 1 := Nat.lt_of_le_of_lt (Nat.le_add_right ..) hoff
  unfold assemble
  simp only [hmin, hmax, foldl_max_withOffsets parts off 0 (Nat.zero_le _)]
  by_cases hp : parts = []
  · subst hp; simp [withOffsets]
  rw [start_withOffsets hp (Nat.le_of_lt hlt), if_neg hp]
  by_cases hz : parts.flatten.length = 0
  · rw [if_pos (Or.inr (by rw [hz]; exact Nat.le_refl _))]; exact (List.eq_nil_of_length_eq_zero hz).symm
  rw [if_neg (fun h => h.elim (Nat.ne_of_lt hlt) (fun h2 => hz (Nat.le_zero.mp (Nat.le_of_add_le_add_left h2)))),
    Nat.add_sub_cancel_left]
  have hpieces : ∀ c ∈ chunks, Piece parts.flatten off c := by
    intro c hc
    have := pieces_withOffsets off parts [] off rfl [] c (hperm.subset hc)
    rwa [List.nil_append, List.append_nil] at this
  apply List.ext_getElem?
  intro i
  by_cases hi : i < parts.flatten.length
  · apply fold_place_correct parts.flatten off chunks _ List.length_replicate hpieces i
    right
    obtain ⟨c, hc, hcov⟩ := covered_withOffsets off parts 0 off rfl i (Nat.zero_le _) ((Nat.zero_add _).symm ▸ hi)
    exact ⟨c, hperm.symm.subset hc, hcov⟩
  · have hl := fold_place_length parts.flatten off chunks (List.replicate parts.flatten.length 0)
      List.length_replicate hpieces
    rw [List.getElem?_eq_none (by rw [hl]; exact Nat.le_of_not_lt hi), List.getElem?_eq_none (Nat.le_of_not_lt hi)]

end Compio.QuicWakers
