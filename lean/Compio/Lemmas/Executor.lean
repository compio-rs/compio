/-
Whole-state lemmas for the home-thread executor model: queue well-formedness `QWf`, the invariant `Inv`
(every task satisfies `TInv`; a queued task that is cancelled or has SCHEDULED set is hot, in the sync queue or
about to be pushed there; `pending` bounds the sync queue; a dropped executor has empty queues), its
preservation by `make_hot`, `drain_sync`, `Local::schedule`, `Remote::schedule` (`Inv.update` is the common
step) and by one loop body of `tick` (`tickStep_facts : StepFacts …`, what ExecutorTick.lean inducts over).
-/
import Compio.Lemmas.ExecutorTask

namespace Compio.Executor
open Compio.TaskWord Compio.Gen

/-- (Q) hot and cold are duplicate-free, disjoint and contain only valid ids -/
structure QWf (e : Exec) : Prop where
  hnd : e.hot.Nodup
  cnd : e.cold.Nodup
  disj : ∀ x, x ∈ e.hot → x ∈ e.cold → False
  hval : ∀ x, x ∈ e.hot → x < e.tasks.length
  cval : ∀ x, x ∈ e.cold → x < e.tasks.length

structure Inv (e : Exec) : Prop where
  q : QWf e
  t : ∀ id t, e.get? id = some t → TInv (inMap e id) t
  /-- a cancelled task that is still in the queue (it was scheduled by `Task::cancel`) is hot, or waits in the sync
  queue, or is the id a blocked `Remote::schedule` is about to push -/
  c : ∀ id t, e.get? id = some t → t.word.notCancelled = false → id ∈ e.cold → id ∈ e.sync ∨ e.inflight = some id
  /-- a queued task whose SCHEDULED bit is set (a cross-thread wake was accepted) is hot, or waits in the
  sync queue, or is the id a blocked `Remote::schedule` is about to push -/
  s : ∀ id t, e.get? id = some t → t.word.scheduled = true → id ∈ e.cold → id ∈ e.sync ∨ e.inflight = some id
  /-- after `Executor::drop` the queues are empty -/
  dead : e.alive = false → e.hot = [] ∧ e.cold = []
  /-- `pending` is an upper bound of the ids in (or about to enter) the sync queue: the fast path of
  `drain_sync` never skips one, and a reservation survives a drain -/
  p : e.sync.length + (if e.inflight.isSome then 1 else 0) ≤ e.pending

theorem QWf.nodup_append {e : Exec} (q : QWf e) : (e.hot ++ e.cold).Nodup :=
  List.nodup_append.mpr ⟨q.hnd, q.cnd, fun a ha _ hb hab => q.disj a ha (hab ▸ hb)⟩

theorem inMap_iff (e : Exec) (id : Nat) : inMap e id = true ↔ id ∈ e.hot ∨ id ∈ e.cold := by
  simp [inMap]

theorem inMap_false_iff (e : Exec) (id : Nat) : inMap e id = false ↔ ¬ (id ∈ e.hot ∨ id ∈ e.cold) := by
  rw [← inMap_iff]; simp

theorem inMap_eq_of_iff (e e' : Exec) (id id' : Nat)
    (h : (id ∈ e.hot ∨ id ∈ e.cold) ↔ (id' ∈ e'.hot ∨ id' ∈ e'.cold)) : inMap e id = inMap e' id' := by
  cases h1 : inMap e id <;> cases h2 : inMap e' id' <;> simp_all [inMap_iff, inMap_false_iff]

theorem get?_lt {e : Exec} {id : Nat} {t : TaskSt} (h : e.get? id = some t) : id < e.tasks.length := by
  unfold Exec.get? at h
  exact (List.getElem?_eq_some_iff.mp h).1

theorem Inv.get_of_mem {e : Exec} (h : Inv e) {id : Nat} (hm : id ∈ e.hot ∨ id ∈ e.cold) :
    ∃ t, e.get? id = some t ∧ TInv true t := by
  have hl : id < e.tasks.length := hm.elim (h.q.hval id) (h.q.cval id)
  refine ⟨e.tasks[id], ?_, ?_⟩
  · simp [Exec.get?, hl]
  · have := h.t id e.tasks[id] (by simp [Exec.get?, hl])
    rwa [(inMap_iff e id).mpr hm] at this

/-- relation between the queues before and after a step that concerns task `id` only -/
structure QStep (hot cold : List Nat) (id : Nat) (hot' cold' : List Nat) : Prop where
  hnd : hot'.Nodup
  cnd : cold'.Nodup
  disj : ∀ x, x ∈ hot' → x ∈ cold' → False
  sub : ∀ x, x ∈ hot' ∨ x ∈ cold' → x ∈ hot ∨ x ∈ cold
  keep : ∀ x, x ≠ id → (x ∈ hot ∨ x ∈ cold) → x ∈ hot' ∨ x ∈ cold'
  coldsub : ∀ x, x ≠ id → x ∈ cold' → x ∈ cold

theorem QStep.refl {e : Exec} (q : QWf e) (id : Nat) : QStep e.hot e.cold id e.hot e.cold :=
  ⟨q.hnd, q.cnd, q.disj, fun _ h => h, fun _ _ h => h, fun _ _ h => h⟩

theorem QStep.of_perm {e : Exec} (q : QWf e) {id : Nat} {hot' cold' : List Nat}
    (hp : (hot' ++ cold').Perm (e.hot ++ e.cold)) (hc : ∀ x, x ≠ id → x ∈ cold' → x ∈ e.cold) :
    QStep e.hot e.cold id hot' cold' := by
  have hn := List.nodup_append.mp (hp.nodup_iff.mpr q.nodup_append)
  have hm : ∀ x, (x ∈ hot' ∨ x ∈ cold') ↔ (x ∈ e.hot ∨ x ∈ e.cold) := fun x => by
    rw [← List.mem_append, ← List.mem_append]; exact hp.mem_iff
  exact ⟨hn.1, hn.2.1, fun x h1 h2 => hn.2.2 x h1 x h2 rfl, fun x => (hm x).mp, fun x _ => (hm x).mpr, hc⟩

theorem QStep.makeHot {e : Exec} (q : QWf e) {id : Nat} (hc : id ∈ e.cold) :
    QStep e.hot e.cold id (e.hot ++ [id]) (e.cold.erase id) :=
  .of_perm q (by rw [List.append_assoc]; exact (List.perm_cons_erase hc).symm.append_left _)
    fun _ _ hx => List.mem_of_mem_erase hx

theorem QStep.remove {e : Exec} (q : QWf e) (id : Nat) :
    QStep e.hot e.cold id (e.hot.erase id) (e.cold.erase id) := by
  refine ⟨q.hnd.erase id, q.cnd.erase id, ?_, ?_, ?_, ?_⟩
  · intro x hx hx'
    exact q.disj x (List.mem_of_mem_erase hx) (List.mem_of_mem_erase hx')
  · intro x hx
    exact hx.elim (fun h => Or.inl (List.mem_of_mem_erase h)) (fun h => Or.inr (List.mem_of_mem_erase h))
  · intro x hne hx
    exact hx.elim (fun h => Or.inl ((List.mem_erase_of_ne hne).mpr h)) (fun h => Or.inr ((List.mem_erase_of_ne hne).mpr h))
  · intro x hne hx
    exact List.mem_of_mem_erase hx

theorem QWf.head {e : Exec} (q : QWf e) {id : Nat} {rest : List Nat} (hh : e.hot = id :: rest) :
    id ∉ rest ∧ rest.Nodup ∧ id ∉ e.cold := by
  have hnd := q.hnd
  rw [hh, List.nodup_cons] at hnd
  exact ⟨hnd.1, hnd.2, fun hc => q.disj id (by simp [hh]) hc⟩

theorem QStep.makeCold {e : Exec} (q : QWf e) {id : Nat} {rest : List Nat} (hh : e.hot = id :: rest) :
    QStep e.hot e.cold id rest (e.cold ++ [id]) :=
  .of_perm q (by rw [hh, ← List.append_assoc]; exact List.perm_append_singleton _ _)
    fun x hne h1 => (List.mem_append.mp h1).resolve_right fun h2 => hne (List.mem_singleton.mp h2)

theorem Inv.reach {e : Exec} (h : Inv e) {id : Nat} {t : TaskSt} (hg : e.get? id = some t)
    (hw : t.word.notCancelled = false ∨ t.word.scheduled = true) (hc : id ∈ e.cold) :
    id ∈ e.sync ∨ e.inflight = some id :=
  hw.elim (fun h1 => h.c id t hg h1 hc) (fun h1 => h.s id t hg h1 hc)

theorem Inv.update {e : Exec} (h : Inv e) {id : Nat} {t t' : TaskSt} {hot' cold' : List Nat}
    (hg : e.get? id = some t) (qs : QStep e.hot e.cold id hot' cold') (b : Bool)
    (hb : (id ∈ hot' ∨ id ∈ cold') ↔ b = true) (ht : TInv b t')
    {e' : Exec} (tasks : e'.tasks = e.tasks.set id t') (hot : e'.hot = hot') (cold : e'.cold = cold')
    (alive : e'.alive = e.alive)
    (hr : t'.word.notCancelled = false ∨ t'.word.scheduled = true → id ∈ cold' →
      id ∈ e'.sync ∨ e'.inflight = some id)
    (hsyn : ∀ x, x ≠ id → x ∈ cold' → (x ∈ e.sync ∨ e.inflight = some x) → (x ∈ e'.sync ∨ e'.inflight = some x))
    (hp : e'.sync.length + (if e'.inflight.isSome then 1 else 0) ≤ e'.pending) : Inv e' := by
  have hl := get?_lt hg
  have hlen : e'.tasks.length = e.tasks.length := by simp [tasks]
  have task : ∀ x tx, e'.get? x = some tx → (x = id ∧ tx = t') ∨ (x ≠ id ∧ e.get? x = some tx) := by
    intro x tx hx
    unfold Exec.get? at hx
    rw [tasks] at hx
    by_cases hxi : x = id
    · rw [hxi, List.getElem?_set_self hl] at hx
      exact Or.inl ⟨hxi, (Option.some.inj hx).symm⟩
    · rw [List.getElem?_set_ne (Ne.symm hxi)] at hx
      exact Or.inr ⟨hxi, hx⟩
  have reach : ∀ x tx, e'.get? x = some tx → tx.word.notCancelled = false ∨ tx.word.scheduled = true →
      x ∈ e'.cold → x ∈ e'.sync ∨ e'.inflight = some x := by
    intro x tx hx hw hcold
    rw [cold] at hcold
    rcases task x tx hx with ⟨rfl, rfl⟩ | ⟨hxi, hx⟩
    · exact hr hw hcold
    · exact hsyn x hxi hcold (h.reach hx hw (qs.coldsub x hxi hcold))
  refine ⟨⟨?_, ?_, ?_, ?_, ?_⟩, ?_, fun x tx hx hw => reach x tx hx (Or.inl hw),
    fun x tx hx hw => reach x tx hx (Or.inr hw), ?_, hp⟩
  · rw [hot]; exact qs.hnd
  · rw [cold]; exact qs.cnd
  · rw [hot, cold]; exact qs.disj
  · intro x hx
    rw [hot] at hx; rw [hlen]
    exact (qs.sub x (Or.inl hx)).elim (h.q.hval x) (h.q.cval x)
  · intro x hx
    rw [cold] at hx; rw [hlen]
    exact (qs.sub x (Or.inr hx)).elim (h.q.hval x) (h.q.cval x)
  · intro x tx hx
    rcases task x tx hx with ⟨rfl, rfl⟩ | ⟨hxi, hx⟩
    · have : inMap e' x = b := by
        cases b
        · rw [inMap_false_iff, hot, cold]; simpa using hb
        · rw [inMap_iff, hot, cold]; simpa using hb
      rw [this]; exact ht
    · have hm : inMap e' x = inMap e x := by
        apply inMap_eq_of_iff
        rw [hot, cold]
        exact ⟨qs.sub x, qs.keep x hxi⟩
      rw [hm]
      exact h.t x tx hx
  · intro ha
    rw [alive] at ha
    obtain ⟨d1, d2⟩ := h.dead ha
    rw [hot, cold]
    constructor <;> apply List.eq_nil_iff_forall_not_mem.mpr <;> intro x hx
    · simpa [d1, d2] using qs.sub x (Or.inl hx)
    · simpa [d1, d2] using qs.sub x (Or.inr hx)

theorem get?_setTask_self {e : Exec} {id : Nat} {t : TaskSt} (t' : TaskSt) (h : e.get? id = some t) :
    (e.setTask id t').get? id = some t' := by
  simp [Exec.get?, Exec.setTask, List.getElem?_set_self (get?_lt h)]

theorem get?_setTask_ne (e : Exec) {id x : Nat} (t' : TaskSt) (h : x ≠ id) :
    (e.setTask id t').get? x = e.get? x := by
  simp [Exec.get?, Exec.setTask, List.getElem?_set_ne (Ne.symm h)]

theorem tasks_set_same {e : Exec} {id : Nat} {t : TaskSt} (hg : e.get? id = some t) : e.tasks.set id t = e.tasks := by
  apply List.ext_getElem?
  intro i
  by_cases hi : id = i
  · subst hi; rw [List.getElem?_set_self (get?_lt hg)]; exact hg.symm
  · rw [List.getElem?_set_ne hi]

/-- the fields that neither a queue call nor a rewrite of a task writes -/
structure SameBooks (e e' : Exec) : Prop where
  woken : e'.woken = e.woken
  alive : e'.alive = e.alive
  cap : e'.cap = e.cap
  outstanding : e'.outstanding = e.outstanding
  inflight : e'.inflight = e.inflight

theorem SameBooks.refl (e : Exec) : SameBooks e e := ⟨rfl, rfl, rfl, rfl, rfl⟩

theorem SameBooks.trans {a b c : Exec} (h1 : SameBooks a b) (h2 : SameBooks b c) : SameBooks a c :=
  ⟨h2.woken.trans h1.woken, h2.alive.trans h1.alive, h2.cap.trans h1.cap, h2.outstanding.trans h1.outstanding,
    h2.inflight.trans h1.inflight⟩

theorem makeHot_tasks (e : Exec) (id : Nat) : (makeHot e id).tasks = e.tasks := by
  unfold makeHot; split <;> rfl

theorem makeHot_books (e : Exec) (id : Nat) :
    SameBooks e (makeHot e id) ∧ (makeHot e id).sync = e.sync ∧ (makeHot e id).pending = e.pending := by
  unfold makeHot; split <;> exact ⟨⟨rfl, rfl, rfl, rfl, rfl⟩, rfl, rfl⟩

theorem makeHot_get? (e : Exec) (id x : Nat) : (makeHot e id).get? x = e.get? x := by
  simp [Exec.get?, makeHot_tasks]

theorem foldl_makeHot_tasks (l : List Nat) : ∀ e : Exec, (l.foldl makeHot e).tasks = e.tasks := by
  induction l with
  | nil => intro e; rfl
  | cons a l ih => intro e; rw [List.foldl_cons, ih, makeHot_tasks]

theorem drainSync_tasks (e : Exec) : (drainSync e).tasks = e.tasks := by
  unfold drainSync
  split
  · rfl
  · simp only; split <;> simp [foldl_makeHot_tasks]

theorem drainSync_get? (e : Exec) (x : Nat) : (drainSync e).get? x = e.get? x := by
  simp [Exec.get?, drainSync_tasks]

theorem makeHot_cases (e : Exec) (id : Nat) :
    (id ∉ e.cold ∧ makeHot e id = e) ∨
    (id ∈ e.cold ∧ makeHot e id =
      { e with cold := e.cold.erase id, hot := e.hot ++ [id], qlog := e.qlog ++ [.makeHot id] }) := by
  by_cases hc : id ∈ e.cold
  · exact Or.inr ⟨hc, by simp [makeHot, hc]⟩
  · exact Or.inl ⟨hc, by simp [makeHot, hc]⟩

theorem makeHot_inv {e : Exec} (h : Inv e) (id : Nat) : Inv (makeHot e id) := by
  rcases makeHot_cases e id with ⟨_, he⟩ | ⟨hc, he⟩
  · rw [he]; exact h
  · obtain ⟨t, hg, _⟩ := h.get_of_mem (id := id) (Or.inr hc)
    rw [he]
    refine h.update hg (QStep.makeHot h.q hc) (inMap e id) ?_ (h.t id t hg) (tasks := (tasks_set_same hg).symm) (hot := rfl) (cold := rfl)
      (alive := rfl)
      (fun hw hx => h.reach hg hw (List.mem_of_mem_erase hx)) (fun x _ _ hx => hx) h.p
    rw [inMap_iff]; simp [hc]

theorem makeHot_mem (e : Exec) (id x : Nat) :
    (x ∈ (makeHot e id).hot ∨ x ∈ (makeHot e id).cold) ↔ (x ∈ e.hot ∨ x ∈ e.cold) := by
  rcases makeHot_cases e id with ⟨_, he⟩ | ⟨hc, he⟩ <;> rw [he]
  simp only [List.mem_append, List.mem_singleton]
  by_cases hx : x = id
  · subst hx; simp [hc]
  · simp [List.mem_erase_of_ne hx, hx]

theorem makeHot_hot (e : Exec) (id : Nat) :
    ∃ w, (makeHot e id).hot = e.hot ++ w ∧ w.length ≤ 1 ∧ ∀ x, x ∈ w → x = id ∧ id ∈ e.cold := by
  rcases makeHot_cases e id with ⟨_, he⟩ | ⟨hc, he⟩ <;> rw [he]
  · exact ⟨[], by simp⟩
  · exact ⟨[id], rfl, Nat.le_refl _, fun x hx => ⟨List.mem_singleton.mp hx, hc⟩⟩

theorem makeHot_cold {e : Exec} (hn : e.cold.Nodup) (id x : Nat) :
    x ∈ (makeHot e id).cold ↔ x ∈ e.cold ∧ x ≠ id := by
  rcases makeHot_cases e id with ⟨hc, he⟩ | ⟨hc, he⟩ <;> rw [he]
  · exact ⟨fun hx => ⟨hx, fun hxi => hc (hxi ▸ hx)⟩, fun hx => hx.1⟩
  · simp only [hn.mem_erase_iff]; exact And.comm

theorem foldl_makeHot (l : List Nat) : ∀ (e : Exec), Inv e →
    Inv (l.foldl makeHot e) ∧
    (SameBooks e (l.foldl makeHot e) ∧ (l.foldl makeHot e).sync = e.sync ∧
      (l.foldl makeHot e).pending = e.pending) ∧
    (∃ w, (l.foldl makeHot e).hot = e.hot ++ w ∧ w.length ≤ l.length ∧ ∀ x, x ∈ w → x ∈ e.cold ∧ x ∈ l) ∧
    (∀ x, x ∈ (l.foldl makeHot e).cold ↔ (x ∈ e.cold ∧ x ∉ l)) ∧
    (∀ x, (x ∈ (l.foldl makeHot e).hot ∨ x ∈ (l.foldl makeHot e).cold) ↔ (x ∈ e.hot ∨ x ∈ e.cold)) := by
  induction l with
  | nil =>
    intro e h
    exact ⟨h, ⟨.refl e, rfl, rfl⟩, ⟨[], by simp, by simp, by simp⟩, by simp, by simp⟩
  | cons a l ih =>
    intro e h
    obtain ⟨hi, ⟨fb, fs, fp⟩, ⟨w, iw, iwl, iw'⟩, i5, i6⟩ := ih (makeHot e a) (makeHot_inv h a)
    obtain ⟨gb, gs, gp⟩ := makeHot_books e a
    obtain ⟨w0, hw0, hl0, hm0⟩ := makeHot_hot e a
    have hc0 := makeHot_cold h.q.cnd a
    refine ⟨hi, ⟨gb.trans fb, fs.trans gs, fp.trans gp⟩, ⟨w0 ++ w, by rw [List.foldl_cons, iw, hw0, List.append_assoc], by simp; omega, ?_⟩, ?_,
      fun x => (i6 x).trans (makeHot_mem e a x)⟩
    · intro x hx
      rcases List.mem_append.mp hx with hx | hx
      · obtain ⟨rfl, hc⟩ := hm0 x hx
        exact ⟨hc, by simp⟩
      · exact ⟨((hc0 x).mp (iw' x hx).1).1, by simp [(iw' x hx).2]⟩
    · intro x
      rw [List.foldl_cons, i5 x, hc0 x, List.mem_cons, not_or, and_assoc]

theorem makeHot_sync (e : Exec) (s : List Nat) (id : Nat) :
    makeHot { e with sync := s } id = { makeHot e id with sync := s } := by
  unfold makeHot; split <;> rfl

theorem foldl_makeHot_sync (l s : List Nat) : ∀ e : Exec,
    l.foldl makeHot { e with sync := s } = { l.foldl makeHot e with sync := s } := by
  induction l with
  | nil => intro e; rfl
  | cons a l ih => intro e; rw [List.foldl_cons, List.foldl_cons, makeHot_sync, ih]

/-- what `drain_sync` does to a state `e` satisfying `Inv` (`e'` = the state after): the sync queue is emptied, its
ids that were cold go to the hot tail, nothing else moves -/
structure DrainFacts (e e' : Exec) : Prop where
  tasks : e'.tasks = e.tasks
  woken : e'.woken = e.woken
  alive : e'.alive = e.alive
  cap : e'.cap = e.cap
  outstanding : e'.outstanding = e.outstanding
  inflight : e'.inflight = e.inflight
  sync : e'.sync = []
  hot : ∃ w, e'.hot = e.hot ++ w ∧ w.length ≤ e.sync.length ∧ ∀ x, x ∈ w → x ∈ e.cold ∧ x ∈ e.sync
  cold : ∀ x, x ∈ e'.cold ↔ (x ∈ e.cold ∧ x ∉ e.sync)
  mem : ∀ x, (x ∈ e'.hot ∨ x ∈ e'.cold) ↔ (x ∈ e.hot ∨ x ∈ e.cold)
  inv : Inv e'

theorem drainSync_facts {e : Exec} (h : Inv e) : DrainFacts e (drainSync e) := by
  by_cases hp : e.pending = 0
  · have hs : e.sync = [] := by
      have := h.p; rw [hp] at this
      exact List.eq_nil_of_length_eq_zero (by omega)
    have he : drainSync e = e := by simp [drainSync, hp]
    rw [he]
    exact ⟨rfl, rfl, rfl, rfl, rfl, rfl, hs, ⟨[], by simp, by simp, by simp⟩, by simp [hs], by simp, h⟩
  · obtain ⟨hi, ⟨fb, f4, f5⟩, hw, i5, i6⟩ := foldl_makeHot e.sync e h
    -- the drained ids have left the cold list, so the emptied sync queue is not missed
    have hfields : ∀ pd : Nat, (if e.inflight.isSome then 1 else 0) ≤ pd →
        DrainFacts e { e.sync.foldl makeHot e with sync := [], pending := pd } := by
      intro pd hpd
      have reach : ∀ x, x ∈ (e.sync.foldl makeHot e).cold →
          x ∈ (e.sync.foldl makeHot e).sync ∨ (e.sync.foldl makeHot e).inflight = some x →
          x ∈ ([] : List Nat) ∨ (e.sync.foldl makeHot e).inflight = some x :=
        fun x hc hr => hr.elim (fun h3 => absurd (f4 ▸ h3) ((i5 x).mp hc).2) Or.inr
      refine ⟨foldl_makeHot_tasks _ e, fb.woken, fb.alive, fb.cap, fb.outstanding, fb.inflight, rfl, hw, i5, i6, ⟨hi.q.hnd, hi.q.cnd, hi.q.disj, hi.q.hval, hi.q.cval⟩, hi.t,
        fun x t hx hn hc => reach x hc (hi.c x t hx hn hc), fun x t hx hn hc => reach x hc (hi.s x t hx hn hc),
        hi.dead, ?_⟩
      show 0 + (if (e.sync.foldl makeHot e).inflight.isSome then 1 else 0) ≤ pd
      rw [fb.inflight]; omega
    have hpp := h.p
    unfold drainSync
    simp only [hp, if_false, foldl_makeHot_sync]
    by_cases hl : e.sync.length = 0
    · simp only [hl, if_true]
      have := hfields (e.sync.foldl makeHot e).pending (by rw [f5]; omega)
      simpa using this
    · simp only [hl, if_false]
      exact hfields _ (by show _ ≤ (e.sync.foldl makeHot e).pending - e.sync.length; rw [f5]; omega)

theorem drainSync_inv {e : Exec} (h : Inv e) : Inv (drainSync e) := (drainSync_facts h).inv

theorem drainSync_inMap {e : Exec} (h : Inv e) (x : Nat) : inMap (drainSync e) x = inMap e x :=
  inMap_eq_of_iff _ _ _ _ ((drainSync_facts h).mem x)

theorem DrainFacts.books {e e' : Exec} (d : DrainFacts e e') : SameBooks e e' :=
  ⟨d.woken, d.alive, d.cap, d.outstanding, d.inflight⟩

theorem scheduleLocal_cases (e : Exec) (id : Nat) :
    scheduleLocal e id = e ∨ scheduleLocal e id = makeHot (drainSync e) id := by
  unfold scheduleLocal
  cases e.get? id with
  | none => exact Or.inl rfl
  | some t => simp only; cases t.shared <;> simp

theorem scheduleLocal_inv {e : Exec} (h : Inv e) (id : Nat) : Inv (scheduleLocal e id) := by
  rcases scheduleLocal_cases e id with he | he <;> rw [he]
  · exact h
  · exact makeHot_inv (drainSync_inv h) id

theorem scheduleLocal_tasks (e : Exec) (id : Nat) : (scheduleLocal e id).tasks = e.tasks := by
  rcases scheduleLocal_cases e id with he | he <;> rw [he]
  rw [makeHot_tasks, drainSync_tasks]

theorem scheduleLocal_get? (e : Exec) (id x : Nat) : (scheduleLocal e id).get? x = e.get? x := by
  simp [Exec.get?, scheduleLocal_tasks]

theorem scheduleLocal_books {e : Exec} (h : Inv e) (id : Nat) : SameBooks e (scheduleLocal e id) := by
  rcases scheduleLocal_cases e id with he | he <;> rw [he]
  · exact .refl e
  · exact (drainSync_facts h).books.trans (makeHot_books _ id).1

theorem scheduleLocal_mem {e : Exec} (h : Inv e) (id x : Nat) :
    (x ∈ (scheduleLocal e id).hot ∨ x ∈ (scheduleLocal e id).cold) ↔ (x ∈ e.hot ∨ x ∈ e.cold) := by
  rcases scheduleLocal_cases e id with he | he <;> rw [he]
  rw [makeHot_mem, (drainSync_facts h).mem]

theorem scheduleLocal_inMap {e : Exec} (h : Inv e) (id x : Nat) : inMap (scheduleLocal e id) x = inMap e x :=
  inMap_eq_of_iff _ _ _ _ (scheduleLocal_mem h id x)

theorem scheduleLocal_hot {e : Exec} (h : Inv e) (id : Nat) : ∃ w, (scheduleLocal e id).hot = e.hot ++ w := by
  rcases scheduleLocal_cases e id with he | he <;> rw [he]
  · exact ⟨[], by simp⟩
  · obtain ⟨w1, h1, _⟩ := makeHot_hot (drainSync e) id
    obtain ⟨w2, h2, _, _⟩ := (drainSync_facts h).hot
    exact ⟨w2 ++ w1, by rw [h1, h2]; simp⟩

theorem scheduleLocal_cold_sub {e : Exec} (h : Inv e) (id x : Nat) (hx : x ∈ (scheduleLocal e id).cold) :
    x ∈ e.cold := by
  rcases scheduleLocal_cases e id with he | he <;> rw [he] at hx
  · exact hx
  · exact (((drainSync_facts h).cold x).mp ((makeHot_cold (drainSync_inv h).q.cnd id x).mp hx).1).1

theorem scheduleLocal_not_cold {e : Exec} (h : Inv e) {id : Nat} {t : TaskSt} (hg : e.get? id = some t) :
    id ∈ (scheduleLocal e id).cold → False := by
  intro hc
  have hcold := scheduleLocal_cold_sub h id id hc
  have ht := h.t id t hg
  rw [(inMap_iff e id).mpr (Or.inr hcold)] at ht
  unfold scheduleLocal at hc
  rw [hg] at hc
  simp only [ht.inq_sh rfl, if_true] at hc
  exact ((makeHot_cold (drainSync_inv h).q.cnd id id).mp hc).2 rfl

theorem scheduleLocal_makes_hot {e : Exec} (h : Inv e) {id : Nat} {t : TaskSt} (hg : e.get? id = some t)
    (hq : inMap e id = true) : id ∈ (scheduleLocal e id).hot :=
  ((scheduleLocal_mem h id id).mpr ((inMap_iff e id).mp hq)).resolve_right (scheduleLocal_not_cold h hg)

theorem remoteSchedule_cases {e : Exec} {id : Nat} {t : TaskSt} (hg : e.get? id = some t) :
    ((t.word.scheduled = true ∨ t.word.completed = true ∨ t.word.notCancelled = false ∨ t.shared = false) ∧
      remoteSchedule e id = e.setTask id { t with word := { t.word with scheduled := true, scheduling := false } }) ∨
    (t.word.scheduled = false ∧ t.word.completed = false ∧ t.word.notCancelled = true ∧ t.shared = true ∧
      remoteSchedule e id =
        { e.setTask id { t with word := { t.word with scheduled := true, scheduling := false } } with
            pending := e.pending + 1, sync := e.sync ++ [id] }) := by
  rcases remoteSchedTask_cases t with ⟨h, he⟩ | ⟨h1, h2, h3, h4, he⟩
  · exact Or.inl ⟨h, by simp [remoteSchedule, hg, he]⟩
  · exact Or.inr ⟨h1, h2, h3, h4, by simp [remoteSchedule, hg, he]⟩

theorem remoteSchedule_none {e : Exec} {id : Nat} (hg : e.get? id = none) : remoteSchedule e id = e := by
  simp [remoteSchedule, hg]

/-- the reserve-and-push part of `Remote::schedule` (the SCHEDULING bit may still be set: `b`) -/
theorem push_inv {e : Exec} (h : Inv e) {id : Nat} {t : TaskSt} (hg : e.get? id = some t) (b : Bool) (k : Nat) :
    Inv ({ e.setTask id { t with word := { t.word with scheduled := true, scheduling := b } } with
            pending := e.pending + 1, sync := e.sync ++ [id], outstanding := k } : Exec) := by
  refine h.update hg (QStep.refl h.q id) (inMap e id) (by rw [inMap_iff]) ((h.t id t hg).frame_sched true b)
    (tasks := rfl) (hot := rfl) (cold := rfl) (alive := rfl) (fun _ _ => Or.inl (by simp)) ?_ ?_
  · intro x _ _ hx
    exact hx.elim (fun hx => Or.inl (by simp [hx])) Or.inr
  · have := h.p
    cases hi : e.inflight <;> simp [Exec.setTask, hi] at this ⊢ <;> omega

theorem remoteSchedule_inv {e : Exec} (h : Inv e) (id : Nat) : Inv (remoteSchedule e id) := by
  cases hg : e.get? id with
  | none => rw [remoteSchedule_none hg]; exact h
  | some t =>
    have ht := h.t id t hg
    have ht' := ht.frame_sched true false
    rcases remoteSchedule_cases hg with ⟨hearly, he⟩ | ⟨h1, h2, h3, h4, he⟩ <;> rw [he]
    · refine h.update hg (QStep.refl h.q id) (inMap e id) (by rw [inMap_iff]) ht' (tasks := rfl) (hot := rfl) (cold := rfl) (alive := rfl)
        ?_ (fun x _ _ hx => hx) h.p
      intro hw hc
      have hin := (inMap_iff e id).mpr (Or.inr hc)
      rw [hin] at ht
      rcases hearly with h1 | h1 | h1 | h1
      · exact h.s id t hg h1 hc
      · rw [ht.inq_c rfl] at h1; cases h1
      · exact h.c id t hg h1 hc
      · rw [ht.inq_sh rfl] at h1; cases h1
    · exact push_inv h hg false e.outstanding

theorem remoteScheduleGuarded_cases (e : Exec) (id : Nat) :
    remoteScheduleGuarded e id = e ∨
    remoteScheduleGuarded e id = remoteSchedule { e with outstanding := e.outstanding + 1 } id := by
  unfold remoteScheduleGuarded; split
  · exact Or.inr rfl
  · exact Or.inl rfl

theorem Inv.outstanding {e : Exec} (h : Inv e) (k : Nat) : Inv { e with outstanding := k } :=
  ⟨⟨h.q.hnd, h.q.cnd, h.q.disj, h.q.hval, h.q.cval⟩, h.t, h.c, h.s, h.dead, h.p⟩

theorem remoteScheduleGuarded_inv {e : Exec} (h : Inv e) (id : Nat) : Inv (remoteScheduleGuarded e id) := by
  rcases remoteScheduleGuarded_cases e id with he | he <;> rw [he]
  · exact h
  · exact remoteSchedule_inv (h.outstanding _) id

theorem remoteSchedule_queues (e : Exec) (id : Nat) :
    (remoteSchedule e id).hot = e.hot ∧ (remoteSchedule e id).cold = e.cold := by
  cases hg : e.get? id with
  | none => rw [remoteSchedule_none hg]; exact ⟨rfl, rfl⟩
  | some t => rcases remoteSchedule_cases hg with ⟨_, he⟩ | ⟨_, _, _, _, he⟩ <;> rw [he] <;> exact ⟨rfl, rfl⟩

theorem remoteSchedule_inMap (e : Exec) (id x : Nat) : inMap (remoteSchedule e id) x = inMap e x :=
  inMap_eq_of_iff _ _ _ _ (by rw [(remoteSchedule_queues e id).1, (remoteSchedule_queues e id).2])

theorem remoteSchedule_books (e : Exec) (id : Nat) : SameBooks e (remoteSchedule e id) := by
  cases hg : e.get? id with
  | none => rw [remoteSchedule_none hg]; exact .refl e
  | some t => rcases remoteSchedule_cases hg with ⟨_, he⟩ | ⟨_, _, _, _, he⟩ <;> rw [he] <;> exact ⟨rfl, rfl, rfl, rfl, rfl⟩

theorem remoteSchedule_get?_ne (e : Exec) {id x : Nat} (hx : x ≠ id) :
    (remoteSchedule e id).get? x = e.get? x := by
  cases hg : e.get? id with
  | none => rw [remoteSchedule_none hg]
  | some t =>
    rcases remoteSchedule_cases hg with ⟨_, he⟩ | ⟨_, _, _, _, he⟩ <;> rw [he] <;>
      simp [Exec.get?, Exec.setTask, List.getElem?_set_ne (Ne.symm hx)]

theorem remoteSchedule_get?_self {e : Exec} {id : Nat} {t : TaskSt} (hg : e.get? id = some t) :
    (remoteSchedule e id).get? id = some { t with word := { t.word with scheduled := true, scheduling := false } } := by
  rcases remoteSchedule_cases hg with ⟨_, he⟩ | ⟨_, _, _, _, he⟩ <;> rw [he] <;>
    simp [Exec.get?, Exec.setTask, List.getElem?_set_self (get?_lt hg)]

theorem remoteScheduleGuarded_get?_ne (e : Exec) {id x : Nat} (hx : x ≠ id) :
    (remoteScheduleGuarded e id).get? x = e.get? x := by
  rcases remoteScheduleGuarded_cases e id with he | he <;> rw [he]
  rw [remoteSchedule_get?_ne _ hx]; rfl

/-- `a` is `b` up to the SCHEDULED / SCHEDULING bits -/
def SameUpToSched (a b : TaskSt) : Prop :=
  ∃ x y, a = { b with word := { b.word with scheduled := x, scheduling := y } }

theorem SameUpToSched.refl (t : TaskSt) : SameUpToSched t t := ⟨t.word.scheduled, t.word.scheduling, rfl⟩

/-- the loop body of `tick` on `id`, the head of the hot list `id :: rest` of `e`, whose task is `t`; `s` = (the state it
leaves, was the future polled). A cancelled task is not polled and leaves the queue (`polled`, `gone`); the task left is
`(runTask t).1`, up to the SCHEDULED / SCHEDULING bits when the poll had the task woken from another thread (`taskEq`) -/
structure StepFacts (e : Exec) (id : Nat) (rest : List Nat) (t : TaskSt) (s : Exec × Bool) : Prop where
  inv : Inv s.1
  hot : ∃ w, s.1.hot = rest ++ w
  frame : ∀ x, x ≠ id → s.1.get? x = e.get? x
  polled : s.2 = t.word.notCancelled
  gone : s.2 = false → inMap s.1 id = false
  taskEq : ∃ t', s.1.get? id = some t' ∧
    (t' = (runTask t).1 ∨ ((runTask t).2.1 = .remoteWoke ∧ SameUpToSched t' (runTask t).1))
  polls : (runTask t).1.polls = t.polls + (if s.2 then 1 else 0)
  live : inMap s.1 id = true → (runTask t).1.word.notCancelled = true
  sub : ∀ x, inMap s.1 x = true → inMap e x = true
  keep : ∀ x, x ≠ id → inMap e x = true → inMap s.1 x = true
  fields : s.1.alive = e.alive ∧ s.1.inflight = e.inflight ∧ s.1.cap = e.cap

theorem StepFacts.sameTask {e : Exec} {id : Nat} {rest : List Nat} {t : TaskSt} {s : Exec × Bool}
    (sf : StepFacts e id rest t s) : ∃ t', s.1.get? id = some t' ∧ SameUpToSched t' (runTask t).1 := by
  obtain ⟨t', hg, he | ⟨_, hs⟩⟩ := sf.taskEq
  · exact ⟨t', hg, he ▸ .refl _⟩
  · exact ⟨t', hg, hs⟩

theorem StepFacts.task {e : Exec} {id : Nat} {rest : List Nat} {t : TaskSt} {s : Exec × Bool}
    (sf : StepFacts e id rest t s) :
    ∃ t', s.1.get? id = some t' ∧ t'.polls = t.polls + (if s.2 then 1 else 0) ∧
      (inMap s.1 id = true → t'.word.notCancelled = true) := by
  obtain ⟨_, hg, _, _, rfl⟩ := sf.sameTask
  exact ⟨_, hg, sf.polls, sf.live⟩

theorem makeCold_head {e : Exec} {id : Nat} {rest : List Nat} (hh : e.hot = id :: rest) :
    makeCold e id = { e with hot := rest, cold := e.cold ++ [id], qlog := e.qlog ++ [.makeCold id] } := by
  simp [makeCold, hh]

theorem pend_facts {e : Exec} (h : Inv e) {id : Nat} {rest : List Nat} (hh : e.hot = id :: rest)
    {t : TaskSt} (hg : e.get? id = some t) (t' : TaskSt) (ht' : TInv true t')
    (hn : t'.word.notCancelled = true) (hs : t'.word.scheduled = false) :
    Inv ((makeCold e id).setTask id t') ∧ ((makeCold e id).setTask id t').hot = rest ∧
    ((makeCold e id).setTask id t').get? id = some t' ∧
    (∀ x, x ≠ id → ((makeCold e id).setTask id t').get? x = e.get? x) ∧
    (∀ x, inMap ((makeCold e id).setTask id t') x = inMap e x) ∧
    (((makeCold e id).setTask id t').alive = e.alive ∧ ((makeCold e id).setTask id t').inflight = e.inflight ∧
      ((makeCold e id).setTask id t').cap = e.cap) := by
  rw [makeCold_head hh]
  refine ⟨?_, rfl, get?_setTask_self t' (t := t) hg, fun x hx => get?_setTask_ne _ t' hx, fun x => ?_, ⟨rfl, rfl, rfl⟩⟩
  · refine h.update hg (QStep.makeCold h.q hh) true (by simp) ht' (tasks := rfl) (hot := rfl) (cold := rfl) (alive := rfl) ?_
      (fun x _ _ hx => hx) h.p
    rintro (hc | hc)
    · rw [hn] at hc; cases hc
    · rw [hs] at hc; cases hc
  · apply inMap_eq_of_iff
    simp only [Exec.setTask, hh, List.mem_append, List.mem_cons, List.not_mem_nil, or_false]
    simp only [or_assoc, or_comm, or_left_comm]

theorem StepFacts.of {e : Exec} {id : Nat} {rest : List Nat} (hh : e.hot = id :: rest)
    {t : TaskSt} (ht : TInv true t) {e2 : Exec} {b : Bool} (hb : b = decide ((runTask t).2.1 ≠ .dropped))
    (hinv : Inv e2) (hhot : ∃ w, e2.hot = rest ++ w) (hfr : ∀ x, x ≠ id → e2.get? x = e.get? x)
    (hid : ∃ t', e2.get? id = some t' ∧
      (t' = (runTask t).1 ∨ ((runTask t).2.1 = .remoteWoke ∧ SameUpToSched t' (runTask t).1)))
    (hmap : ∀ x, x ≠ id → inMap e2 x = inMap e x)
    (hq : inMap e2 id = true →
      (runTask t).2.1 = .pending ∨ (runTask t).2.1 = .wokeSelf ∨ (runTask t).2.1 = .remoteWoke)
    (hf : e2.alive = e.alive ∧ e2.inflight = e.inflight ∧ e2.cap = e.cap) : StepFacts e id rest t (e2, b) := by
  obtain ⟨_, s2, s3, s4, s5⟩ := runTask_spec t ht
  subst hb
  refine ⟨hinv, hhot, hfr, ?_, ?_, hid, ?_, fun hi => (s2 (hq hi)).2.1, ?_, fun x hx hi => (hmap x hx).trans hi, hf⟩
  · cases hn : t.word.notCancelled
    · simp [s3.mpr hn]
    · simp [show (runTask t).2.1 ≠ .dropped from fun hd => by rw [s3.mp hd] at hn; cases hn]
  · intro hd
    have hd : (runTask t).2.1 = .dropped := by simpa using hd
    cases hi : inMap e2 id
    · rfl
    · rcases hq hi with h' | h' | h' <;> rw [hd] at h' <;> cases h'
  · by_cases hd : (runTask t).2.1 = .dropped
    · simp [hd, s5 hd]
    · simp [hd, s4 hd]
  · intro x hi
    by_cases hx : x = id
    · rw [hx, inMap_iff, hh]; simp
    · rw [← hmap x hx]; exact hi

theorem StepFacts.ofPend {e : Exec} (h : Inv e) {id : Nat} {rest : List Nat} (hh : e.hot = id :: rest)
    {t : TaskSt} (hg : e.get? id = some t) (ht : TInv true t)
    (hk : (runTask t).2.1 = .pending ∨ (runTask t).2.1 = .wokeSelf ∨ (runTask t).2.1 = .remoteWoke)
    (e2 : Exec) (hinv : Inv e2)
    (hhot : ∃ w, e2.hot = ((makeCold e id).setTask id (runTask t).1).hot ++ w)
    (hfr : ∀ x, x ≠ id → e2.get? x = ((makeCold e id).setTask id (runTask t).1).get? x)
    (hid : ∃ t', e2.get? id = some t' ∧
      (t' = (runTask t).1 ∨ ((runTask t).2.1 = .remoteWoke ∧ SameUpToSched t' (runTask t).1)))
    (hmap : ∀ x, inMap e2 x = inMap ((makeCold e id).setTask id (runTask t).1) x)
    (hf : e2.alive = ((makeCold e id).setTask id (runTask t).1).alive ∧
          e2.inflight = ((makeCold e id).setTask id (runTask t).1).inflight ∧
          e2.cap = ((makeCold e id).setTask id (runTask t).1).cap) :
    StepFacts e id rest t (e2, true) := by
  obtain ⟨st, sn, ss⟩ := (runTask_spec t ht).2.1 hk
  obtain ⟨_, p2, _, p4, p5, p6⟩ := pend_facts h hh hg (runTask t).1 st sn ss
  refine .of hh ht ?_ hinv (p2 ▸ hhot) (fun x hx => (hfr x hx).trans (p4 x hx)) hid
    (fun x _ => (hmap x).trans (p5 x)) (fun _ => hk) ⟨hf.1.trans p6.1, hf.2.1.trans p6.2.1, hf.2.2.trans p6.2.2⟩
  rcases hk with hk | hk | hk <;> rw [hk] <;> rfl

/-- facts of a loop body that ends with `queue.remove(id)` (cancelled, or the future finished), taken from a state
`e1` that differs from `e` by scheduling only: `e` itself, or what `Local::schedule` left when the future woke
its own task before it finished. `wk`, `ql`: the ghost fields are free -/
theorem StepFacts.ofRemoved {e : Exec} {id : Nat} {rest : List Nat} (hh : e.hot = id :: rest)
    {t : TaskSt} (ht : TInv true t)
    (hk : (runTask t).2.1 = .dropped ∨ (runTask t).2.1 = .finished ∨ (runTask t).2.1 = .finishedWoke)
    {b : Bool} (hb : b = decide ((runTask t).2.1 ≠ .dropped))
    {e1 : Exec} (h1 : Inv e1) {t1 : TaskSt} (hg1 : e1.get? id = some t1)
    (hhot : ∃ w, e1.hot.erase id = rest ++ w) (hfr : ∀ x, x ≠ id → e1.get? x = e.get? x)
    (hmap : ∀ x, inMap e1 x = inMap e x)
    (hf : e1.alive = e.alive ∧ e1.inflight = e.inflight ∧ e1.cap = e.cap) (wk : List Nat)
    (ql : List QueueIntrusive.Op) :
    StepFacts e id rest t
      (({ removeTask (e1.setTask id (runTask t).1) id with woken := wk, qlog := ql } : Exec), b) := by
  have hout : ∀ l : List Nat, l.Nodup → id ∉ l.erase id := fun l hl hm => (hl.mem_erase_iff.mp hm).1 rfl
  have hgone : ¬ (id ∈ e1.hot.erase id ∨ id ∈ e1.cold.erase id) :=
    fun h' => h'.elim (hout _ h1.q.hnd) (hout _ h1.q.cnd)
  refine .of hh ht hb ?_ hhot (fun x hx => (get?_setTask_ne _ _ hx).trans (hfr x hx))
    ⟨_, get?_setTask_self _ hg1, Or.inl rfl⟩ (fun x hx => ?_)
    (fun hi => absurd ((inMap_iff _ _).mp hi) hgone) hf
  · exact h1.update hg1 (QStep.remove h1.q id) false ⟨fun h' => absurd h' hgone, fun h' => nomatch h'⟩
      ((runTask_spec t ht).1 hk) (tasks := rfl) (hot := rfl) (cold := rfl) (alive := rfl)
      (fun _ hc => absurd hc (hout _ h1.q.cnd)) (fun x _ _ hx => hx) h1.p
  · rw [← hmap x]
    apply inMap_eq_of_iff
    show (x ∈ e1.hot.erase id ∨ x ∈ e1.cold.erase id) ↔ _
    rw [List.mem_erase_of_ne hx, List.mem_erase_of_ne hx]

theorem removeTask_makeCold {e : Exec} (q : QWf e) {id : Nat} {rest : List Nat} (hh : e.hot = id :: rest)
    (t' : TaskSt) :
    removeTask ((makeCold e id).setTask id t') id =
      { removeTask (e.setTask id t') id with qlog := e.qlog ++ [.makeCold id] ++ [.remove id] } := by
  obtain ⟨hnr, _, hnc⟩ := q.head hh
  simp [makeCold_head hh, removeTask, Exec.setTask, hh, hnr, hnc, List.erase_append_right, List.erase_of_not_mem]

theorem tickStep_facts {e : Exec} (h : Inv e) {id : Nat} {rest : List Nat} (hh : e.hot = id :: rest) :
    ∃ t, e.get? id = some t ∧ TInv true t ∧ StepFacts e id rest t (tickStep e id) := by
  obtain ⟨t, hg, ht⟩ := h.get_of_mem (id := id) (Or.inl (by simp [hh]))
  refine ⟨t, hg, ht, ?_⟩
  have hg' : (makeCold e id).get? id = some t := by rw [makeCold_head hh]; exact hg
  obtain ⟨_, s2, s3, _, _⟩ := runTask_spec t ht
  have removed (hk : (runTask t).2.1 = .dropped ∨ (runTask t).2.1 = .finished) (wk : List Nat) :=
    StepFacts.ofRemoved hh ht (hk.elim Or.inl fun h' => Or.inr (Or.inl h')) rfl h hg ⟨[], by simp [hh]⟩
      (fun _ _ => rfl) (fun _ => rfl) ⟨rfl, rfl, rfl⟩ wk (e.qlog ++ [.makeCold id] ++ [.remove id])
  have pf (hk : (runTask t).2.1 = .pending ∨ (runTask t).2.1 = .wokeSelf ∨ (runTask t).2.1 = .remoteWoke) :=
    pend_facts h hh hg (runTask t).1 (s2 hk).1 (s2 hk).2.1 (s2 hk).2.2
  have stay (hk : (runTask t).2.1 = .pending ∨ (runTask t).2.1 = .wokeSelf ∨ (runTask t).2.1 = .remoteWoke) :=
    StepFacts.ofPend h hh hg ht hk _ (pf hk).1 ⟨[], by simp⟩ (fun _ _ => rfl) ⟨_, (pf hk).2.2.1, Or.inl rfl⟩
      (fun _ => rfl) ⟨rfl, rfl, rfl⟩
  simp only [tickStep, runOne, hg']
  rcases hr : runTask t with ⟨t', k, w⟩
  obtain rfl : (runTask t).1 = t' := by rw [hr]
  have hr2 : (runTask t).2.1 = k := by rw [hr]
  rw [hr2] at removed
  cases k with
  | dropped =>
    simp only
    rw [removeTask_makeCold h.q hh]
    exact removed (Or.inl rfl) e.woken
  | pending =>
    exact stay (Or.inl hr2)
  | wokeSelf =>
    simp only
    have pf := pf (Or.inr (Or.inl hr2))
    have f := scheduleLocal_books pf.1 id
    exact .ofPend h hh hg ht (Or.inr (Or.inl hr2)) _ (scheduleLocal_inv pf.1 id) (scheduleLocal_hot pf.1 id)
      (fun x _ => scheduleLocal_get? _ id x) ⟨_, (scheduleLocal_get? _ id id).trans pf.2.2.1, Or.inl rfl⟩
      (fun x => scheduleLocal_inMap pf.1 id x) ⟨f.alive, f.inflight, f.cap⟩
  | remoteWoke =>
    simp only
    have hk : (runTask t).2.1 = .pending ∨ (runTask t).2.1 = .wokeSelf ∨ (runTask t).2.1 = .remoteWoke :=
      Or.inr (Or.inr hr2)
    have pf := pf hk
    rcases remoteScheduleGuarded_cases ((makeCold e id).setTask id (runTask t).1) id with he | he
    · rw [he]; exact stay hk
    · have hinv := remoteScheduleGuarded_inv pf.1 id
      rw [he] at hinv ⊢
      have q := remoteSchedule_queues
        ({ (makeCold e id).setTask id (runTask t).1 with
            outstanding := ((makeCold e id).setTask id (runTask t).1).outstanding + 1 } : Exec) id
      have f := remoteSchedule_books
        ({ (makeCold e id).setTask id (runTask t).1 with
            outstanding := ((makeCold e id).setTask id (runTask t).1).outstanding + 1 } : Exec) id
      have hgp : ({ (makeCold e id).setTask id (runTask t).1 with
            outstanding := ((makeCold e id).setTask id (runTask t).1).outstanding + 1 } : Exec).get? id
            = some (runTask t).1 := pf.2.2.1
      refine .ofPend h hh hg ht hk _ hinv ⟨[], by rw [q.1]; simp⟩
        (fun x hx => by rw [remoteSchedule_get?_ne _ hx]; rfl)
        ⟨_, remoteSchedule_get?_self hgp, Or.inr ⟨hr2, true, false, rfl⟩⟩ (fun x => remoteSchedule_inMap _ id x) ⟨f.alive, f.inflight, f.cap⟩
  | finished =>
    simp only
    rw [removeTask_makeCold h.q hh]
    exact removed (Or.inr rfl) ((makeCold e id).woken ++ w.toList)
  | finishedWoke =>
    -- the wake-up moved `id` back to the hot tail before the future finished, so `remove` unlinks it from the HOT
    -- list of what `Local::schedule` left
    simp only
    have hnc : t.word.notCancelled = true := by
      cases hn : t.word.notCancelled
      · rw [s3.mpr hn] at hr2; cases hr2
      · rfl
    obtain ⟨p1, p2, p3, p4, p5, p6⟩ := pend_facts h hh hg { t with word := TaskState.unschedule t.word }
      (ht.frame_sched false _) hnc rfl
    obtain ⟨w1, hw1⟩ := scheduleLocal_hot p1 id
    have f := scheduleLocal_books p1 id
    exact StepFacts.ofRemoved hh ht (Or.inr (Or.inr hr2)) (by rw [hr2]; rfl) (scheduleLocal_inv p1 id)
      ((scheduleLocal_get? _ id id).trans p3)
      ⟨w1.erase id, by rw [hw1, p2, List.erase_append_right _ (h.q.head hh).1]⟩
      (fun x hx => (scheduleLocal_get? _ id x).trans (p4 x hx))
      (fun x => (scheduleLocal_inMap p1 id x).trans (p5 x))
      ⟨f.alive.trans p6.1, f.inflight.trans p6.2.1, f.cap.trans p6.2.2⟩ ((makeCold e id).woken ++ w.toList) _

theorem tickStep_inv {e : Exec} (h : Inv e) {id : Nat} {rest : List Nat} (hh : e.hot = id :: rest) :
    Inv (tickStep e id).1 := by
  obtain ⟨t, _, _, sf⟩ := tickStep_facts h hh
  exact sf.inv

end Compio.Executor
