/- helper lemmas for Model/MemIo.lean: the in-memory implementations equal their references -/
import Compio.Lemmas.Buffer
import Compio.Model.MemIo

namespace Compio.Io

theorem readAt_eq (src : Bytes) (pos off : Nat) : readAt src pos off = (src.drop pos).take off := by
  unfold readAt
  rw [← List.drop_eq_drop_min]

theorem sumNat_map_length (bufs : List Bytes) : sumNat (bufs.map List.length) = bufs.flatten.length := by
  induction bufs with
  | nil => rfl
  | cons b r ih => simp [sumNat, ih]

theorem reserveOk_true (len add : Nat) (h : len + add ≤ isizeMax) : reserveOk len add = true := by
  simp [reserveOk, h]

theorem vecStep_eq (v : Bytes) (pos : Nat) (s : Bytes) (h : pos ≤ v.length) :
    vecStep v pos s = overlay v pos s := by
  unfold vecStep overlay
  split
  · rename_i hlt
    have hn : min s.length (v.length - pos) = v.length - pos := by omega
    rw [hn]
    have h1 : v.drop (pos + (v.length - pos)) = [] := List.drop_of_length_le (by omega)
    have h2 : v.drop (pos + s.length) = [] := List.drop_of_length_le (by omega)
    rw [h1, h2]
    simp [List.append_assoc]
  · rename_i hge
    have hn : min s.length (v.length - pos) = s.length := by omega
    rw [hn]

theorem writeRef_inside (v : Bytes) (pos : Nat) (bs : Bytes) (h : pos ≤ v.length) :
    writeRef v pos bs = overlay v pos bs := by
  unfold writeRef
  have : pos - v.length = 0 := by omega
  rw [this]
  simp

theorem writeRef_beyond (v : Bytes) (pos : Nat) (bs : Bytes) (h : v.length < pos) :
    writeRef v pos bs = v ++ List.replicate (pos - v.length) 0 ++ bs := by
  unfold writeRef overlay
  have hl : (v ++ List.replicate (pos - v.length) 0).length = pos := by
    rw [List.length_append, List.length_replicate]
    omega
  rw [List.take_of_length_le (by omega), List.drop_of_length_le (by omega)]
  simp

theorem vecWriteAt_cases (v : Bytes) (pos : Nat) (bs : Bytes) :
    vecWriteAt v pos bs = .ok (bs.length, writeRef v pos bs) ∨
      (vecWriteAt v pos bs = .panic ∧ isizeMax < pos + bs.length) := by
  have hu : isizeMax < usizeLimit := by decide
  have hr : ∀ len add, reserveOk len add = false → isizeMax < len + add := fun len add h => by
    simpa [reserveOk] using h
  unfold vecWriteAt
  by_cases h : pos ≤ v.length
  · rw [if_pos h, writeRef_inside v pos bs h, vecStep_eq v pos bs h]
    by_cases hlt : min bs.length (v.length - pos) < bs.length
    · rw [if_pos hlt]
      cases hk : reserveOk v.length (bs.length - min bs.length (v.length - pos))
      · exact .inr ⟨rfl, by have := hr _ _ hk; omega⟩
      · exact .inl rfl
    · rw [if_neg hlt]
      exact .inl rfl
  · rw [if_neg h, writeRef_beyond v pos bs (by omega)]
    by_cases h1 : pos - v.length + bs.length ≥ usizeLimit
    · rw [if_pos h1]
      exact .inr ⟨rfl, by omega⟩
    · rw [if_neg h1]
      cases hk : reserveOk v.length (pos - v.length + bs.length)
      · exact .inr ⟨rfl, by have := hr _ _ hk; omega⟩
      · exact .inl rfl

theorem vecWriteAt_ref (v : Bytes) (pos : Nat) (bs : Bytes) (hg : pos + bs.length ≤ isizeMax) :
    vecWriteAt v pos bs = .ok (bs.length, writeRef v pos bs) :=
  (vecWriteAt_cases v pos bs).resolve_right fun h => Nat.not_lt_of_le hg h.2

theorem vecWriteVectoredAtGo_eq : ∀ (bufs : List Bytes) (v : Bytes) (pos : Nat), pos ≤ v.length →
    vecWriteVectoredAtGo v pos bufs = overlay v pos bufs.flatten := by
  intro bufs
  induction bufs with
  | nil => intro v pos _; simp [vecWriteVectoredAtGo]
  | cons s rest ih =>
    intro v pos h
    unfold vecWriteVectoredAtGo
    rw [if_pos h, vecStep_eq v pos s h]
    have hl : pos + s.length ≤ (overlay v pos s).length := by
      rw [overlay_length _ _ _ h]; omega
    rw [ih _ _ hl, overlay_overlay _ _ _ _ h]
    simp

theorem vecWriteVectoredAt_ref (v : Bytes) (pos : Nat) (bufs : List Bytes) (hv : v.length ≤ isizeMax)
    (hg : pos + bufs.flatten.length ≤ isizeMax) :
    vecWriteVectoredAt v pos bufs = .ok (bufs.flatten.length, writeRef v pos bufs.flatten) := by
  have hu : isizeMax < usizeLimit := by decide
  unfold vecWriteVectoredAt
  simp only [sumNat_map_length]
  by_cases h : pos ≤ v.length
  · rw [if_pos h, reserveOk_true _ _ (by omega), vecWriteVectoredAtGo_eq bufs v pos h, writeRef_inside v pos _ h]
    rfl
  · have hl : (v ++ List.replicate (pos - v.length) 0).length = pos := by
      rw [List.length_append, List.length_replicate]
      omega
    rw [if_neg h, if_neg (by omega), reserveOk_true _ _ (by omega),
      vecWriteVectoredAtGo_eq bufs _ pos (Nat.le_of_eq hl.symm)]
    rfl

theorem foldl_append (bufs : List Bytes) (v : Bytes) : bufs.foldl (· ++ ·) v = v ++ bufs.flatten := by
  induction bufs generalizing v with
  | nil => simp
  | cons b r ih => simp [ih, List.append_assoc]

theorem vecWriteVectored_ref (v : Bytes) (bufs : List Bytes) (hg : v.length + bufs.flatten.length ≤ isizeMax) :
    vecWriteVectored v bufs = .ok (bufs.flatten.length, v ++ bufs.flatten) := by
  unfold vecWriteVectored
  simp only [sumNat_map_length]
  have : reserveOk v.length bufs.flatten.length = true := by apply reserveOk_true; omega
  simp only [this, foldl_append]
  rfl

theorem sliceWriteAt_ref (a : Bytes) (pos : Nat) (bs : Bytes) :
    (sliceWriteAt a pos bs).1 = min bs.length (a.length - min pos a.length) ∧
    (sliceWriteAt a pos bs).2 = overlay a (min pos a.length) (bs.take (sliceWriteAt a pos bs).1) ∧
    (sliceWriteAt a pos bs).2.length = a.length := by
  refine ⟨rfl, ?_, ?_⟩
  · simp only [sliceWriteAt, overlay]
    rw [List.length_take_of_le (Nat.min_le_left ..)]
  · simp only [sliceWriteAt]
    rw [List.length_append, List.length_append, List.length_take_of_le (Nat.min_le_right ..),
      List.length_take_of_le (Nat.min_le_left ..), List.length_drop]
    omega

end Compio.Io
