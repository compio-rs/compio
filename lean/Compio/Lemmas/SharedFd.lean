/-
Helper lemmas for the three C06 models of `Compio/Model/SharedFd.lean`.
`Compio.SharedFd`: reference counting over the actor list, the transitions as a relation (`Step`), the safety
invariant `Inv` (both builds), the waker-identity invariant `SInv` (both builds), and the wake-up invariant `UInv` of
the runs in which `Drop for SharedFd` and every poll are single steps (`Ev.unsync`).
`Compio.Produced`: the invariant `PInv` of descriptors produced by operations (each in exactly one place).
`Compio.MultiWait`: one list fact for the cancel of an operation waiting on k descriptors.
-/
import Compio.Model.SharedFd
import Compio.Lemmas.Lts

namespace Compio.SharedFd

/-- number of actors whose role satisfies `p` (`refs` is the instance `p = Role.holds`) -/
def cntP (p : Role → Bool) : List Role → Nat
  | [] => 0
  | r :: rs => b2n (p r) + cntP p rs

theorem cntP_append (p : Role → Bool) (l : List Role) (r : Role) : cntP p (l ++ [r]) = cntP p l + b2n (p r) := by
  induction l with
  | nil => simp [cntP]
  | cons a l ih => simp [cntP, ih]; omega

theorem cntP_set (p : Role → Bool) (l : List Role) (i : Nat) (old new : Role) (h : l[i]? = some old) :
    cntP p (l.set i new) + b2n (p old) = cntP p l + b2n (p new) := by
  induction l generalizing i with
  | nil => simp at h
  | cons a l ih =>
    cases i with
    | zero => cases h; simp [cntP]; omega
    | succ i => have := ih i h; simp [cntP]; omega

theorem cntP_zero (p : Role → Bool) (l : List Role) (h : ∀ (i : Nat) (r : Role), l[i]? = some r → p r = false) :
    cntP p l = 0 := by
  induction l with
  | nil => rfl
  | cons a l ih =>
    have h0 := h 0 a rfl
    have := ih (fun i r hr => h (i + 1) r hr)
    simp [cntP, b2n, h0, this]

theorem refs_eq_cntP (l : List Role) : refs l = cntP Role.holds l := by
  induction l with
  | nil => rfl
  | cons a l ih => simp [refs, cntP, ih]

theorem refs_append (l : List Role) (r : Role) : refs (l ++ [r]) = refs l + b2n r.holds := by
  simp only [refs_eq_cntP, cntP_append]

theorem refs_set (l : List Role) (i : Nat) (old new : Role) (h : l[i]? = some old) :
    refs (l.set i new) + b2n old.holds = refs l + b2n new.holds := by
  simp only [refs_eq_cntP, cntP_set _ l i old new h]

theorem refs_pos (l : List Role) (i : Nat) (r : Role) (h : l[i]? = some r) (hr : r.holds = true) :
    1 ≤ refs l := by
  have := refs_set l i r .gone h
  rw [hr] at this
  change _ + 1 = _ + 0 at this
  omega

theorem refs_zero_not_holds (l : List Role) (h0 : refs l = 0) (i : Nat) (r : Role)
    (h : l[i]? = some r) : r.holds = false := by
  cases hr : r.holds with
  | false => rfl
  | true => have := refs_pos l i r h hr; omega

theorem refs_two (l : List Role) (i j : Nat) (a b : Role) (hij : i ≠ j) (hi : l[i]? = some a)
    (hj : l[j]? = some b) (ha : a.holds = true) (hb : b.holds = true) : 2 ≤ refs l := by
  have h1 := refs_set l i a .gone hi
  have h2 := refs_pos (l.set i .gone) j b (by rw [List.getElem?_set_ne hij]; exact hj) hb
  rw [ha] at h1
  change _ + 1 = _ + 0 at h1
  omega

theorem set_self {α} {l : List α} {i : Nat} {a b : α} (h : l[i]? = some b) : (l.set i a)[i]? = some a := by
  rw [List.getElem?_set_self', h]; rfl

theorem role_set {l : List Role} {i c : Nat} {r q : Role} (h : (l.set i r)[c]? = some q) (hr : r ≠ q) :
    l[c]? = some q := by
  rw [List.getElem?_set] at h
  split at h
  · split at h
    · exact absurd (Option.some.inj h) hr
    · cases h
  · exact h

theorem role_append {l : List Role} {c : Nat} {r q : Role} (h : (l ++ [r])[c]? = some q) (hr : r ≠ q) :
    l[c]? = some q := by
  rcases Nat.lt_trichotomy c l.length with hc | hc | hc
  · rwa [List.getElem?_append_left hc] at h
  · subst hc; rw [List.getElem?_concat_length] at h; exact absurd (Option.some.inj h) hr
  · rw [List.getElem?_eq_none (by simp; omega)] at h; cases h

theorem mem_filter_ne {l : List Nat} {c c0 : Nat} (h : c ∈ l) (hne : c ≠ c0) : c ∈ l.filter (· != c0) := by
  simp [List.mem_filter, h, hne]

@[simp] theorem setRole_actors (s : St) (i : Nat) (r : Role) : (setRole s i r).actors = s.actors.set i r := rfl
@[simp] theorem setRole_count (s : St) (i : Nat) (r : Role) : (setRole s i r).count = s.count := rfl
@[simp] theorem setRole_released (s : St) (i : Nat) (r : Role) : (setRole s i r).released = s.released := rfl
@[simp] theorem setRole_delivered (s : St) (i : Nat) (r : Role) : (setRole s i r).delivered = s.delivered := rfl
@[simp] theorem setRole_waits (s : St) (i : Nat) (r : Role) : (setRole s i r).waits = s.waits := rfl
@[simp] theorem setRole_slot (s : St) (i : Nat) (r : Role) : (setRole s i r).slot = s.slot := rfl
@[simp] theorem setRole_woken (s : St) (i : Nat) (r : Role) : (setRole s i r).woken = s.woken := rfl
@[simp] theorem setRole_winner (s : St) (i : Nat) (r : Role) : (setRole s i r).winner = s.winner := rfl
@[simp] theorem setRole_rawDecs (s : St) (i : Nat) (r : Role) : (setRole s i r).rawDecs = s.rawDecs := rfl
@[simp] theorem setRole_sync (s : St) (i : Nat) (r : Role) : (setRole s i r).sync = s.sync := rfl
@[simp] theorem setRole_wakes (s : St) (i : Nat) (r : Role) : (setRole s i r).wakes = s.wakes := rfl
@[simp] theorem setRole_wokenW (s : St) (i : Nat) (r : Role) : (setRole s i r).wokenW = s.wokenW := rfl
@[simp] theorem setRole_slotW (s : St) (i : Nat) (r : Role) : (setRole s i r).slotW = s.slotW := rfl
@[simp] theorem setRole_parkedW (s : St) (i : Nat) (r : Role) : (setRole s i r).parkedW = s.parkedW := rfl
@[simp] theorem setRole_nextW (s : St) (i : Nat) (r : Role) : (setRole s i r).nextW = s.nextW := rfl

@[simp] theorem deliver_actors (s : St) : (deliver s).actors = s.actors := rfl
@[simp] theorem deliver_slot (s : St) : (deliver s).slot = s.slot := rfl
@[simp] theorem deliver_woken (s : St) : (deliver s).woken = s.woken := rfl
@[simp] theorem deliver_winner (s : St) : (deliver s).winner = s.winner := rfl
@[simp] theorem deliver_waits (s : St) : (deliver s).waits = s.waits := rfl
@[simp] theorem deliver_rawDecs (s : St) : (deliver s).rawDecs = s.rawDecs := rfl
@[simp] theorem deliver_count (s : St) : (deliver s).count = 0 := rfl
@[simp] theorem deliver_slotW (s : St) : (deliver s).slotW = s.slotW := rfl
@[simp] theorem deliver_parkedW (s : St) : (deliver s).parkedW = s.parkedW := rfl
@[simp] theorem deliver_nextW (s : St) : (deliver s).nextW = s.nextW := rfl
@[simp] theorem deliver_wokenW (s : St) : (deliver s).wokenW = s.wokenW := rfl

theorem decRef_eq (s : St) :
    decRef s = { s with count := s.count - 1, released := if s.count = 1 then s.released + 1 else s.released } := by
  unfold decRef
  split <;> simp [*]

theorem dropTest_cases (s : St) :
    ((s.count = 2 ∧ s.waits = true → s.slot = none) ∧ dropTest s = s) ∨
    ∃ c, s.slot = some c ∧ s.count = 2 ∧ s.waits = true ∧
      dropTest s = { s with slot := none, woken := c :: s.woken, wakes := s.wakes + 1,
                            wokenW := (c, s.slotW) :: s.wokenW, wakeLog := s.wakeLog ++ [(c, s.slotW)] } := by
  unfold dropTest wake
  by_cases hw : s.count = 2 ∧ s.waits = true
  · cases hs : s.slot with
    | none => exact .inl ⟨fun _ => rfl, by simp [hw]⟩
    | some c => exact .inr ⟨c, rfl, hw.1, hw.2, by simp [hw]⟩
  · exact .inl ⟨fun h => absurd h hw, by simp [hw]⟩

theorem dropTest_frame (s : St) : ∃ sl wk n wkW lg, (sl = s.slot ∨ sl = none) ∧
    dropTest s = { s with slot := sl, woken := wk, wakes := n, wokenW := wkW, wakeLog := lg } := by
  rcases dropTest_cases s with ⟨-, h⟩ | ⟨c, -, -, -, h⟩
  · exact ⟨_, _, _, _, _, .inl rfl, h⟩
  · exact ⟨_, _, _, _, _, .inr rfl, h⟩

/-- What a successful `step` looks like, with the `if`s of the model resolved. A constructor stands for the
branches that differ only in the role the actor had (`ho` lists the roles). `clone` and `opStart` append an actor,
`unwrapFail` leaves the state alone, `setWaker` records a waker; every other successor is `fin (setRole t x new)`
(`t`: `s` with some bookkeeping fields updated; `fin`: nothing, `decRef` or `deliver`). Only the guards that some
proof needs are recorded. -/
inductive Step (s : St) : Ev → St → Prop
  | clone {h} (hx : s.actors[h]? = some (.handle .live)) :
      Step s (.clone h) { s with actors := s.actors ++ [.handle .live], count := s.count + 1 }
  | opStart {h} (hx : s.actors[h]? = some (.handle .live)) :
      Step s (.opStart h) { s with actors := s.actors ++ [.op .live], count := s.count + 1 }
  | drop {x old} (hx : s.actors[x]? = some old) (ho : old = .handle .live ∨ old = .op .live) :
      Step s (.drop x) (decRef (setRole (dropTest s) x .gone))
  | checkH {x} (hx : s.actors[x]? = some (.handle .live)) :
      Step s (.dropCheck x) (setRole (dropTest s) x (.handle .checked))
  | checkOp {x} (hx : s.actors[x]? = some (.op .live)) :
      Step s (.dropCheck x) (setRole (dropTest s) x (.op .checked))
  | dec {x old} (hx : s.actors[x]? = some old) (ho : old = .handle .checked ∨ old = .op .checked) :
      Step s (.dropDec x) (decRef (setRole s x .gone))
  | unwrap {h} (hx : s.actors[h]? = some (.handle .live)) (h1 : s.count = 1) :
      Step s (.tryUnwrap h) (deliver (setRole s h .gone))
  | unwrapFail {h} (hx : s.actors[h]? = some (.handle .live)) : Step s (.tryUnwrap h) s
  | take {h} (hx : s.actors[h]? = some (.handle .live)) : Step s (.take h) (setRole s h (.closer .created))
  | close {h} (hx : s.actors[h]? = some (.handle .live)) : Step s (.close h) (setRole s h (.closer .wrapped))
  | pollLose {c old} (hx : s.actors[c]? = some old) (ho : old = .closer .created ∨ old = .closer .wrapped)
      (hw : s.waits = true) :
      Step s (.poll c) (decRef (setRole { s with rawDecs := s.rawDecs + 1 } c (.closer .doneNone)))
  | pollWin {c old} (hx : s.actors[c]? = some old) (ho : old = .closer .created ∨ old = .closer .wrapped)
      (hw : s.waits = false) (h1 : s.count = 1) :
      Step s (.poll c) (deliver (setRole { s with waits := true, winner := some c } c (.closer .doneSome)))
  | pollPark {c old} (hx : s.actors[c]? = some old) (ho : old = .closer .created ∨ old = .closer .wrapped)
      (hw : s.waits = false) (h1 : s.count ≠ 1) :
      Step s (.poll c) (setRole { s with waits := true, winner := some c, slot := some c, slotW := wOf s.nextW c,
                                         parkedW := (c, wOf s.nextW c) :: s.parkedW } c (.closer .parked))
  | repollWin {c} (hx : s.actors[c]? = some (.closer .parked)) (h1 : s.count = 1) :
      Step s (.poll c) (deliver (setRole (clearWoken s c) c (.closer .doneSome)))
  | repollPark {c} (hx : s.actors[c]? = some (.closer .parked)) (h1 : s.count ≠ 1) :
      Step s (.poll c) (setRole { clearWoken s c with slot := some c, slotW := wOf s.nextW c,
                                                      parkedW := (c, wOf s.nextW c) :: s.parkedW } c (.closer .parked))
  | swapLose {c old} (hx : s.actors[c]? = some old) (ho : old = .closer .created ∨ old = .closer .wrapped) :
      Step s (.pSwap c) (setRole s c (.closer .losing))
  | swapWin {c old} (hx : s.actors[c]? = some old) (ho : old = .closer .created ∨ old = .closer .wrapped) :
      Step s (.pSwap c) (setRole { s with waits := true, winner := some c } c (.closer .try1))
  | pNone {c} (hx : s.actors[c]? = some (.closer .losing)) :
      Step s (.pNone c) (decRef (setRole { s with rawDecs := s.rawDecs + 1 } c (.closer .doneNone)))
  | try1Win {c} (hx : s.actors[c]? = some (.closer .try1)) (h1 : s.count = 1) :
      Step s (.pTry1 c) (deliver (setRole s c (.closer .doneSome)))
  | try1Reg {c} (hx : s.actors[c]? = some (.closer .try1)) : Step s (.pTry1 c) (setRole s c (.closer .reg))
  | pReg {c} (hx : s.actors[c]? = some (.closer .reg)) :
      Step s (.pReg c) (setRole { s with slot := some c, slotW := wOf s.nextW c } c (.closer .try2))
  | try2Win {c} (hx : s.actors[c]? = some (.closer .try2)) (h1 : s.count = 1) :
      Step s (.pTry2 c) (deliver (setRole s c (.closer .doneSome)))
  | try2Park {c} (hx : s.actors[c]? = some (.closer .try2)) :
      Step s (.pTry2 c) (setRole { s with parkedW := (c, wOf s.nextW c) :: s.parkedW } c (.closer .parked))
  | pBegin {c} (hx : s.actors[c]? = some (.closer .parked)) :
      Step s (.pBegin c) (setRole (clearWoken s c) c (.closer .try1))
  | futRaw {c old} (hx : s.actors[c]? = some old) (ho : old = .closer .created ∨ old = .closer .parked) :
      Step s (.dropFut c) (decRef (setRole { s with rawDecs := s.rawDecs + 1 } c (.closer .dropped)))
  | futLeak {c} (hx : s.actors[c]? = some (.closer .wrapped)) : Step s (.dropFut c) (setRole s c (.closer .leaked))
  | setWaker {c w old} (hx : s.actors[c]? = some old)
      (ho : old = .closer .created ∨ old = .closer .wrapped ∨ old = .closer .parked) :
      Step s (.setWaker c w) { s with nextW := (c, w) :: s.nextW }

theorem stepMicro_some {s s' : St} {c : Nat} {pc : CPc} {f : St → Nat → St} (h : stepMicro s c pc f = some s') :
    s.actors[c]? = some (.closer pc) ∧ s' = f s c := by
  simp only [stepMicro, Option.ite_none_right_eq_some] at h
  obtain ⟨-, h⟩ := h
  split at h
  · simp only [Option.ite_none_right_eq_some, Option.some.injEq] at h
    exact ⟨h.1 ▸ ‹_›, h.2.symm⟩
  · cases h

theorem step_cases {s s' : St} {e : Ev} (h : step s e = some s') : Step s e s' := by
  cases e with
  | clone x =>
    simp only [step, stepClone] at h
    split at h <;> cases h
    exact .clone ‹_›
  | opStart x =>
    simp only [step, stepOpStart] at h
    split at h <;> cases h
    exact .opStart ‹_›
  | drop x =>
    simp only [step, stepDrop] at h
    split at h <;> cases h
    · exact .drop ‹_› (.inl rfl)
    · exact .drop ‹_› (.inr rfl)
  | dropCheck x =>
    simp only [step, stepDropCheck, Option.ite_none_right_eq_some] at h
    obtain ⟨-, h⟩ := h
    split at h <;> cases h
    · exact .checkH ‹_›
    · exact .checkOp ‹_›
  | dropDec x =>
    simp only [step, stepDropDec, Option.ite_none_right_eq_some] at h
    obtain ⟨-, h⟩ := h
    split at h <;> cases h
    · exact .dec ‹_› (.inl rfl)
    · exact .dec ‹_› (.inr rfl)
  | tryUnwrap x =>
    simp only [step, stepTryUnwrap] at h
    split at h
    · split at h <;> cases h
      · exact .unwrap ‹_› ‹_›
      · exact .unwrapFail ‹_›
    · cases h
  | take x =>
    simp only [step, stepTake] at h
    split at h <;> cases h
    exact .take ‹_›
  | close x =>
    simp only [step, stepClose] at h
    split at h <;> cases h
    exact .close ‹_›
  | poll c =>
    simp only [step, stepPoll] at h
    have first : ∀ old, s.actors[c]? = some old → (old = .closer .created ∨ old = .closer .wrapped) →
        Step s (.poll c) (firstPoll s c) := by
      intro old hx ho
      unfold firstPoll pollBody loseNone
      by_cases hw : s.waits = true
      · rw [if_pos hw]; exact .pollLose hx ho hw
      · rw [if_neg hw]
        split
        · exact .pollWin hx ho (by simpa using hw) ‹_›
        · exact .pollPark hx ho (by simpa using hw) ‹_›
    split at h <;> cases h
    · exact first _ ‹_› (.inl rfl)
    · exact first _ ‹_› (.inr rfl)
    · unfold pollBody
      split
      · exact .repollWin ‹_› ‹_›
      · exact .repollPark ‹_› ‹_›
  | pSwap c =>
    simp only [step, stepPSwap, Option.ite_none_right_eq_some] at h
    obtain ⟨-, h⟩ := h
    split at h <;> cases h <;> unfold swapWaits <;> split
    · exact .swapLose ‹_› (.inl rfl)
    · exact .swapWin ‹_› (.inl rfl)
    · exact .swapLose ‹_› (.inr rfl)
    · exact .swapWin ‹_› (.inr rfl)
  | pNone c =>
    obtain ⟨hx, rfl⟩ := stepMicro_some h
    exact .pNone hx
  | pTry1 c =>
    obtain ⟨hx, rfl⟩ := stepMicro_some h
    unfold tryUnwrap1
    split
    · exact .try1Win hx ‹_›
    · exact .try1Reg hx
  | pReg c =>
    obtain ⟨hx, rfl⟩ := stepMicro_some h
    exact .pReg hx
  | pTry2 c =>
    obtain ⟨hx, rfl⟩ := stepMicro_some h
    unfold tryUnwrap2
    split
    · exact .try2Win hx ‹_›
    · exact .try2Park hx
  | pBegin c =>
    obtain ⟨hx, rfl⟩ := stepMicro_some h
    exact .pBegin hx
  | dropFut c =>
    simp only [step, stepDropFut] at h
    split at h <;> cases h
    · exact .futRaw ‹_› (.inl rfl)
    · exact .futRaw ‹_› (.inr rfl)
    · exact .futLeak ‹_›
  | setWaker c w =>
    simp only [step, stepSetWaker] at h
    split at h <;> cases h
    · exact .setWaker ‹_› (.inl rfl)
    · exact .setWaker ‹_› (.inr (.inl rfl))
    · exact .setWaker ‹_› (.inr (.inr rfl))

theorem isRun : IsRun step run :=
  ⟨fun _ => rfl, fun s e es => by rw [run]; cases step s e <;> rfl⟩

theorem step_target_holds {s s' : St} {e : Ev} (h : step s e = some s') :
    ∃ r, s.actors[e.target]? = some r ∧ r.holds = true := by
  cases step_cases h with
  | clone hx | opStart hx | checkH hx | checkOp hx | unwrap hx | unwrapFail hx | take hx | close hx
  | repollWin hx | repollPark hx | pNone hx | try1Win hx | try1Reg hx | pReg hx | try2Win hx | try2Park hx
  | pBegin hx | futLeak hx => exact ⟨_, hx, rfl⟩
  | drop hx ho | dec hx ho | pollLose hx ho | pollWin hx ho | pollPark hx ho | swapLose hx ho | swapWin hx ho
  | futRaw hx ho => exact ⟨_, hx, by rcases ho with rfl | rfl <;> rfl⟩
  | setWaker hx ho => exact ⟨_, hx, by rcases ho with rfl | rfl | rfl <;> rfl⟩

theorem step_drop {s : St} {x : Nat}
    (hx : s.actors[x]? = some (.handle .live) ∨ s.actors[x]? = some (.op .live)) :
    step s (.drop x) = some (decRef (setRole (dropTest s) x .gone)) := by
  rcases hx with hx | hx <;> simp only [step, stepDrop, hx]

theorem step_poll_parked {s : St} {c : Nat} (hc : s.parked c) :
    step s (.poll c) = some (pollBody (clearWoken s c) c) := by
  unfold St.parked at hc
  simp only [step, stepPoll, hc]

theorem step_poll_first {s : St} {c : Nat}
    (hc : s.actors[c]? = some (.closer .created) ∨ s.actors[c]? = some (.closer .wrapped)) :
    step s (.poll c) = some (firstPoll s c) := by
  rcases hc with hc | hc <;> simp only [step, stepPoll, hc]

theorem poll_sole_owner {s : St} {c : Nat} (hc : s.parked c) (h1 : s.count = 1) :
    step s (.poll c) = some (deliver (setRole (clearWoken s c) c (.closer .doneSome))) :=
  (step_poll_parked hc).trans (congrArg some (if_pos h1))

theorem setRole_setRole (s : St) (i : Nat) (a b : Role) : setRole (setRole s i a) i b = setRole s i b := by
  simp [setRole, List.set_set]

/-- after the step `e` that enters the poll (`pBegin`, or the winning `pSwap`), the micro steps of the `sync`
build compose to `pollBody` -/
theorem run_pollBody {s t : St} {e : Ev} {c : Nat} {old : Role} (hs : t.sync = true)
    (he : step s e = some (setRole t c (.closer .try1))) (hx : t.actors[c]? = some old) :
    run s (if t.count = 1 then [e, .pTry1 c] else [e, .pTry1 c, .pReg c, .pTry2 c]) = some (pollBody t c) := by
  have h1 := set_self (a := Role.closer .try1) hx
  have h2 := set_self (a := Role.closer .reg) hx
  have h3 := set_self (a := Role.closer .try2) hx
  by_cases hc : t.count = 1
  · simp only [if_pos hc, run, he]
    simp [step, stepMicro, hs, hc, h1, pollBody, tryUnwrap1, setRole, List.set_set]
  · simp only [if_neg hc, run, he]
    simp [step, stepMicro, hs, hc, h1, h2, h3, pollBody, tryUnwrap1, tryUnwrap2, register, setRole, List.set_set]

/-- the closer finished through a path that dropped the raw `Shared` -/
def Role.isRaw : Role → Bool
  | .closer .doneNone => true
  | .closer .dropped => true
  | _ => false

theorem Role.not_raw_of_holds {r : Role} (h : r.holds = true) : r.isRaw = false := by
  cases r with
  | closer pc => cases pc <;> first | rfl | cases h
  | _ => rfl

/-- Holds in every reachable state of both builds (`inv_reach`). -/
structure Inv (s : St) : Prop where
  cnt : s.count = refs s.actors
  /-- the inner descriptor is in the `Shared` while the count is positive, and has left it exactly once otherwise -/
  rel : (s.released = 0 ∧ 1 ≤ s.count) ∨ (s.released = 1 ∧ s.count = 0)
  del : s.delivered ≤ s.released
  raw : s.rawDecs = cntP Role.isRaw s.actors

theorem inv_init (b : Bool) : Inv (init b) := by
  constructor <;> simp [init, refs, cntP, Role.holds, Role.isRaw, b2n]

/-! Every transition other than `unwrapFail` and `setWaker`, which leave these fields alone, has one of four shapes
w.r.t. (actors, count, released, delivered, rawDecs): a holder `x` (role `old`) takes a role `new` and keeps its
reference, gives it back through `decRef`, or hands the descriptor out at count 1; or a new holder is appended. -/

theorem counts_set {s s' : St} {x : Nat} {old new : Role} (hi : Inv s) (hx : s.actors[x]? = some old)
    (ho : old.holds = true) (ha : s'.actors = s.actors.set x new) :
    refs s'.actors + 1 = s.count + b2n new.holds ∧ cntP Role.isRaw s'.actors = s.rawDecs + b2n new.isRaw := by
  have h1 := refs_set s.actors x old new hx
  have h2 := cntP_set Role.isRaw s.actors x old new hx
  rw [ho] at h1
  rw [Role.not_raw_of_holds ho] at h2
  rw [ha, hi.cnt, hi.raw]
  exact ⟨h1, h2⟩

theorem inv_keep {s s' : St} {x : Nat} {old new : Role} (hi : Inv s) (hx : s.actors[x]? = some old)
    (ho : old.holds = true) (hn : new.holds = true) (ha : s'.actors = s.actors.set x new)
    (hc : s'.count = s.count) (hr : s'.released = s.released) (hd : s'.delivered = s.delivered)
    (hk : s'.rawDecs = s.rawDecs) : Inv s' := by
  obtain ⟨h1, h2⟩ := counts_set hi hx ho ha
  rw [hn] at h1
  rw [Role.not_raw_of_holds hn] at h2
  exact ⟨by rw [hc]; exact (Nat.add_right_cancel h1).symm, by rw [hr, hc]; exact hi.rel, by rw [hr, hd]; exact hi.del,
    by rw [hk]; exact h2.symm⟩

theorem inv_release {s t : St} {x : Nat} {old new : Role} (hi : Inv s) (hx : s.actors[x]? = some old)
    (ho : old.holds = true) (hn : new.holds = false) (ha : t.actors = s.actors.set x new)
    (hc : t.count = s.count) (hr : t.released = s.released) (hd : t.delivered = s.delivered)
    (hk : t.rawDecs = s.rawDecs + b2n new.isRaw) : Inv (decRef t) := by
  obtain ⟨h1, h2⟩ := counts_set hi hx ho ha
  rw [hn, ← hc] at h1
  replace h1 : refs t.actors + 1 = t.count := h1
  -- the count is positive, so nothing has been released or delivered yet
  have hr0 : t.released = 0 := by
    rcases hi.rel with h | h
    · rw [hr, h.1]
    · rw [hc, h.2] at h1; cases h1
  have hd0 : t.delivered = 0 := by have := hi.del; omega
  rw [decRef_eq]
  refine ⟨show t.count - 1 = refs t.actors by rw [← h1]; rfl, ?_, show t.delivered ≤ _ by rw [hd0]; exact Nat.zero_le _,
    show t.rawDecs = cntP Role.isRaw t.actors by rw [hk]; exact h2.symm⟩
  by_cases hc1 : t.count = 1
  · exact .inr ⟨show (if t.count = 1 then _ else _) = 1 by rw [if_pos hc1, hr0], show t.count - 1 = 0 by rw [hc1]⟩
  · exact .inl ⟨show (if t.count = 1 then _ else _) = 0 by rw [if_neg hc1, hr0], show 1 ≤ t.count - 1 by omega⟩

theorem inv_deliver {s t : St} {x : Nat} {old new : Role} (hi : Inv s) (hx : s.actors[x]? = some old)
    (ho : old.holds = true) (hn : new.holds = false) (hnr : new.isRaw = false) (h1 : s.count = 1)
    (ha : t.actors = s.actors.set x new) (hr : t.released = s.released) (hd : t.delivered = s.delivered)
    (hk : t.rawDecs = s.rawDecs) : Inv (deliver t) := by
  obtain ⟨h2, h3⟩ := counts_set hi hx ho ha
  rw [hn, h1] at h2
  rw [hnr] at h3
  have := hi.rel; have := hi.del
  exact ⟨show 0 = refs t.actors from (Nat.add_right_cancel h2).symm, .inr ⟨show t.released + 1 = 1 by omega, rfl⟩,
    show t.delivered + 1 ≤ t.released + 1 by omega, show t.rawDecs = cntP Role.isRaw t.actors by rw [hk]; exact h3.symm⟩

theorem inv_grow {s s' : St} {x : Nat} {old r : Role} (hi : Inv s) (hx : s.actors[x]? = some old)
    (ho : old.holds = true) (hr : r.holds = true) (ha : s'.actors = s.actors ++ [r])
    (hc : s'.count = s.count + 1) (hrel : s'.released = s.released) (hd : s'.delivered = s.delivered)
    (hk : s'.rawDecs = s.rawDecs) : Inv s' := by
  have := refs_pos s.actors x old hx ho
  have := hi.cnt; have := hi.rel
  refine ⟨?_, ?_, by rw [hrel, hd]; exact hi.del, ?_⟩
  · rw [hc, ha, refs_append, hr]; change _ = _ + 1; omega
  · rw [hrel, hc]; omega
  · rw [hk, ha, cntP_append, Role.not_raw_of_holds hr, hi.raw]; rfl

theorem inv_step {s s' : St} {e : Ev} (hi : Inv s) (h : step s e = some s') : Inv s' := by
  obtain ⟨old, hx, ho⟩ := step_target_holds h
  obtain ⟨_, _, _, _, _, -, hd⟩ := dropTest_frame s
  -- the `rfl`s: `holds` (and `isRaw`) of the role the event writes, then `actors`, `count`, `released`, `delivered`,
  -- `rawDecs` of the state it builds, in the order of the hypotheses of `inv_grow` / `inv_keep` / `inv_release` /
  -- `inv_deliver`
  cases step_cases h with
  | clone | opStart => exact inv_grow hi hx ho rfl rfl rfl rfl rfl rfl
  | unwrapFail => exact hi
  | setWaker => exact ⟨hi.cnt, hi.rel, hi.del, hi.raw⟩
  | take | close | pollPark | repollPark | swapLose | swapWin | try1Reg | pReg | try2Park | pBegin | futLeak =>
    exact inv_keep hi hx ho rfl rfl rfl rfl rfl rfl
  | checkH | checkOp => rw [hd]; exact inv_keep hi hx ho rfl rfl rfl rfl rfl rfl
  | drop => rw [hd]; exact inv_release hi hx ho rfl rfl rfl rfl rfl rfl
  | dec | pollLose | pNone | futRaw => exact inv_release hi hx ho rfl rfl rfl rfl rfl rfl
  | unwrap _ h1 | pollWin _ _ _ h1 | repollWin _ h1 | try1Win _ h1 | try2Win _ h1 =>
    exact inv_deliver hi hx ho rfl rfl h1 rfl rfl rfl rfl

theorem inv_reach {b : Bool} {evs : List Ev} {s : St} (h : run (init b) evs = some s) : Inv s :=
  isRun.invariant (fun _ _ _ hi => inv_step hi) (inv_init b) h

theorem Inv.once {s : St} (hi : Inv s) : s.released ≤ 1 ∧ s.delivered ≤ s.released :=
  ⟨by rcases hi.rel with h | h <;> omega, hi.del⟩

theorem Inv.unreleased {s : St} (hi : Inv s) (h : 1 ≤ s.count) : s.released = 0 ∧ s.delivered = 0 := by
  have := hi.del
  rcases hi.rel with h1 | h1 <;> omega

theorem Inv.count_pos {s : St} (hi : Inv s) {i : Nat} {r : Role} (hir : s.actors[i]? = some r)
    (hh : r.holds = true) : 1 ≤ s.count :=
  hi.cnt ▸ refs_pos _ i r hir hh

theorem Inv.quiescent {s : St} (hi : Inv s) (hq : s.quiescent) : s.released = 1 := by
  have := hi.cnt
  unfold St.quiescent at hq
  rcases hi.rel with h1 | h1 <;> omega

theorem Inv.sole_owner_poll {s : St} {c : Nat} (hi : Inv s) (hc : s.parked c) (h1 : s.count = 1) :
    ∃ s', step s (.poll c) = some s' ∧ s'.actors[c]? = some (.closer .doneSome) ∧ s'.released = 1 ∧
      s'.delivered = 1 := by
  obtain ⟨hr, hd⟩ := hi.unreleased (Nat.le_of_eq h1.symm)
  exact ⟨_, poll_sole_owner hc h1, set_self hc, show s.released + 1 = 1 by rw [hr], show s.delivered + 1 = 1 by rw [hd]⟩

theorem decRef_released {s t : St} (hc : t.count = s.count) (hr : t.released = s.released) :
    (decRef t).released = s.released ∨ ((decRef t).released = s.released + 1 ∧ s.count = 1) := by
  rw [decRef_eq, ← hc, ← hr]
  by_cases h1 : t.count = 1
  · exact .inr ⟨if_pos h1, h1⟩
  · exact .inl (if_neg h1)

theorem step_released {s s' : St} {e : Ev} (h : step s e = some s') :
    s'.released = s.released ∨ (s'.released = s.released + 1 ∧ s.count = 1) := by
  obtain ⟨_, _, _, _, _, -, hd⟩ := dropTest_frame s
  cases step_cases h with
  | clone | opStart | unwrapFail | setWaker | take | close | pollPark | repollPark | swapLose | swapWin | try1Reg
  | pReg | try2Park | pBegin | futLeak => exact .inl rfl
  | unwrap _ h1 | pollWin _ _ _ h1 | repollWin _ h1 | try1Win _ h1 | try2Win _ h1 => exact .inr ⟨rfl, h1⟩
  | checkH | checkOp => rw [hd]; exact .inl rfl
  | drop => rw [hd]; exact decRef_released rfl rfl
  | dec | pollLose | pNone | futRaw => exact decRef_released rfl rfl

theorem wOf_cons_self (l : List (Nat × Nat)) (c w : Nat) : wOf ((c, w) :: l) c = w := by
  simp [wOf, List.lookup]

theorem wOf_cons_ne (l : List (Nat × Nat)) (c c' w : Nat) (h : c' ≠ c) : wOf ((c, w) :: l) c' = wOf l c' := by
  have : (c' == c) = false := by simp [h]
  simp [wOf, List.lookup, this]

def St.try2 (s : St) (c : Nat) : Prop := s.actors[c]? = some (.closer .try2)

/-- the waker in the slot is the one supplied by the closer's current / latest poll -/
structure SInv (s : St) : Prop where
  /-- parked closer: the slot holds the waker of the poll that parked it (`Props.C06.slot_holds_latest_waker`) -/
  s1 : ∀ c, s.parked c → s.slot = some c → s.slotW = wOf s.parkedW c
  /-- closer between `register` and its second `try_unwrap` (micro steps): the slot holds the waker of the running
  poll; needed only to get `s1` through the step `try2Park` -/
  s2 : ∀ c, s.try2 c → s.slot = some c → s.slotW = wOf s.nextW c

theorem sinv_init (b : Bool) : SInv (init b) := ⟨nofun, nofun⟩

theorem sinv_frame {s s' : St} (hs : SInv s) (hp : ∀ c, s'.parked c → s.parked c)
    (ht : ∀ c, s'.try2 c → s.try2 c) (hslot : s'.slot = s.slot ∨ s'.slot = none)
    (hsw : s'.slotW = s.slotW) (hpw : s'.parkedW = s.parkedW)
    (hnw : ∀ c, s'.try2 c → wOf s'.nextW c = wOf s.nextW c) : SInv s' := by
  have hsl : ∀ c, s'.slot = some c → s.slot = some c := by
    intro c h
    rcases hslot with h1 | h1 <;> rw [h1] at h
    · exact h
    · cases h
  exact ⟨fun c h1 h2 => by rw [hsw, hpw]; exact hs.s1 c (hp c h1) (hsl c h2),
    fun c h1 h2 => by rw [hsw, hnw c h1]; exact hs.s2 c (ht c h1) (hsl c h2)⟩

theorem sinv_set {s s' : St} {i : Nat} {r : Role} (hs : SInv s) (ha : s'.actors = s.actors.set i r)
    (hr1 : r ≠ .closer .parked) (hr2 : r ≠ .closer .try2) (hslot : s'.slot = s.slot ∨ s'.slot = none)
    (hsw : s'.slotW = s.slotW) (hpw : s'.parkedW = s.parkedW) (hnw : s'.nextW = s.nextW) : SInv s' := by
  refine sinv_frame hs (fun c h => ?_) (fun c h => ?_) hslot hsw hpw (fun c _ => by rw [hnw])
  · rw [St.parked, ha] at h; exact role_set h hr1
  · rw [St.try2, ha] at h; exact role_set h hr2

theorem sinv_decRef {t : St} (h : SInv t) : SInv (decRef t) := by
  rw [decRef_eq]; exact ⟨h.s1, h.s2⟩

/-- a closer parks having just registered (whole poll), or parks after `register` (micro steps) -/
theorem sinv_park {s s' : St} {c : Nat} {old : Role} (hs : SInv s) (hc : s.actors[c]? = some old)
    (ha : s'.actors = s.actors.set c (.closer .parked))
    (hpw : s'.parkedW = (c, wOf s.nextW c) :: s.parkedW) (hnw : s'.nextW = s.nextW)
    (hcase : (s'.slot = some c ∧ s'.slotW = wOf s.nextW c) ∨
      (s.try2 c ∧ s'.slot = s.slot ∧ s'.slotW = s.slotW)) : SInv s' := by
  have other : ∀ c', c' ≠ c → s'.slot = some c' → s.slot = some c' ∧ s'.slotW = s.slotW := by
    intro c' hcc h2
    rcases hcase with ⟨h3, _⟩ | ⟨_, h4, h5⟩
    · rw [h3] at h2; cases h2; exact absurd rfl hcc
    · exact ⟨h4 ▸ h2, h5⟩
  constructor
  · intro c' h1 h2
    rw [St.parked, ha] at h1
    by_cases hcc : c' = c
    · subst hcc
      rw [hpw, wOf_cons_self]
      rcases hcase with ⟨_, h4⟩ | ⟨h3, h4, h5⟩
      · exact h4
      · rw [h5]; exact hs.s2 c' h3 (h4 ▸ h2)
    · obtain ⟨h3, h4⟩ := other c' hcc h2
      rw [hpw, wOf_cons_ne _ _ _ _ hcc, h4]
      rw [List.getElem?_set_ne (Ne.symm hcc)] at h1
      exact hs.s1 c' h1 h3
  · intro c' h1 h2
    rw [St.try2, ha] at h1
    by_cases hcc : c' = c
    · subst hcc; cases (set_self hc).symm.trans h1
    · obtain ⟨h3, h4⟩ := other c' hcc h2
      rw [hnw, h4]
      rw [List.getElem?_set_ne (Ne.symm hcc)] at h1
      exact hs.s2 c' h1 h3

theorem sinv_step {s s' : St} {e : Ev} (hs : SInv s) (h : step s e = some s') : SInv s' := by
  obtain ⟨_, _, _, _, _, hsl, hd⟩ := dropTest_frame s
  cases step_cases h with
  | unwrapFail => exact hs
  | clone | opStart =>
    exact sinv_frame hs (fun c h => role_append h nofun) (fun c h => role_append h nofun) (.inl rfl) rfl rfl
      (fun _ _ => rfl)
  | take | close | swapLose | swapWin | try1Reg | pBegin | futLeak | unwrap | pollWin | repollWin | try1Win | try2Win =>
    exact sinv_set hs rfl nofun nofun (.inl rfl) rfl rfl rfl
  | dec | pollLose | pNone | futRaw => exact sinv_decRef (sinv_set hs rfl nofun nofun (.inl rfl) rfl rfl rfl)
  | checkH | checkOp => rw [hd]; exact sinv_set hs rfl nofun nofun hsl rfl rfl rfl
  | drop => rw [hd]; exact sinv_decRef (sinv_set hs rfl nofun nofun hsl rfl rfl rfl)
  | pReg hx =>
    refine ⟨fun c' h1 h2 => ?_, fun c' _ h2 => ?_⟩ <;> cases h2
    · rw [St.parked, setRole_actors, set_self hx] at h1; cases h1
    · rfl
  | pollPark hx | repollPark hx => exact sinv_park hs hx rfl rfl rfl (.inl ⟨rfl, rfl⟩)
  | try2Park hx => exact sinv_park hs hx rfl rfl rfl (.inr ⟨hx, rfl, rfl⟩)
  | @setWaker c w _ hx ho =>
    refine sinv_frame hs (fun _ h => h) (fun _ h => h) (.inl rfl) rfl rfl fun c' hc' => wOf_cons_ne _ _ _ _ ?_
    rintro rfl
    rw [St.try2, hx] at hc'
    rcases ho with rfl | rfl | rfl <;> cases hc'

theorem sinv_run {s s' : St} {evs : List Ev} (hs : SInv s) (h : run s evs = some s') : SInv s' :=
  isRun.invariant (fun _ _ _ hs => sinv_step hs) hs h

/-- wake-up invariant of the executions in which `Drop for SharedFd` and polls are single steps: slot,
parked closer and pending wake-ups all belong to the closer that won `waits.swap(true)` (`w1`, `w2`, `v1`), and
`waits` stays set once there is a winner (`w3`); a parked closer is registered or woken (`w2`); it is not the sole
owner unless woken, or a raw decrement happened (`j`, read by `UInv.sole_parked_woken`); and a pending wake-up went to
the waker of its latest poll (`v2`) -/
structure UInv (s : St) : Prop where
  w1 : ∀ c, s.slot = some c → s.winner = some c
  w2 : ∀ c, s.parked c → s.winner = some c ∧ (s.slot = some c ∨ c ∈ s.woken)
  w3 : ∀ c, s.winner = some c → s.waits = true
  j : ∀ c, s.parked c → 2 ≤ s.count ∨ c ∈ s.woken ∨ 0 < s.rawDecs
  v1 : ∀ c, c ∈ s.woken → s.winner = some c
  v2 : ∀ c, s.parked c → c ∈ s.woken → (c, wOf s.parkedW c) ∈ s.wokenW

theorem uinv_init (b : Bool) : UInv (init b) :=
  ⟨nofun, fun c h => (by cases c <;> cases h), nofun, fun c h => (by cases c <;> cases h), nofun, fun _ _ => nofun⟩

theorem uinv_frame {s s' : St} (hu : UInv s) (hp : ∀ c, s'.parked c → s.parked c)
    (hslot : s'.slot = s.slot) (hwk : s'.woken = s.woken) (hwkW : s'.wokenW = s.wokenW)
    (hwin : s'.winner = s.winner) (hwaits : s'.waits = s.waits) (hpw : s'.parkedW = s.parkedW)
    (hj : ∀ c, s.parked c → (2 ≤ s.count ∨ c ∈ s.woken ∨ 0 < s.rawDecs) →
      (2 ≤ s'.count ∨ c ∈ s.woken ∨ 0 < s'.rawDecs)) : UInv s' := by
  constructor
  · intro c h; rw [hwin]; rw [hslot] at h; exact hu.w1 c h
  · intro c h; rw [hwin, hslot, hwk]; exact hu.w2 c (hp c h)
  · intro c h; rw [hwaits]; rw [hwin] at h; exact hu.w3 c h
  · intro c h; rw [hwk]; exact hj c (hp c h) (hu.j c (hp c h))
  · intro c h; rw [hwin]; rw [hwk] at h; exact hu.v1 c h
  · intro c h hw; rw [hwkW, hpw]; rw [hwk] at hw; exact hu.v2 c (hp c h) hw

theorem uinv_still {s s' : St} (hu : UInv s) (hp : ∀ c, s'.parked c → s.parked c)
    (hslot : s'.slot = s.slot) (hwk : s'.woken = s.woken) (hwkW : s'.wokenW = s.wokenW)
    (hwin : s'.winner = s.winner) (hwaits : s'.waits = s.waits) (hpw : s'.parkedW = s.parkedW)
    (h1 : s.count ≤ s'.count ∨ s.count ≤ 1 ∨ 0 < s'.rawDecs) (h2 : s.rawDecs ≤ s'.rawDecs) : UInv s' := by
  refine uinv_frame hu hp hslot hwk hwkW hwin hwaits hpw fun c _ hj => ?_
  rcases hj with h | h | h
  · rcases h1 with h1 | h1 | h1
    · exact .inl (Nat.le_trans h h1)
    · omega
    · exact .inr (.inr h1)
  · exact .inr (.inl h)
  · exact .inr (.inr (Nat.lt_of_lt_of_le h h2))

theorem uinv_unparked {s s' : St} (hu : UInv s) (hp : ∀ c, ¬ s'.parked c) (hslot : s'.slot = s.slot)
    (hwk : ∀ c, c ∈ s'.woken → c ∈ s.woken) (hwin : ∀ c, s.winner = some c → s'.winner = some c)
    (hwaits : s'.waits = true) : UInv s' :=
  ⟨fun c h => hwin c (hu.w1 c (hslot ▸ h)), fun c h => absurd h (hp c), fun _ _ => hwaits,
    fun c h => absurd h (hp c), fun c h => hwin c (hu.v1 c (hwk c h)), fun c h => absurd h (hp c)⟩

theorem uinv_parked {s' : St} {c0 : Nat} (hp : ∀ c, s'.parked c → c = c0) (hslot : s'.slot = some c0)
    (hwk : ∀ c, c ∉ s'.woken) (hwin : s'.winner = some c0) (hwaits : s'.waits = true) (hc : 2 ≤ s'.count) :
    UInv s' := by
  refine ⟨fun c h => ?_, fun c h => ?_, fun _ _ => hwaits, fun _ _ => .inl hc, fun c h => absurd h (hwk c),
    fun c _ h => absurd h (hwk c)⟩
  · rw [hslot] at h; cases h; exact hwin
  · cases hp c h; exact ⟨hwin, .inl hslot⟩

theorem parked_of_set {t : St} {c0 c : Nat} {r : Role} (h : (setRole t c0 r).parked c) (hc : c ≠ c0) : t.parked c := by
  rwa [St.parked, setRole_actors, List.getElem?_set_ne (Ne.symm hc)] at h

theorem UInv.parked_eq {s : St} (hu : UInv s) {c c' : Nat} (hc : s.parked c) (hw : s.winner = some c') : c = c' :=
  Option.some.inj ((hu.w2 c hc).1.symm.trans hw)

theorem UInv.fresh {s : St} (hu : UInv s) (hw : s.waits = false) :
    s.winner = none ∧ (∀ c, ¬ s.parked c) ∧ ∀ c, c ∉ s.woken := by
  have hnone : s.winner = none := by
    cases hwin : s.winner with
    | none => rfl
    | some c => rw [hu.w3 c hwin] at hw; cases hw
  exact ⟨hnone, fun c hc => (nomatch hnone ▸ (hu.w2 c hc).1), fun c hc => (nomatch hnone ▸ hu.v1 c hc)⟩

theorem UInv.woken_cleared {s : St} (hu : UInv s) {c0 : Nat} (hw : s.winner = some c0) (c : Nat) :
    c ∉ s.woken.filter (· != c0) := fun h => by
  have := List.mem_filter.mp h
  cases Option.some.inj ((hu.v1 c this.1).symm.trans hw)
  simp at this

theorem uinv_step {s s' : St} {e : Ev} (hi : Inv s) (hs : SInv s) (hu : UInv s) (he : e.unsync = true)
    (h : step s e = some s') : UInv s' := by
  obtain ⟨old, hx, ho⟩ := step_target_holds h
  have hcnt := hi.count_pos hx ho
  cases step_cases h with
  | checkH | checkOp | dec | swapLose | swapWin | pNone | try1Win | try1Reg | pReg | try2Win | try2Park | pBegin =>
    cases he
  | unwrapFail => exact hu
  | clone | opStart =>
    exact uinv_still hu (fun c h => role_append h nofun) rfl rfl rfl rfl rfl rfl (.inl (Nat.le_succ _)) (Nat.le_refl _)
  | setWaker => exact uinv_still hu (fun c h => h) rfl rfl rfl rfl rfl rfl (.inl (Nat.le_refl _)) (Nat.le_refl _)
  | take | close | futLeak =>
    exact uinv_still hu (fun c h => role_set h nofun) rfl rfl rfl rfl rfl rfl (.inl (Nat.le_refl _)) (Nat.le_refl _)
  | unwrap _ h1 =>
    exact uinv_still hu (fun c h => role_set h nofun) rfl rfl rfl rfl rfl rfl (.inr (.inl (Nat.le_of_eq h1)))
      (Nat.le_refl _)
  | pollLose | futRaw =>
    rw [decRef_eq]
    exact uinv_still hu (fun c h => role_set h nofun) rfl rfl rfl rfl rfl rfl (.inr (.inr (Nat.succ_pos _)))
      (Nat.le_succ _)
  | @drop x =>
    have hp : ∀ {t : St} {c}, (setRole t x .gone).parked c → t.parked c := fun h => role_set h nofun
    rw [decRef_eq]
    rcases dropTest_cases s with ⟨hq, hd⟩ | ⟨c0, hsl, h2, hw, hd⟩ <;> rw [hd]
    · -- no wake: at count 2 with a closer waiting the slot is empty, so a parked closer is already woken
      refine uinv_frame hu (fun c h => hp h) rfl rfl rfl rfl rfl rfl fun c hc hj => ?_
      have hw2 := hu.w2 c hc
      rcases hj with h2 | h2 | h2
      · by_cases h3 : s.count = 2
        · rw [hq ⟨h3, hu.w3 c hw2.1⟩] at hw2
          exact .inr (.inl (hw2.2.resolve_left nofun))
        · exact .inl (show 2 ≤ s.count - 1 by omega)
      · exact .inr (.inl h2)
      · exact .inr (.inr h2)
    · -- the waker in the slot, which is the parked closer's latest (`SInv`), is woken
      have hwin := hu.w1 c0 hsl
      refine ⟨nofun, fun c h => ?_, hu.w3, fun c h => ?_, fun c h => ?_, fun c h hwk => ?_⟩
      · cases hu.parked_eq (hp h) hwin; exact ⟨hwin, .inr (List.mem_cons_self ..)⟩
      · cases hu.parked_eq (hp h) hwin; exact .inr (.inl (List.mem_cons_self ..))
      · rcases List.mem_cons.mp h with rfl | h
        · exact hwin
        · exact hu.v1 c h
      · cases hu.parked_eq (hp h) hwin
        rcases List.mem_cons.mp hwk with _ | hwk
        · exact (hs.s1 c0 (hp h) hsl) ▸ List.mem_cons_self ..
        · exact List.mem_cons_of_mem _ (hu.v2 c0 (hp h) hwk)
  | pollWin _ _ hw =>
    obtain ⟨hnone, hnp, -⟩ := hu.fresh hw
    exact uinv_unparked hu (fun c h => hnp c (role_set h nofun)) rfl (fun _ h => h)
      (fun c h => by rw [hnone] at h; cases h) rfl
  | @pollPark c0 _ _ _ hw h1 =>
    obtain ⟨-, hnp, hnw⟩ := hu.fresh hw
    exact uinv_parked (fun c h => Decidable.byContradiction fun hc => hnp c (parked_of_set h hc)) rfl hnw rfl rfl
      (show 2 ≤ s.count by omega)
  | repollWin hc0 =>
    have hwin := (hu.w2 _ hc0).1
    refine uinv_unparked hu (fun c h => ?_) rfl (fun c h => (List.mem_filter.mp h).1) (fun _ h => h) (hu.w3 _ hwin)
    cases hu.parked_eq (role_set h nofun) hwin
    cases (set_self hc0).symm.trans h
  | @repollPark c0 hc0 h1 =>
    have hwin := (hu.w2 _ hc0).1
    exact uinv_parked (fun c h => Decidable.byContradiction fun hc => hc (hu.parked_eq (parked_of_set h hc) hwin)) rfl
      (hu.woken_cleared hwin) hwin (hu.w3 _ hwin) (show 2 ≤ s.count by omega)

theorem last_drop_wakes {s : St} {c x : Nat} (hu : UInv s) (hc : s.parked c) (h2 : s.count = 2)
    (hx : s.actors[x]? = some (.handle .live) ∨ s.actors[x]? = some (.op .live)) :
    ∃ s1, step s (.drop x) = some s1 ∧ c ∈ s1.woken ∧ s1.count = 1 ∧ s1.parked c := by
  have hw2 := hu.w2 c hc
  have hxc : x ≠ c := by rintro rfl; rcases hx with hx | hx <;> cases hx.symm.trans hc
  refine ⟨_, step_drop hx, ?_⟩
  rw [decRef_eq]
  rcases dropTest_cases s with ⟨hq, hd⟩ | ⟨c0, hsl, -, -, hd⟩ <;> rw [hd] <;>
    refine ⟨?_, show s.count - 1 = 1 by rw [h2], (List.getElem?_set_ne hxc).trans hc⟩
  · rw [hq ⟨h2, hu.w3 c hw2.1⟩] at hw2
    exact hw2.2.resolve_left nofun
  · cases Option.some.inj ((hu.w1 c0 hsl).symm.trans hw2.1)
    exact List.mem_cons_self ..

theorem uinv_reach {b : Bool} {evs : List Ev} {s : St} (he : ∀ e ∈ evs, e.unsync = true)
    (h : run (init b) evs = some s) : Inv s ∧ SInv s ∧ UInv s :=
  isRun.induct (P := fun s => Inv s ∧ SInv s ∧ UInv s)
    (fun _ _ _ ⟨hi, hs, hu⟩ he h => ⟨inv_step hi h, sinv_step hs h, uinv_step hi hs hu he h⟩)
    ⟨inv_init b, sinv_init b, uinv_init b⟩ he h

theorem UInv.sole_parked_woken {s : St} {c : Nat} (hu : UInv s) (hc : s.parked c) (h1 : s.count = 1)
    (hraw : s.rawDecs = 0) : c ∈ s.woken := by
  rcases hu.j c hc with h2 | h2 | h2
  · omega
  · exact h2
  · omega

theorem stuck_forever {s s' : St} {e : Ev} {c : Nat} (hi : Inv s) (hc : s.parked c) (h1 : s.count = 1)
    (h : step s e = some s') : e.target = c := by
  obtain ⟨r, hr, hh⟩ := step_target_holds h
  by_cases hne : e.target = c
  · exact hne
  · have := refs_two s.actors e.target c r _ hne hr hc hh rfl
    have := hi.cnt
    omega

end Compio.SharedFd

namespace Compio.Produced

def St.all (s : St) : List Nat := s.taken ++ s.closed ++ s.held

/-- every descriptor produced so far is in exactly one of `taken`, `closed`, `held` -/
def St.P (s : St) : Prop := s.all.Perm (List.range s.next)

theorem P_move {s s' : St} (h : s.P) (hn : s'.next = s.next) (hc : ∀ a, s'.all.count a = s.all.count a) : s'.P := by
  unfold St.P
  rw [hn]
  exact (List.perm_iff_count.mpr hc).trans h

theorem P_takeAll {s : St} (h : s.P) : (takeAll s).P :=
  P_move h rfl fun a => by simp [takeAll, St.all, List.count_append]; omega

theorem P_dropOp {s : St} (h : s.P) : (dropOp s).P :=
  P_move h rfl fun a => by simp [dropOp, St.all, List.count_append]

theorem P_adopt {s : St} (h : s.P) : (adopt s).P := by
  have : (adopt s).all = s.all ++ [s.next] := by simp [adopt, St.all]
  unfold St.P
  rw [this, adopt, List.range_succ]
  exact List.Perm.append_right _ h

theorem P_adopt_if {s : St} (h : s.P) (ok : Bool) : (if ok then adopt s else s).P := by
  cases ok
  · exact h
  · exact P_adopt h

/-- who may still own descriptors, by the state of the future -/
def St.Ctl (s : St) : Prop :=
  match s.fut with
  | .idle => s.inDriver = false ∧ s.held = [] ∧ s.result = none
  | .submitted => (s.result = none ↔ s.inDriver = true)
  | .ready => s.held = [] ∧ s.inDriver = false
  | .dropped => (s.result.isSome → s.inDriver = false) ∧ (s.inDriver = false → s.held = [])

structure PInv (s : St) : Prop where
  perm : s.P
  ctl : s.Ctl

theorem pinv_init : PInv init := ⟨List.Perm.refl _, rfl, rfl, rfl⟩

theorem PInv.held_nil {s : St} (hi : PInv s) (hf : s.finished) : s.held = [] := by
  have hc := hi.ctl
  rcases hf with ⟨h1, h2 | h2⟩ <;> simp only [St.Ctl, h2] at hc
  · exact hc.1
  · exact hc.2 h1

theorem PInv.one_owner {s : St} (hi : PInv s) :
    (s.taken ++ s.closed ++ s.held).Nodup ∧ ∀ n, n < s.next ↔ (n ∈ s.taken ∨ n ∈ s.closed ∨ n ∈ s.held) := by
  have hp : (s.taken ++ s.closed ++ s.held).Perm (List.range s.next) := hi.perm
  refine ⟨hp.nodup_iff.mpr List.nodup_range, fun n => ?_⟩
  rw [← List.mem_range, ← hp.mem_iff]
  simp

/-- `.completeFallback` is excluded: it puts the new descriptor into `held` and `closed` at once, which breaks `St.P`
(`Cex.C06.iour_blocking_fallback_counterexample`) -/
theorem pinv_step {s s' : St} {e : Ev} (hi : PInv s) (hk : e ≠ .completeFallback)
    (h : step s e = some s') : PInv s' := by
  obtain ⟨hp, hc⟩ := hi
  cases e with
  | completeFallback => exact absurd rfl hk
  | rearm =>
    simp only [step] at h
    split at h <;> cases h
    next hf => exact ⟨hp, by simp_all [St.Ctl]⟩
  | poll =>
    simp only [step] at h
    split at h
    · next hf => cases h; exact ⟨hp, by simp_all [St.Ctl]⟩
    · next hf =>
      split at h <;> cases h
      · next r hr => exact ⟨P_takeAll hp, by simp_all [St.Ctl, takeAll]⟩
      · exact ⟨hp, hc⟩
    · cases h
  | pollImm ok =>
    simp only [step] at h
    split at h <;> cases h
    next hf => exact ⟨P_takeAll (P_adopt_if hp ok), by cases ok <;> simp_all [St.Ctl, takeAll, adopt]⟩
  | complete ok =>
    simp only [step] at h
    split at h <;> cases h
    next hg =>
    split
    · next hd => exact ⟨P_dropOp (P_adopt_if hp ok), by cases ok <;> simp_all [St.Ctl, dropOp, adopt]⟩
    · next hd =>
      refine ⟨P_adopt_if hp ok, ?_⟩
      cases hf : s.fut <;> cases ok <;> simp_all [St.Ctl, adopt]
  | shot =>
    simp only [step] at h
    split at h <;> cases h
    next hg =>
    refine ⟨P_adopt hp, ?_⟩
    cases hf : s.fut <;> simp_all [St.Ctl, adopt]
  | popShot =>
    simp only [step] at h
    split at h <;> cases h
    next fd rest hf hh =>
    exact ⟨P_move hp rfl fun a => by simp [St.all, hh, List.count_append, List.count_cons]; omega,
      by simp_all [St.Ctl]⟩
  | dropFut =>
    simp only [step] at h
    split at h
    · next hf => cases h; exact ⟨P_dropOp hp, by simp_all [St.Ctl, dropOp]⟩
    · next hf =>
      split at h <;> cases h
      · next r hr => exact ⟨P_dropOp hp, by simp_all [St.Ctl, dropOp]⟩
      · next hr => exact ⟨hp, by simp_all [St.Ctl]⟩
    · cases h

theorem isRun : IsRun step run :=
  ⟨fun _ => rfl, fun s e es => by rw [run]; cases step s e <;> rfl⟩

theorem pinv_run {s s' : St} {evs : List Ev} (hi : PInv s) (hk : ∀ e ∈ evs, e ≠ .completeFallback)
    (h : run s evs = some s') : PInv s' :=
  isRun.induct (fun _ _ _ hi hk h1 => pinv_step hi hk h1) hi hk h

end Compio.Produced

namespace Compio.MultiWait

theorem filter_map_key (fds : List Nat) (key : Nat) :
    (fds.map (·, key)).filter (fun e => !mine key fds e) = [] := by
  rw [List.filter_eq_nil_iff]
  intro e he
  simp only [List.mem_map] at he
  obtain ⟨fd, hfd, rfl⟩ := he
  simp [mine, hfd]

end Compio.MultiWait
