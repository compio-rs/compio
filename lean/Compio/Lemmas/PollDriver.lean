/-
C02, polling driver: the queue / registration invariant `QInv`, and `Inv` = `QInv` + the completion invariant `KInv`,
kept by every driver call for operations that wait for at most one descriptor.  Their parameter `pend` is the set of
descriptors with a reported event not handled yet, empty between calls: inside `poll`, `deliver` disarms what
`epoll_wait` reports and `eventLoop` handles and re-arms one descriptor after the other.  Under the invariant a
registered descriptor is known to epoll, so `submit`, `renew`, `poll_one`, `poll` have closed forms, with which
preservation rewrites.  `poll_single` (one descriptor reported, the head of its queue run) is what the progress
theorems of Props/C02 rest on.
-/
import Compio.Model.PollDriver
import Compio.Lemmas.Completion

namespace Compio.Completion

theorem upd_self {α : Type} (f : Nat → α) (k : Nat) (v : α) (h : f k = v) : upd f k v = f := by
  funext x; by_cases hx : x = k <;> simp [upd, hx, h]

@[simp] theorem upd_upd {α : Type} (f : Nat → α) (k : Nat) (a b : α) : upd (upd f k a) k b = upd f k b := by
  funext x; by_cases hx : x = k <;> simp [upd, hx]

end Compio.Completion

namespace Compio.PollDriver
open Compio.Completion

theorem upd_apply {α : Type} (f : Nat → α) (k : Nat) (v : α) (x : Nat) :
    upd f k v x = if x = k then v else f x := rfl

theorem sublist_cons_mem {α : Type} {x y : α} {rest : List α} : ∀ {l : List α},
    (x :: rest).Sublist l → y ∈ rest → ∃ l1 l2, l = l1 ++ x :: l2 ∧ y ∈ l2 := by
  intro l
  induction l with
  | nil => intro h; cases h
  | cons a l ih =>
    intro h hy
    cases h with
    | cons _ h' =>
      obtain ⟨l1, l2, e, hm⟩ := ih h' hy
      exact ⟨a :: l1, l2, by rw [e]; rfl, hm⟩
    | cons_cons _ h' => exact ⟨[], l, rfl, h'.subset hy⟩

namespace FdQueue

@[simp] theorem get_pushBack_same (q : FdQueue) (id : Id) (d : Dir) : (q.pushBack id d).get d = q.get d ++ [id] := by
  cases d <;> rfl

theorem get_pushBack_other (q : FdQueue) (id : Id) (d d' : Dir) (h : d' ≠ d) : (q.pushBack id d).get d' = q.get d' := by
  cases d <;> cases d' <;> first | rfl | exact (h rfl).elim

@[simp] theorem get_pushFront_same (q : FdQueue) (id : Id) (d : Dir) : (q.pushFront id d).get d = id :: q.get d := by
  cases d <;> rfl

theorem get_pushFront_other (q : FdQueue) (id : Id) (d d' : Dir) (h : d' ≠ d) : (q.pushFront id d).get d' = q.get d' := by
  cases d <;> cases d' <;> first | rfl | exact (h rfl).elim

@[simp] theorem get_remove (q : FdQueue) (id : Id) (d : Dir) : (q.remove id).get d = (q.get d).filter (· ≠ id) := by
  cases d <;> rfl

theorem removeLast_pushBack (q : FdQueue) (id : Id) (d : Dir) : (q.pushBack id d).removeLast d = q := by
  cases d <;> simp [pushBack, removeLast]

theorem isEmpty_iff (q : FdQueue) : q.isEmpty = true ↔ q.readQ = [] ∧ q.writeQ = [] := by
  simp [isEmpty, List.isEmpty_iff]

theorem isEmpty_false_iff (q : FdQueue) : q.isEmpty = false ↔ q.readQ ≠ [] ∨ q.writeQ ≠ [] := by
  cases hr : q.readQ <;> cases hw : q.writeQ <;> simp [isEmpty, hr, hw]

theorem pushBack_nonempty (q : FdQueue) (id : Id) (d : Dir) : (q.pushBack id d).isEmpty = false := by
  cases d <;> simp [pushBack, isEmpty]

theorem pushFront_nonempty (q : FdQueue) (id : Id) (d : Dir) : (q.pushFront id d).isEmpty = false := by
  cases d <;> simp [pushFront, isEmpty]

theorem event_readable (q : FdQueue) : q.event.readable = !q.readQ.isEmpty := rfl

theorem event_writable (q : FdQueue) : q.event.writable = !q.writeQ.isEmpty := rfl

theorem event_flags_of_nonempty (q : FdQueue) (h : q.isEmpty = false) :
    (!q.event.readable && !q.event.writable) = false := by
  cases hr : q.readQ <;> cases hw : q.writeQ <;> simp_all [isEmpty, event]

theorem event_flags_of_empty (q : FdQueue) (h : q.isEmpty = true) :
    (!q.event.readable && !q.event.writable) = true := by
  rw [isEmpty_iff] at h
  simp [event, h.1, h.2]

theorem event_key_in (q : FdQueue) (h : q.isEmpty = false) : ∃ d, q.event.key ∈ q.get d := by
  cases hw : q.writeQ with
  | cons k rest => exact ⟨.write, by simp [get, event, hw]⟩
  | nil =>
    cases hr : q.readQ with
    | nil => simp [isEmpty, hr, hw] at h
    | cons k rest => exact ⟨.read, by simp [get, event, hw, hr]⟩

theorem popInterest_some {q : FdQueue} {ev : Event} {id : Id} {q' : FdQueue} (h : q.popInterest ev = some (id, q')) :
    ∃ d, q.get d = id :: q'.get d ∧ (∀ d', d' ≠ d → q'.get d' = q.get d') ∧ q = q'.pushFront id d := by
  unfold popInterest at h
  split at h
  · rename_i k rest _ hr
    simp at h
    obtain ⟨rfl, rfl⟩ := h
    refine ⟨.read, ?_, ?_, ?_⟩
    · simpa [get] using hr
    · intro d' hd; cases d' <;> first | rfl | exact (hd rfl).elim
    · cases q; simp_all [pushFront]
  · split at h
    · rename_i k rest _ hw
      simp at h
      obtain ⟨rfl, rfl⟩ := h
      refine ⟨.write, ?_, ?_, ?_⟩
      · simpa [get] using hw
      · intro d' hd; cases d' <;> first | rfl | exact (hd rfl).elim
      · cases q; simp_all [pushFront]
    · cases h

theorem popInterest_read (q : FdQueue) (ev : Event) (k : Id) (rest : List Id)
    (hr : q.readQ = k :: rest) (hev : ev.readable = true) :
    q.popInterest ev = some (k, { q with readQ := rest }) := by
  simp [popInterest, hr, hev]

theorem popInterest_write (q : FdQueue) (ev : Event) (k : Id) (rest : List Id)
    (hw : q.writeQ = k :: rest) (hev : ev.writable = true) (hnr : ev.readable = false ∨ q.readQ = []) :
    q.popInterest ev = some (k, { q with writeQ := rest }) := by
  rcases hnr with h | h <;> simp [popInterest, hw, hev, h]

theorem popInterest_head (q : FdQueue) (key : Id) {id : Id} {rest : List Id} {rd wr : Bool}
    (hhead : (rd = true ∧ q.readQ = id :: rest) ∨ (wr = true ∧ q.writeQ = id :: rest ∧ (rd = false ∨ q.readQ = []))) :
    ∃ d q', q.popInterest ⟨key, rd, wr⟩ = some (id, q') ∧ q.get d = id :: rest ∧ q = q'.pushFront id d := by
  rcases hhead with ⟨h1, h2⟩ | ⟨h1, h2, h3⟩
  · exact ⟨.read, _, popInterest_read q _ id rest h2 h1, h2, by cases q; cases h2; rfl⟩
  · exact ⟨.write, _, popInterest_write q _ id rest h2 h1 h3, h2, by cases q; cases h2; rfl⟩

end FdQueue

variable {W : Type}

/-- `id` sits in some readiness queue of the driver -/
def queuedP (s : St W) (id : Id) : Prop := ∃ fd d, id ∈ s.queue fd d

theorem queue_of_reg_none {s : St W} {fd : Fd} (h : s.reg fd = none) (d : Dir) : s.queue fd d = [] := by
  simp [St.queue, h]

theorem queue_of_reg_some {s : St W} {fd : Fd} {q : FdQueue} (h : s.reg fd = some q) (d : Dir) :
    s.queue fd d = q.get d := by
  simp [St.queue, h]

/-- the registration of `fd` is consistent with its queues; while `pend fd` holds (an event for `fd` was
    reported by `epoll_wait` and not handled yet) only the registered key is known -/
def Armed (pend : Fd → Prop) (s : St W) (fd : Fd) : Prop :=
  match s.reg fd with
  | none => s.epoll fd = none
  | some q => q.isEmpty = false ∧
      ∃ ev, s.epoll fd = some ev ∧ ev.key = q.event.key ∧ (¬ pend fd → ev = q.event)

structure QInv (pend : Fd → Prop) (s : St W) : Prop where
  /-- a queued operation waits for exactly that descriptor and direction and is not marked ready -/
  tracked : ∀ fd d id, id ∈ s.queue fd d → s.track id = [⟨fd, d, false⟩]
  nodup : ∀ fd d, (s.queue fd d).Nodup
  armed : ∀ fd, Armed pend s fd
  /-- FIFO: every queue is a subsequence of the submission order -/
  fifo : ∀ fd d, (s.queue fd d).Sublist (s.pushed fd d)
  /-- a pending, not cancelled operation that waits for a descriptor is queued -/
  live : ∀ id, (∃ w, s.keys.slot id = .pending w) → s.track id ≠ [] → s.cancelled id = false → queuedP s id

structure Inv (pend : Fd → Prop) (s : St W) : Prop where
  q : QInv pend s
  k : KInv s.keys s.chan (queuedP s) s.pool

/-- the `pend` of the invariant between driver calls: no reported event is waiting to be handled.  Inside
    `poll`, `pend` is the set of reported descriptors `eventLoop` has not reached yet (`inv_deliver`, `inv_pollOne`). -/
def noPend : Fd → Prop := fun _ => False

theorem Armed.reg_none {pend : Fd → Prop} {s : St W} {fd : Fd} (h : Armed pend s fd) (hr : s.reg fd = none) :
    s.epoll fd = none := by
  unfold Armed at h; rw [hr] at h; exact h

theorem Armed.reg_some {pend : Fd → Prop} {s : St W} {fd : Fd} {q : FdQueue} (h : Armed pend s fd)
    (hr : s.reg fd = some q) :
    q.isEmpty = false ∧ ∃ ev, s.epoll fd = some ev ∧ ev.key = q.event.key ∧ (¬ pend fd → ev = q.event) := by
  unfold Armed at h; rw [hr] at h; exact h

theorem Armed.mono {pend pend' : Fd → Prop} {s s' : St W} {x : Fd} (h : Armed pend s x)
    (hreg : s'.reg x = s.reg x) (hep : s'.epoll x = s.epoll x) (hp : pend x → pend' x) : Armed pend' s' x := by
  unfold Armed at h ⊢
  rw [hreg, hep]
  cases hr : s.reg x with
  | none => rw [hr] at h; exact h
  | some q =>
    rw [hr] at h
    obtain ⟨a, ev, b, c, e⟩ := h
    exact ⟨a, ev, b, c, fun hn => e (fun hp' => hn (hp hp'))⟩

/-- Once the queue pair of `fd` is `q` and its registration is renewed with `q.event` (no entry and no registration
    when `q` is empty), every descriptor is armed; `fd` itself whatever is pending for it. -/
theorem Armed.rearm {pend pend' : Fd → Prop} {s s' : St W} {fd : Fd} (q : FdQueue) (h : ∀ x, Armed pend s x)
    (hreg : s'.reg = upd s.reg fd (if q.isEmpty then none else some q))
    (hep : s'.epoll = upd s.epoll fd (if q.isEmpty then none else some q.event))
    (hpend : ∀ x, x ≠ fd → pend x → pend' x) (x : Fd) : Armed pend' s' x := by
  by_cases hx : x = fd
  · subst hx
    unfold Armed
    rw [hreg, hep, upd_same, upd_same]
    cases he : q.isEmpty with
    | true => rfl
    | false => exact ⟨he, _, rfl, rfl, fun _ => rfl⟩
  · exact (h x).mono (by rw [hreg, upd_other _ _ _ _ hx]) (by rw [hep, upd_other _ _ _ _ hx]) (hpend x hx)

theorem QInv.unique {pend : Fd → Prop} {s : St W} (h : QInv pend s) {fd fd' : Fd} {d d' : Dir} {id : Id}
    (h1 : id ∈ s.queue fd d) (h2 : id ∈ s.queue fd' d') : fd = fd' ∧ d = d' := by
  have t1 := h.tracked fd d id h1
  have t2 := h.tracked fd' d' id h2
  rw [t1] at t2
  simp at t2
  exact t2

theorem Inv.init (w : W) : Inv noPend ({ world := w } : St W) where
  q := {
    tracked := by intro fd d id h; simp [St.queue] at h
    nodup := by intro fd d; simp [St.queue]
    armed := by intro fd; simp [Armed]
    fifo := by intro fd d; simp [St.queue]
    live := by intro id _ h; simp at h }
  k := KInv.init (by simp [queuedP, St.queue])

theorem submit_ok (ops : Ops W) (s : St W) (id : Id) (fd : Fd) (d : Dir) {pend : Fd → Prop}
    (harm : Armed pend s fd) (hadd : s.reg fd = none → ops.addFails fd = none) :
    submit ops s id fd d =
      (notePushed { s with reg := upd s.reg fd (some (((s.reg fd).getD {}).pushBack id d)),
                           epoll := upd s.epoll fd (some (((s.reg fd).getD {}).pushBack id d).event) } id fd d,
       none) := by
  unfold submit
  cases hr : s.reg fd with
  | none =>
    have he := harm.reg_none hr
    simp [epollAdd, hadd hr, he]
  | some q =>
    obtain ⟨_, ev, he, _⟩ := harm.reg_some hr
    simp [epollModify, he]

theorem submit_fail (ops : Ops W) (s : St W) (id : Id) (fd : Fd) (d : Dir) (e : Nat)
    (hr : s.reg fd = none) (hadd : ops.addFails fd = some e) :
    submit ops s id fd d = (s, some e) := by
  unfold submit
  simp only [hr, Option.isNone_none, if_true, epollAdd, hadd, Option.getD_none]
  rw [FdQueue.removeLast_pushBack]
  have : ({} : FdQueue).isEmpty = true := rfl
  simp only [this, if_true]
  rw [upd_self s.reg fd none hr]

theorem submitFront_ok (ops : Ops W) (s : St W) (id : Id) (fd : Fd) (d : Dir) (q : FdQueue) (ev : Event)
    (hr : s.reg fd = some q) (he : s.epoll fd = some ev) :
    submitFront ops s id fd d =
      ({ s with reg := upd s.reg fd (some (q.pushFront id d)),
                epoll := upd s.epoll fd (some (q.pushFront id d).event) }, none) := by
  unfold submitFront
  simp [hr, epollModify, he]

theorem renew_delete (s : St W) (fd : Fd) (ev ev0 : Event) (hf : (!ev.readable && !ev.writable) = true)
    (he : s.epoll fd = some ev0) :
    renew s fd ev = ({ s with epoll := upd s.epoll fd none, reg := upd s.reg fd none }, none) := by
  unfold renew
  simp only [hf, if_true, epollDelete, he, Option.isSome_some]

theorem renew_modify (s : St W) (fd : Fd) (ev ev0 : Event) (hf : (!ev.readable && !ev.writable) = false)
    (he : s.epoll fd = some ev0) :
    renew s fd ev = ({ s with epoll := upd s.epoll fd (some ev) }, none) := by
  unfold renew
  simp [hf, epollModify, he]

theorem renew_queue (s : St W) (fd : Fd) (q : FdQueue) (ev0 : Event) (he : s.epoll fd = some ev0)
    (hr : q.isEmpty = false → s.reg fd = some q) :
    renew s fd q.event =
      ({ s with epoll := upd s.epoll fd (if q.isEmpty then none else some q.event),
                reg := upd s.reg fd (if q.isEmpty then none else some q) }, none) := by
  cases hq : q.isEmpty with
  | true => rw [renew_delete s fd q.event ev0 (FdQueue.event_flags_of_empty q hq) he]; rfl
  | false =>
    rw [renew_modify s fd q.event ev0 (FdQueue.event_flags_of_nonempty q hq) he]
    simp [upd_self _ _ _ (hr hq)]

theorem removeOne_some (s : St W) (id : Id) (fd : Fd) (q : FdQueue) (ev0 : Event)
    (hr : s.reg fd = some q) (he : s.epoll fd = some ev0) :
    removeOne s id fd =
      ({ s with epoll := upd s.epoll fd (if (q.remove id).isEmpty then none else some (q.remove id).event),
                reg := upd s.reg fd (if (q.remove id).isEmpty then none else some (q.remove id)) }, none) := by
  unfold removeOne
  simp only [hr]
  rw [renew_queue _ fd (q.remove id) ev0 (by exact he) (fun h => by simp [h])]
  simp

theorem removeOne_none (s : St W) (id : Id) (fd : Fd) (hr : s.reg fd = none) : removeOne s id fd = (s, none) := by
  unfold removeOne; simp [hr]

theorem queue_congr {s s' : St W} (h : s'.reg = s.reg) (fd : Fd) (d : Dir) : s'.queue fd d = s.queue fd d := by
  simp [St.queue, h]

theorem queuedP_congr {s s' : St W} (h : s'.reg = s.reg) : queuedP s' = queuedP s := by
  funext id; simp [queuedP, queue_congr h]

theorem pushed_congr {s s' : St W} (hr : s'.pushedR = s.pushedR) (hw : s'.pushedW = s.pushedW) (fd : Fd) (d : Dir) :
    s'.pushed fd d = s.pushed fd d := by
  cases d <;> simp [St.pushed, hr, hw]

theorem QInv.congr {pend pend' : Fd → Prop} {s s' : St W} (h : QInv pend s)
    (hreg : s'.reg = s.reg) (harm : ∀ fd, Armed pend s fd → Armed pend' s' fd)
    (htr : ∀ x, queuedP s x → s'.track x = s.track x)
    (hpr : s'.pushedR = s.pushedR) (hpw : s'.pushedW = s.pushedW)
    (hlive : ∀ id, (∃ w, s'.keys.slot id = .pending w) → s'.track id ≠ [] → s'.cancelled id = false →
               (∃ w, s.keys.slot id = .pending w) ∧ s.track id ≠ [] ∧ s.cancelled id = false) :
    QInv pend' s' where
  tracked := by
    intro fd d id hm
    rw [queue_congr hreg] at hm
    rw [htr id ⟨fd, d, hm⟩]; exact h.tracked fd d id hm
  nodup := by intro fd d; rw [queue_congr hreg]; exact h.nodup fd d
  armed := fun fd => harm fd (h.armed fd)
  fifo := by intro fd d; rw [queue_congr hreg, pushed_congr hpr hpw]; exact h.fifo fd d
  live := by
    intro id hp ht hc
    obtain ⟨hp', ht', hc'⟩ := hlive id hp ht hc
    rw [queuedP_congr hreg]
    exact h.live id hp' ht' hc'

/-- the `d`-queue of an optional registry entry, `[]` for `none`: `St.queue` as a function of `s.reg fd` -/
def qget (X : Option FdQueue) (d : Dir) : List Id :=
  match X with
  | none => []
  | some q => q.get d

theorem queue_eq_qget (s : St W) (fd : Fd) (d : Dir) : s.queue fd d = qget (s.reg fd) d := by
  unfold St.queue qget; cases s.reg fd <;> rfl

theorem queue_upd (s s' : St W) (fd : Fd) (X : Option FdQueue) (hreg : s'.reg = upd s.reg fd X) (x : Fd) (d : Dir) :
    s'.queue x d = if x = fd then qget X d else s.queue x d := by
  rw [queue_eq_qget, queue_eq_qget, hreg]
  by_cases hx : x = fd
  · subst hx; simp [upd]
  · simp [upd, hx]

theorem Inv.keysOnly {pend : Fd → Prop} {s s' : St W} (h : Inv pend s)
    (hreg : s'.reg = s.reg) (hep : s'.epoll = s.epoll) (htr : s'.track = s.track)
    (hc : s'.cancelled = s.cancelled) (hpr : s'.pushedR = s.pushedR) (hpw : s'.pushedW = s.pushedW)
    (hslot : ∀ x w, s'.keys.slot x = .pending w → ∃ w', s.keys.slot x = .pending w')
    (hk : KInv s'.keys s'.chan (queuedP s) s'.pool) : Inv pend s' :=
  ⟨h.q.congr hreg (fun fd a => a.mono (congrFun hreg fd) (congrFun hep fd) fun p => p) (fun _ _ => by rw [htr]) hpr hpw
      (fun x ⟨w, hw⟩ ht hcx => ⟨hslot x w hw, by rwa [htr] at ht, by rwa [hc] at hcx⟩),
    queuedP_congr hreg ▸ hk⟩

/-- a descriptor with an unhandled event is asked less (`Armed`), so counting more of them as such keeps the
    invariant -/
theorem Inv.weaken {pend pend' : Fd → Prop} {s : St W} (h : Inv pend s) (hp : ∀ x, pend x → pend' x) : Inv pend' s :=
  ⟨h.q.congr rfl (fun x a => a.mono rfl rfl (hp x)) (fun _ _ => rfl) rfl rfl (fun _ a b c => ⟨a, b, c⟩), h.k⟩

theorem inv_jobDone {s : St W} (h : Inv noPend s) (id : Id) (r : Res) (hp : id ∈ s.pool) :
    Inv noPend (jobDone s id r) :=
  h.keysOnly rfl rfl rfl rfl rfl rfl (fun _ w hw => ⟨w, hw⟩) (h.k.jobDone r hp)

theorem inv_pop {s : St W} (h : Inv noPend s) (id : Id) : Inv noPend (pop s id).1 := by
  refine h.keysOnly rfl rfl rfl rfl rfl rfl (fun x w hw => ⟨w, ?_⟩) (h.k.pop id)
  have hw : (s.keys.pop id).1.slot x = .pending w := hw
  rw [← hw, pop_slot_of_ne_free _ _ _ (by simp [hw])]

theorem inv_setWaker {s : St W} (h : Inv noPend s) (id : Id) (w : WakerId) : Inv noPend (setWaker s id w) := by
  refine h.keysOnly rfl rfl rfl rfl rfl rfl (fun x w' hx => ?_) (h.k.setWaker id w)
  have hx : (s.keys.setWaker id w).slot x = .pending w' := hx
  rw [setWaker_slot] at hx
  split at hx
  · next e => subst e; cases hs : s.keys.slot x <;> simp [hs, Slot.setWaker] at hx ⊢
  · exact ⟨w', hx⟩

theorem not_queued_of_track_nil {pend : Fd → Prop} {s : St W} (h : QInv pend s) {id : Id} (ht : s.track id = []) :
    ¬ queuedP s id := by
  rintro ⟨fd, d, hm⟩
  have := h.tracked fd d id hm
  rw [ht] at this; cases this

@[simp] theorem notePushed_reg (s : St W) (id : Id) (fd : Fd) (d : Dir) : (notePushed s id fd d).reg = s.reg := by
  cases d <;> rfl
@[simp] theorem notePushed_epoll (s : St W) (id : Id) (fd : Fd) (d : Dir) : (notePushed s id fd d).epoll = s.epoll := by
  cases d <;> rfl
@[simp] theorem notePushed_track (s : St W) (id : Id) (fd : Fd) (d : Dir) : (notePushed s id fd d).track = s.track := by
  cases d <;> rfl
@[simp] theorem notePushed_keys (s : St W) (id : Id) (fd : Fd) (d : Dir) : (notePushed s id fd d).keys = s.keys := by
  cases d <;> rfl
@[simp] theorem notePushed_chan (s : St W) (id : Id) (fd : Fd) (d : Dir) : (notePushed s id fd d).chan = s.chan := by
  cases d <;> rfl
@[simp] theorem notePushed_pool (s : St W) (id : Id) (fd : Fd) (d : Dir) : (notePushed s id fd d).pool = s.pool := by
  cases d <;> rfl
@[simp] theorem notePushed_cancelled (s : St W) (id : Id) (fd : Fd) (d : Dir) :
    (notePushed s id fd d).cancelled = s.cancelled := by
  cases d <;> rfl

theorem notePushed_pushed (s : St W) (id : Id) (fd : Fd) (d : Dir) (x : Fd) (d' : Dir) :
    (notePushed s id fd d).pushed x d' = s.pushed x d' ++ if x = fd ∧ d' = d then [id] else [] := by
  cases d <;> cases d' <;> by_cases hx : x = fd <;> simp [notePushed, St.pushed, upd, hx]

theorem getD_get (s : St W) (fd : Fd) (d : Dir) : ((s.reg fd).getD {}).get d = s.queue fd d := by
  unfold St.queue
  cases s.reg fd <;> simp [FdQueue.get] <;> cases d <;> rfl

/-- `hk`: the completion invariant, given that `id` is the one operation that becomes queued. -/
theorem inv_enqueue {s s' : St W} (hq : QInv noPend s) (id : Id) (fd : Fd) (d : Dir)
    (hnq : ¬ queuedP s id)
    (hreg : s'.reg = upd s.reg fd (some (((s.reg fd).getD {}).pushBack id d)))
    (hep : s'.epoll = upd s.epoll fd (some (((s.reg fd).getD {}).pushBack id d).event))
    (htrack : s'.track = upd s.track id [⟨fd, d, false⟩])
    (hslot : ∀ x, x ≠ id → s'.keys.slot x = s.keys.slot x)
    (hcanc : s'.cancelled = s.cancelled)
    (hpushed : ∀ x d', s'.pushed x d' = s.pushed x d' ++ if x = fd ∧ d' = d then [id] else [])
    (hk : (∀ x, queuedP s' x ↔ queuedP s x ∨ x = id) → KInv s'.keys s'.chan (queuedP s') s'.pool) :
    Inv noPend s' := by
  have hqueue : ∀ x d', s'.queue x d' = s.queue x d' ++ if x = fd ∧ d' = d then [id] else [] := by
    intro x d'
    rw [queue_upd s s' fd _ hreg]
    by_cases hx : x = fd
    · subst hx
      by_cases hd : d' = d
      · subst hd; simp [qget, getD_get]
      · simp [qget, hd, FdQueue.get_pushBack_other _ _ _ _ hd, getD_get]
    · simp [hx]
  have hmem : ∀ x d' y, y ∈ s'.queue x d' ↔ y ∈ s.queue x d' ∨ (x = fd ∧ d' = d) ∧ y = id := by
    intro x d' y; rw [hqueue]; split <;> simp [*]
  have hmono : ∀ x, queuedP s' x ↔ queuedP s x ∨ x = id := fun x =>
    ⟨fun ⟨f, dd, hm⟩ => ((hmem f dd x).1 hm).imp (fun a => ⟨f, dd, a⟩) (·.2),
     fun h => h.elim (fun ⟨f, dd, hm⟩ => ⟨f, dd, (hmem _ _ _).2 (Or.inl hm)⟩)
       fun e => ⟨fd, d, (hmem _ _ _).2 (Or.inr ⟨⟨rfl, rfl⟩, e⟩)⟩⟩
  have hne : ∀ {x d' y}, y ∈ s.queue x d' → y ≠ id := fun hm e => hnq ⟨_, _, e ▸ hm⟩
  refine ⟨⟨?_, ?_, ?_, ?_, ?_⟩, hk hmono⟩
  · intro x d' y hy
    rw [htrack]
    rcases (hmem x d' y).1 hy with hy | ⟨⟨rfl, rfl⟩, rfl⟩
    · rw [upd_other _ _ _ _ (hne hy)]; exact hq.tracked x d' y hy
    · exact upd_same _ _ _
  · intro x d'
    rw [hqueue]
    refine List.nodup_append.2 ⟨hq.nodup x d', by split <;> simp, fun a ha b hb e => ?_⟩
    split at hb
    · exact hne ha (e.trans (List.mem_singleton.1 hb))
    · cases hb
  · exact Armed.rearm (((s.reg fd).getD {}).pushBack id d) hq.armed (by rw [hreg, FdQueue.pushBack_nonempty]; rfl)
      (by rw [hep, FdQueue.pushBack_nonempty]; rfl) fun _ _ a => a
  · intro x d'; rw [hqueue, hpushed]; exact (hq.fifo x d').append (List.Sublist.refl _)
  · intro x hp ht hc
    by_cases hxi : x = id
    · exact (hmono x).2 (Or.inr hxi)
    · rw [hslot x hxi] at hp
      rw [htrack, upd_other _ _ _ _ hxi] at ht
      rw [hcanc] at hc
      exact (hmono x).2 (Or.inl (hq.live x hp ht hc))

theorem inv_push (ops : Ops W) {s : St W} (h : Inv noPend s) (id : Id) (d : Decision)
    (hsingle : match d with | .wait args => args.length ≤ 1 | _ => True)
    (hfree : s.keys.slot id = .free) (hsrc : s.keys.src id = []) (htrack : s.track id = [])
    (hpool : id ∉ s.pool) : Inv noPend (push ops s id d).1 := by
  have hnq : ¬ queuedP s id := not_queued_of_track_nil h.q htrack
  have hk0 : KInv (s.keys.alloc id) s.chan (queuedP s) s.pool := h.k.alloc hfree hsrc
  have hpend0 : ∃ w, (s.keys.alloc id).slot id = .pending w := ⟨none, by simp⟩
  -- `id` is not queued: its tracks do not matter as long as it is not left pending with a descriptor to wait for
  have hfresh : ∀ (K : Keys) (T : Id → List Track) (P : List Id), (∀ x, x ≠ id → T x = s.track x) →
      (∀ w, K.slot id = .pending w → T id = []) → (∀ x, x ≠ id → K.slot x = s.keys.slot x) →
      KInv K s.chan (queuedP s) P → Inv noPend { s with keys := K, track := T, pool := P } := by
    intro K T P hT hK1 hK2 hk
    refine ⟨h.q.congr rfl (fun _ a => a) (fun x hq => hT x fun e => hnq (e ▸ hq)) rfl rfl
      (fun x ⟨w, hw⟩ ht hc => ?_), hk⟩
    by_cases hxi : x = id
    · subst hxi; exact (ht (hK1 w hw)).elim
    · exact ⟨⟨w, hK2 x hxi ▸ hw⟩, hT x hxi ▸ ht, hc⟩
  -- the "ready at once" outcome, whatever the tracks of `id` were set to
  have himm : ∀ (r : Res) (T : Id → List Track), (∀ x, x ≠ id → T x = s.track x) →
      Inv noPend { s with keys := (s.keys.alloc id).immediate id r, track := T } := fun r T hT =>
    have hsl := immediate_slot (s.keys.alloc id) id r none (by simp)
    hfresh _ T s.pool hT (fun w hx => by simp [hsl] at hx) (fun x hx => by simp [hsl, hx])
      (hk0.immediate r (by simpa using hsrc) hpend0 hpool hnq)
  have hidle : ∀ (T : Id → List Track) (pool' : List Id), (∀ x, x ≠ id → T x = s.track x) → T id = [] →
      KInv (s.keys.alloc id) s.chan (queuedP s) pool' →
      Inv noPend { s with keys := s.keys.alloc id, track := T, pool := pool' } :=
    fun T pool' hT h0 hk => hfresh _ T pool' hT (fun _ _ => h0) (fun x hx => by simp [hx]) hk
  unfold push
  cases d with
  | fail code => exact himm (.err code) _ fun _ _ => rfl
  | completed n => exact himm (.ok n) _ fun _ _ => rfl
  | blocking => exact hidle _ _ (fun _ _ => rfl) htrack (hk0.poolAdd (by simpa using hsrc) hnq hpool hpend0)
  | wait args =>
    simp only at hsingle
    match args, hsingle with
    | [], _ => exact hidle _ _ (fun x hx => upd_other _ _ _ x hx) (upd_same _ _ _) hk0
    | [a], _ =>
      obtain ⟨fd, dd⟩ := a
      simp only [List.map_cons, List.map_nil, submitAll]
      by_cases hbad : s.reg fd = none ∧ ∃ e, ops.addFails fd = some e
      · obtain ⟨hr, e, hadd⟩ := hbad
        rw [submit_fail ops _ id fd dd e (by exact hr) hadd]
        simp only [removeAll]
        rw [removeOne_none _ id fd (by exact hr)]
        exact himm (.err e) _ fun x hx => upd_other _ _ _ x hx
      · rw [submit_ok ops _ id fd dd (by exact h.q.armed fd) fun hr => by
          cases hadd : ops.addFails fd with
          | none => rfl
          | some e => exact (hbad ⟨hr, e, hadd⟩).elim]
        refine inv_enqueue h.q id fd dd hnq (by simp) (by simp) (by simp) (fun x hx => by simp [hx]) (by simp)
          (fun x d' => by rw [notePushed_pushed]; rfl) fun hmono => ?_
        simp only [notePushed_keys, notePushed_chan, notePushed_pool]
        exact hk0.requeue fun x hx => ((hmono x).1 hx).imp_right fun e => by subst e; exact ⟨hsrc, hpool, hpend0⟩

theorem filter_ne_of_not_mem {l : List Id} {id : Id} (h : id ∉ l) : l.filter (· ≠ id) = l :=
  List.filter_eq_self.2 fun y hy => decide_eq_true fun e : y = id => h (e ▸ hy)

theorem qget_ite (q : FdQueue) (d : Dir) : qget (if q.isEmpty then none else some q) d = q.get d := by
  cases hq : q.isEmpty with
  | false => simp [qget]
  | true =>
    rw [FdQueue.isEmpty_iff] at hq
    cases d <;> simp [qget, FdQueue.get, hq.1, hq.2]

/-- `hk`: the completion invariant, given that `id` is the one operation that stops being queued. -/
theorem inv_shrink {pend pend' : Fd → Prop} {s s' : St W} (hq : QInv pend s) (id : Id) (fd : Fd)
    (q q' : FdQueue) (hr : s.reg fd = some q)
    (hget : ∀ d', q'.get d' = (q.get d').filter (· ≠ id))
    (hidq : ∃ d, id ∈ q.get d)
    (hpend : ∀ x, x ≠ fd → pend x → pend' x)
    (hreg : s'.reg = upd s.reg fd (if q'.isEmpty then none else some q'))
    (hep : s'.epoll = upd s.epoll fd (if q'.isEmpty then none else some q'.event))
    (htrack : ∀ x, x ≠ id → s'.track x = s.track x)
    (hpr : s'.pushedR = s.pushedR) (hpw : s'.pushedW = s.pushedW)
    (hslot : ∀ x, x ≠ id → ((∃ w, s'.keys.slot x = .pending w) → ∃ w, s.keys.slot x = .pending w))
    (hcanc : ∀ x, x ≠ id → s'.cancelled x = s.cancelled x)
    (hdead : ¬ ((∃ w, s'.keys.slot id = .pending w) ∧ s'.track id ≠ [] ∧ s'.cancelled id = false))
    (hk : (∀ x, queuedP s' x ↔ queuedP s x ∧ x ≠ id) → KInv s'.keys s'.chan (queuedP s') s'.pool) :
    Inv pend' s' := by
  obtain ⟨d, hidq⟩ := hidq
  have hmemS : id ∈ s.queue fd d := by rw [queue_of_reg_some hr]; exact hidq
  -- `id` sits in no queue of another descriptor, so every queue is the old one without `id`
  have hqueue : ∀ x d', s'.queue x d' = (s.queue x d').filter (· ≠ id) := by
    intro x d'
    rw [queue_upd s s' fd _ hreg]
    split
    · next hx => rw [hx, qget_ite, hget, queue_of_reg_some hr]
    · next hx => rw [filter_ne_of_not_mem fun hy => hx (hq.unique hy hmemS).1]
  have hmono : ∀ x, queuedP s' x ↔ queuedP s x ∧ x ≠ id := fun x => by
    simp [queuedP, hqueue]
  refine ⟨⟨?_, ?_, ?_, ?_, ?_⟩, hk hmono⟩
  · intro x d' y hy
    rw [hqueue, List.mem_filter] at hy
    rw [htrack y (of_decide_eq_true hy.2)]; exact hq.tracked x d' y hy.1
  · intro x d'; rw [hqueue]; exact List.filter_sublist.nodup (hq.nodup x d')
  · exact Armed.rearm q' hq.armed hreg hep hpend
  · intro x d'; rw [hqueue, pushed_congr hpr hpw]; exact List.filter_sublist.trans (hq.fifo x d')
  · intro x hp ht hc
    by_cases hxi : x = id
    · subst hxi; exact (hdead ⟨hp, ht, hc⟩).elim
    · rw [htrack x hxi] at ht
      rw [hcanc x hxi] at hc
      exact (hmono x).2 ⟨hq.live x (hslot x hxi hp) ht hc, hxi⟩

theorem Inv.gaveUp {pend : Fd → Prop} {s : St W} (h : Inv pend s) (g : Id → Bool) :
    Inv pend { s with gaveUp := g } :=
  h.keysOnly rfl rfl rfl rfl rfl rfl (fun _ w hw => ⟨w, hw⟩) h.k

theorem Inv.markCancelled {s : St W} (h : Inv noPend s) (id : Id) :
    Inv noPend { s with cancelled := upd s.cancelled id true } := by
  refine ⟨h.q.congr rfl (fun _ a => a) (fun _ _ => rfl) rfl rfl ?_, ?_⟩
  · intro x hx ht hc
    have hc' : upd s.cancelled id true x = false := hc
    by_cases hxi : x = id
    · subst hxi; simp at hc'
    · simp only [upd, hxi, if_false] at hc'
      exact ⟨hx, ht, hc'⟩
  · have hq : queuedP ({ s with cancelled := upd s.cancelled id true } : St W) = queuedP s := queuedP_congr rfl
    rw [hq]; exact h.k

theorem inv_driverCancel {s : St W} (h : Inv noPend s) (id : Id)
    (hp : ∃ w, s.keys.slot id = .pending w) (hc : s.cancelled id = false) :
    Inv noPend (driverCancel { s with cancelled := upd s.cancelled id true } id) := by
  unfold driverCancel
  cases ht : s.track id with
  | nil => exact h.markCancelled id
  | cons t ts =>
    dsimp only
    -- the operation is queued at exactly one place
    obtain ⟨fd, d, hm⟩ := h.q.live id hp (by rw [ht]; simp) hc
    have htr := h.q.tracked fd d id hm
    rw [ht] at htr
    simp only [List.cons.injEq] at htr
    obtain ⟨rfl, rfl⟩ := htr
    simp only [List.map_cons, List.map_nil, cancelFds]
    cases hr : s.reg fd with
    | none => rw [queue_of_reg_none hr] at hm; cases hm
    | some q =>
      obtain ⟨_, ev, he, _⟩ := (h.q.armed fd).reg_some hr
      rw [removeOne_some _ id fd q ev (by exact hr) (by exact he)]
      dsimp only
      obtain ⟨hsrc, hnp⟩ := h.k.qFresh id ⟨fd, d, hm⟩
      refine inv_shrink h.q id fd q (q.remove id) hr (FdQueue.get_remove q id)
        ⟨d, by rw [← queue_of_reg_some hr]; exact hm⟩ (fun _ _ hp => hp) rfl rfl (fun _ _ => rfl) rfl rfl
        (fun x _ hx => hx) (fun x hx => by simp [upd, hx]) (by rintro ⟨_, _, hc⟩; simp at hc) fun hmono => ?_
      exact h.k.produceChan _ hsrc (fun x hx => (hmono x).1 hx) (fun x hx => ⟨hx, fun e => hnp (e ▸ hx)⟩)
        h.k.poolNodup hp

theorem cancelToken_eq (s : St W) (id : Id) :
    ((∃ w, s.keys.slot id = .pending w) ∧ s.cancelled id = false ∧
      (cancelToken s id).1 = driverCancel { s with cancelled := upd s.cancelled id true } id) ∨
    (cancelToken s id).1 = s ∨ (cancelToken s id).1 = { s with cancelled := upd s.cancelled id true } := by
  unfold cancelToken
  cases hs : s.keys.slot id with
  | free => exact Or.inr (Or.inl rfl)
  | ready r => cases s.cancelled id <;> exact Or.inr (Or.inr rfl)
  | pending w =>
    cases hc : s.cancelled id with
    | true => exact Or.inr (Or.inr rfl)
    | false => exact Or.inl ⟨⟨w, rfl⟩, rfl, rfl⟩

theorem inv_cancelToken {s : St W} (h : Inv noPend s) (id : Id) : Inv noPend (cancelToken s id).1 := by
  rcases cancelToken_eq s id with ⟨hp, hc, e⟩ | e | e <;> rw [e]
  · exact inv_driverCancel h id hp hc
  · exact h
  · exact h.markCancelled id

theorem inv_cancelDrop {s : St W} (h : Inv noPend s) (id : Id) (hnf : s.keys.slot id ≠ .free) :
    Inv noPend (cancelDrop s id).1 := by
  unfold cancelDrop
  cases hc : s.cancelled id with
  | true => simp only [if_true]; exact h.gaveUp _
  | false =>
    simp only [Bool.false_eq_true, if_false]
    cases hs : s.keys.slot id with
    | free => exact (hnf hs).elim
    | ready r =>
      rw [pop_ready _ _ _ (by simpa using hs)]
      simp only
      have h1 := h.markCancelled id
      have h2 := inv_pop h1 id
      unfold pop at h2
      rw [pop_ready _ _ _ (by simpa using hs)] at h2
      exact h2
    | pending w =>
      rw [pop_not_ready _ _ (by intro r; simp [hs])]
      simp only
      exact (inv_driverCancel h id ⟨w, hs⟩ hc).gaveUp _

/-- the registration `deliver` leaves for a reported descriptor (one-shot): same key, no interest -/
def disarm (ev : Event) : Event := { ev with readable := false, writable := false }

theorem deliver_cons_ok {s s' : St W} {f : Fired} {rest : List Fired} {evs : List Event}
    (h : deliver s (f :: rest) = .ok (s', evs)) :
    ∃ ev evs', s.epoll f.fd = some ev ∧ (ev.readable || ev.writable) = true ∧
      deliver { s with epoll := upd s.epoll f.fd (some (disarm ev)) } rest = .ok (s', evs') ∧
      evs = ⟨ev.key, f.readable, f.writable⟩ :: evs' := by
  unfold deliver at h
  split at h
  · cases h
  · next ev he =>
    split at h
    · cases h
    · next harm =>
      dsimp only at h
      split at h
      · cases h
      · next s2 evs2 hrec =>
        cases h
        exact ⟨ev, evs2, he, by cases hr : ev.readable <;> simp_all, hrec, rfl⟩

theorem deliver_spec : ∀ (fired : List Fired) (s s' : St W) (evs : List Event),
    deliver s fired = .ok (s', evs) →
    (fired.map (·.fd)).Nodup ∧ s' = { s with epoll := s'.epoll } ∧
    (∀ x, x ∉ fired.map (·.fd) → s'.epoll x = s.epoll x) ∧
    (∀ f ∈ fired, ∃ ev, s.epoll f.fd = some ev ∧ (ev.readable || ev.writable) = true ∧
        s'.epoll f.fd = some (disarm ev)) ∧
    evs = fired.map (fun f => ⟨((s.epoll f.fd).getD ⟨0, false, false⟩).key, f.readable, f.writable⟩) := by
  intro fired
  induction fired with
  | nil =>
    intro s s' evs h
    cases h
    simp
  | cons f rest ih =>
    intro s s' evs h
    obtain ⟨ev, evs', he, harm, hrec, rfl⟩ := deliver_cons_ok h
    obtain ⟨hnd, heq, hother, hfired, hevs⟩ := ih _ _ _ hrec
    -- a descriptor reported twice would have to be armed after it was disarmed
    have hnotin : f.fd ∉ rest.map (·.fd) := by
      intro hm
      obtain ⟨g, hg, hgf⟩ := List.mem_map.1 hm
      obtain ⟨ev', h1, h2, _⟩ := hfired g hg
      simp [hgf, disarm] at h1
      simp [← h1] at h2
    have hne : ∀ g ∈ rest, g.fd ≠ f.fd := fun g hg e => hnotin (e ▸ List.mem_map.2 ⟨g, hg, rfl⟩)
    refine ⟨List.nodup_cons.2 ⟨hnotin, hnd⟩, by rw [heq], ?_, ?_, ?_⟩
    · intro x hx
      simp only [List.map_cons, List.mem_cons, not_or] at hx
      rw [hother x hx.2]
      simp [upd, hx.1]
    · intro g hg
      rcases List.mem_cons.1 hg with rfl | hg
      · exact ⟨ev, he, harm, by rw [hother _ hnotin]; simp⟩
      · simpa [upd, hne g hg] using hfired g hg
    · rw [hevs]
      simp only [List.map_cons, he, Option.getD_some, List.cons.injEq, true_and]
      exact List.map_congr_left fun g hg => by simp [upd, hne g hg]

theorem pollCompleted_eq (s : St W) :
    pollCompleted s = ({ s with chan := [], keys := notifyAll s.keys s.chan }, !s.chan.isEmpty) :=
  congrArg (·, !s.chan.isEmpty) (List.foldl_hom (fun ks => { s with chan := [], keys := ks })
    (g₁ := fun ks e => ks.notify e.1 e.2) (l := s.chan) (init := s.keys) fun _ _ => rfl)

theorem inv_pollCompleted {pend : Fd → Prop} {s : St W} (h : Inv pend s) : Inv pend (pollCompleted s).1 := by
  rw [pollCompleted_eq]
  exact h.keysOnly rfl rfl rfl rfl rfl rfl (fun x w hw => ⟨w, notifyAll_slot_pending _ _ x w hw⟩)
    (kinv_notifyAll_prefix (b := []) _ _ (by simpa using h.k))

theorem handleEvent_single (fd : Fd) (d : Dir) :
    handleEvent [⟨fd, d, false⟩] fd = ([⟨fd, d, true⟩], true) := by
  simp [handleEvent]

theorem pollOne_nopop (ops : Ops W) (s : St W) (ev : Event) (fd : Fd) (q : FdQueue) (ev0 : Event)
    (hr : s.reg fd = some q) (he : s.epoll fd = some ev0) (hne : q.isEmpty = false)
    (hpop : q.popInterest ev = none) :
    pollOne ops s ev fd = .ok ({ s with epoll := upd s.epoll fd (some q.event) }, none) := by
  unfold pollOne
  simp only [hr]
  unfold pollOneBody
  simp only [hpop, hr]
  rw [renew_queue s fd q ev0 he (fun _ => hr)]
  simp [hne, upd_self _ _ _ hr]

theorem pollOne_ready (ops : Ops W) (s : St W) (ev : Event) (fd : Fd) (q q' : FdQueue) (ev0 : Event)
    (id : Id) (d : Dir) (res : Res) (w' : W)
    (hr : s.reg fd = some q) (he : s.epoll fd = some ev0)
    (hpop : q.popInterest ev = some (id, q')) (htr : s.track id = [⟨fd, d, false⟩])
    (hop : ops.operate s.world id = (some res, w')) :
    pollOne ops s ev fd =
      .ok ({ s with reg := upd s.reg fd (if q'.isEmpty then none else some q'),
                    epoll := upd s.epoll fd (if q'.isEmpty then none else some q'.event),
                    track := upd s.track id [⟨fd, d, true⟩],
                    keys := (s.keys.produce id res).notify id res, world := w' }, none) := by
  unfold pollOne
  simp only [hr]
  unfold pollOneBody
  simp only [hpop, htr, handleEvent_single, if_true, hop, upd_same]
  rw [renew_queue _ fd q' ev0 (by exact he) (fun _ => by exact upd_same _ _ _)]
  simp

theorem pollOne_pending (ops : Ops W) (s : St W) (ev : Event) (fd : Fd) (q q' : FdQueue) (ev0 : Event)
    (id : Id) (d : Dir) (w' : W)
    (hr : s.reg fd = some q) (he : s.epoll fd = some ev0)
    (hpop : q.popInterest ev = some (id, q')) (hq : q = q'.pushFront id d)
    (htr : s.track id = [⟨fd, d, false⟩])
    (hop : ops.operate s.world id = (none, w')) :
    pollOne ops s ev fd = .ok ({ s with epoll := upd s.epoll fd (some q.event), world := w' }, none) := by
  unfold pollOne
  simp only [hr]
  unfold pollOneBody
  simp only [hpop, htr, handleEvent_single, if_true, hop, upd_same, resetTracks, List.map_cons, List.map_nil,
    submitFrontAll]
  rw [submitFront_ok ops _ id fd d q' ev0 (by exact upd_same _ _ _) (by exact he)]
  simp only [upd_same]
  rw [renew_queue _ fd (q'.pushFront id d) (q'.pushFront id d).event (by exact upd_same _ _ _)
    (fun _ => by exact upd_same _ _ _)]
  simp [← hq, hq ▸ FdQueue.pushFront_nonempty q' id d, upd_self _ _ _ hr, upd_self _ _ _ htr]

theorem inv_rearm {pend pend' : Fd → Prop} {s : St W} (h : Inv pend s) (fd : Fd) (q : FdQueue)
    (hr : s.reg fd = some q) (hpend : ∀ x, x ≠ fd → pend x → pend' x) (w : W) :
    Inv pend' { s with epoll := upd s.epoll fd (some q.event), world := w } := by
  have hne := ((h.q.armed fd).reg_some hr).1
  exact ⟨h.q.congr rfl (fun x _ => Armed.rearm q h.q.armed (by simp [hne, upd_self _ _ _ hr]) (by simp [hne]) hpend x)
    (fun _ _ => rfl) rfl rfl (fun x hp ht hc => ⟨hp, ht, hc⟩), h.k⟩

theorem inv_pollOne (ops : Ops W) {pend : Fd → Prop} {s : St W} (h : Inv pend s) (fd : Fd) (q : FdQueue)
    (ev : Event) (hr : s.reg fd = some q) :
    ∃ s', pollOne ops s ev fd = .ok (s', none) ∧ Inv (fun x => pend x ∧ x ≠ fd) s' ∧
      (∀ x, x ≠ fd → s'.reg x = s.reg x) ∧ s'.chan = s.chan := by
  obtain ⟨hne, ev0, he, _, _⟩ := (h.q.armed fd).reg_some hr
  have hpend : ∀ x, x ≠ fd → pend x → (pend x ∧ x ≠ fd) := fun x hx hp => ⟨hp, hx⟩
  cases hpop : q.popInterest ev with
  | none =>
    exact ⟨_, pollOne_nopop ops s ev fd q ev0 hr he hne hpop, inv_rearm h fd q hr hpend _, fun _ _ => rfl, rfl⟩
  | some p =>
    obtain ⟨id, q'⟩ := p
    obtain ⟨d, hget, hother, hqeq⟩ := FdQueue.popInterest_some hpop
    have hidq : id ∈ q.get d := by rw [hget]; simp
    have hmemS : id ∈ s.queue fd d := by rw [queue_of_reg_some hr]; exact hidq
    have htr := h.q.tracked fd d id hmemS
    cases hop : ops.operate s.world id with
    | mk ores w' =>
      cases ores with
      | none =>
        exact ⟨_, pollOne_pending ops s ev fd q q' ev0 id d w' hr he hpop hqeq htr hop, inv_rearm h fd q hr hpend w',
          fun _ _ => rfl, rfl⟩
      | some res =>
        refine ⟨_, pollOne_ready ops s ev fd q q' ev0 id d res w' hr he hpop htr hop, ?_,
          fun x hx => by simp [upd, hx], rfl⟩
        have hnd := h.q.nodup fd d
        rw [queue_of_reg_some hr, hget] at hnd
        obtain ⟨hsrc, hnp⟩ := h.k.qFresh id ⟨fd, d, hmemS⟩
        obtain ⟨w0, hw0⟩ := (h.k.owed_spec (Or.inl ⟨fd, d, hmemS⟩)).2.2
        refine inv_shrink h.q id fd q q' hr (fun d' => ?_) ⟨d, hidq⟩ hpend rfl rfl (fun x hx => by simp [upd, hx])
          rfl rfl (fun x hx ⟨w, hw⟩ => ⟨w, by simpa [notify_slot, hx] using hw⟩) (fun _ _ => rfl)
          (by rintro ⟨⟨w, hw⟩, _⟩; simp [notify_slot, hw0, Slot.store] at hw) fun hmono => ?_
        · -- the head leaves its queue; being in no other queue, filtering it out changes nothing else
          by_cases hd : d' = d
          · rw [hd, hget, List.filter_cons_of_neg (by simp), filter_ne_of_not_mem (List.nodup_cons.1 hnd).1]
          · rw [hother d' hd, filter_ne_of_not_mem fun hx => hd (h.q.unique (queue_of_reg_some hr d' ▸ hx) hmemS).2]
        · exact h.k.complete res hsrc ⟨w0, hw0⟩ hnp (fun x hx => ((hmono x).1 hx).1)
            fun hx => ((hmono id).1 hx).2 rfl

/-- the event `epoll_wait` hands out for a reported descriptor: it carries the key registered for it, the head of its
    write queue, else of its read queue -/
def mkEv (s : St W) (f : Fired) : Event :=
  ⟨match s.reg f.fd with | some q => q.event.key | none => 0, f.readable, f.writable⟩

theorem mkEv_congr {s s' : St W} {l : List Fired} (h : ∀ f ∈ l, s'.reg f.fd = s.reg f.fd) :
    l.map (mkEv s') = l.map (mkEv s) :=
  List.map_congr_left fun f hf => by simp [mkEv, h f hf]

/-- An event carries the key registered for its descriptor `fd`, the head of one of `fd`'s queues.  A queued
    operation is pending and tracked not-ready for exactly that descriptor, so `next_fd` finds `fd` and the loop
    runs `poll_one` there. -/
theorem eventLoop_head (ops : Ops W) {pend : Fd → Prop} {s : St W} (h : Inv pend s) {fd : Fd} {q : FdQueue}
    (hr : s.reg fd = some q) (ev : Event) (hkey : ev.key = q.event.key) (rest : List Event) :
    eventLoop ops s (ev :: rest) =
      match pollOne ops s ev fd with
      | .error f => .error f
      | .ok (s1, some e) => .ok (s1, .err e)
      | .ok (s1, none) => eventLoop ops s1 rest := by
  obtain ⟨d, hkd⟩ := FdQueue.event_key_in q ((h.q.armed fd).reg_some hr).1
  have hmem : ev.key ∈ s.queue fd d := by rw [queue_of_reg_some hr, hkey]; exact hkd
  obtain ⟨w0, hw0⟩ := (h.k.owed_spec (Or.inl ⟨fd, d, hmem⟩)).2.2
  have htr := h.q.tracked fd d _ hmem
  have hfree : (s.keys.slot ev.key == Slot.free) = false := by rw [hw0]; rfl
  rw [eventLoop]
  simp only [hfree, Bool.false_eq_true, if_false, htr, nextFd, List.find?, Bool.not_false, Option.map_some]
  rfl

theorem inv_eventLoop (ops : Ops W) : ∀ (fired : List Fired) (s : St W),
    Inv (fun x => x ∈ fired.map (·.fd)) s → (fired.map (·.fd)).Nodup →
    (∀ f ∈ fired, ∃ q, s.reg f.fd = some q) →
    ∃ s', eventLoop ops s (fired.map (mkEv s)) = .ok (s', .ok) ∧ Inv noPend s' ∧ s'.chan = s.chan := by
  intro fired
  induction fired with
  | nil =>
    intro s h _ _
    exact ⟨s, rfl, h.weaken (by simp), rfl⟩
  | cons f rest ih =>
    intro s h hnd hregs
    rw [List.map_cons] at hnd
    obtain ⟨hnotin, hnd'⟩ := List.nodup_cons.1 hnd
    have hne : ∀ g ∈ rest, g.fd ≠ f.fd := fun g hg e => hnotin (e ▸ List.mem_map.2 ⟨g, hg, rfl⟩)
    obtain ⟨q, hr⟩ := hregs f List.mem_cons_self
    obtain ⟨s1, hs1, hinv1, hframe, hchan1⟩ := inv_pollOne ops h f.fd q (mkEv s f) hr
    obtain ⟨s', hs', hinv', hchan'⟩ := ih s1
      (hinv1.weaken fun x ⟨h1, h2⟩ => (List.mem_cons.1 h1).resolve_left h2) hnd' (fun g hg => by
      rw [hframe g.fd (hne g hg)]; exact hregs g (List.mem_cons_of_mem _ hg))
    refine ⟨s', ?_, hinv', hchan'.trans hchan1⟩
    rw [List.map_cons, eventLoop_head ops h hr _ (by simp [mkEv, hr]), hs1,
      ← mkEv_congr fun g hg => hframe g.fd (hne g hg)]
    exact hs'

theorem deliver_error : ∀ (fired : List Fired) (s : St W) (e : Fault),
    deliver s fired = .error e → ∃ m, e = .reject m := by
  intro fired
  induction fired with
  | nil => intro s e h; cases h
  | cons f rest ih =>
    intro s e h
    unfold deliver at h
    split at h
    · cases h; exact ⟨_, rfl⟩
    · split at h
      · cases h; exact ⟨_, rfl⟩
      · dsimp only at h
        split at h
        · next hrec => cases h; exact ih _ _ hrec
        · cases h

theorem inv_deliver {s s1 : St W} (h : Inv noPend s) (fired : List Fired) (evs : List Event)
    (hd : deliver s fired = .ok (s1, evs)) :
    Inv (fun x => x ∈ fired.map (·.fd)) s1 ∧ (fired.map (·.fd)).Nodup ∧
    (∀ f ∈ fired, ∃ q, s1.reg f.fd = some q) ∧ evs = fired.map (mkEv s1) ∧
    s1 = { s with epoll := s1.epoll } := by
  obtain ⟨hnd, heq, hother, hfired, hevs⟩ := deliver_spec fired s s1 evs hd
  obtain ⟨ep, rfl⟩ : ∃ ep, s1 = { s with epoll := ep } := ⟨_, heq⟩
  have hregs : ∀ f ∈ fired, ∃ q, s.reg f.fd = some q ∧ s.epoll f.fd = some q.event := by
    intro f hf
    obtain ⟨ev, h1, _, _⟩ := hfired f hf
    cases hr : s.reg f.fd with
    | none => rw [(h.q.armed f.fd).reg_none hr] at h1; cases h1
    | some q =>
      obtain ⟨_, ev', h2, _, h4⟩ := (h.q.armed f.fd).reg_some hr
      exact ⟨q, rfl, by rw [h2, h4 (fun hp => hp)]⟩
  refine ⟨⟨h.q.congr rfl ?_ (fun _ _ => rfl) rfl rfl (fun x hp ht hc => ⟨hp, ht, hc⟩), h.k⟩, hnd,
    fun f hf => (hregs f hf).imp fun q hq => hq.1, ?_, rfl⟩
  · -- only the registrations of the reported descriptors changed (flags cleared)
    intro fd ha
    by_cases hm : fd ∈ fired.map (·.fd)
    · obtain ⟨f, hf, rfl⟩ := List.mem_map.1 hm
      obtain ⟨q, hq1, hq2⟩ := hregs f hf
      obtain ⟨ev, h1, _, h3⟩ := hfired f hf
      rw [hq2] at h1
      cases h1
      unfold Armed at ha ⊢
      rw [hq1] at ha
      simp only [hq1]
      exact ⟨ha.1, _, h3, rfl, fun hn => (hn hm).elim⟩
    · exact ha.mono rfl (hother fd hm) (fun hp => hp.elim)
  · rw [hevs]
    apply List.map_congr_left
    intro f hf
    obtain ⟨q, hq1, hq2⟩ := hregs f hf
    simp [mkEv, hq1, hq2]

theorem pollCompleted_reg (s : St W) : (pollCompleted s).1.reg = s.reg := by rw [pollCompleted_eq]

theorem pollCompleted_track (s : St W) : (pollCompleted s).1.track = s.track := by rw [pollCompleted_eq]

theorem pollCompleted_world (s : St W) : (pollCompleted s).1.world = s.world := by rw [pollCompleted_eq]

/-- Draining an empty channel changes nothing, so whether `has_completed` was set or not the events are handled in
    the state with the channel drained. -/
theorem poll_eq (ops : Ops W) {s s1 : St W} (t : Bool) {fired : List Fired} {evs : List Event}
    (hd : deliver s fired = .ok (s1, evs)) (hc : s1.chan = s.chan) :
    poll ops s t fired =
      if evs.isEmpty then .ok ((pollCompleted s1).1, if !s.chan.isEmpty || !t then .ok else .timedOut)
      else eventLoop ops (pollCompleted s1).1 evs := by
  have hnil : s.chan = [] → (pollCompleted s1).1 = s1 := by
    intro h
    rw [pollCompleted_eq, hc, h]
    exact congrArg (fun c => { s1 with chan := c }) (hc.trans h).symm
  have hb : (pollCompleted s1).2 = !s.chan.isEmpty := by rw [pollCompleted_eq, hc]
  unfold poll
  rw [hd]
  dsimp only
  cases hp : pollCompleted s1 with
  | mk s2 b =>
    rw [hp] at hb hnil
    simp only at hb hnil ⊢
    subst hb
    cases hch : s.chan with
    | nil => cases hnil hch; cases t <;> simp
    | cons a l => cases t <;> simp

theorem inv_poll (ops : Ops W) {s : St W} (h : Inv noPend s) (t : Bool) (fired : List Fired) :
    (∃ m, poll ops s t fired = .error (.reject m)) ∨
    (∃ s' r, poll ops s t fired = .ok (s', r) ∧ Inv noPend s' ∧ (r = .ok ∨ r = .timedOut) ∧ s'.chan = []) := by
  cases hd : deliver s fired with
  | error e =>
    obtain ⟨m, rfl⟩ := deliver_error fired s e hd
    exact Or.inl ⟨m, by unfold poll; rw [hd]⟩
  | ok p =>
    obtain ⟨s1, evs⟩ := p
    right
    obtain ⟨hinv1, hnd, hregs, hevs, heq⟩ := inv_deliver h fired evs hd
    have hinv2 := inv_pollCompleted hinv1
    have hc2 : (pollCompleted s1).1.chan = [] := by rw [pollCompleted_eq]
    rw [poll_eq ops t hd (by rw [heq]), hevs]
    cases fired with
    | nil =>
      exact ⟨_, _, rfl, hinv2.weaken (by simp), by split <;> simp, hc2⟩
    | cons f rest =>
      obtain ⟨s', hs', hinv', hc'⟩ := inv_eventLoop ops (f :: rest) _ hinv2 hnd
        (fun g hg => by rw [pollCompleted_reg]; exact hregs g hg)
      rw [mkEv_congr fun g _ => congrFun (pollCompleted_reg s1) g.fd] at hs'
      exact ⟨s', .ok, by simpa using hs', hinv', Or.inl rfl, hc'.trans hc2⟩

/-- `s2`: the state in which `poll` runs `poll_one` for the reported descriptor, the channel drained and `id` as it
    was (queued, tracked, pending, nothing notified). -/
theorem poll_single (ops : Ops W) {s : St W} (h : Inv noPend s) {fd : Fd} {q : FdQueue} (hr : s.reg fd = some q)
    (t rd wr : Bool) {id : Id} {rest : List Id}
    (hhead : (rd = true ∧ q.readQ = id :: rest) ∨ (wr = true ∧ q.writeQ = id :: rest ∧ (rd = false ∨ q.readQ = []))) :
    ∃ d q' s2 s' ev2 w0, q.popInterest ⟨q.event.key, rd, wr⟩ = some (id, q') ∧ q.get d = id :: rest ∧
      q = q'.pushFront id d ∧ s2.reg fd = some q ∧ s2.epoll fd = some ev2 ∧ s2.track id = [⟨fd, d, false⟩] ∧
      s2.world = s.world ∧ s2.keys.slot id = .pending w0 ∧ s2.keys.fin id = [] ∧
      pollOne ops s2 ⟨q.event.key, rd, wr⟩ fd = .ok (s', none) ∧ Inv noPend s' ∧
      poll ops s t [⟨fd, rd, wr⟩] = .ok (s', .ok) := by
  obtain ⟨hne, ev0, he, _, hev⟩ := (h.q.armed fd).reg_some hr
  cases hev (fun hp => hp)
  have harm : (q.event.readable || q.event.writable) = true := by
    have := FdQueue.event_flags_of_nonempty q hne
    cases h1 : q.event.readable <;> cases h2 : q.event.writable <;> simp_all
  have hd : deliver s [⟨fd, rd, wr⟩] =
      .ok ({ s with epoll := upd s.epoll fd (some (disarm q.event)) }, [⟨q.event.key, rd, wr⟩]) := by
    simp [deliver, he, harm, disarm]
  obtain ⟨hinv1, _, _, _, _⟩ := inv_deliver h _ _ hd
  have hinv2 := inv_pollCompleted hinv1
  have hr2 : (pollCompleted { s with epoll := upd s.epoll fd (some (disarm q.event)) }).1.reg fd = some q := by
    rw [pollCompleted_reg]; exact hr
  obtain ⟨s', hs', hinv', _, _⟩ := inv_pollOne ops hinv2 fd q ⟨q.event.key, rd, wr⟩ hr2
  obtain ⟨d, q', hpop, hget, hqeq⟩ := FdQueue.popInterest_head q q.event.key hhead
  -- the invariant after the drain says how `id` stands
  have hm2 := queue_of_reg_some hr2 d ▸ hget ▸ List.mem_cons_self (a := id) (l := rest)
  obtain ⟨_, ev2, he2, _⟩ := (hinv2.q.armed fd).reg_some hr2
  obtain ⟨_, hfin, w0, hw0⟩ := hinv2.k.owed_spec (Or.inl ⟨fd, d, hm2⟩)
  refine ⟨d, q', _, s', ev2, w0, hpop, hget, hqeq, hr2, he2, hinv2.q.tracked fd d id hm2, pollCompleted_world _, hw0,
    hfin, hs', hinv'.weaken fun x ⟨h1, h2⟩ => h2 (List.mem_singleton.1 h1), ?_⟩
  rw [poll_eq ops t hd rfl, if_neg (by simp), eventLoop_head ops hinv2 hr2 ⟨q.event.key, rd, wr⟩ rfl, hs']
  rfl

theorem step_guard {b : Bool} {m : String} {s' : St W} (h : b = false → Inv noPend s') :
    (∃ m', (if b then .error (.reject m) else .ok s' : Except Fault (St W)) = .error (.reject m')) ∨
    (∃ s'', (if b then .error (.reject m) else .ok s' : Except Fault (St W)) = .ok s'' ∧ Inv noPend s'') := by
  cases b
  · exact Or.inr ⟨_, rfl, h rfl⟩
  · exact Or.inl ⟨_, rfl⟩

theorem step_inv (ops : Ops W) {s : St W} (h : Inv noPend s) (e : Step) (hs : e.single) :
    (∃ m, step ops s e = .error (.reject m)) ∨ (∃ s', step ops s e = .ok s' ∧ Inv noPend s') := by
  cases e with
  | push id d =>
    refine step_guard fun hg => ?_
    simp at hg
    obtain ⟨⟨⟨h1, h2⟩, h3⟩, h4⟩ := hg
    exact inv_push ops h id d (by cases d <;> first | trivial | exact hs) h1 h2 h3 h4
  | jobDone id r =>
    simp only [step]
    cases hg : s.pool.contains id
    · exact Or.inl ⟨_, rfl⟩
    · exact Or.inr ⟨_, rfl, inv_jobDone h id r (by simpa using hg)⟩
  | poll t fired =>
    simp only [step]
    rcases inv_poll ops h t fired with ⟨m, hm⟩ | ⟨s', r, hp, hinv, _⟩
    · rw [hm]; exact Or.inl ⟨m, rfl⟩
    · rw [hp]; exact Or.inr ⟨s', rfl, hinv⟩
  | pop id => exact step_guard fun _ => inv_pop h id
  | setWaker id w => exact step_guard fun _ => inv_setWaker h id w
  | cancelToken id => exact Or.inr ⟨_, rfl, inv_cancelToken h id⟩
  | cancelDrop id => exact step_guard fun hg => inv_cancelDrop h id (by simp at hg; exact hg.2)

theorem run_inv (ops : Ops W) : ∀ (steps : List Step) (s : St W), Inv noPend s → (∀ e ∈ steps, e.single) →
    (∃ m, run ops s steps = .error (.reject m)) ∨ (∃ s', run ops s steps = .ok s' ∧ Inv noPend s') := by
  intro steps
  induction steps with
  | nil => intro s h _; exact Or.inr ⟨s, rfl, h⟩
  | cons e rest ih =>
    intro s h hs
    unfold run
    rcases step_inv ops h e (hs e List.mem_cons_self) with ⟨m, hm⟩ | ⟨s1, h1, hinv1⟩
    · rw [hm]; exact Or.inl ⟨m, rfl⟩
    · rw [h1]; exact ih s1 hinv1 (fun e' he' => hs e' (List.mem_cons_of_mem _ he'))

end Compio.PollDriver
