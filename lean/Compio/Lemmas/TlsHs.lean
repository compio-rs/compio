/-
Specification of one poll of the `handshake` async fn of compio-tls's native-tls back-end
(`TlsShim.pollHandshake`) over the plain scheduled transport.
-/
import Compio.Lemmas.TlsShim

namespace Compio.TlsShim
open Compio.TlsNet

/-- between two polls, with the handshake future in state `fut` -/
structure Rest (sc : Sched) (p : Peer) (b' : Nat) (fut : HsFut) (o : Ossl) (v : View) : Prop where
  loc : Local sc o v
  ctx : o.ctx = false
  link : ∃ a b a', Link o v p a b a' b'
  phase : match fut with
    | .start => Hs o v
    | .mid => Hs o v
    | .flush => o.handshaken = true ∧ o.tape = [] ∧ o.post = 0 ∧ v.tp.hsDone = false
    | .done => o.tape = [] ∧ o.post = 0 ∧ v.tp.wbuf.toList = []
    | .failed => False

/-- the states of the future in the order it goes through them; in `Spot` a state weighs `4 * K`, which covers what
the poll that leaves it may add to `S0` (`dr` for the restarted read counter, `dfh + K` in `pollFlush_phase`) -/
def rank : HsFut → Nat
  | .start => 3
  | .mid => 2
  | .flush => 1
  | .done => 0
  | .failed => 0

/-- the endpoint's share of the progress measure, as a function of its view (`TlsSys.Epot` is the same without the
wake flag: `TlsSys.Spot_eq`) -/
def Spot (sc : Sched) (fut : HsFut) (o : Ossl) (v : View) : Nat := S0 sc o v + 4 * K sc * rank fut

theorem S0_ctx (sc : Sched) (o : Ossl) (v : View) (c : Bool) : S0 sc { o with ctx := c } v = S0 sc o v := rfl

/-- what one poll of the handshake future leaves behind -/
structure PollPost (sc : Sched) (p : Peer) (b' : Nat) (fut : HsFut) (o : Ossl) (v : View)
    (fut' : HsFut) (o' : Ossl) (v' : View) (r : PollR Unit) : Prop where
  rest : Rest sc p b' fut' o' v'
  me : o'.me = o.me
  mono : Mono v v'
  meas : o'.tape.length + o'.post ≤ o.tape.length + o.post
  -- a poll entered in `start` makes two engine calls, so `.pending .reg` may come with `own` set: `K` pays for that wake-up
  first : fut = .start → Spot sc fut' o' v' + K sc + 1 ≤ Spot sc fut o v
  -- no poll leaves the future in `start`
  nostart : fut' ≠ .start
  res : match r with
    | .pending .self => v'.own = true ∧ Spot sc fut' o' v' + 1 ≤ Spot sc fut o v ∧ fut' ≠ .done
    | .pending .reg => fut' = .mid ∧ (fut = .start ∨ v'.own = v.own) ∧ Spot sc fut' o' v' ≤ Spot sc fut o v + sc.dr ∧
        v'.rx.q.toList = [] ∧ v'.rx.rwait = true ∧ v'.tp.wbuf.toList = [] ∧ ∃ t, o'.tape = o.me.other :: t
    | .ready () => fut' = .done ∧ Spot sc fut' o' v' + sc.df + 1 ≤ Spot sc fut o v ∧ v'.tp.hsDone = false ∧
        v'.tp.cf = 0
    | .err => False
    | .panic => False

theorem pollFlush_established (sc : Sched) {o : Ossl} (v : View) (hc : o.ctx = false) (hh : o.handshaken = true) :
    pollFlush sc o v = (o, (ioFlush sc v).1,
      match (ioFlush sc v).2 with
      | .ready () => .ready ()
      | .pending p => .pending p
      | .err => .err) := by
  rcases o with ⟨me, tape, post, out, op, cl, rc, w, hs, ctx⟩
  simp only at hc hh
  subst hc; subst hh
  simp only [pollFlush, withContext, bioFlush, Bool.not_true, Bool.false_eq_true, if_false, if_true]
  rcases ioFlush sc v with ⟨v', r⟩
  cases r <;> rfl

/-- the post-handshake `stream.flush().await` -/
theorem pollFlush_phase {sc : Sched} {p : Peer} {b' : Nat} {o : Ossl} {v : View}
    (hl : Local sc o v) (hc : o.ctx = false) (hk : ∃ a b a', Link o v p a b a' b')
    (hh : o.handshaken = true) (ht : o.tape = []) (hp : o.post = 0) (he : v.tp.hsDone = false) :
    (∃ v', pollFlush sc o v = (o, v', .pending .self) ∧ Rest sc p b' .flush o v' ∧ Mono v v' ∧ v'.own = true ∧
        S0 sc o v' + 1 ≤ S0 sc o v) ∨
    (∃ v', pollFlush sc o v = (o, v', .ready ()) ∧ Rest sc p b' .done o v' ∧ Mono v v' ∧
        S0 sc o v' ≤ S0 sc o v + sc.dfh + K sc ∧ v'.tp.hsDone = false ∧ v'.tp.cf = 0) := by
  obtain ⟨a, b, a', hk⟩ := hk
  obtain ⟨h1, h2, h3⟩ := hl.ctrok
  rcases ioFlush_spec sc o v hl with ⟨hlt, heq⟩ | ⟨v1, heq, htp, hown, hwr, hl1, hk1⟩
  · refine .inl ⟨{ v with tp := { v.tp with cf := v.tp.cf + 1 }, own := true }, ?_,
      ⟨{ hl with ctrok := ⟨h1, h2, hlt⟩ }, hc,
        ⟨a, b, a', { hk with }⟩, ⟨hh, ht, hp, he⟩⟩,
      ⟨WakeRel.of_eq rfl rfl, fun _ => rfl⟩, rfl, ?_⟩
    · rw [pollFlush_established sc v hc hh, heq]
    · exact Nat.add_lt_add_right (Nat.add_lt_add_left (Nat.add_lt_add_left
        (Nat.sub_succ_lt_self _ _ hlt) _) _) _
  · refine .inr ⟨v1, ?_, ⟨hl1, hc, ⟨a, b, a', hk1 hk⟩, ⟨ht, hp, by rw [htp]; rfl⟩⟩,
      .of_own hwr hown, ?_, by rw [htp]; exact he, by rw [htp]⟩
    · rw [pollFlush_established sc v hc hh, heq]
    · have hmul := Nat.mul_le_mul_left (2 * K sc) (show mainPot o v1 ≤ mainPot o v by
        simp [mainPot, htp, Q.length, Q.empty])
      have hkk := Nat.mul_le_mul_left (K sc) (b2n_le v1.wake)
      simp only [S0, ctr, flushDelay, he, htp]
      simp
      omega

theorem pollHandshake_start (sc : Sched) (o : Ossl) (v : View) : pollHandshake sc .start o v =
    (match sslDoHandshake sc sc.fuel { o with ctx := true } v with
      | (o, v, .ok ()) => (.done, { o with ctx := false }, v, .ready ())
      | (o, v, .wouldBlock _) => pollHandshake sc .mid { o with ctx := false } v
      | (o, v, .err) => (.failed, { o with ctx := false }, v, .err)
      | (o, v, .panic) => (.failed, { o with ctx := false }, v, .panic)) := rfl

theorem call_spec {sc : Sched} {p : Peer} {b' : Nat} {o o1 : Ossl} {v v1 : View} {r : BioR Unit}
    (hl : Local sc o v) (hk : ∃ a b a', Link o v p a b a' b') (hhs : Hs o v)
    (hfuel : o.tape.length + o.post < sc.fuel)
    (hres : sslDoHandshake sc sc.fuel { o with ctx := true } v = (o1, v1, r)) :
    HsPost sc p b' o v o1 v1 r ∧ Rest sc p b' .mid { o1 with ctx := false } v1 := by
  obtain ⟨a, b, a', hk⟩ := hk
  have hspec := doHs_spec sc p b' sc.fuel { o with ctx := true } v
    ⟨{ hl with }, { hhs with }, rfl, a, b, a', { hk with }⟩ hfuel
  rw [hres] at hspec
  obtain ⟨⟨hl1, hh1, _, a1, b1, a1', hk1⟩, hme, hmono, hmeas, hres1⟩ := hspec
  exact ⟨⟨⟨hl1, hh1, ‹_›, a1, b1, a1', hk1⟩, hme, hmono, hmeas, hres1⟩,
    { hl1 with }, rfl, ⟨a1, b1, a1', { hk1 with }⟩, { hh1 with }⟩

theorem poll_mid_spec {sc : Sched} {p : Peer} {b' : Nat} {o : Ossl} {v : View}
    (hr : Rest sc p b' .mid o v) (hfuel : o.tape.length + o.post < sc.fuel) :
    PollPost sc p b' .mid o v (pollHandshake sc .mid o v).1 (pollHandshake sc .mid o v).2.1
      (pollHandshake sc .mid o v).2.2.1 (pollHandshake sc .mid o v).2.2.2 := by
  obtain ⟨hl, hc, hk, hph⟩ := hr
  rcases hres : sslDoHandshake sc sc.fuel { o with ctx := true } v with ⟨o1, v1, r⟩
  obtain ⟨⟨⟨hl1, hh1, _, hk1⟩, hme, hmono, hmeas, hres1⟩, hrest1⟩ := call_spec hl hk hph hfuel hres
  cases r with
  | wouldBlock pd =>
    simp only [pollHandshake, hres]
    refine ⟨hrest1, hme, hmono, hmeas, nofun, nofun, ?_⟩
    cases pd with
    | self => exact ⟨hres1.2, Nat.succ_le_of_lt (Nat.add_lt_add_right hres1.1 _), nofun⟩
    | reg =>
      obtain ⟨h1, h2, h3, h4, h5, t, h6⟩ := hres1
      exact ⟨rfl, Or.inr h2, by rw [Spot, Spot, Nat.add_right_comm]; exact Nat.add_le_add_right h1 _, h3, h4, h5, t, h6⟩
  | err => exact absurd hres1 id
  | panic => exact absurd hres1 id
  | ok u =>
    cases u
    obtain ⟨ht1, hp1, hS1, hown1⟩ := hres1
    -- finish_handshake, then the flush
    obtain ⟨a, b, a', hk1⟩ := hk1
    have h4 := K4 sc 1
    have hK := dfh_df_lt_K sc
    have hS2 : ∀ w, S0 sc { o1 with ctx := false, handshaken := true } w = S0 sc o1 w := fun _ => rfl
    simp only [pollHandshake, hres]
    -- `omega` takes in every arithmetic hypothesis of the context: here and in `poll_start_spec`, those the inequalities
    -- do not need are cleared
    clear hfuel hmeas
    rcases pollFlush_phase (p := p) (b' := b') (o := { o1 with ctx := false, handshaken := true }) { hl1 with } rfl
        ⟨a, b, a', { hk1 with }⟩ rfl ht1 hp1 hh1.early with
      ⟨v2, heq, hrest2, hmono2, hown2, hS⟩ | ⟨v2, heq, hrest2, hmono2, hS, hhd2, hcf2⟩
    · simp only [heq]
      refine ⟨hrest2, hme, hmono.trans hmono2, by simp [ht1, hp1], nofun, nofun, hown2, ?_, nofun⟩
      simp only [Spot, rank, hS2] at hS ⊢; omega
    · simp only [heq]
      refine ⟨hrest2, hme, hmono.trans hmono2, by simp [ht1, hp1], nofun, nofun, rfl, ?_, hhd2, hcf2⟩
      simp only [Spot, rank, hS2] at hS ⊢; omega

theorem poll_flush_spec {sc : Sched} {p : Peer} {b' : Nat} {o : Ossl} {v : View}
    (hr : Rest sc p b' .flush o v) :
    PollPost sc p b' .flush o v (pollHandshake sc .flush o v).1 (pollHandshake sc .flush o v).2.1
      (pollHandshake sc .flush o v).2.2.1 (pollHandshake sc .flush o v).2.2.2 := by
  obtain ⟨hl, hc, hk, hh, ht, hp, he⟩ := hr
  rcases pollFlush_phase (p := p) (b' := b') hl hc hk hh ht hp he with
    ⟨v2, heq, hrest2, hmono2, hown2, hS⟩ | ⟨v2, heq, hrest2, hmono2, hS, hhd2, hcf2⟩
  · simp only [pollHandshake, heq]
    refine ⟨hrest2, rfl, hmono2, Nat.le_refl _, by simp, by simp, ?_⟩
    exact ⟨hown2, Nat.succ_le_of_lt (Nat.add_lt_add_right hS _), nofun⟩
  · simp only [pollHandshake, heq]
    refine ⟨hrest2, rfl, hmono2, Nat.le_refl _, by simp, by simp, ?_⟩
    refine ⟨rfl, ?_, hhd2, hcf2⟩
    simp only [Spot, rank]
    have h4 := K4 sc 0
    have := dfh_df_lt_K sc
    omega

/-- one poll in state `start`, provided the engine cannot finish inside this first call (otherwise the
`StartedHandshake::Done` arm returns the stream unflushed, see `Cex.C15.done_path_unflushed`) -/
theorem poll_start_spec {sc : Sched} {p : Peer} {b' : Nat} {o : Ossl} {v : View}
    (hr : Rest sc p b' .start o v) (hfuel : o.tape.length + o.post < sc.fuel)
    (hnd : (sslDoHandshake sc sc.fuel { o with ctx := true } v).2.2 ≠ .ok ()) :
    PollPost sc p b' .start o v (pollHandshake sc .start o v).1 (pollHandshake sc .start o v).2.1
      (pollHandshake sc .start o v).2.2.1 (pollHandshake sc .start o v).2.2.2 := by
  obtain ⟨hl, hc, hk, hph⟩ := hr
  rw [pollHandshake_start]
  rcases hres : sslDoHandshake sc sc.fuel { o with ctx := true } v with ⟨o1, v1, r⟩
  rw [hres] at hnd
  obtain ⟨⟨_, hme, hmono, hmeas, hres1⟩, hrest1⟩ := call_spec hl hk hph hfuel hres
  cases r with
  | ok u => exact absurd rfl hnd
  | err => exact absurd hres1 id
  | panic => exact absurd hres1 id
  | wouldBlock pd =>
    -- `StartedHandshake::Mid` is awaited at once: a poll in state `mid` follows
    have hdr := dr_lt_K sc
    -- the step from `start` to `mid` pays for the engine call and leaves `3 * K + 1` to spare
    have hslack : Spot sc .mid { o1 with ctx := false } v1 + 3 * K sc + 1 ≤ Spot sc .start o v := by
      simp only [Spot, rank, S0_ctx]
      cases pd with
      | self => have := hres1.1; omega
      | reg => have := hres1.1; omega
    have hmid := poll_mid_spec hrest1 (by simp only; omega)
    simp only
    generalize pollHandshake sc .mid { o1 with ctx := false } v1 = res2 at hmid
    obtain ⟨fut', o', v', r'⟩ := res2
    obtain ⟨hrest', hme', hmono', hmeas', _, hns', hres'⟩ := hmid
    simp only at hrest' hme' hmono' hmeas' hres' hns'
    have hm := Nat.le_trans hmeas' hmeas
    have hle : Spot sc .mid { o1 with ctx := false } v1 ≤ Spot sc .start o v :=
      Nat.le_trans (Nat.le_add_right _ (3 * K sc + 1)) hslack
    show PollPost sc p b' .start o v fut' o' v' r'
    refine ⟨hrest', hme'.trans hme, hmono.trans hmono', hm, fun _ => ?_, hns', ?_⟩
    · -- whatever the `mid` poll returned, it raised `Spot` by at most `dr`
      have hX : Spot sc fut' o' v' ≤ Spot sc .mid { o1 with ctx := false } v1 + sc.dr := by
        cases r' with
        | pending pd' =>
          cases pd' with
          | self => exact Nat.le_trans (Nat.le_of_succ_le hres'.2.1) (Nat.le_add_right _ _)
          | reg => exact hres'.2.2.1
        | ready u =>
          exact Nat.le_trans (Nat.le_trans (Nat.le_add_right _ (sc.df + 1)) hres'.2.1) (Nat.le_add_right _ _)
        | err => exact absurd hres' id
        | panic => exact absurd hres' id
      clear hres1 hfuel hmeas hmeas' hres' hm
      omega
    · cases r' with
      | pending pd' =>
        cases pd' with
        | self => exact ⟨hres'.1, Nat.le_trans hres'.2.1 hle, hres'.2.2⟩
        | reg =>
          obtain ⟨h1, _, h3, h4, h5, h6, t, h7⟩ := hres'
          exact ⟨h1, Or.inl rfl, Nat.le_trans h3 (Nat.add_le_add_right hle _), h4, h5, h6, t, by rw [h7, hme]⟩
      | ready u => exact ⟨hres'.1, Nat.le_trans hres'.2.1 hle, hres'.2.2⟩
      | err => exact absurd hres' id
      | panic => exact absurd hres' id

theorem pollHandshake_spec {sc : Sched} {p : Peer} {b' : Nat} {fut : HsFut} {o : Ossl} {v : View}
    (hr : Rest sc p b' fut o v) (hfuel : o.tape.length + o.post < sc.fuel) (hne : fut ≠ .done)
    (hnd : fut = .start → (sslDoHandshake sc sc.fuel { o with ctx := true } v).2.2 ≠ .ok ()) :
    PollPost sc p b' fut o v (pollHandshake sc fut o v).1 (pollHandshake sc fut o v).2.1
      (pollHandshake sc fut o v).2.2.1 (pollHandshake sc fut o v).2.2.2 := by
  cases fut with
  | start => exact poll_start_spec hr hfuel (hnd rfl)
  | mid => exact poll_mid_spec hr hfuel
  | flush => exact poll_flush_spec hr
  | done => exact absurd rfl hne
  | failed => exact absurd hr.phase id

end Compio.TlsShim
