/- What the caller's buffers show after the kernel wrote into them and `advance_to` / `advance_vec_to` ran
(Model/SockMap.lean; the result mapping of C14). -/
import Compio.Model.SockMap

namespace Compio.Sock

theorem write_vis_take (b : Buf) (w : Bytes) : (b.write w).mem.take w.length = w := by
  simp [Buf.write]

theorem write_mem_length (b : Buf) (w : Bytes) :
    (b.write w).mem.length = max w.length b.mem.length := by
  simp [Buf.write]; omega

theorem write_mem_drop (b : Buf) (w : Bytes) : (b.write w).mem.drop w.length = b.mem.drop w.length := by
  simp [Buf.write]

/-- a fixed array (`[u8; N]`, `Box<[u8]>`) always reports its whole size as its length -/
def Buf.WF' (b : Buf) : Prop := b.WF ∧ (b.kind = .arr → b.len = b.cap ∧ b.mem.length = b.cap)

theorem setLen_ok (b : Buf) (n : Nat) (hn : n ≤ b.cap) (hm : n ≤ b.mem.length) :
    b.setLen n = .ok (if b.kind = .arr then b else { b with len := n }) := by
  unfold Buf.setLen
  cases hk : b.kind with
  | vec => simp [hm]
  | arr => simp [hn]
  | pool =>
    have : min n b.cap = n := by omega
    simp [this, hm]

theorem vis_take_of_write (b b' : Buf) (v : Bytes) (hmem : b'.mem = (b.write v).mem)
    (hlen : v.length ≤ b'.len) : b'.vis.take v.length = v := by
  unfold Buf.vis
  rw [List.take_take, hmem, Nat.min_eq_left hlen, write_vis_take]

theorem setLen_write (b : Buf) (v : Bytes) (hwf : b.WF') (hv : v.length ≤ b.cap) :
    ∃ b', (b.write v).setLen v.length = .ok b' ∧ b'.cap = b.cap ∧ b'.vis.take v.length = v := by
  obtain ⟨⟨h1, h2⟩, h3⟩ := hwf
  refine ⟨_, setLen_ok (b.write v) _ hv (by rw [write_mem_length]; omega), ?_⟩
  split
  · next ha =>
    have hl : v.length ≤ (b.write v).len := by have := (h3 ha).1; show _ ≤ b.len; omega
    exact ⟨rfl, vis_take_of_write b _ v rfl hl⟩
  · exact ⟨rfl, vis_take_of_write b _ v rfl (Nat.le_refl _)⟩

theorem advanceTo_write (b : Buf) (w : Bytes) (hwf : b.WF') (hw : w.length ≤ b.cap) :
    advanceTo (b.write w) w.length = .ok { b.write w with len := max b.len w.length } := by
  obtain ⟨⟨h1, h2⟩, h3⟩ := hwf
  show (if w.length > b.len then (b.write w).setLen w.length else .ok (b.write w)) = _
  split
  · next hgt =>
    -- a fixed array is full (`len = cap ≥ |w|`), so this is a `Vec` or a pool buffer
    have hna : ¬ (b.write w).kind = .arr := fun ha => by have := (h3 ha).1; omega
    rw [setLen_ok (b.write w) _ hw (by rw [write_mem_length]; omega), if_neg hna, Nat.max_eq_right (by omega)]
  · next hle => rw [Nat.max_eq_left (by omega)]; rfl

theorem advanceTo_write_shows (b : Buf) (w : Bytes) (hwf : b.WF') (hw : w.length ≤ b.cap) :
    ∃ b', advanceTo (b.write w) w.length = .ok b' ∧ b'.vis.take w.length = w ∧
      b'.len = max b.len w.length ∧ b'.cap = b.cap ∧ b'.vis.drop w.length = b.vis.drop w.length := by
  refine ⟨{ b.write w with len := max b.len w.length }, advanceTo_write b w hwf hw,
    vis_take_of_write b _ w rfl (Nat.le_max_right ..), rfl, rfl, ?_⟩
  have : max b.len w.length - w.length = b.len - w.length := by omega
  simp only [Buf.vis, List.drop_take, write_mem_drop, this]

theorem totalLen_scatter (bs : List Buf) (w : Bytes) : totalLen (scatter bs w) = totalLen bs := by
  induction bs generalizing w with
  | nil => rfl
  | cons b r ih => simp [scatter, totalLen, ih, Buf.write]

theorem totalCap_scatter (bs : List Buf) (w : Bytes) : totalCap (scatter bs w) = totalCap bs := by
  induction bs generalizing w with
  | nil => rfl
  | cons b r ih => simp [scatter, totalCap, ih, Buf.write]

theorem scatter_caps (bs : List Buf) (w : Bytes) : (scatter bs w).map (·.cap) = bs.map (·.cap) := by
  induction bs generalizing w with
  | nil => rfl
  | cons b r ih => simp [scatter, Buf.write, ih]

theorem setLenVec_nil (n : Nat) : setLenVec [] n = .ok [] := rfl

theorem setLenVec_zero (bs : List Buf) : setLenVec bs 0 = .ok bs := by
  cases bs <;> simp [setLenVec]

theorem setLenVec_cons (b : Buf) (r : List Buf) (n : Nat) (hn : n ≠ 0) (b' : Buf) (r' : List Buf)
    (e1 : b.setLen (min b.cap n) = .ok b') (e2 : setLenVec r (n - min b.cap n) = .ok r') :
    setLenVec (b :: r) n = .ok (b' :: r') := by
  simp [setLenVec, hn, e1, e2, Res.bind]

theorem seen_zero (bs : List Buf) : seen bs 0 = [] := by
  cases bs <;> simp [seen]

theorem seen_cons (b : Buf) (r : List Buf) (n : Nat) (hn : n ≠ 0) :
    seen (b :: r) n = b.vis.take (min b.cap n) ++ seen r (n - min b.cap n) := by
  simp [seen, hn]

theorem eq_nil_of_fits_nil (w : Bytes) (hw : w.length ≤ totalCap []) : w = [] :=
  List.eq_nil_of_length_eq_zero (Nat.le_zero.mp hw)

theorem scatter_step (b : Buf) (r : List Buf) (w : Bytes) (hw : w.length ≤ totalCap (b :: r)) :
    (w.take b.cap).length = min b.cap w.length ∧
      (w.drop b.cap).length = w.length - min b.cap w.length ∧ (w.drop b.cap).length ≤ totalCap r := by
  simp only [totalCap] at hw
  refine ⟨List.length_take, ?_⟩
  simp only [List.length_drop]
  omega

theorem setLenVec_scatter (bs : List Buf) (w : Bytes) (hwf : ∀ b ∈ bs, b.WF')
    (hw : w.length ≤ totalCap bs) :
    ∃ bs', setLenVec (scatter bs w) w.length = .ok bs' ∧ seen bs' w.length = w ∧
      bs'.map (·.cap) = bs.map (·.cap) := by
  induction bs generalizing w with
  | nil => cases eq_nil_of_fits_nil w hw; exact ⟨[], rfl, rfl, rfl⟩
  | cons b r ih =>
    by_cases hz : w.length = 0
    · cases List.eq_nil_of_length_eq_zero hz
      exact ⟨_, setLenVec_zero _, seen_zero _, scatter_caps _ _⟩
    · obtain ⟨htl, hdl, hw'⟩ := scatter_step b r w hw
      obtain ⟨b', e1, c1, s1⟩ := setLen_write b (w.take b.cap) (hwf b (by simp)) (by omega)
      obtain ⟨r', e2, s2, m2⟩ := ih (w.drop b.cap) (fun x hx => hwf x (by simp [hx])) hw'
      rw [htl] at e1 s1
      rw [hdl] at e2 s2
      refine ⟨b' :: r', setLenVec_cons _ _ _ hz b' r' e1 e2, ?_, by simp [c1, m2]⟩
      rw [seen_cons _ _ _ hz, c1, s1, s2, List.take_append_drop]

theorem seen_scatter_of_covers (bs : List Buf) (w : Bytes) (hc : covers bs w.length = true)
    (hw : w.length ≤ totalCap bs) : seen (scatter bs w) w.length = w := by
  induction bs generalizing w with
  | nil => cases eq_nil_of_fits_nil w hw; rfl
  | cons b r ih =>
    by_cases hz : w.length = 0
    · cases List.eq_nil_of_length_eq_zero hz; exact seen_zero _
    · obtain ⟨htl, hdl, hw'⟩ := scatter_step b r w hw
      simp only [covers, hz, if_false, Bool.and_eq_true, decide_eq_true_eq] at hc
      have s1 := vis_take_of_write b (b.write (w.take b.cap)) _ rfl (htl ▸ hc.1)
      have s2 := ih (w.drop b.cap) (hdl ▸ hc.2) hw'
      rw [htl] at s1
      rw [hdl] at s2
      rw [scatter, seen_cons _ _ _ hz]
      show (b.write (w.take b.cap)).vis.take (min b.cap w.length)
        ++ seen (scatter r (w.drop b.cap)) (w.length - min b.cap w.length) = w
      rw [s1, s2, List.take_append_drop]

/-- `hg`: `advance_vec_to` compares `|w|` with the sum of the members' current lengths and does nothing unless
it is larger; without `hg` the caller can miss received bytes (`C14.Cex.f141_recv_vectored_counterexample`). -/
theorem advanceVecTo_scatter (bs : List Buf) (w : Bytes) (hwf : ∀ b ∈ bs, b.WF')
    (hw : w.length ≤ totalCap bs) (hg : w.length > totalLen bs ∨ covers bs w.length = true) :
    ∃ bs', advanceVecTo (scatter bs w) w.length = .ok bs' ∧ seen bs' w.length = w ∧
      bs'.map (·.cap) = bs.map (·.cap) := by
  unfold advanceVecTo
  rw [totalLen_scatter]
  split
  · exact setLenVec_scatter bs w hwf hw
  · next h => exact ⟨_, rfl, seen_scatter_of_covers bs w (hg.resolve_left h) hw, scatter_caps bs w⟩

end Compio.Sock
