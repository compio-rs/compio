/-
Invariants and the progress measure of the native-tls shim model (`Model/TlsShim.lean`) over the plain
scheduled transport, up to the specification of one engine call `sslDoHandshake`; at the end, that the budget of
the engine loop is irrelevant.
-/
import Compio.Lemmas.TlsAlign

namespace Compio.TlsShim
open Compio.TlsNet

/-- what does not change while `me` is being polled -/
structure Peer where
  tape : List Side
  /-- cells the peer has written but not flushed yet (they follow `rx.q`) -/
  held : List Cell

/-- facts about the polled endpoint alone -/
structure Local (sc : Sched) (o : Ossl) (v : View) : Prop where
  lim : 1 ≤ sc.lim
  direct : sc.astream = false
  ctrok : CtrOk sc v.tp
  open_tx : v.tx.closed = false
  open_rx : v.rx.closed = false
  clean : o.out = [] ∧ o.close = .none ∧ o.rcvdClose = false
  nobuf : sc.buffering = false → v.tp.wbuf.toList = []

/-- the shim invariant during the handshake: nothing written is unflushed unless `written` says so -/
structure Hs (o : Ossl) (v : View) : Prop where
  nohs : o.handshaken = false
  early : v.tp.hsDone = false
  flushed : o.written = false → v.tp.wbuf.toList = []

/-- the cells in flight in both directions and the two tapes -/
structure Link (o : Ossl) (v : View) (p : Peer) (a b a' b' : Nat) : Prop where
  tx : v.txs = hsN a ++ postN b
  txp : o.tape ≠ [] → b = 0
  rx : v.rxs ++ p.held = hsN a' ++ postN b'
  rxp : p.tape ≠ [] → b' = 0
  align : Align o.me o.tape p.tape a a'

def b2n (b : Bool) : Nat := if b then 1 else 0

/-- the real work still ahead of the endpoint: each cell to process weighs 3 (see `write_step`), then what sits in the
transport buffer and the flush owed for `written` -/
def mainPot (o : Ossl) (v : View) : Nat :=
  3 * (o.tape.length + o.post) + v.tp.wbuf.length + b2n o.written

/-- progress measure of one endpoint inside an engine call. A unit of `mainPot` weighs `2 * K`: it pays for the
`Pending`s before the next performed call (`ctr < K`) and for one wake-up of the peer (`K * b2n v.wake`, which
`Sys.phi` hands to the peer's flag). `HsPost.res`: an engine call that returns `Ok` does not raise it, `WouldBlock`
with the transport's own wake-up lowers it, `WouldBlock` on the empty pipe raises it by at most `dr` (the restarted
read counter). -/
def S0 (sc : Sched) (o : Ossl) (v : View) : Nat :=
  2 * K sc * mainPot o v + ctr sc v.tp + K sc * b2n v.wake

theorem b2n_le (b : Bool) : b2n b ≤ 1 := by cases b <;> simp [b2n]

theorem ioFlush_spec (sc : Sched) (o : Ossl) (v : View) (hl : Local sc o v) :
    (v.tp.cf < flushDelay sc v.tp ∧ ioFlush sc v =
      ({ v with tp := { v.tp with cf := v.tp.cf + 1 }, own := true }, .pending .self)) ∨
    (∃ v', ioFlush sc v = (v', .ready ()) ∧ v'.tp = { v.tp with cf := 0, wbuf := Q.empty } ∧
      v'.own = v.own ∧ WakeRel v v' ∧ Local sc o v' ∧
      ∀ {p a b a' b'}, Link o v p a b a' b' → Link o v' p a b a' b') := by
  have ⟨c1, c2, _⟩ := hl.ctrok
  rcases ioFlush_plain v hl.direct with h | ⟨v', heq, htx, htp, hrx, hown, hcl, hwr⟩
  · exact .inl h
  · exact .inr ⟨v', heq, htp, hown, hwr,
      ⟨hl.lim, hl.direct, by rw [htp]; exact ⟨c1, c2, Nat.zero_le _⟩, hcl.trans hl.open_tx, hrx ▸ hl.open_rx, hl.clean,
        fun _ => by rw [htp]; rfl⟩,
      fun hk => ⟨htx.trans hk.tx, hk.txp, by simp only [View.rxs, hrx]; exact hk.rx, hk.rxp, hk.align⟩⟩

/-- the arithmetic of a performed call in `S0 = 2 * k * m + c + k * w`: the main potential goes down by one, so the
counters may restart (`c'` up by a delay `d < k`) and the peer may be woken (`w' ≤ 1`) -/
theorem pot_step (k m m' c c' w w' d : Nat) (hm : m' + 1 ≤ m) (hc : c' ≤ c + d) (hd : d < k)
    (hw : w' ≤ 1) : 2 * k * m' + c' + k * w' + 1 ≤ 2 * k * m + c + k * w := by
  have h1 : 2 * k * (m' + 1) ≤ 2 * k * m := Nat.mul_le_mul_left _ hm
  have h2 : k * w' ≤ k := by
    have := Nat.mul_le_mul_left k hw; simpa using this
  rw [Nat.mul_add] at h1
  omega

/-- the state in which `sslDoHandshake` runs (and which it maintains): `b'` post-handshake cells of the
peer are in flight towards `me`. Of the four counts of `Link` only `b'` is a parameter: the handshake reads no
post-handshake cell and the peer does not run during a poll, so `b'` is the same before and after. -/
structure Good (sc : Sched) (p : Peer) (b' : Nat) (o : Ossl) (v : View) : Prop where
  loc : Local sc o v
  hs : Hs o v
  ctx : o.ctx = true
  link : ∃ a b a', Link o v p a b a' b'

theorem bioFlush_hs_noop (sc : Sched) (o : Ossl) (v : View) (hc : o.ctx = true) (hh : o.handshaken = false) :
    bioFlush sc o v = (o, v, .ok ()) := by
  simp [bioFlush, hc, hh]

/-- what a call of the engine's handshake function leaves behind -/
structure HsPost (sc : Sched) (p : Peer) (b' : Nat) (o : Ossl) (v : View) (o' : Ossl) (v' : View)
    (r : BioR Unit) : Prop where
  good : Good sc p b' o' v'
  me : o'.me = o.me
  mono : Mono v v'
  meas : o'.tape.length + o'.post ≤ o.tape.length + o.post
  res : match r with
    | .ok () => o'.tape = [] ∧ o'.post = 0 ∧ S0 sc o' v' ≤ S0 sc o v ∧ v'.own = v.own
    | .wouldBlock .self => S0 sc o' v' + 1 ≤ S0 sc o v ∧ v'.own = true
    | .wouldBlock .reg => S0 sc o' v' ≤ S0 sc o v + sc.dr ∧ v'.own = v.own ∧ v'.rx.q.toList = [] ∧
        v'.rx.rwait = true ∧ v'.tp.wbuf.toList = [] ∧ ∃ t, o'.tape = o.me.other :: t
    | .err => False
    | .panic => False

/-- one iteration of the engine's loop, `f` being (the rest of) the loop body: it ends the call, or it
continues from a state that is strictly closer to the end -/
inductive IterF (sc : Sched) (p : Peer) (b' : Nat) (fuel : Nat) (o : Ossl) (v : View)
    (f : Ossl × View × BioR Unit) : Prop where
  | stop (o' : Ossl) (v' : View) (r : BioR Unit)
      (eq : f = (o', v', r)) (post : HsPost sc p b' o v o' v' r)
  | next (o1 : Ossl) (v1 : View)
      (eq : f = sslDoHandshake sc fuel o1 v1)
      (good : Good sc p b' o1 v1) (me : o1.me = o.me) (mono : Mono v v1) (own : v1.own = v.own)
      (dec : S0 sc o1 v1 + 1 ≤ S0 sc o v)
      (meas : o1.tape.length + o1.post < o.tape.length + o.post)

/-- `IterF` for the whole loop body, entered with budget `fuel + 1` -/
abbrev Iter (sc : Sched) (p : Peer) (b' : Nat) (fuel : Nat) (o : Ossl) (v : View) : Prop :=
  IterF sc p b' fuel o v (sslDoHandshake sc (fuel + 1) o v)

theorem HsPost.after_step {sc : Sched} {p : Peer} {b' : Nat} {o o1 o' : Ossl} {v v1 v' : View} {r : BioR Unit}
    (h : HsPost sc p b' o1 v1 o' v' r) (me : o1.me = o.me) (mono : Mono v v1) (own : v1.own = v.own)
    (dec : S0 sc o1 v1 ≤ S0 sc o v) (meas : o1.tape.length + o1.post ≤ o.tape.length + o.post) :
    HsPost sc p b' o v o' v' r := by
  refine ⟨h.good, h.me.trans me, mono.trans h.mono, Nat.le_trans h.meas meas, ?_⟩
  have hr := h.res
  cases r with
  | ok u => exact ⟨hr.1, hr.2.1, Nat.le_trans hr.2.2.1 dec, hr.2.2.2.trans own⟩
  | wouldBlock pd =>
    cases pd with
    | self => exact ⟨Nat.le_trans hr.1 dec, hr.2⟩
    | reg =>
      simp only at hr ⊢
      obtain ⟨h1, h2, h3, h4, h5, t, h6⟩ := hr
      exact ⟨Nat.le_trans h1 (Nat.add_le_add_right dec _), h2.trans own, h3, h4, h5, t,
        by rw [← me]; exact h6⟩
  | err => exact hr
  | panic => exact hr

/-- a delayed call: the counters take the values `r w f` (`hdec`: fewer `Pending`s are left before the next performed
call), the caller's own waker is woken -/
theorem tick {sc : Sched} {p : Peer} {b' : Nat} {o : Ossl} {v : View} (g : Good sc p b' o v) (r w f : Nat)
    (hok : CtrOk sc { v.tp with cr := r, cw := w, cf := f })
    (hdec : ctr sc { v.tp with cr := r, cw := w, cf := f } + 1 ≤ ctr sc v.tp) :
    HsPost sc p b' o v o { v with tp := { v.tp with cr := r, cw := w, cf := f }, own := true }
      (.wouldBlock .self) := by
  obtain ⟨hl, hh, hc, a, b, a', hk⟩ := g
  exact ⟨⟨{ hl with ctrok := hok }, { hh with }, hc, a, b, a',
      { hk with }⟩, rfl, ⟨WakeRel.of_eq rfl rfl, fun _ => rfl⟩, Nat.le_refl _,
    Nat.add_lt_add_right (Nat.add_lt_add_left hdec _) _, rfl⟩

/-- after a performed write of `j` cells the engine may do to its tape and post count (`t`, `m`) what it likes as long
as it accounts for the `j` cells: the measure has gone down, since each cell weighs 3 (itself in the buffer, the
`written` flag, one to spare) -/
theorem write_step {sc : Sched} {p : Peer} {b' : Nat} {o : Ossl} {v : View} (g : Good sc p b' o v) (c : Cell)
    {n : Nat} (hn : 1 ≤ n) :
    (∃ v1, bioWrite sc o v (List.replicate n c) = (o, v1, .wouldBlock .self) ∧
      HsPost sc p b' o v o v1 (.wouldBlock .self)) ∨
    (∃ j v', 1 ≤ j ∧ j ≤ n ∧ bioWrite sc o v (List.replicate n c) = ({ o with written := true }, v', .ok j) ∧
      v'.txs = v.txs ++ List.replicate j c ∧ v'.rx = v.rx ∧ v'.own = v.own ∧ Mono v v' ∧
      ∀ t m, t.length + m + j ≤ o.tape.length + o.post →
        Local sc { o with written := true, tape := t, post := m } v' ∧
        Hs { o with written := true, tape := t, post := m } v' ∧
        S0 sc { o with written := true, tape := t, post := m } v' + 1 ≤ S0 sc o v) := by
  have ⟨hl, hh, hc, _⟩ := g
  obtain ⟨h1, h2, h3⟩ := hl.ctrok
  have hne : List.replicate n c ≠ [] := by
    cases n with
    | zero => omega
    | succ k => nofun
  simp only [bioWrite, hc, Bool.not_true, Bool.false_eq_true, if_false]
  rcases ioWrite_spec hl.direct hl.lim hl.open_tx hl.nobuf hne with
    ⟨hlt, heq⟩ | ⟨j, v', wb, hj, hjn, heq, htx, htp, hwl, hnb, hrx, hown, hcl, hwr⟩ <;> simp only [heq]
  · exact .inl ⟨_, rfl, tick g v.tp.cr (v.tp.cw + 1) v.tp.cf ⟨h1, hlt, h3⟩
      (Nat.add_lt_add_right (Nat.add_lt_add_left (Nat.sub_succ_lt_self _ _ hlt) _) _)⟩
  · rw [List.length_replicate] at hjn
    rw [List.take_replicate, Nat.min_eq_left hjn] at htx
    refine .inr ⟨j, v', hj, hjn, rfl, htx, hrx, hown, .of_own hwr hown, fun t m hm =>
      ⟨⟨hl.lim, hl.direct, by rw [htp]; exact ⟨h1, Nat.zero_le _, h3⟩, hcl, hrx ▸ hl.open_rx, hl.clean,
        by rw [htp]; exact hnb⟩, ⟨hh.nohs, by rw [htp]; exact hh.early, nofun⟩, ?_⟩⟩
    have := b2n_le o.written
    refine pot_step (d := sc.dw) _ _ _ _ _ _ _ ?_ ?_ (dw_lt_K sc) (b2n_le _)
    · simp only [mainPot, htp, b2n, if_true]; omega
    · simp only [ctr, flushDelay, htp]; omega

theorem iter_post {sc : Sched} {p : Peer} {b' : Nat} (fuel : Nat) {o : Ossl} {v : View} (g : Good sc p b' o v)
    (ht : o.tape = []) (hp : o.post ≠ 0) : Iter sc p b' fuel o v := by
  have ⟨hl, hh, hc, a, b, a', hk⟩ := g
  rcases write_step g Cell.post (n := o.post) (by omega) with
    ⟨v1, heq, hpost⟩ | ⟨j, v', hj1, hjn, heq, htx, hrx, hown, hmono, hw⟩
  · refine .stop _ _ _ ?_ hpost
    rw [sslDoHandshake]
    simp [ht, hp, heq]
  · obtain ⟨hl', hh', hdec⟩ := hw [] (o.post - j) (by simp [ht]; omega)
    refine .next { o with written := true, post := o.post - j } v' ?_
      ⟨ht ▸ hl', ht ▸ hh', hc, a, b + j, a', ⟨?_, by simp [ht], by simp only [View.rxs, hrx]; exact hk.rx, hk.rxp, hk.align⟩⟩ rfl
      hmono hown (ht ▸ hdec) (by simp only [ht, List.length_nil]; omega)
    · have hj0 : j ≠ 0 := Nat.ne_of_gt hj1
      rw [sslDoHandshake]
      simp only [ht, hp, heq, hj0, if_false]
      split
      · rw [bioFlush_hs_noop sc _ v' (by simpa using hc) (by simpa using hh.nohs)]
      · rfl
    · rw [htx, hk.tx]; simp [hsN, postN, List.append_assoc]

theorem iter_write {sc : Sched} {p : Peer} {b' : Nat} (fuel : Nat) {o : Ossl} {v : View} (g : Good sc p b' o v)
    {t : List Side} (ht : o.tape = o.me :: t) : Iter sc p b' fuel o v := by
  have ⟨hl, hh, hc, a, b, a', hk⟩ := g
  have hrun : 1 ≤ leadRun o.me o.tape := leadRun_pos t ht
  have hb0 : b = 0 := hk.txp (by rw [ht]; simp)
  have hlen := leadRun_le o.me o.tape
  rcases write_step g Cell.hs hrun with ⟨v1, heq, hpost⟩ | ⟨j, v', hj1, hjn, heq, htx, hrx, hown, hmono, hw⟩
  · refine .stop _ _ _ ?_ hpost
    rw [sslDoHandshake]
    simp only [ht] at heq ⊢
    simp [heq]
  · obtain ⟨hl', hh', hdec⟩ := hw (o.tape.drop j) o.post
      (by rw [List.length_drop, Nat.add_right_comm, Nat.sub_add_cancel (Nat.le_trans hjn hlen)]; exact Nat.le_refl _)
    refine .next { o with written := true, tape := o.tape.drop j } v' ?_
      ⟨hl', hh', hc, a + j, 0, a', ⟨?_, fun _ => rfl, by simp only [View.rxs, hrx]; exact hk.rx, hk.rxp,
        hk.align.write hjn hrun⟩⟩ rfl
      hmono hown hdec (Nat.add_lt_add_right (by
        rw [List.length_drop]; exact Nat.sub_lt (Nat.lt_of_lt_of_le hj1 (Nat.le_trans hjn hlen)) hj1) _)
    · have hj0 : j ≠ 0 := Nat.ne_of_gt hj1
      rw [sslDoHandshake]
      simp only [ht] at heq ⊢
      simp only [if_true, heq, hj0, if_false]
      split
      · rw [bioFlush_hs_noop sc _ v' (by simpa using hc) (by simpa using hh.nohs)]
      · rfl
    · rw [htx, hk.tx, hb0]; simp [hsN, postN]

theorem IterF.after_step {sc : Sched} {p : Peer} {b' fuel : Nat} {o o1 : Ossl} {v v1 : View}
    {f : Ossl × View × BioR Unit} (h : IterF sc p b' fuel o1 v1 f) (me : o1.me = o.me) (mono : Mono v v1)
    (own : v1.own = v.own) (dec : S0 sc o1 v1 ≤ S0 sc o v)
    (meas : o1.tape.length + o1.post ≤ o.tape.length + o.post) : IterF sc p b' fuel o v f := by
  cases h with
  | stop o' v' r eq post => exact .stop o' v' r eq (post.after_step me mono own dec meas)
  | next o2 v2 eq good me2 mono2 own2 dec2 meas2 =>
    exact .next o2 v2 eq good (me2.trans me) (mono.trans mono2) (own2.trans own)
      (Nat.le_trans dec2 dec) (Nat.lt_of_lt_of_le meas2 meas)

/-- the arm of `sslDoHandshake` taken when it is the peer's turn on the tape (`sslDoHandshake_read`) -/
def readBody (sc : Sched) (fuel : Nat) (o : Ossl) (v : View) : Ossl × View × BioR Unit :=
  match bioRead sc o v (leadRun o.me.other o.tape) with
  | (o, v, .ok cs) =>
    if cs.isEmpty || cs.any (· != Cell.hs) then (o, v, .err)
    else sslDoHandshake sc fuel { o with tape := o.tape.drop cs.length } v
  | (o, v, .wouldBlock p) => (o, v, .wouldBlock p)
  | (o, v, .err) => (o, v, .err)
  | (o, v, .panic) => (o, v, .panic)

theorem sslDoHandshake_read (sc : Sched) (fuel : Nat) (o : Ossl) (v : View) {d : Side} {t : List Side}
    (ht : o.tape = d :: t) (hd : d ≠ o.me) : sslDoHandshake sc (fuel + 1) o v = readBody sc fuel o v := by
  rw [sslDoHandshake, readBody]
  simp [ht, hd] <;> rfl

theorem length_hsN_postN (a b : Nat) : (hsN a ++ postN b).length = a + b := by simp [hsN, postN]

theorem take_hsN_postN {a b j : Nat} (h : j ≤ a) : (hsN a ++ postN b).take j = hsN j := by
  simp [hsN, postN, List.take_append_of_le_length, h, Nat.min_eq_left h]

theorem drop_hsN_postN {a b j : Nat} (h : j ≤ a) : (hsN a ++ postN b).drop j = hsN (a - j) ++ postN b := by
  simp [hsN, postN, List.drop_append_of_le_length, h]

theorem took {sc : Sched} {o : Ossl} {v v' : View} {k : Nat} (htp : v'.tp = { v.tp with cr := 0 })
    (hwake : v'.wake = v.wake) (hk1 : 1 ≤ k) (hk : k ≤ o.tape.length) :
    S0 sc { o with tape := o.tape.drop k } v' + 1 ≤ S0 sc o v := by
  simp only [S0, hwake]
  refine pot_step (d := sc.dr) _ _ _ _ _ _ _ ?_ ?_ (dr_lt_K sc) (b2n_le _)
  · simp only [mainPot, List.length_drop, htp]; omega
  · simp only [ctr, flushDelay, htp]; omega

theorem iter_read_inner {sc : Sched} {p : Peer} {b' : Nat} (fuel : Nat) {o : Ossl} {v : View}
    (g : Good sc p b' o v) {t : List Side} (ht : o.tape = o.me.other :: t) (hw : o.written = false) :
    IterF sc p b' fuel o v (readBody sc fuel o v) := by
  have ⟨hl, hh, hc, a, b, a', hk⟩ := g
  have hneed : 1 ≤ leadRun o.me.other o.tape := leadRun_pos t ht
  have hne : o.tape ≠ [] := by rw [ht]; simp
  have hbr : bioRead sc o v (leadRun o.me.other o.tape) =
      (match ioRead sc v (leadRun o.me.other o.tape) with
        | (v, .ready cs) => (o, v, .ok cs)
        | (v, .pending p) => (o, v, .wouldBlock p)
        | (v, .err) => (o, v, .err)) := by
    simp [bioRead, hc, hw] <;> rfl
  obtain ⟨h1, h2, h3⟩ := hl.ctrok
  rcases ioRead_spec sc v (leadRun o.me.other o.tape) hl.lim hl.open_rx hneed with
    ⟨hlt, heq⟩ | ⟨hemp, heq⟩ | ⟨v', k, heq, hk1, hkn, hkL, hrxq, hrxc, htxe, hwake, hown, htp⟩
  · refine .stop _ _ _ ?_ (tick g (v.tp.cr + 1) v.tp.cw v.tp.cf ⟨hlt, h2, h3⟩
      (Nat.add_lt_add_right (Nat.add_lt_add_right (Nat.sub_succ_lt_self _ _ hlt) _) _))
    simp [readBody, hbr, heq]
  · refine .stop o { v with tp := { v.tp with cr := 0 }, rx := { v.rx with rwait := true } } (.wouldBlock .reg)
      (by simp [readBody, hbr, heq])
      ⟨⟨{ hl with ctrok := ⟨Nat.zero_le _, h2, h3⟩ }, { hh with }, hc, a, b, a',
        { hk with }⟩, rfl, ⟨WakeRel.of_eq rfl rfl, id⟩, Nat.le_refl _,
        by simp only [S0, mainPot, ctr, flushDelay]; omega, rfl, hemp, rfl, hh.flushed hw, t, ht⟩
  · -- the first `k` cells of the pipe: they are handshake cells of the run I am waiting for
    have hL := hk.rx
    simp only [View.rxs] at hL
    have hka : k ≤ a' := by
      by_cases hb' : b' = 0
      · have := congrArg List.length hL
        rw [length_hsN_postN, List.length_append] at this
        omega
      · have hp : p.tape = [] := Decidable.by_contra fun h => hb' (hk.rxp h)
        exact Nat.le_trans hkn (hp ▸ hk.align).need_le
    have hcs : v.rx.q.toList.take k = hsN k := by
      rw [← List.take_append_of_le_length (l₂ := p.held) hkL, hL, take_hsN_postN hka]
    rw [hcs] at heq
    have hkt : k ≤ o.tape.length := Nat.le_trans hkn (leadRun_le o.me.other o.tape)
    refine .next { o with tape := o.tape.drop k } v' ?_
      ⟨⟨hl.lim, hl.direct, by rw [htp]; exact ⟨Nat.zero_le _, h2, h3⟩, htxe ▸ hl.open_tx, hrxc ▸ hl.open_rx,
          hl.clean, by rw [htp]; exact hl.nobuf⟩,
        ⟨hh.nohs, by rw [htp]; exact hh.early, fun _ => by rw [htp]; exact hh.flushed hw⟩, hc, a, b, a' - k,
        ⟨by simp only [View.txs, htxe, htp]; exact hk.tx, fun _ => hk.txp hne, ?_, hk.rxp, hk.align.read hka hk1⟩⟩
      rfl (.of_own (.of_eq htxe hwake) hown) hown
      (took htp hwake hk1 hkt)
      (Nat.add_lt_add_right (by rw [List.length_drop]; exact Nat.sub_lt (Nat.lt_of_lt_of_le hk1 hkt) hk1) _)
    · simp [readBody, hbr, heq, hsN, Nat.ne_of_gt hk1]
    · simp only [View.rxs]
      rw [hrxq, ← List.drop_append_of_le_length hkL, hL, drop_hsN_postN hka]

/-- it is the peer's turn: `OpensslInner::poll_read` first flushes what was written -/
theorem iter_read {sc : Sched} {p : Peer} {b' : Nat} (fuel : Nat) {o : Ossl} {v : View} (g : Good sc p b' o v)
    {t : List Side} (ht : o.tape = o.me.other :: t) : Iter sc p b' fuel o v := by
  show IterF sc p b' fuel o v (sslDoHandshake sc (fuel + 1) o v)
  rw [sslDoHandshake_read sc fuel o v ht (Side.other_ne o.me)]
  cases hw : o.written with
  | false => exact iter_read_inner fuel g ht hw
  | true =>
    have ⟨hl, hh, hc, a, b, a', hk⟩ := g
    obtain ⟨h1, h2, h3⟩ := hl.ctrok
    have he := hh.early
    rcases ioFlush_spec sc o v hl with ⟨hlt, heq⟩ | ⟨v1, heq, htp, hown, hwr, hl1, hk1⟩
    · refine .stop _ _ _ ?_ (tick g v.tp.cr v.tp.cw (v.tp.cf + 1)
        ⟨h1, h2, hlt⟩ (Nat.add_lt_add_left (Nat.sub_succ_lt_self _ _ hlt) _))
      simp [readBody, bioRead, hc, hw, hh.nohs, heq]
    · -- the flush is performed; the read proper follows on the flushed state
      have hg1 : Good sc p b' { o with written := false } v1 :=
        ⟨{ hl1 with }, ⟨hh.nohs, by rw [htp]; exact he, fun _ => by rw [htp]; rfl⟩, hc, a, b, a', { hk1 hk with }⟩
      have hdec : S0 sc { o with written := false } v1 + 1 ≤ S0 sc o v := by
        refine pot_step (d := flushDelay sc v.tp) _ _ _ _ _ _ _ ?_ ?_ (flushDelay_lt_K sc v.tp) (b2n_le _)
        · simp [mainPot, hw, htp, b2n, Q.length, Q.empty]
        · simp [ctr, flushDelay, he, htp]
      have hbody : readBody sc fuel o v = readBody sc fuel { o with written := false } v1 := by
        simp [readBody, bioRead, hc, hw, hh.nohs, heq]
      rw [hbody]
      exact (iter_read_inner fuel hg1 (by simpa using ht) rfl).after_step rfl
        (.of_own hwr hown) hown (Nat.le_of_succ_le hdec) (by simp)

theorem doHs_spec (sc : Sched) (p : Peer) (b' : Nat) :
    ∀ (fuel : Nat) (o : Ossl) (v : View), Good sc p b' o v → o.tape.length + o.post < fuel →
      HsPost sc p b' o v (sslDoHandshake sc fuel o v).1 (sslDoHandshake sc fuel o v).2.1
        (sslDoHandshake sc fuel o v).2.2 := by
  intro fuel
  induction fuel with
  | zero => intro o v _ h; omega
  | succ fuel ih =>
    intro o v g hfuel
    have hit : Iter sc p b' fuel o v := by
      cases ht : o.tape with
      | nil =>
        by_cases hp : o.post = 0
        · refine .stop o v (.ok ()) ?_ ⟨g, rfl, Mono.refl v, Nat.le_refl _, ?_⟩
          · rw [sslDoHandshake]; simp [ht, hp]
          · exact ⟨ht, hp, Nat.le_refl _, rfl⟩
        · exact iter_post fuel g ht hp
      | cons d t =>
        rcases Side.eq_or_other o.me d with hd | hd
        · exact iter_write fuel g (by rw [ht, hd])
        · exact iter_read fuel g (by rw [ht, hd])
    cases hit with
    | stop o' v' r eq post => rw [eq]; exact post
    | next o1 v1 eq good me mono own dec meas =>
      rw [eq]
      exact (ih o1 v1 good (Nat.lt_of_lt_of_le meas (Nat.le_of_lt_succ hfuel))).after_step me mono own (Nat.le_of_succ_le dec)
        (Nat.le_of_lt meas)

/-! ### the budget of the engine loop

Any two budgets above the number of cells still to be processed give the same result, in every state (no
invariant is assumed): each re-entry of the loop has consumed a cell. -/

theorem bioWrite_fields (sc : Sched) (o : Ossl) (v : View) (cs : List Cell) :
    (bioWrite sc o v cs).1.tape = o.tape ∧ (bioWrite sc o v cs).1.post = o.post := by
  unfold bioWrite
  split
  · exact ⟨rfl, rfl⟩
  · split <;> exact ⟨rfl, rfl⟩

theorem bioFlush_fields (sc : Sched) (o : Ossl) (v : View) :
    (bioFlush sc o v).1.tape = o.tape ∧ (bioFlush sc o v).1.post = o.post := by
  unfold bioFlush
  split
  · exact ⟨rfl, rfl⟩
  · split
    · split <;> exact ⟨rfl, rfl⟩
    · exact ⟨rfl, rfl⟩

theorem bioRead_fields (sc : Sched) (o : Ossl) (v : View) (n : Nat) :
    (bioRead sc o v n).1.tape = o.tape ∧ (bioRead sc o v n).1.post = o.post := by
  unfold bioRead
  split
  · exact ⟨rfl, rfl⟩
  · simp only
    split
    · split
      · exact ⟨rfl, rfl⟩
      · exact ⟨rfl, rfl⟩
      · split <;> exact ⟨rfl, rfl⟩
    · split <;> exact ⟨rfl, rfl⟩

/-- the end-of-flight flush followed by the rest of the loop, for two continuations that agree below the bound `M` -/
theorem flush_then (sc : Sched) (k1 k2 : Ossl → View → Ossl × View × BioR Unit) (M : Nat)
    (h : ∀ (o : Ossl) (v : View), o.tape.length + o.post < M → k1 o v = k2 o v)
    (o' : Ossl) (v' : View) (hm : o'.tape.length + o'.post < M) :
    (match bioFlush sc o' v' with
      | (o, v, .ok ()) => k1 o v
      | (o, v, .wouldBlock p) => (o, v, .wouldBlock p)
      | (o, v, .err) => (o, v, .err)
      | (o, v, .panic) => (o, v, .panic)) =
    (match bioFlush sc o' v' with
      | (o, v, .ok ()) => k2 o v
      | (o, v, .wouldBlock p) => (o, v, .wouldBlock p)
      | (o, v, .err) => (o, v, .err)
      | (o, v, .panic) => (o, v, .panic)) := by
  have hg := bioFlush_fields sc o' v'
  generalize bioFlush sc o' v' = res2 at hg
  obtain ⟨o2, v2, r2⟩ := res2
  cases r2 with
  | ok u => cases u; exact h o2 v2 (by rw [hg.1, hg.2]; exact hm)
  | wouldBlock p => rfl
  | err => rfl
  | panic => rfl

theorem sslDoHandshake_fuel_indep (sc : Sched) : ∀ (f1 f2 : Nat) (o : Ossl) (v : View),
    o.tape.length + o.post < f1 → o.tape.length + o.post < f2 →
    sslDoHandshake sc f1 o v = sslDoHandshake sc f2 o v := by
  intro f1
  induction f1 with
  | zero => intro f2 o v h; omega
  | succ f1 ih =>
    intro f2 o v h1 h2
    cases f2 with
    | zero => omega
    | succ f2 =>
      -- the loop is re-entered only from states with fewer cells to go
      have again : ∀ (o' : Ossl) (v' : View), o'.tape.length + o'.post < o.tape.length + o.post →
          sslDoHandshake sc f1 o' v' = sslDoHandshake sc f2 o' v' := fun o' v' h =>
        ih f2 o' v' (Nat.lt_of_lt_of_le h (Nat.le_of_lt_succ h1)) (Nat.lt_of_lt_of_le h (Nat.le_of_lt_succ h2))
      rw [sslDoHandshake, sslDoHandshake]
      cases ht : o.tape with
      | nil =>
        simp only
        by_cases hp : o.post = 0
        · simp [hp]
        · simp only [hp, if_false]
          have hf := bioWrite_fields sc o v (List.replicate o.post Cell.post)
          generalize bioWrite sc o v (List.replicate o.post Cell.post) = res at hf
          obtain ⟨o1, v1, r1⟩ := res
          simp only at hf
          cases r1 with
          | ok n =>
            simp only
            by_cases hn : n = 0
            · simp [hn]
            · simp only [hn, if_false]
              have hm : ({ o1 with post := o1.post - n } : Ossl).tape.length + ({ o1 with post := o1.post - n } : Ossl).post
                  < o.tape.length + o.post := by
                simp only [hf.1, hf.2]; omega
              by_cases hz : o1.post - n = 0
              · rw [if_pos hz, if_pos hz]
                exact flush_then sc _ _ _ again _ v1 hm
              · rw [if_neg hz, if_neg hz]
                exact again _ v1 hm
          | wouldBlock p => rfl
          | err => rfl
          | panic => rfl
      | cons d t =>
        simp only
        by_cases hd : d = o.me
        · simp only [hd, if_true]
          have hf := bioWrite_fields sc o v (List.replicate (leadRun o.me (o.me :: t)) Cell.hs)
          generalize bioWrite sc o v (List.replicate (leadRun o.me (o.me :: t)) Cell.hs) = res at hf
          obtain ⟨o1, v1, r1⟩ := res
          simp only at hf
          cases r1 with
          | ok n =>
            simp only
            by_cases hn : n = 0
            · simp [hn]
            · simp only [hn, if_false]
              have hm : ({ o1 with tape := o1.tape.drop n } : Ossl).tape.length + ({ o1 with tape := o1.tape.drop n } : Ossl).post
                  < o.tape.length + o.post := by
                simp only [List.length_drop, hf.1, hf.2, ht, List.length_cons]; omega
              by_cases hz : n = leadRun o.me (o.me :: t)
              · rw [if_pos hz, if_pos hz]
                exact flush_then sc _ _ _ again _ v1 hm
              · rw [if_neg hz, if_neg hz]
                exact again _ v1 hm
          | wouldBlock p => rfl
          | err => rfl
          | panic => rfl
        · simp only [hd, if_false]
          have hf := bioRead_fields sc o v (leadRun o.me.other (d :: t))
          generalize bioRead sc o v (leadRun o.me.other (d :: t)) = res at hf
          obtain ⟨o1, v1, r1⟩ := res
          simp only at hf
          cases r1 with
          | ok cs =>
            simp only
            split
            · rfl
            · rename_i hc
              have hcs : 1 ≤ cs.length := by
                cases cs with
                | nil => simp at hc
                | cons _ _ => simp
              exact again _ v1 (by simp only [List.length_drop, hf.1, hf.2, ht, List.length_cons]; omega)
          | wouldBlock p => rfl
          | err => rfl
          | panic => rfl

end Compio.TlsShim
