/-
Per-task lemmas for the home-thread executor model (Compio/Model/Executor.lean): the task functions written out field
by field / branch by branch, the per-task lifecycle invariant `TInv` and its preservation by every per-task step. Every
release of a reference goes through `TInv.dropRef`. Last, the primitive steps of one task as a relation (`TaskStep`,
`TaskSteps`): each needs a live holder of the task (its handle, a waker clone, or the executor itself), so a task nobody
holds does not change (`TaskSteps.frozen`).
-/
import Compio.Model.Executor
import Compio.Lemmas.TaskState

namespace Compio.Executor
open Compio.TaskWord Compio.Gen

/-- number of `Task` references that exist: the executor's (while the task is in the queue), the
join handle's, and one per live waker clone -/
def holders (inQ : Bool) (t : TaskSt) : Nat :=
  (if inQ then 1 else 0) + (if t.handle then 1 else 0) + t.wakers

def isRes : Storage → Bool
  | .resultOk | .resultPanic => true
  | _ => false

/-- lifecycle invariant of one task; `inQ` = the task is still in the executor's map (hot or cold) -/
structure TInv (inQ : Bool) (t : TaskSt) : Prop where
  /-- (R) reference count = number of holders, while allocated -/
  rc : t.deallocs = 0 → t.word.count = holders inQ t
  /-- (D) freed exactly when there is no holder left, at most once -/
  dl : t.deallocs = (if holders inQ t = 0 then 1 else 0)
  /-- (D) nothing touches the allocation after it was freed -/
  uaf : t.uaf = 0
  /-- (F) in the queue: the future is there, not dropped, not completed, `shared` valid -/
  inq_st : inQ = true → t.storage = .future
  inq_fd : inQ = true → t.futDrops = 0
  inq_c : inQ = true → t.word.completed = false
  inq_sh : inQ = true → t.shared = true
  /-- (F) out of the queue: the future was dropped exactly once, `Task::drop` ran -/
  outq_fd : inQ = false → t.futDrops = 1
  outq_sh : inQ = false → t.shared = false
  outq_nc : inQ = false → t.word.notCancelled = false
  outq_slot : inQ = false → t.slot = none
  outq_st : inQ = false → t.storage ≠ .future
  outq_empty : inQ = false → t.word.hasResult = false ∨ t.deallocs = 1 → t.storage = .empty
  /-- (P) never polled after completion -/
  bp : t.badPolls = 0
  /-- the home thread never leaves the SETTING_WAKER section open -/
  nsw : t.word.notSettingWaker = true
  /-- (S) HAS_RESULT ⇔ the storage holds a result, while allocated -/
  res : t.deallocs = 0 → t.word.hasResult = isRes t.storage
  resc : t.word.hasResult = true → t.word.completed = true
  /-- (S) the result is taken or dropped exactly once after it left the storage -/
  cnt : t.resTaken + t.resDrops = (if t.word.completed && (!t.word.hasResult || t.deallocs == 1) then 1 else 0)
  /-- (W) HAS_WAKER ⇔ the slot is occupied -/
  wk : t.word.hasWaker = t.slot.isSome
  /-- (W) every join waker written is dropped once, except the one still in the slot -/
  sl : t.slotSets = t.slotDrops + (if t.slot.isSome then 1 else 0)
  /-- a live handle on a completed task finds the result (`unreachable!` in `Local::poll`) -/
  hd : t.handle = true → t.word.completed = true → t.word.hasResult = true

theorem TInv_iff (q : Bool) (t : TaskSt) : TInv q t ↔
    (t.deallocs = 0 → t.word.count = holders q t) ∧
    t.deallocs = (if holders q t = 0 then 1 else 0) ∧
    t.uaf = 0 ∧
    (q = true → t.storage = .future) ∧
    (q = true → t.futDrops = 0) ∧
    (q = true → t.word.completed = false) ∧
    (q = true → t.shared = true) ∧
    (q = false → t.futDrops = 1) ∧
    (q = false → t.shared = false) ∧
    (q = false → t.word.notCancelled = false) ∧
    (q = false → t.slot = none) ∧
    (q = false → t.storage ≠ .future) ∧
    (q = false → t.word.hasResult = false ∨ t.deallocs = 1 → t.storage = .empty) ∧
    t.badPolls = 0 ∧
    t.word.notSettingWaker = true ∧
    (t.deallocs = 0 → t.word.hasResult = isRes t.storage) ∧
    (t.word.hasResult = true → t.word.completed = true) ∧
    t.resTaken + t.resDrops = (if t.word.completed && (!t.word.hasResult || t.deallocs == 1) then 1 else 0) ∧
    t.word.hasWaker = t.slot.isSome ∧
    t.slotSets = t.slotDrops + (if t.slot.isSome then 1 else 0) ∧
    (t.handle = true → t.word.completed = true → t.word.hasResult = true) :=
  ⟨fun ⟨h1, h2, h3, h4, h5, h6, h7, h8, h9, h10, h11, h12, h13, h14, h15, h16, h17, h18, h19, h20, h21⟩ =>
    ⟨h1, h2, h3, h4, h5, h6, h7, h8, h9, h10, h11, h12, h13, h14, h15, h16, h17, h18, h19, h20, h21⟩,
   fun ⟨h1, h2, h3, h4, h5, h6, h7, h8, h9, h10, h11, h12, h13, h14, h15, h16, h17, h18, h19, h20, h21⟩ =>
    ⟨h1, h2, h3, h4, h5, h6, h7, h8, h9, h10, h11, h12, h13, h14, h15, h16, h17, h18, h19, h20, h21⟩⟩

theorem TInv.freed {q : Bool} {t : TaskSt} (h : TInv q t) (hd : t.deallocs = 1) :
    q = false ∧ t.handle = false ∧ t.wakers = 0 := by
  have := h.dl
  rw [hd] at this
  cases q <;> cases hh : t.handle <;> simp [holders, hh] at this ⊢ <;> omega

theorem TInv.dealloc_iff {q : Bool} {t : TaskSt} (h : TInv q t) :
    t.deallocs ≤ 1 ∧ (t.deallocs = 1 ↔ holders q t = 0) := by
  have := h.dl
  by_cases hz : holders q t = 0 <;> simp [hz] at this ⊢ <;> omega

theorem TInv.frame {q : Bool} {t : TaskSt} (h : TInv q t) (a b : Bool) (p : Nat) (sc : List Outcome) :
    TInv q { t with word := { t.word with scheduled := a, scheduling := b }, polls := p, script := sc } :=
  (TInv_iff q _).mpr ((TInv_iff q t).mp h)

theorem TInv.frame_sched {q : Bool} {t : TaskSt} (h : TInv q t) (a b : Bool) :
    TInv q { t with word := { t.word with scheduled := a, scheduling := b } } :=
  h.frame a b t.polls t.script

theorem dropRef_eq (t : TaskSt) : dropRef t =
    { t with
      word := { t.word with count := t.word.count - 1 }
      uaf := if t.deallocs > 0 then t.uaf + 1 else t.uaf
      resDrops := if t.word.count ≤ 1 ∧ t.word.hasResult then t.resDrops + 1 else t.resDrops
      storage := if t.word.count ≤ 1 ∧ t.word.hasResult then .empty else t.storage
      slotDrops := if t.word.count ≤ 1 ∧ t.word.hasWaker then t.slotDrops + 1 else t.slotDrops
      slot := if t.word.count ≤ 1 ∧ t.word.hasWaker then none else t.slot
      deallocs := if t.word.count ≤ 1 then t.deallocs + 1 else t.deallocs } := by
  by_cases h0 : t.deallocs > 0 <;> by_cases h1 : 1 < t.word.count <;>
    cases h2 : t.word.hasResult <;> cases h3 : t.word.hasWaker <;>
    simp [dropRef, h0, h1, h2, h3, Nat.not_le.mpr, Nat.not_lt.mp]

theorem dropRef_polls (t : TaskSt) : (dropRef t).polls = t.polls := by rw [dropRef_eq]
theorem dropRef_wakers (t : TaskSt) : (dropRef t).wakers = t.wakers := by rw [dropRef_eq]
theorem dropRef_nc (t : TaskSt) : (dropRef t).word.notCancelled = t.word.notCancelled := by rw [dropRef_eq]
theorem dropRef_sched (t : TaskSt) : (dropRef t).word.scheduled = t.word.scheduled := by rw [dropRef_eq]

theorem taskDropByExecutor_eq (t : TaskSt) : taskDropByExecutor t =
    { t with
      word := { t.word with hasWaker := false, notCancelled := false }
      shared := false
      futDrops := if t.word.completed then t.futDrops else t.futDrops + 1
      storage := if t.word.completed then t.storage else .empty
      slotDrops := if t.word.hasWaker ∧ t.word.notSettingWaker then t.slotDrops + 1 else t.slotDrops
      slot := if t.word.hasWaker ∧ t.word.notSettingWaker then none else t.slot } := by
  cases h1 : t.word.completed <;> cases h2 : t.word.hasWaker <;> cases h3 : t.word.notSettingWaker <;>
    simp [taskDropByExecutor, h1, h2, h3]

theorem taskDropByExecutor_polls (t : TaskSt) : (taskDropByExecutor t).polls = t.polls := by
  rw [taskDropByExecutor_eq]
theorem taskDropByExecutor_wakers (t : TaskSt) : (taskDropByExecutor t).wakers = t.wakers := by
  rw [taskDropByExecutor_eq]

theorem cancelWord_eq (t : TaskSt) (b : Bool) : cancelWord t b =
    { t with
      word := { t.word with notCancelled := false, hasResult := t.word.hasResult && !b }
      resDrops := if b ∧ t.word.hasResult then t.resDrops + 1 else t.resDrops
      storage := if b ∧ t.word.hasResult then .empty else t.storage } := by
  cases b <;> cases h : t.word.hasResult <;> simp [cancelWord, h]

theorem cancelWord_handle (t : TaskSt) (b : Bool) : (cancelWord t b).handle = t.handle := by rw [cancelWord_eq]
theorem cancelWord_polls (t : TaskSt) (b : Bool) : (cancelWord t b).polls = t.polls := by rw [cancelWord_eq]
theorem cancelWord_nc (t : TaskSt) (b : Bool) : (cancelWord t b).word.notCancelled = false := by rw [cancelWord_eq]
theorem cancelWord_sched (t : TaskSt) (b : Bool) : (cancelWord t b).word.scheduled = t.word.scheduled := by
  rw [cancelWord_eq]

theorem pollTask_cases (t : TaskSt) (w : Nat) :
    (t.word.hasResult = true ∧ pollTask t w =
      (dropRef { t with word := { t.word with hasResult := false }, resTaken := t.resTaken + 1,
                        storage := .empty, handle := false },
       if t.storage = .resultPanic then .panicked else .ok)) ∨
    (t.word.hasResult = false ∧ t.word.notCancelled = false ∧
      pollTask t w = (dropRef { t with handle := false }, .cancelled)) ∨
    (t.word.hasResult = false ∧ t.word.notCancelled = true ∧ t.word.completed = true ∧
      pollTask t w = (t, .invalid)) ∨
    (t.word.hasResult = false ∧ t.word.notCancelled = true ∧ t.word.completed = false ∧
      t.word.hasWaker = true ∧ t.slot = some w ∧ pollTask t w = (t, .pending)) ∨
    (t.word.hasResult = false ∧ t.word.notCancelled = true ∧ t.word.completed = false ∧
      ¬ (t.word.hasWaker = true ∧ t.slot = some w) ∧
      pollTask t w = ({ t with word := { t.word with hasWaker := true }, slot := some w,
                               slotSets := t.slotSets + 1,
                               slotDrops := if t.word.hasWaker then t.slotDrops + 1 else t.slotDrops },
                      .pending)) := by
  cases h1 : t.word.hasResult
  · cases h2 : t.word.notCancelled
    · simp [pollTask, h1, h2]
    · cases h3 : t.word.completed
      · cases h4 : t.word.hasWaker
        · simp [pollTask, h1, h2, h3, h4]
        · by_cases hs : t.slot = some w <;> simp [pollTask, h1, h2, h3, h4, hs]
      · simp [pollTask, h1, h2, h3]
  · simp [pollTask, h1]

theorem remotePollTask_eq (t : TaskSt) (w : Nat) : remotePollTask t w =
    if (pollTask t w).2 = .pending then
      ({ (pollTask t w).1 with word := { (pollTask t w).1.word with notSettingWaker := true } }, .pending)
    else pollTask t w := by
  rcases pollTask_cases t w with ⟨h1, he⟩ | ⟨h1, h2, he⟩ | ⟨h1, h2, h3, he⟩ | ⟨h1, h2, h3, h4, h5, he⟩ |
      ⟨h1, h2, h3, h4, he⟩ <;> rw [he]
  · simp [remotePollTask, h1]; split <;> simp
  · simp [remotePollTask, h1, h2]
  · simp [remotePollTask, h1, h2, h3]
  · simp [remotePollTask, h1, h2, h3, h4, h5]
  · cases h5 : t.word.hasWaker <;> simp_all [remotePollTask]

theorem remotePollTask_snd (t : TaskSt) (w : Nat) : (remotePollTask t w).2 = (pollTask t w).2 := by
  rw [remotePollTask_eq]; split <;> simp [*]

theorem pollTask_keeps (t : TaskSt) (w : Nat) :
    (pollTask t w).1.word.notCancelled = t.word.notCancelled ∧ (pollTask t w).1.word.scheduled = t.word.scheduled ∧
    (pollTask t w).1.word.completed = t.word.completed ∧ (pollTask t w).1.polls = t.polls ∧
    (pollTask t w).1.word.notSettingWaker = t.word.notSettingWaker := by
  rcases pollTask_cases t w with ⟨_, he⟩ | ⟨_, _, he⟩ | ⟨_, _, _, he⟩ | ⟨_, _, _, _, _, he⟩ | ⟨_, _, _, _, he⟩ <;>
    rw [he] <;> simp [dropRef_eq]

theorem remotePollTask_keeps (t : TaskSt) (w : Nat) :
    (remotePollTask t w).1.word.notCancelled = t.word.notCancelled ∧
    (remotePollTask t w).1.word.scheduled = t.word.scheduled ∧
    (remotePollTask t w).1.word.completed = t.word.completed ∧ (remotePollTask t w).1.polls = t.polls := by
  have ⟨h1, h2, h3, h4, _⟩ := pollTask_keeps t w
  rw [remotePollTask_eq]; split <;> exact ⟨h1, h2, h3, h4⟩

theorem remotePollTask_eq_pollTask (t : TaskSt) (w : Nat) (hn : t.word.notSettingWaker = true) :
    remotePollTask t w = pollTask t w := by
  rw [remotePollTask_eq]
  split
  · next hp =>
    rw [← (pollTask_keeps t w).2.2.2.2] at hn
    rw [← hp, ← hn]
  · rfl

theorem pollTask_cancelled (t : TaskSt) (w : Nat) (hc : t.word.notCancelled = false) :
    (pollTask t w).2 = .ok ∨ (pollTask t w).2 = .panicked ∨ (pollTask t w).2 = .cancelled := by
  rcases pollTask_cases t w with ⟨_, he⟩ | ⟨_, _, he⟩ | ⟨_, h, _⟩ | ⟨_, h, _⟩ | ⟨_, h, _⟩
  · rw [he]; simp only; split <;> simp
  · rw [he]; simp
  all_goals rw [hc] at h; cases h

theorem remotePollTask_cancelled (t : TaskSt) (w : Nat) (hc : t.word.notCancelled = false) :
    (remotePollTask t w).2 = .ok ∨ (remotePollTask t w).2 = .panicked ∨ (remotePollTask t w).2 = .cancelled := by
  rw [remotePollTask_snd]; exact pollTask_cancelled t w hc

/-- the task after a poll that returned Pending -/
def polledTask (t : TaskSt) : TaskSt :=
  { t with word := TaskState.unschedule t.word, polls := t.polls + 1, script := t.script.drop 1 }

/-- the task after a poll that cloned the task waker and returned Pending -/
def clonedTask (t : TaskSt) : TaskSt :=
  { polledTask t with word := TaskState.inc (TaskState.unschedule t.word), wakers := t.wakers + 1 }

/-- the task after its future returned Ready / panicked: result published, `Task::drop`, reference released -/
def finishedTask (t : TaskSt) (o : Outcome) : TaskSt :=
  dropRef (taskDropByExecutor
    { t with word := TaskState.finishRunning (TaskState.unschedule t.word), polls := t.polls + 1,
             script := t.script.drop 1, futDrops := t.futDrops + 1,
             storage := if o.panics then .resultPanic else .resultOk })

/-- what `Executor::clear` does to a task that is still in the map: `Task::drop`, reference released -/
def clearedTask (t : TaskSt) : TaskSt := dropRef (taskDropByExecutor t)

/-- the task after `Task::run` found it cancelled: `Task::drop`, reference released -/
def droppedTask (t : TaskSt) : TaskSt :=
  dropRef (taskDropByExecutor { t with word := TaskState.unschedule t.word })

theorem runTask_cancelled (t : TaskSt) (hc : t.word.notCancelled = false) :
    runTask t = (droppedTask t, .dropped, none) := by
  simp [runTask, hc, droppedTask]

theorem runTask_pending (t : TaskSt) (hc : t.word.notCancelled = true) (hb : t.word.completed = false)
    (hs : t.script = [] ∨ ∃ r, t.script = .pending :: r) :
    runTask t = (polledTask t, .pending, none) := by
  rcases hs with hs | ⟨r, hs⟩ <;> simp [runTask, hc, hb, hs, polledTask]

theorem runTask_wakeSelf (t : TaskSt) (hc : t.word.notCancelled = true) (hb : t.word.completed = false)
    (r : List Outcome) (hs : t.script = .wakeSelf :: r) :
    runTask t = (polledTask t, .wokeSelf, none) := by
  simp [runTask, hc, hb, hs, polledTask]

theorem runTask_clone (t : TaskSt) (hc : t.word.notCancelled = true) (hb : t.word.completed = false)
    (r : List Outcome) (hs : t.script = .cloneWaker :: r) :
    runTask t = (clonedTask t, .pending, none) := by
  simp [runTask, hc, hb, hs, polledTask, clonedTask]

theorem runTask_remote (t : TaskSt) (hc : t.word.notCancelled = true) (hb : t.word.completed = false)
    (r : List Outcome) (hs : t.script = .remoteWake :: r) :
    runTask t = (polledTask t, .remoteWoke, none) := by
  simp [runTask, hc, hb, hs, polledTask]

theorem runTask_ready (t : TaskSt) (hc : t.word.notCancelled = true) (hb : t.word.completed = false)
    (o : Outcome) (r : List Outcome) (hs : t.script = o :: r) (ho : o = .ready ∨ o = .panic) :
    runTask t = (finishedTask t o, .finished,
                 if t.word.hasWaker && t.word.notSettingWaker then t.slot else none) := by
  rcases ho with ho | ho <;> subst ho <;> simp [runTask, hc, hb, hs, finishedTask, Outcome.panics]

theorem runTask_wakeReady (t : TaskSt) (hc : t.word.notCancelled = true) (hb : t.word.completed = false)
    (o : Outcome) (r : List Outcome) (hs : t.script = o :: r) (ho : o = .wakeReady ∨ o = .wakePanic) :
    runTask t = (finishedTask t o, .finishedWoke,
                 if t.word.hasWaker && t.word.notSettingWaker then t.slot else none) := by
  rcases ho with ho | ho <;> subst ho <;> simp [runTask, hc, hb, hs, finishedTask, Outcome.panics]

/-- the task with one more waker clone (made during the poll) -/
def cloneInc (t : TaskSt) : TaskSt := { t with word := TaskState.inc t.word, wakers := t.wakers + 1 }

theorem runTask_cloneReady (t : TaskSt) (hc : t.word.notCancelled = true) (hb : t.word.completed = false)
    (r : List Outcome) (hs : t.script = .cloneReady :: r) :
    runTask t = (finishedTask (cloneInc t) .cloneReady, .finished,
                 if t.word.hasWaker && t.word.notSettingWaker then t.slot else none) := by
  simp [runTask, hc, hb, hs, finishedTask, Outcome.panics, cloneInc]

theorem runTask_cases (t : TaskSt) (hb : t.word.completed = false) :
    (t.word.notCancelled = false ∧ runTask t = (droppedTask t, .dropped, none)) ∨
    (t.word.notCancelled = true ∧
      (runTask t = (polledTask t, .pending, none) ∨ runTask t = (polledTask t, .wokeSelf, none) ∨
       runTask t = (polledTask t, .remoteWoke, none) ∨
       runTask t = (clonedTask t, .pending, none) ∨
       ∃ tb o k, (tb = t ∨ tb = cloneInc t) ∧ (k = .finished ∨ k = .finishedWoke) ∧
          runTask t = (finishedTask tb o, k,
            if t.word.hasWaker && t.word.notSettingWaker then t.slot else none))) := by
  cases hc : t.word.notCancelled
  · exact Or.inl ⟨rfl, runTask_cancelled t hc⟩
  · refine Or.inr ⟨rfl, ?_⟩
    rcases hs : t.script with _ | ⟨o, r⟩
    · exact Or.inl (runTask_pending t hc hb (Or.inl hs))
    · cases o
      · exact Or.inl (runTask_pending t hc hb (Or.inr ⟨r, hs⟩))
      · exact Or.inr (Or.inl (runTask_wakeSelf t hc hb r hs))
      · exact Or.inr (Or.inr (Or.inr (Or.inl (runTask_clone t hc hb r hs))))
      · exact Or.inr (Or.inr (Or.inl (runTask_remote t hc hb r hs)))
      · exact Or.inr (Or.inr (Or.inr (Or.inr ⟨t, .wakeReady, .finishedWoke, Or.inl rfl, Or.inr rfl,
          runTask_wakeReady t hc hb _ r hs (Or.inl rfl)⟩)))
      · exact Or.inr (Or.inr (Or.inr (Or.inr ⟨t, .wakePanic, .finishedWoke, Or.inl rfl, Or.inr rfl,
          runTask_wakeReady t hc hb _ r hs (Or.inr rfl)⟩)))
      · exact Or.inr (Or.inr (Or.inr (Or.inr ⟨cloneInc t, .cloneReady, .finished, Or.inr rfl, Or.inl rfl,
          runTask_cloneReady t hc hb r hs⟩)))
      · exact Or.inr (Or.inr (Or.inr (Or.inr ⟨t, .ready, .finished, Or.inl rfl, Or.inl rfl,
          runTask_ready t hc hb _ r hs (Or.inl rfl)⟩)))
      · exact Or.inr (Or.inr (Or.inr (Or.inr ⟨t, .panic, .finished, Or.inl rfl, Or.inl rfl,
          runTask_ready t hc hb _ r hs (Or.inr rfl)⟩)))

/-- the invariant `h` and the goal as plain conjunctions, the task functions in `defs` written out field by
field, and one `grind` call for all clauses at once -/
macro "task_tac" h:ident "[" defs:Lean.Parser.Tactic.simpLemma,* "]" : tactic => `(tactic| (
  rw [TInv_iff] at $h:ident ⊢
  simp only [$defs,*] at $h:ident ⊢
  grind [isRes, Option.isSome_iff_ne_none]))

/-- a reference goes away; the hypothesis counts it as one more waker clone -/
theorem TInv.dropRef {q : Bool} {t : TaskSt} (h : TInv q { t with wakers := t.wakers + 1 }) :
    TInv q (dropRef t) := by
  task_tac h [holders, dropRef_eq]

theorem polledTask_inv (t : TaskSt) (h : TInv true t) : TInv true (polledTask t) :=
  h.frame false t.word.scheduling (t.polls + 1) (t.script.drop 1)

theorem cloneInc_inv (t : TaskSt) (h : TInv true t) : TInv true (cloneInc t) := by
  task_tac h [holders, cloneInc, g_inc]

theorem clonedTask_inv (t : TaskSt) (h : TInv true t) : TInv true (clonedTask t) :=
  cloneInc_inv _ (polledTask_inv t h)

theorem finishedTask_inv (t : TaskSt) (o : Outcome) (h : TInv true t) : TInv false (finishedTask t o) := by
  apply TInv.dropRef
  task_tac h [holders, taskDropByExecutor_eq, g_unschedule, g_finishRunning]

theorem clearedTask_inv (t : TaskSt) (h : TInv true t) : TInv false (clearedTask t) := by
  apply TInv.dropRef
  task_tac h [holders, taskDropByExecutor_eq]

theorem droppedTask_inv (t : TaskSt) (h : TInv true t) : TInv false (droppedTask t) :=
  clearedTask_inv _ (h.frame false t.word.scheduling t.polls t.script)

/-- the task `spawn` creates; count 2 = the executor's reference and the join handle's -/
theorem spawnedTask_inv (sc : List Outcome) :
    TInv true { word := TaskState.new 2, storage := .future, slot := none, script := sc,
                shared := true, handle := true, wakers := 0, polls := 0, futDrops := 0,
                resTaken := 0, resDrops := 0, slotSets := 0, slotDrops := 0, deallocs := 0, uaf := 0,
                badPolls := 0 } := by
  constructor <;> simp [holders, isRes]

theorem runTask_spec (t : TaskSt) (ht : TInv true t) :
    (((runTask t).2.1 = .dropped ∨ (runTask t).2.1 = .finished ∨ (runTask t).2.1 = .finishedWoke) →
        TInv false (runTask t).1) ∧
    (((runTask t).2.1 = .pending ∨ (runTask t).2.1 = .wokeSelf ∨ (runTask t).2.1 = .remoteWoke) →
        TInv true (runTask t).1 ∧ (runTask t).1.word.notCancelled = true ∧
        (runTask t).1.word.scheduled = false) ∧
    ((runTask t).2.1 = .dropped ↔ t.word.notCancelled = false) ∧
    ((runTask t).2.1 ≠ .dropped → (runTask t).1.polls = t.polls + 1) ∧
    ((runTask t).2.1 = .dropped → (runTask t).1.polls = t.polls) := by
  rcases runTask_cases t (ht.inq_c rfl) with ⟨hc, hr⟩ | ⟨hc, hr | hr | hr | hr | ⟨tb, o, k, htb, hk, hr⟩⟩ <;>
    rw [hr] <;> simp [hc]
  · exact ⟨droppedTask_inv t ht, by simp [droppedTask, dropRef_polls, taskDropByExecutor_polls]⟩
  · exact ⟨⟨polledTask_inv t ht, by simp [polledTask, hc], by simp [polledTask]⟩, by simp [polledTask]⟩
  · exact ⟨⟨polledTask_inv t ht, by simp [polledTask, hc], by simp [polledTask]⟩, by simp [polledTask]⟩
  · exact ⟨⟨polledTask_inv t ht, by simp [polledTask, hc], by simp [polledTask]⟩, by simp [polledTask]⟩
  · exact ⟨⟨clonedTask_inv t ht, by simp [clonedTask, polledTask, hc], by simp [clonedTask, polledTask]⟩,
      by simp [clonedTask, polledTask]⟩
  · have htb' : TInv true tb := by
      rcases htb with rfl | rfl
      · exact ht
      · exact cloneInc_inv t ht
    have hp : tb.polls = t.polls := by rcases htb with rfl | rfl <;> simp [cloneInc]
    have hfi := finishedTask_inv tb o htb'
    have hfp : (finishedTask tb o).polls = t.polls + 1 := by
      simp [finishedTask, dropRef_polls, taskDropByExecutor_polls, hp]
    rcases hk with rfl | rfl <;> simp [hfi, hfp]

theorem detachedTask_inv (q : Bool) (t : TaskSt) (h : TInv q t) (hh : t.handle = true) :
    TInv q (dropRef { t with handle := false }) := by
  apply TInv.dropRef
  task_tac h [holders]

theorem pollTask_inv (q : Bool) (t : TaskSt) (w : Nat) (h : TInv q t) (hh : t.handle = true) :
    TInv q (pollTask t w).1 := by
  rcases pollTask_cases t w with ⟨h1, he⟩ | ⟨h1, h2, he⟩ | ⟨h1, h2, h3, he⟩ | ⟨h1, h2, h3, h4, h5, he⟩ |
      ⟨h1, h2, h3, h4, he⟩ <;> rw [he]
  · apply TInv.dropRef; task_tac h [holders]
  · exact detachedTask_inv q t h hh
  · exact h
  · exact h
  · task_tac h [holders]

theorem remotePollTask_inv (q : Bool) (t : TaskSt) (w : Nat) (h : TInv q t) (hh : t.handle = true) :
    TInv q (remotePollTask t w).1 := by
  have h := pollTask_inv q t w h hh
  rw [remotePollTask_eq]
  split
  · -- the section was closed already: the write changes nothing
    have e : ({ (pollTask t w).1 with word := { (pollTask t w).1.word with notSettingWaker := true } } : TaskSt) =
        (pollTask t w).1 := by rw [← h.nsw]
    simp only [e]; exact h
  · exact h

theorem pollTask_valid (q : Bool) (t : TaskSt) (w : Nat) (h : TInv q t) (hh : t.handle = true) :
    (pollTask t w).2 ≠ .invalid := by
  rcases pollTask_cases t w with ⟨_, he⟩ | ⟨_, _, he⟩ | ⟨h1, _, h3, _⟩ | ⟨_, _, _, _, _, he⟩ | ⟨_, _, _, _, he⟩
  · rw [he]; simp only; split <;> simp
  · rw [he]; simp
  · rw [h.hd hh h3] at h1; cases h1
  · rw [he]; simp
  · rw [he]; simp

theorem remotePollTask_valid (q : Bool) (t : TaskSt) (w : Nat) (h : TInv q t) (hh : t.handle = true) :
    (remotePollTask t w).2 ≠ .invalid := by
  rw [remotePollTask_snd]; exact pollTask_valid q t w h hh

theorem remoteSchedTask_cases (t : TaskSt) :
    ((t.word.scheduled = true ∨ t.word.completed = true ∨ t.word.notCancelled = false ∨ t.shared = false) ∧
      remoteSchedTask t = ({ t with word := { t.word with scheduled := true, scheduling := false } }, false)) ∨
    (t.word.scheduled = false ∧ t.word.completed = false ∧ t.word.notCancelled = true ∧ t.shared = true ∧
      remoteSchedTask t = ({ t with word := { t.word with scheduled := true, scheduling := true } }, true)) := by
  by_cases he : t.word.scheduled = true ∨ t.word.completed = true ∨ t.word.notCancelled = false ∨ t.shared = false
  · refine Or.inl ⟨he, ?_⟩
    rcases he with h | h | h | h <;> simp [remoteSchedTask, h]
  · simp only [not_or, Bool.not_eq_true, Bool.not_eq_false] at he
    exact Or.inr ⟨he.1, he.2.1, he.2.2.1, he.2.2.2, by simp [remoteSchedTask, he]⟩

theorem remoteSchedTask_inv (q : Bool) (t : TaskSt) (h : TInv q t) : TInv q (remoteSchedTask t).1 := by
  rcases remoteSchedTask_cases t with ⟨_, he⟩ | ⟨_, _, _, _, he⟩ <;> rw [he] <;> exact h.frame_sched _ _

theorem handleDropTask_inv (q : Bool) (t : TaskSt) (h : TInv q t) (hh : t.handle = true) :
    TInv q (dropRef { cancelWord t true with handle := false }) := by
  apply TInv.dropRef
  task_tac h [holders, cancelWord_eq]

theorem cancelWord_inv (q : Bool) (t : TaskSt) (h : TInv q t) : TInv q (cancelWord t false) := by
  task_tac h [holders, cancelWord_eq]

theorem wakerDropTask_inv (q : Bool) (t : TaskSt) (h : TInv q t) (hh : t.wakers ≠ 0) :
    TInv q (dropRef { t with wakers := t.wakers - 1 }) := by
  apply TInv.dropRef
  show TInv q { t with wakers := t.wakers - 1 + 1 }
  rw [Nat.sub_add_cancel (Nat.pos_of_ne_zero hh)]
  exact h

/-- somebody still holds a reference to the task: the handle, a waker clone, or the executor (the task
is still in the queue exactly as long as its future has not been dropped) -/
def Live (t : TaskSt) : Prop := t.handle = true ∨ t.wakers ≠ 0 ∨ t.futDrops = 0

/-- the primitive things that can happen to one task; `run = true`: `Task::run` steps allowed -/
inductive TaskStep (run : Bool) : TaskSt → TaskSt → Prop where
  | poll (t : TaskSt) (w : Nat) : t.handle = true → TaskStep run t (pollTask t w).1
  | rpoll (t : TaskSt) (w : Nat) : t.handle = true → TaskStep run t (remotePollTask t w).1
  | hdrop (t : TaskSt) : t.handle = true → TaskStep run t (dropRef { cancelWord t true with handle := false })
  | detach (t : TaskSt) : t.handle = true → TaskStep run t (dropRef { t with handle := false })
  | cancel (t : TaskSt) : t.handle = true → TaskStep run t (cancelWord t false)
  | wdrop (t : TaskSt) : t.wakers ≠ 0 → TaskStep run t (dropRef { t with wakers := t.wakers - 1 })
  /-- `Remote::schedule`: `start_scheduling` / `finish_scheduling` -/
  | sched (t : TaskSt) (a b : Bool) : Live t →
      TaskStep run t { t with word := { t.word with scheduled := a, scheduling := b } }
  | run (t : TaskSt) : run = true → t.futDrops = 0 → TaskStep run t (runTask t).1
  | clear (t : TaskSt) : t.futDrops = 0 → TaskStep run t (clearedTask t)

inductive TaskSteps (run : Bool) : TaskSt → TaskSt → Prop where
  | refl (t : TaskSt) : TaskSteps run t t
  | tail {a b c : TaskSt} : TaskSteps run a b → TaskStep run b c → TaskSteps run a c

theorem TaskSteps.single {r : Bool} {a b : TaskSt} (h : TaskStep r a b) : TaskSteps r a b := .tail (.refl a) h

theorem TaskSteps.trans {r : Bool} {a b c : TaskSt} (h1 : TaskSteps r a b) (h2 : TaskSteps r b c) :
    TaskSteps r a c := by
  induction h2 with
  | refl => exact h1
  | tail _ hs ih => exact .tail ih hs

theorem TaskStep.weaken {r : Bool} {a b : TaskSt} (h : TaskStep r a b) : TaskStep true a b := by
  cases h with
  | poll w hh => exact .poll _ w hh
  | rpoll w hh => exact .rpoll _ w hh
  | hdrop hh => exact .hdrop _ hh
  | detach hh => exact .detach _ hh
  | cancel hh => exact .cancel _ hh
  | wdrop hw => exact .wdrop _ hw
  | sched x y hl => exact .sched _ x y hl
  | run _ hf => exact .run _ rfl hf
  | clear hf => exact .clear _ hf

theorem TaskSteps.weaken {r : Bool} {a b : TaskSt} (h : TaskSteps r a b) : TaskSteps true a b := by
  induction h with
  | refl => exact .refl _
  | tail _ hs ih => exact .tail ih hs.weaken

theorem TaskSteps.induct {r : Bool} {R : TaskSt → TaskSt → Prop} (hrefl : ∀ t, R t t)
    (htrans : ∀ a b c, R a b → R b c → R a c) (hstep : ∀ a b, TaskStep r a b → R a b)
    {a b : TaskSt} (h : TaskSteps r a b) : R a b := by
  induction h with
  | refl => exact hrefl _
  | tail _ hs ih => exact htrans _ _ _ ih (hstep _ _ hs)

theorem TaskStep.live {r : Bool} {a b : TaskSt} (h : TaskStep r a b) : Live a := by
  cases h with
  | poll w hh => exact Or.inl hh
  | rpoll w hh => exact Or.inl hh
  | hdrop hh => exact Or.inl hh
  | detach hh => exact Or.inl hh
  | cancel hh => exact Or.inl hh
  | wdrop hw => exact Or.inr (Or.inl hw)
  | sched x y hl => exact hl
  | run _ hf => exact Or.inr (Or.inr hf)
  | clear hf => exact Or.inr (Or.inr hf)

theorem TaskSteps.frozen {r : Bool} {a b : TaskSt} (h : TaskSteps r a b) (hd : ¬ Live a) : b = a := by
  induction h with
  | refl => rfl
  | tail _ hs ih => rw [ih] at hs; exact absurd hs.live hd

end Compio.Executor
