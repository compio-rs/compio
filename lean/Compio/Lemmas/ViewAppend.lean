/-
The two models of Compio/Model/ViewAppend.lean. An appending fill through `root.uninit()`, recorded with `advance`, is
the `fillRoot` at `len` (`uninit_append_step`, `appendRoot_eq_fillRoot`), for every root kind whose `set_len` can grow.
`Compio.Pool.PBuf` is the `BufferRef` of compio-driver/src/buffer_pool.rs as a buffer, not the C07 pool of Model/Pool:
it keeps `len ≤ cap ≤ full_cap` under every call, refused and panicking ones included (`PBuf.WF`, `PBuf.run_wf`).
-/
import Compio.Lemmas.View
import Compio.Model.ViewAppend

namespace Compio.View

theorem appendRoot_cap (r : Root) (d : Bytes) (h : r.len + d.length ≤ r.cap) : (appendRoot r d).cap = r.cap := by
  simp only [appendRoot, Root.cap] at *
  exact splice_length _ _ _ h

theorem uninit_root_asInit (r : Root) (b : Nat) (hb : b ≤ r.len) :
    (Buf.uninit (.root r) b).asInit = .ok (b, r.len - b) := by
  simp [Buf.asInit, subRange, hb]

theorem uninit_root_asUninit (r : Root) (b : Nat) (hb : b ≤ r.len) (hl : r.len ≤ r.cap) :
    (Buf.uninit (.root r) b).asUninit = .ok (r.len, r.cap - r.len) := by
  have h1 : b ≤ r.cap := by omega
  have h2 : r.len - b ≤ r.cap - b := by omega
  simp only [Buf.asUninit, Buf.asInit, subRange, Option.getD_none, Nat.min_self, hb, h1, h2, if_true, Nat.zero_add]
  congr 2 <;> omega

theorem appendRoot_eq_fillRoot (r : Root) (d : Bytes) : appendRoot r d = fillRoot r.len r d := by
  simp only [appendRoot, fillRoot, Nat.max_eq_right (Nat.le_add_right _ _)]

theorem uninit_append_step (r : Root) (b : Nat) (d : Bytes) (hk : r.kind ≠ .arr ∧ r.kind ≠ .boxed)
    (hb : b ≤ r.len) (hl : r.len + d.length ≤ r.cap) :
    (Buf.uninit (.root r) b).fillAdv d = .ok (.uninit (.root (appendRoot r d)) b) := by
  have hw : r.WF := ⟨by omega, fun h => (h.elim hk.1 hk.2).elim⟩
  simp only [Buf.fillAdv, Buf.noUninit, if_true, uninit_root_asUninit r b hb hw.le,
    show d.length ≤ r.cap - r.len by omega, Buf.advance, Buf.asInit_write, uninit_root_asInit r b hb]
  rw [appendRoot_eq_fillRoot]
  -- the view counts from `b` and reports `len - b` bytes: `advance(|d|)` is `set_len` up to root position `len + |d|`
  exact Buf.setLen_write_eq_fillRoot (v := .uninit (.root r) b) hw (by simp only [Buf.off]; omega)
    (Nat.le_add_right _ _) hl

end Compio.View

namespace Compio.Pool
open Compio Compio.View

structure PBuf.WF (p : PBuf) : Prop where
  le : p.len ≤ p.cap
  cap : p.cap ≤ p.mem.length

theorem PBuf.setLen_wf {p p' : PBuf} {n : Nat} (h : p.WF) (hs : p.setLen n = .ok p') : p'.WF := by
  unfold PBuf.setLen at hs
  split at hs
  · injection hs with hs
    subst hs
    exact ⟨Nat.min_le_right _ _, h.cap⟩
  · cases hs

theorem PBuf.setCap_wf {p : PBuf} (c : Nat) (h : p.WF) : (p.setCap c).WF := by
  unfold PBuf.setCap
  split
  · exact h
  · exact ⟨Nat.min_le_right _ _, Nat.min_le_right _ _⟩

theorem PBuf.advanceTo_wf {p p' : PBuf} {n : Nat} (h : p.WF) (hs : p.advanceTo n = .ok p') : p'.WF := by
  unfold PBuf.advanceTo at hs
  split at hs
  · exact PBuf.setLen_wf h hs
  · injection hs with hs
    subst hs
    exact h

theorem PBuf.fill_wf {p p' : PBuf} {d : Bytes} (h : p.WF) (hs : p.fill d = .ok p') : p'.WF := by
  unfold PBuf.fill at hs
  split at hs
  · rename_i hd
    have hl : (splice p.mem 0 d).length = p.mem.length :=
      splice_length _ _ _ (by have := h.cap; omega)
    exact PBuf.advanceTo_wf (p := { p with mem := splice p.mem 0 d }) ⟨h.le, by simpa [hl] using h.cap⟩ hs
  · cases hs

theorem PBuf.step_wf {p p' : PBuf} {op : Op} (h : p.WF) (hs : p.step op = .ok p') : p'.WF := by
  cases op with
  | setLen n | advance n | clear => exact PBuf.setLen_wf h hs
  | advanceTo n => exact PBuf.advanceTo_wf h hs
  | setCap c =>
    cases hs
    exact PBuf.setCap_wf c h
  | fill d => exact PBuf.fill_wf h hs

theorem PBuf.run_wf (ops : List Op) {p : PBuf} (h : p.WF) : (p.run ops).WF := by
  induction ops generalizing p with
  | nil => exact h
  | cons op rest ih =>
    simp only [PBuf.run]
    cases hs : p.step op with
    | ok p' => exact ih (PBuf.step_wf h hs)
    | error f => exact ih h

end Compio.Pool
