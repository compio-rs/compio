/-
Reading of the tables regenerated from the Rust source (`Gen/DispatcherLoop.lean`, extractor target
`DispatcherLoop`) as model events / effects, and the history lemma behind `join_events_follow_source_order`.
The `gen_*` theorems of Props/C18.lean state that the hand model's step functions do what these readings of the
generated tables say.
-/
import Compio.Lemmas.Dispatcher
import Compio.Gen.DispatcherLoop

namespace Compio.Dispatcher

open Compio.Gen.DispatcherLoop

/-- the worker's loop future after the generated action on the `JoinHandle` of the freshly spawned task `t` -/
def loopAfter (main : Nat → Main) (w t : Nat) : AfterSpawn → (Nat → Main)
  | .detach => main
  | .awaitTask => upd main w (.awaiting t)

/-- Effect of the statements of the spawned future on the receiver's view of the `oneshot` channel and on the
ghost counter `sent`, given how `func()` ends.  The `Option Nat` = the result of `func()` once bound (`res` in the source).  Leaving the future (end of the block, or
unwinding out of `func()`) drops the `callback` if it is still owned: `Chan.cancel` (which leaves a channel that
already carries a value alone).  `none` = the body never ends / is ill-formed. -/
def bodyEffect : List TaskStmt → Out → Option Nat → Chan → Nat → Option (Chan × Nat)
  | [], _, _, c, n => some (c.cancel, n)
  | .callFunc :: r, .ok v, _, c, n => bodyEffect r (.ok v) (some v) c n
  | .callFunc :: _, .panic, _, c, n => some (c.cancel, n)
  | .callFunc :: _, .never, _, _, _ => none
  | .sendResult :: r, o, some v, c, n => bodyEffect r o (some v) (c.send v) (n + 1)
  | .sendResult :: _, _, none, _, _ => none

theorem Chan.cancel_send (c : Chan) (v : Nat) : (c.send v).cancel = c.send v := by
  cases c <;> rfl

/-- the joiner closure sends its results only after it has joined every thread -/
def joinerWaits : List JoinerStmt → Bool
  | .joinAllThreads :: r => r.contains .sendResults
  | _ => false

/-- model events of one statement of the generated `join` body; `refused` = the blocking pool refuses the joiner.
`none` = the statement has no counterpart in the model (e.g. an early `return Err(..)`). -/
def joinStmtEvents (refused : Bool) : JoinStmt → Option (List Event)
  | .dropSender => some [.joinStart]
  | .makeChannel => some []
  | .handJoiner =>
    if refused then
      match joinerRefused with
      | .spawnThread => some [.joinFallbackThread]
      | _ => none
    else some [.joinPool]
  | .awaitResults => if joinerWaits joinerBody then some [.joinReturn] else none
  | .resumePanics => some []
  | .returnOk => some []

def joinProgramOf (refused : Bool) : List JoinStmt → Option (List Event)
  | [] => some []
  | st :: r =>
    match joinStmtEvents refused st, joinProgramOf refused r with
    | some a, some b => some (a ++ b)
    | _, _ => none

/-- the join events of the generated `Dispatcher::join`, in source order -/
def joinProgram (refused : Bool) : Option (List Event) := joinProgramOf refused joinBody

/-- syntactic reading of the statements of `join`: what it returns (`some p` = resumes panic `p`, `none` = `Ok(())`)
once the results have arrived, given `firstDead` = payload of the first `Err` in the result vector; the outer `none`
= the statements return nothing -/
def joinResult : List JoinStmt → Option Nat → Option (Option Nat)
  | [], _ => none
  | .resumePanics :: _, some p => some (some p)
  | .returnOk :: _, _ => some none
  | _ :: r, d => joinResult r d

/-- syntactic check on the statements of `block_on_at`: it does not tick until idle and ends by returning the result,
so it leaves after a bounded number of ticks once its main future is ready -/
def exitBounded (l : List ExitStmt) : Bool :=
  !l.contains .tickUntilIdle && l.getLast? == some .returnResult

/-- the join events that have happened, as a function of the state -/
def joinPhase (s : St) : List Event :=
  if s.sender then []
  else match s.joiner with
    | none => [.joinStart]
    | some b => [.joinStart, handEvent b] ++ (if s.joined.isSome then [.joinReturn] else [])

theorem joinPhase_step {s s' : St} {e : Event} (hg : JGood s) (hs : step? s e = some s') :
    joinPhase s' = joinPhase s ++ (if e.isJoin then [e] else []) := by
  unfold joinPhase
  rcases (step?_frame hs).join with ⟨he, h1, h2, h3⟩ | hj
  · rw [h1, h2, h3, he]; exact (List.append_nil _).symm
  · cases hj with
    | start h1 h2 h3 h4 => simp [h1, h2, h3, hg.unhanded h1, Event.isJoin]
    | hand b h1 h2 h3 h4 h5 => cases b <;> simp [h1, h2, h3, h4, h5, hg.unreturned h2, Event.isJoin, handEvent]
    | ret h1 hj h2 h3 h4 h5 =>
      obtain ⟨b, hb⟩ := Option.isSome_iff_exists.mp hj
      simp [h1, h2, h3, h4, h5, hb, Event.isJoin]

theorem joinPhase_run {s s' : St} {evs : List Event} (hg : JGood s) (h : run? s evs = some s') :
    joinPhase s' = joinPhase s ++ evs.filter Event.isJoin := by
  induction evs generalizing s with
  | nil => cases h; simp
  | cons e es ih =>
    obtain ⟨s1, h1, h2⟩ := run?_cons h
    rw [ih (hg.step (step?_some h1)) h2, joinPhase_step hg h1]
    cases hj : e.isJoin <;> simp [hj]

end Compio.Dispatcher
