/-
The loop of `Executor::tick` (prefetching hot-queue iterator): what it does to the hot queue and the log in one
statement (`tickLoop_spec : LoopSpec …`: FIFO order, progress of every hot task, what moves up), exact poll accounting;
the loop changes a task only by `Task::run` steps (`tickLoop_steps`) and drops no waker clone (`tickLoop_wakers`).
-/
import Compio.Lemmas.Executor

namespace Compio.Executor
open Compio.TaskWord Compio.Gen

theorem tickLoop_zero (c : Option Nat) (e : Exec) (log : List Nat) : tickLoop 0 c e log = (e, log) := by
  simp [tickLoop]

theorem tickLoop_none (n : Nat) (e : Exec) (log : List Nat) : tickLoop n none e log = (e, log) := by
  cases n <;> simp [tickLoop]

theorem tickLoop_succ (n id : Nat) (e : Exec) (log : List Nat) :
    tickLoop (n + 1) (some id) e log =
      tickLoop n (nextHot e.hot id) (tickStep e id).1 (if (tickStep e id).2 then log ++ [id] else log) := by
  simp [tickLoop]

theorem tickLoop_log (n : Nat) : ∀ (c : Option Nat) (e : Exec) (log : List Nat),
    tickLoop n c e log = ((tickLoop n c e []).1, log ++ (tickLoop n c e []).2) := by
  induction n with
  | zero => intro c e log; simp [tickLoop_zero]
  | succ n ih =>
    intro c e log
    cases c with
    | none => simp [tickLoop_none]
    | some id =>
      rw [tickLoop_succ, tickLoop_succ, ih _ _ (if (tickStep e id).2 then log ++ [id] else log),
        ih _ _ (if (tickStep e id).2 then [] ++ [id] else [])]
      cases (tickStep e id).2 <;> simp

theorem nextHot_head (id : Nat) (rest : List Nat) : nextHot (id :: rest) id = rest.head? := by
  simp [nextHot]

/-- induction principle for the loop of `tick` started at the head of the hot list: the cursor always is
the head of the current hot list (the prefetched successor), and the loop ends early only when the list
was empty or had a single element left -/
theorem tickLoop_induct (P : Nat → Exec → Exec × List Nat → Prop)
    (h0 : ∀ e, Inv e → P 0 e (e, []))
    (hnil : ∀ n e, Inv e → e.hot = [] → P n e (e, []))
    (hlast : ∀ n e id t, Inv e → e.hot = [id] → e.get? id = some t → StepFacts e id [] t (tickStep e id) →
        P (n + 1) e ((tickStep e id).1, if (tickStep e id).2 then [id] else []))
    (hstep : ∀ n e id rest t r, Inv e → e.hot = id :: rest → e.get? id = some t →
        StepFacts e id rest t (tickStep e id) →
        r = tickLoop n (tickStep e id).1.hot.head? (tickStep e id).1 [] → P n (tickStep e id).1 r →
        P (n + 1) e (r.1, (if (tickStep e id).2 then [id] else []) ++ r.2)) :
    ∀ n e, Inv e → P n e (tickLoop n e.hot.head? e []) := by
  intro n
  induction n with
  | zero => intro e h; rw [tickLoop_zero]; exact h0 e h
  | succ n ih =>
    intro e h
    rcases hh : e.hot with _ | ⟨id, rest⟩
    · simp only [List.head?_nil, tickLoop_none]; exact hnil _ e h hh
    · obtain ⟨t, hg, _, sf⟩ := tickStep_facts h hh
      simp only [List.head?_cons]
      rw [tickLoop_succ, hh, nextHot_head]
      rcases rest with _ | ⟨y, ys⟩
      · simp only [List.head?_nil, tickLoop_none, List.nil_append]
        exact hlast n e id t h hh hg sf
      · have hhd : (y :: ys).head? = (tickStep e id).1.hot.head? := by
          obtain ⟨w, h1⟩ := sf.hot
          rw [h1]; simp
        rw [hhd, tickLoop_log]
        have := hstep n e id (y :: ys) t _ h hh hg sf rfl (ih _ sf.inv)
        simpa using this

theorem tickLoop_lift (R : Exec → Exec → Prop) (hrefl : ∀ e, R e e) (htrans : ∀ a b c, R a b → R b c → R a c)
    (hstep : ∀ e id rest t, Inv e → e.hot = id :: rest → e.get? id = some t →
      StepFacts e id rest t (tickStep e id) → R e (tickStep e id).1) :
    ∀ n e, Inv e → R e (tickLoop n e.hot.head? e []).1 :=
  tickLoop_induct (fun _ e r => R e r.1) (fun e _ => hrefl e) (fun _ e _ _ => hrefl e)
    (fun _ e id t h hh hg sf => hstep e id [] t h hh hg sf)
    (fun _ e id rest t _ h hh hg sf _ hr => htrans _ _ _ (hstep e id rest t h hh hg sf) hr)

theorem tickLoop_lift_task (Q : TaskSt → TaskSt → Prop) (hrefl : ∀ t, Q t t)
    (htrans : ∀ a b c, Q a b → Q b c → Q a c)
    (hstep : ∀ e id rest t, Inv e → e.hot = id :: rest → e.get? id = some t →
      StepFacts e id rest t (tickStep e id) → ∃ t', (tickStep e id).1.get? id = some t' ∧ Q t t')
    (n : Nat) (e : Exec) (h : Inv e) :
    ∀ x t, e.get? x = some t → ∃ t', (tickLoop n e.hot.head? e []).1.get? x = some t' ∧ Q t t' := by
  refine tickLoop_lift (fun a b => ∀ x t, a.get? x = some t → ∃ t', b.get? x = some t' ∧ Q t t')
    (fun _ x t hx => ⟨t, hx, hrefl t⟩) ?_ ?_ n e h
  · intro a b c hab hbc x t hx
    obtain ⟨t1, h1, q1⟩ := hab x t hx
    obtain ⟨t2, h2, q2⟩ := hbc x t1 h1
    exact ⟨t2, h2, htrans _ _ _ q1 q2⟩
  · intro e id rest t h hh hg sf x tx hx
    by_cases hxi : x = id
    · subst hxi; rw [hg] at hx; cases hx
      exact hstep e x rest t h hh hg sf
    · exact ⟨tx, by rw [sf.frame x hxi]; exact hx, hrefl tx⟩

theorem tickLoop_inv (n : Nat) (e : Exec) (h : Inv e) : Inv (tickLoop n e.hot.head? e []).1 :=
  tickLoop_lift (fun a b => Inv a → Inv b) (fun _ ha => ha) (fun _ _ _ f g ha => g (f ha))
    (fun _ _ _ _ _ _ _ sf _ => sf.inv) n e h h

/-- task `x` exists and is not cancelled -/
def liveIn (e : Exec) (x : Nat) : Prop := ∃ t, e.get? x = some t ∧ t.word.notCancelled = true
/-- task `x` exists and is cancelled (handle dropped / `cancel` called / dropped by the executor) -/
def cancelledIn (e : Exec) (x : Nat) : Prop := ∃ t, e.get? x = some t ∧ t.word.notCancelled = false

theorem liveIn_congr {e e' : Exec} {x : Nat} (h : e'.get? x = e.get? x) :
    (liveIn e' x ↔ liveIn e x) ∧ (cancelledIn e' x ↔ cancelledIn e x) := by
  simp [liveIn, cancelledIn, h]

theorem StepFacts.visit {e : Exec} {id : Nat} {rest : List Nat} {t : TaskSt} {s : Exec × Bool}
    (sf : StepFacts e id rest t s) (hg : e.get? id = some t) :
    (cancelledIn e id → inMap s.1 id = false) ∧ (liveIn e id → s.2 = true) := by
  constructor <;> rintro ⟨t', hg', hc⟩ <;> rw [hg] at hg' <;> cases hg'
  · exact sf.gone (by rw [sf.polled, hc])
  · rw [sf.polled, hc]

theorem tickLoop_sub (n : Nat) (e : Exec) (h : Inv e) :
    (∀ x, inMap (tickLoop n e.hot.head? e []).1 x = true → inMap e x = true) ∧
    (∀ x, liveIn e x → inMap (tickLoop n e.hot.head? e []).1 x = true → liveIn (tickLoop n e.hot.head? e []).1 x) := by
  refine tickLoop_lift (fun a b => (∀ x, inMap b x = true → inMap a x = true) ∧
      (∀ x, liveIn a x → inMap b x = true → liveIn b x)) (fun _ => ⟨fun _ hx => hx, fun _ hx _ => hx⟩) ?_ ?_ n e h
  · intro a b c ⟨s1, l1⟩ ⟨s2, l2⟩
    exact ⟨fun x hx => s1 x (s2 x hx), fun x hl hin => l2 x (l1 x hl (s2 x hin)) hin⟩
  · intro e id rest t h hh hg sf
    refine ⟨sf.sub, fun x hl hin => ?_⟩
    by_cases hx : x = id
    · subst hx
      obtain ⟨t', hg', _, hn⟩ := sf.task
      exact ⟨t', hg', hn hin⟩
    · exact (liveIn_congr (sf.frame x hx)).1.mpr hl

/-- task `x` exists and is not cancelled, as a test -/
def liveB (e : Exec) (x : Nat) : Bool := (e.get? x).any (·.word.notCancelled)

theorem liveB_iff (e : Exec) (x : Nat) : liveB e x = true ↔ liveIn e x := by
  unfold liveB liveIn; cases e.get? x <;> simp

/-- what a loop of at most `n` bodies leaves (`r`), told against the hot queue and the tasks of `e`: it has taken the
first `n` ids off the hot queue in order (what is behind them moves up, what is woken meanwhile is appended), polled
those that are live and removed those that are cancelled; `extra`: ids woken during the loop that it reached before the
`n` were used up -/
structure LoopSpec (e : Exec) (n : Nat) (r : Exec × List Nat) : Prop where
  hot : ∃ w, r.1.hot = e.hot.drop n ++ w
  log : ∃ extra, r.2 = (e.hot.take n).filter (liveB e) ++ extra
  gone : ∀ x, x ∈ e.hot.take n → cancelledIn e x → inMap r.1 x = false

theorem tickLoop_spec (n : Nat) (e : Exec) (h : Inv e) : LoopSpec e n (tickLoop n e.hot.head? e []) := by
  refine tickLoop_induct (fun n e r => LoopSpec e n r) ?_ ?_ ?_ ?_ n e h
  · intro e _; exact ⟨⟨[], by simp⟩, ⟨[], by simp⟩, by simp⟩
  · intro _ e _ hh; exact ⟨⟨[], by simp [hh]⟩, ⟨[], by simp [hh]⟩, by simp [hh]⟩
  · intro n e id t _ hh hg sf
    have hl : liveB e id = (tickStep e id).2 := by rw [sf.polled]; simp [liveB, hg]
    refine ⟨⟨(tickStep e id).1.hot, by simp [hh]⟩, ⟨[], by cases hb : (tickStep e id).2 <;> simp [hh, hl, hb]⟩,
      fun x hx hc => ?_⟩
    simp [hh] at hx; subst hx
    exact (sf.visit hg).1 hc
  · intro n e id rest t r h hh hg sf hr0 ⟨⟨w, hw⟩, ⟨ex, hex⟩, hc⟩
    obtain ⟨w0, hw0⟩ := sf.hot
    have hl : liveB e id = (tickStep e id).2 := by rw [sf.polled]; simp [liveB, hg]
    have hne : ∀ x ∈ rest, x ≠ id := fun x hx hxe => (h.q.head hh).1 (hxe ▸ hx)
    refine ⟨⟨w0.drop (n - rest.length) ++ w, by simp [hw, hw0, hh, List.drop_append]⟩, ⟨?_, ?_⟩, fun x hx hcx => ?_⟩
    · exact ((w0.take (n - rest.length)).filter (liveB (tickStep e id).1) ++ ex)
    · have hf : (rest.take n).filter (liveB (tickStep e id).1) = (rest.take n).filter (liveB e) :=
        List.filter_congr fun x hx => by simp [liveB, sf.frame x (hne x (List.mem_of_mem_take hx))]
      simp only [hex, hw0, hh, List.take_append, List.filter_append, hf, List.take_succ_cons, List.filter_cons, hl]
      cases (tickStep e id).2 <;> simp
    · simp only [hh, List.take_succ_cons, List.mem_cons] at hx
      rcases hx with rfl | hx
      · refine Bool.eq_false_iff.mpr fun hin => ?_
        have := (tickLoop_sub n _ sf.inv).1 x (hr0 ▸ hin)
        rw [(sf.visit hg).1 hcx] at this; cases this
      · exact hc x (by rw [hw0, List.take_append]; exact List.mem_append_left _ hx)
          ((liveIn_congr (sf.frame x (hne x (List.mem_of_mem_take hx)))).2.mpr hcx)

section
variable {e : Exec} {n : Nat} {r : Exec × List Nat}

theorem LoopSpec.shift (s : LoopSpec e n r) {p x : Nat} (hx : e.hot[p]? = some x) (hp : n ≤ p) :
    r.1.hot[p - n]? = some x := by
  obtain ⟨w, hw⟩ := s.hot
  have : p < e.hot.length := (List.getElem?_eq_some_iff.mp hx).1
  rw [hw, List.getElem?_append_left (by rw [List.length_drop]; omega), List.getElem?_drop, Nat.add_sub_cancel' hp, hx]

theorem LoopSpec.visit (s : LoopSpec e n r) {p x : Nat} (hx : e.hot[p]? = some x) (hp : p < n) :
    (cancelledIn e x → inMap r.1 x = false) ∧ (liveIn e x → x ∈ r.2) := by
  have hm : x ∈ e.hot.take n := List.mem_of_getElem? (by rw [List.getElem?_take, if_pos hp]; exact hx)
  obtain ⟨ex, hex⟩ := s.log
  exact ⟨s.gone x hm, fun hl => by rw [hex]; exact List.mem_append_left _ (List.mem_filter.mpr ⟨hm, (liveB_iff e x).mpr hl⟩)⟩

theorem LoopSpec.order_prefix (s : LoopSpec e n r) (l : List Nat) (hp : l <+: e.hot)
    (hn : l.length ≤ n) (hl : ∀ x, x ∈ l → liveIn e x) : l <+: r.2 := by
  obtain ⟨ex, hex⟩ := s.log
  rw [hex, ← List.filter_eq_self.mpr fun x hx => (liveB_iff e x).mpr (hl x hx)]
  exact ((List.prefix_take_iff.mpr ⟨hp, hn⟩).filter _).trans (List.prefix_append _ _)

theorem LoopSpec.order (s : LoopSpec e n r) {p x : Nat} (hp : p < n) (hx : e.hot[p]? = some x)
    (hl : ∀ q y, q ≤ p → e.hot[q]? = some y → liveIn e y) : r.2[p]? = some x := by
  have hpl : p < e.hot.length := (List.getElem?_eq_some_iff.mp hx).1
  obtain ⟨r', hr⟩ := s.order_prefix (e.hot.take (p + 1)) (List.take_prefix _ _)
    (by rw [List.length_take]; omega) fun y hy => by
      obtain ⟨q, hq, he⟩ := List.getElem_of_mem hy
      rw [List.length_take] at hq
      exact hl q y (by omega) (by rw [← he, List.getElem_take, List.getElem?_eq_getElem])
  rw [← hr, List.getElem?_append_left (by rw [List.length_take]; omega), List.getElem?_take, if_pos (by omega), hx]

end

theorem tickLoop_order_take (n : Nat) (e : Exec) (h : Inv e) (hl : ∀ x, x ∈ e.hot.take n → liveIn e x) :
    ∃ extra, (tickLoop n e.hot.head? e []).2 = e.hot.take n ++ extra :=
  have ⟨r, hr⟩ := (tickLoop_spec n e h).order_prefix _ (List.take_prefix n e.hot) (List.length_take_le n e.hot) hl
  ⟨r, hr.symm⟩

theorem StepFacts.polls_of {e : Exec} {id : Nat} {rest : List Nat} {t : TaskSt} {s : Exec × Bool}
    (sf : StepFacts e id rest t s) (hg : e.get? id = some t) (x : Nat) (tx : TaskSt) (hx : e.get? x = some tx) :
    ∃ t', s.1.get? x = some t' ∧ t'.polls = tx.polls + (if s.2 then [id] else []).count x := by
  by_cases hxi : x = id
  · subst hxi
    rw [hg] at hx; cases hx
    obtain ⟨t', hg', hp, _⟩ := sf.task
    exact ⟨t', hg', by rw [hp]; cases s.2 <;> simp⟩
  · exact ⟨tx, by rw [sf.frame x hxi]; exact hx, by cases s.2 <;> simp [Ne.symm hxi]⟩

theorem tickLoop_polls (n : Nat) (e : Exec) (h : Inv e) :
    ∀ x t, e.get? x = some t →
      ∃ t', (tickLoop n e.hot.head? e []).1.get? x = some t' ∧
        t'.polls = t.polls + (tickLoop n e.hot.head? e []).2.count x := by
  refine tickLoop_induct (fun n e r => ∀ x t, e.get? x = some t →
      ∃ t', r.1.get? x = some t' ∧ t'.polls = t.polls + r.2.count x) ?_ ?_ ?_ ?_ n e h
  · intro e h x t hx; exact ⟨t, hx, by simp⟩
  · intro _ e h hh x t hx; exact ⟨t, hx, by simp⟩
  · intro n e id t h hh hg sf; exact sf.polls_of hg
  · intro n e id rest t r h hh hg sf _ hr x tx hx
    obtain ⟨t', hg', hp⟩ := sf.polls_of hg x tx hx
    obtain ⟨t'', hg'', hp'⟩ := hr x t' hg'
    exact ⟨t'', hg'', by rw [hp', hp, List.count_append, Nat.add_assoc]⟩

theorem tickLoop_frame (n : Nat) (e : Exec) (h : Inv e) :
    ∀ x, inMap e x = false → (tickLoop n e.hot.head? e []).1.get? x = e.get? x := by
  refine (tickLoop_lift (fun a b => (∀ x, inMap b x = true → inMap a x = true) ∧
      ∀ x, inMap a x = false → b.get? x = a.get? x) (fun _ => ⟨fun _ hx => hx, fun _ _ => rfl⟩) ?_ ?_ n e h).2
  · intro a b c ⟨s1, f1⟩ ⟨s2, f2⟩
    refine ⟨fun x hx => s1 x (s2 x hx), fun x hx => ?_⟩
    rw [f2 x (Bool.eq_false_iff.mpr fun hb => by rw [s1 x hb] at hx; cases hx), f1 x hx]
  · intro e id rest t h hh hg sf
    refine ⟨sf.sub, fun x hx => sf.frame x ?_⟩
    intro hxe; subst hxe
    rw [inMap_false_iff] at hx; exact hx (Or.inl (by simp [hh]))

theorem sameUpToSched_steps {r : Bool} {a b : TaskSt} (hl : Live b) (h : SameUpToSched a b) : TaskSteps r b a := by
  obtain ⟨x, y, he⟩ := h
  rw [he]; exact .single (.sched b x y hl)

theorem tickLoop_steps (n : Nat) (e : Exec) (h : Inv e) :
    ∀ x t, e.get? x = some t → ∃ t', (tickLoop n e.hot.head? e []).1.get? x = some t' ∧ TaskSteps true t t' := by
  refine tickLoop_lift_task (TaskSteps true) .refl (fun _ _ _ => .trans) ?_ n e h
  intro e id rest t h hh hg sf
  obtain ⟨t0, hg0, ht0⟩ := h.get_of_mem (id := id) (Or.inl (by simp [hh]))
  rw [hg] at hg0; cases hg0
  have hrun : TaskSteps true t (runTask t).1 := .single (.run t rfl (ht0.inq_fd rfl))
  obtain ⟨t', hg', he | ⟨hk, hs⟩⟩ := sf.taskEq
  · exact ⟨t', hg', he ▸ hrun⟩
  · -- the poll returned Pending, so the future is still there and the task is live
    have hfd := ((runTask_spec t ht0).2.1 (Or.inr (Or.inr hk))).1.inq_fd rfl
    exact ⟨t', hg', hrun.trans (sameUpToSched_steps (Or.inr (Or.inr hfd)) hs)⟩

theorem runTask_wakers (t : TaskSt) (hb : t.word.completed = false) : t.wakers ≤ (runTask t).1.wakers := by
  rcases runTask_cases t hb with ⟨_, hr⟩ | ⟨_, hr | hr | hr | hr | ⟨tb, o, k, htb, _, hr⟩⟩ <;> rw [hr] <;>
    simp [droppedTask, polledTask, clonedTask, finishedTask, dropRef_wakers, taskDropByExecutor_wakers]
  rcases htb with rfl | rfl <;> simp [cloneInc]

theorem tickLoop_wakers (n : Nat) (e : Exec) (h : Inv e) :
    ∀ x t, e.get? x = some t → ∃ t', (tickLoop n e.hot.head? e []).1.get? x = some t' ∧ t.wakers ≤ t'.wakers := by
  refine tickLoop_lift_task (fun t t' => t.wakers ≤ t'.wakers) (fun _ => Nat.le_refl _) (fun _ _ _ => Nat.le_trans) ?_ n e h
  intro e id rest t h hh hg sf
  obtain ⟨t0, hg0, ht0⟩ := h.get_of_mem (id := id) (Or.inl (by simp [hh]))
  rw [hg] at hg0; cases hg0
  have := runTask_wakers t (ht0.inq_c rfl)
  obtain ⟨_, hg', _, _, rfl⟩ := sf.sameTask
  exact ⟨_, hg', this⟩

end Compio.Executor
