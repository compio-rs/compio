/-
What the cancel routes do to the state: single-step facts used by the C05 theorems (locality, promptness, token
exactness) and by `cancel_rearms_poller_with_live_front` of C01; at the end, what single `submit` / `kPost` /
`pollEntries` events do to one op, and `submit_fix`, `drainCq_fix`, which `Compio.Cex.C05` uses.
-/
import Compio.Lemmas.KeyLifeMain

namespace Compio.KeyLife

open Compio.PollQueues

/-! On the polling driver a cancel leaves the other ops as they are (`*_frame_poll`) and rewrites the registry and the
poller at the target's descriptor only (`cancelIssue_poll`). On io_uring a cancel whose SQE overflows the submission
queue runs one `push_raw` round (submit, drain), which lets other ops progress — but never touches their handles, flags
or identity, and resurrects nothing (`Same`; that part is `cancelKey_spares` / `cancelTok_spares` in KeyLifeSteps). -/

theorem driverCancel_frame_poll (c : Cfg) (s : State) (id : Nat) (o : Op) (posts : List (Nat × Bool × Res))
    (hd : s.drv = .poll) {j : Nat} (hj : j ≠ id) : (driverCancel c s id o posts).ops[j]? = s.ops[j]? := by
  unfold driverCancel pollCancel
  simp only [hd]
  split
  · rfl
  · exact getElem?_modAt_ne _ _ (Ne.symm hj)

theorem cancelIssue_frame_poll (c : Cfg) (s : State) (id : Nat) (o : Op) (posts : List (Nat × Bool × Res))
    (hd : s.drv = .poll) {j : Nat} (hj : j ≠ id) : (cancelIssue c s id o posts).ops[j]? = s.ops[j]? := by
  unfold cancelIssue
  simp only [getElem?_modAt_ne _ _ (Ne.symm hj)]
  rw [driverCancel_frame_poll c { s with ops := modAt (fun o => { o with cancelled := true }) s.ops id } id o posts hd hj]
  exact getElem?_modAt_ne _ _ (Ne.symm hj)

theorem cancelIssue_poll (c : Cfg) (s : State) (id : Nat) (o : Op) (posts : List (Nat × Bool × Res))
    (hd : s.drv = .poll) (hk : o.kind ≠ .blocking) :
    (cancelIssue c s id o posts).reg = upd s.reg o.fd ((s.reg o.fd).remove id) ∧
      (cancelIssue c s id o posts).armed = upd s.armed o.fd ((s.reg o.fd).remove id).event := by
  unfold cancelIssue driverCancel pollCancel; simp [hd, hk]

theorem driverCancel_iour (c : Cfg) (s : State) (id : Nat) (o : Op) (posts : List (Nat × Bool × Res))
    (hd : s.drv = .iour) : driverCancel c s id o posts = iourCancel c s id posts := by
  unfold driverCancel; rw [hd]

theorem iourCancel_at (c : Cfg) (hc : c.cancelPushRaw = true) (s : State) (id : Nat) (posts : List (Nat × Bool × Res))
    {x : Op} (hx : s.ops[id]? = some x) :
    0 < (iourCancel c s id posts).sqLen ∧
      ∃ z, (iourCancel c s id posts).ops[id]? = some z ∧ 0 < z.cancelSq ∧ z.cancelDropped = x.cancelDropped ∧
        z.cancelled = x.cancelled := by
  unfold iourCancel
  simp only [hc, if_true]
  split
  · exact ⟨by simp [queueCancel], _, modAt_get hx, by simp, rfl, rfl⟩
  · obtain ⟨y, hy, hs, hcd⟩ := (overflowDrain_quiet s posts).get hx
    exact ⟨by simp [queueCancel], _, modAt_get hy, by simp, hcd, hs.cancelled⟩

theorem cancelIssue_cancelled (c : Cfg) (s : State) (id : Nat) (o : Op) (posts : List (Nat × Bool × Res)) {x : Op}
    (hx : s.ops[id]? = some x) :
    ∃ x', (cancelIssue c s id o posts).ops[id]? = some x' ∧ x'.cancelled = true := by
  unfold cancelIssue
  have h1 : ({ s with ops := modAt (fun o => { o with cancelled := true }) s.ops id } : State).ops[id]?
      = some { x with cancelled := true } := modAt_get hx
  obtain ⟨x2, h2, _, hc⟩ := (driverCancel_rel c _ id o posts).get h1
  exact ⟨_, modAt_get h2, hc⟩

theorem cancelTok_cancelled (c : Cfg) (s : State) (id : Nat) {o : Op} (posts : List (Nat × Bool × Res))
    (ho : s.ops[id]? = some o) : ∃ x', (cancelTok c s id o posts).ops[id]? = some x' ∧ x'.cancelled = true := by
  unfold cancelTok
  have h0 : ({ s with ops := modAt (fun o => ({ o.cloneRef with user := o.user + 1 } : Op)) s.ops id } : State).ops[id]?
      = some { o.cloneRef with user := o.user + 1 } := modAt_get ho
  split
  · exact ⟨_, modAt_get h0, rfl⟩
  · exact cancelIssue_cancelled c _ id _ posts h0

theorem tokenCancel_effect {c : Cfg} {s s' : State} {id : Nat} {posts : List (Nat × Bool × Res)}
    (h : step c s (.tokenCancel id posts) = some s') :
    (∀ j x, j ≠ id → s.ops[j]? = some x → ∃ x', s'.ops[j]? = some x' ∧ Same x x') ∧
      (∀ o, s.ops[id]? = some o → ∃ x, s'.ops[id]? = some x ∧ (x.cancelled = true ∨ x.rc = 0)) ∧
      (∀ o, s.ops[id]? = some o → o.rc = 0 → s' = s) := by
  cases Step.of_step h with
  | tokenDead ho _ hrc =>
    exact ⟨fun j x _ hx => ⟨x, hx, Same.rfl' x⟩, fun o' ho' => by
      rw [ho] at ho'; obtain rfl := Option.some.inj ho'; exact ⟨_, ho, .inr hrc⟩, fun _ _ _ => rfl⟩
  | tokenCancel ho _ hrc =>
    exact ⟨fun j x hj hx => ((cancelTok_spares c s id _ posts).others.get hx).imp fun _ h => ⟨h.1, h.2 hj⟩, fun o' ho' => by
      rw [ho] at ho'; obtain rfl := Option.some.inj ho'; exact (cancelTok_cancelled c s id posts ho).imp fun _ h => ⟨h.1, .inl h.2⟩,
      fun o' ho' h0 => by rw [ho] at ho'; obtain rfl := Option.some.inj ho'; exact absurd h0 hrc⟩

theorem cloneCancel_effect {c : Cfg} {s s' : State} {id : Nat} {posts : List (Nat × Bool × Res)}
    (h : step c s (.cloneCancel id posts) = some s') :
    (∀ (j : Nat) (x : Op), j ≠ id → s.ops[j]? = some x → ∃ x', s'.ops[j]? = some x' ∧ Same x x') ∧
      ∃ x, s'.ops[id]? = some x ∧ x.cancelled = true := by
  cases Step.of_step h with
  | @cloneCancel _ _ o ho =>
    have h0 : ({ s with ops := modAt (fun o => ({ o.cloneRef with user := o.user + 1 } : Op)) s.ops id } :
        State).ops[id]? = some { o.cloneRef with user := o.user + 1 } := modAt_get ho
    refine ⟨fun j x hj hx => ?_, ?_⟩
    · obtain ⟨x', hx', hs⟩ := ((Spares.modAt id _ s).trans (cancelKey_spares c _ id _ posts)).others.get hx
      exact ⟨x', hx', hs hj⟩
    · unfold cancelKey
      split
      · rename_i hc
        exact ⟨_, modAt_get h0, hc⟩
      · split
        · exact ⟨_, modAt_get h0, rfl⟩
        · exact cancelIssue_cancelled c _ id _ posts h0

theorem tokenDrop_effect {c : Cfg} {s s' : State} {id : Nat} (h : step c s (.tokenDrop id) = some s') :
    (∀ j, j ≠ id → s'.ops[j]? = s.ops[j]?) ∧
      (∀ o, s.ops[id]? = some o → ∃ x, s'.ops[id]? = some x ∧ x.cancelled = o.cancelled ∧ x.rc = o.rc) := by
  cases Step.of_step h with
  | tokenDrop => exact ⟨fun j hj => getElem?_modAt_ne _ _ (Ne.symm hj), fun o' ho' => ⟨_, modAt_get ho', rfl, rfl⟩⟩

/-- the pair of events `CancelToken::cancel()` issues for a registered op `a`, seen from op `i`: spared if `i ≠ a`,
dealt with (flagged, or released before) if `i = a`, and what was dealt with stays so -/
theorem tokenCancelDrop_effect {c : Cfg} {s s1 s2 : State} {a : Nat} {posts : List (Nat × Bool × Res)}
    (h1 : step c s (.tokenCancel a posts) = some s1) (h2 : step c s1 (.tokenDrop a) = some s2) {i : Nat} {x : Op}
    (hx : s.ops[i]? = some x) :
    ∃ x2, s2.ops[i]? = some x2 ∧ (i ≠ a → Same x x2) ∧ (i = a → x2.cancelled = true ∨ x2.rc = 0) ∧
      (x.cancelled = true ∨ x.rc = 0 → x2.cancelled = true ∨ x2.rc = 0) := by
  obtain ⟨f1, c1, _⟩ := tokenCancel_effect h1
  obtain ⟨f2, c2⟩ := tokenDrop_effect h2
  by_cases hia : i = a
  · subst hia
    obtain ⟨y, hy, hyd⟩ := c1 x hx
    obtain ⟨z, hz, hzc, hzr⟩ := c2 y hy
    have hd : z.cancelled = true ∨ z.rc = 0 := hyd.imp hzc.trans hzr.trans
    exact ⟨z, hz, fun e => absurd rfl e, fun _ => hd, fun _ => hd⟩
  · obtain ⟨y, hy, hs⟩ := f1 i x hia hx
    exact ⟨y, by rw [f2 i hia]; exact hy, fun _ => hs, fun e => absurd e hia,
      fun hd => hd.imp (fun h => hs.cancelled.trans h) hs.dead⟩

theorem submit_op {c : Cfg} {s s' : State} (h : step c s .submit = some s') {id : Nat} {x : Op}
    (hx : s.ops[id]? = some x) : s'.ops[id]? = some x.submit := by
  cases Step.of_step h with
  | submit => exact map_get hx

theorem kPost_final_op {c : Cfg} {s s' : State} {id : Nat} {r : Res} (h : step c s (.kPost id false r) = some s')
    {x : Op} (hx : s.ops[id]? = some x) :
    s'.ops[id]? = some { x with pendFinal := some r, kstat := .done, produced := x.produced ++ [r] } := by
  obtain ⟨_, _, _, _, _, ⟨hm, _⟩ | ⟨_, rfl⟩⟩ := kPostStep_cases (step_kPost_eq c .. ▸ h)
  · cases hm
  · exact modAt_get hx

theorem pollEntries_op {c : Cfg} {s s' : State} (h : step c s .pollEntries = some s') {id : Nat} {x : Op}
    (hx : s.ops[id]? = some x) : s'.ops[id]? = some x.drainCq := by
  cases Step.of_step h with
  | pollEntries => exact map_get hx

theorem submit_fix {o : Op} (h3 : o.cancelSq = 0) (h4 : o.kstat ≠ .queued) : o.submit = o := by
  cases o
  simp only at h3 h4
  simp [Op.submit, h3, h4]

theorem drainCq_fix {o : Op} (h1 : o.pendMore = []) (h2 : o.pendFinal = none) : o.drainCq = o := by
  cases o
  simp only at h1 h2
  simp [Op.drainCq, h1, h2]

end Compio.KeyLife
