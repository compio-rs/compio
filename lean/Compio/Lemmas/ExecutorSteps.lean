/-
Monotone facts about a task (cancellation is never undone, a consumed handle never comes back, counters only grow) by
induction over the primitive steps by which every program changes it (`Mono`, `taskSteps_mono`; the steps are the
`steps` field of `apply_eff` / `foldl_eff`); a freed task has no step left (`frozen_after_free`). Then whole ticks, told
against the state before `drain_sync` (`tick_spec`), and the bounds within which a hot, a cancelled or a remotely woken
task is reached by several ticks in a row (`tickN_visits`, `tickN_reaps_cancelled`, `tickN_polls_scheduled`).
-/
import Compio.Lemmas.ExecutorOps

namespace Compio.Executor
open Compio.TaskWord Compio.Gen

/-- facts that only ever go one way along the life of a task -/
structure Mono (a b : TaskSt) : Prop where
  /-- cancellation is never undone -/
  nc : b.word.notCancelled = true → a.word.notCancelled = true
  /-- a consumed handle never comes back, and then nobody takes the result -/
  hdl : a.handle = false → b.handle = false ∧ b.resTaken = a.resTaken
  polls : a.polls ≤ b.polls
  /-- a cancelled task is never polled again -/
  cpolls : a.word.notCancelled = false → b.polls = a.polls
  comp : a.word.completed = true → b.word.completed = true

theorem Mono.cancelled {a b : TaskSt} (h : Mono a b) (hc : a.word.notCancelled = false) :
    b.word.notCancelled = false :=
  Bool.eq_false_iff.mpr fun hn => Bool.noConfusion (hc.symm.trans (h.nc hn))

theorem Mono.refl (t : TaskSt) : Mono t t := ⟨id, fun h => ⟨h, rfl⟩, Nat.le_refl _, fun _ => rfl, id⟩

theorem Mono.trans {a b c : TaskSt} (h1 : Mono a b) (h2 : Mono b c) : Mono a c := by
  refine ⟨fun h => h1.nc (h2.nc h), ?_, Nat.le_trans h1.polls h2.polls, ?_, fun h => h2.comp (h1.comp h)⟩
  · intro h
    obtain ⟨hb, hr⟩ := h1.hdl h
    obtain ⟨hc, hr'⟩ := h2.hdl hb
    exact ⟨hc, by rw [hr', hr]⟩
  · intro h
    rw [h2.cpolls (h1.cancelled h), h1.cpolls h]

theorem Mono.of_keeps {a b : TaskSt} (nc : b.word.notCancelled = true → a.word.notCancelled = true)
    (hd : a.handle = false → b.handle = false ∧ b.resTaken = a.resTaken)
    (c : b.word.completed = a.word.completed) (p : b.polls = a.polls) : Mono a b :=
  ⟨nc, hd, Nat.le_of_eq p.symm, fun _ => p, fun h => c ▸ h⟩

theorem dropRef_mono (t : TaskSt) : Mono t (dropRef t) := by
  rw [dropRef_eq]; exact .of_keeps id (fun h => ⟨h, rfl⟩) rfl rfl

theorem taskDropByExecutor_mono (t : TaskSt) : Mono t (taskDropByExecutor t) := by
  rw [taskDropByExecutor_eq]; exact .of_keeps (fun h => nomatch h) (fun h => ⟨h, rfl⟩) rfl rfl

theorem cancelWord_mono (t : TaskSt) (b : Bool) : Mono t (cancelWord t b) := by
  rw [cancelWord_eq]; exact .of_keeps (fun h => nomatch h) (fun h => ⟨h, rfl⟩) rfl rfl

theorem runTask_mono (t : TaskSt) : Mono t (runTask t).1 := by
  cases hn : t.word.notCancelled
  · rw [runTask_cancelled t hn]
    refine Mono.trans (b := { t with word := TaskState.unschedule t.word }) ?_
      (Mono.trans (taskDropByExecutor_mono _) (dropRef_mono _))
    exact .of_keeps id (fun h => ⟨h, rfl⟩) rfl rfl
  · have key : t.polls ≤ (runTask t).1.polls ∧ (runTask t).1.handle = t.handle ∧
        (runTask t).1.resTaken = t.resTaken ∧ (t.word.completed = true → (runTask t).1.word.completed = true) := by
      rcases hs : t.script with _ | ⟨o, r⟩
      · simp [runTask, hn, hs]
      · cases o <;> simp [runTask, hn, hs, dropRef_eq, taskDropByExecutor_eq]
    exact ⟨fun _ => hn, fun h => ⟨key.2.1.trans h, key.2.2.1⟩, key.1, (fun hc => nomatch hn.symm.trans hc), key.2.2.2⟩

theorem taskStep_mono {r : Bool} {t b : TaskSt} (h : TaskStep r t b) : Mono t b := by
  have live {x : TaskSt} (hh : t.handle = true) (hf : t.handle = false) : x.handle = false ∧ x.resTaken = t.resTaken := by
    rw [hh] at hf; cases hf
  cases h with
  | poll w hh =>
    have ⟨h1, _, h3, h4, _⟩ := pollTask_keeps t w
    exact .of_keeps (fun h => h1 ▸ h) (live hh) h3 h4
  | rpoll w hh =>
    have ⟨h1, _, h3, h4⟩ := remotePollTask_keeps t w
    exact .of_keeps (fun h => h1 ▸ h) (live hh) h3 h4
  | hdrop hh =>
    have hc := cancelWord_mono t true
    exact Mono.trans (b := { cancelWord t true with handle := false })
      ⟨hc.nc, live hh, hc.polls, hc.cpolls, hc.comp⟩ (dropRef_mono _)
  | detach hh =>
    exact Mono.trans (b := { t with handle := false }) (.of_keeps id (live hh) rfl rfl) (dropRef_mono _)
  | cancel hh => exact cancelWord_mono t false
  | wdrop hw =>
    exact Mono.trans (b := { t with wakers := t.wakers - 1 }) (.of_keeps id (fun h => ⟨h, rfl⟩) rfl rfl) (dropRef_mono _)
  | sched x y _ => exact .of_keeps id (fun h => ⟨h, rfl⟩) rfl rfl
  | run _ _ => exact runTask_mono t
  | clear _ => exact Mono.trans (taskDropByExecutor_mono _) (dropRef_mono _)

theorem taskSteps_mono {r : Bool} {a b : TaskSt} (h : TaskSteps r a b) : Mono a b :=
  TaskSteps.induct Mono.refl (fun _ _ _ => Mono.trans) (fun _ _ => taskStep_mono) h

theorem taskSteps_norun_polls {a b : TaskSt} (h : TaskSteps false a b) : b.polls = a.polls := by
  refine TaskSteps.induct (R := fun a b => b.polls = a.polls) (fun _ => rfl) (fun _ _ _ h1 h2 => h2.trans h1) ?_ h
  intro a b hs
  cases hs with
  | poll w hh => exact (pollTask_keeps a w).2.2.2.1
  | rpoll w hh => exact (remotePollTask_keeps a w).2.2.2
  | hdrop hh => rw [dropRef_polls]; exact cancelWord_polls a true
  | detach hh => rw [dropRef_polls]
  | cancel hh => exact cancelWord_polls a false
  | wdrop hw => rw [dropRef_polls]
  | sched x y _ => rfl
  | run hr _ => cases hr
  | clear _ => simp [clearedTask, dropRef_polls, taskDropByExecutor_polls]

theorem frozen_after_free {e : Exec} (h : InvB e) {id : Nat} {t : TaskSt} (hg : e.get? id = some t)
    (hd : t.deallocs = 1) (op : Op) : (apply e op).get? id = some t := by
  have ht := h.inv.t id t hg
  obtain ⟨hin, hh, hw⟩ := ht.freed hd
  rw [hin] at ht
  have hnl : ¬ Live t := by
    rintro (h1 | h1 | h1)
    · rw [hh] at h1; cases h1
    · exact h1 hw
    · rw [ht.outq_fd rfl] at h1; cases h1
  obtain ⟨t', hg', hs⟩ := (apply_eff h op).1.steps id t hg
  rw [hs.frozen hnl] at hg'; exact hg'

/-- the state the loop of a `tick` starts from: the protocol budget reset, the sync queue drained to the hot tail -/
def tickStart (e : Exec) : Exec := drainSync { e with outstanding := 0 }

theorem tick_eq (e : Exec) (n : Nat) :
    tick e n = ((tickLoop n (tickStart e).hot.head? (tickStart e) []).1,
                (tickLoop n (tickStart e).hot.head? (tickStart e) []).2,
                !(tickLoop n (tickStart e).hot.head? (tickStart e) []).1.hot.isEmpty) := rfl

/-- `DrainFacts` restated for `tickStart e` against `e` itself (resetting `outstanding` changes nothing they read) -/
structure StartFacts (e : Exec) : Prop where
  inv : Inv (tickStart e)
  get : ∀ x, (tickStart e).get? x = e.get? x
  inMap : ∀ x, inMap (tickStart e) x = inMap e x
  hot : ∃ w, (tickStart e).hot = e.hot ++ w ∧ w.length ≤ e.sync.length ∧ ∀ x, x ∈ w → x ∈ e.cold ∧ x ∈ e.sync
  cold : ∀ x, x ∈ (tickStart e).cold ↔ (x ∈ e.cold ∧ x ∉ e.sync)
  inflight : (tickStart e).inflight = e.inflight

theorem tickStart_facts {e : Exec} (h : Inv e) : StartFacts e := by
  have h0 := h.outstanding 0
  have d := drainSync_facts h0
  exact ⟨d.inv, drainSync_get? _, fun x => drainSync_inMap h0 x, d.hot, d.cold, d.inflight⟩

theorem tickStart_hot_get {e : Exec} (h : Inv e) {p x : Nat} (hx : e.hot[p]? = some x) :
    (tickStart e).hot[p]? = some x := by
  obtain ⟨w, hw, _⟩ := (tickStart_facts h).hot
  rw [hw, List.getElem?_append_left (List.getElem?_eq_some_iff.mp hx).1]; exact hx

theorem LoopSpec.of_prefix {e' e : Exec} {n : Nat} {r : Exec × List Nat} (s : LoopSpec e' n r)
    {w : List Nat} (hw : e'.hot = e.hot ++ w) (hg : ∀ x, e'.get? x = e.get? x) : LoopSpec e n r := by
  have hl : liveB e' = liveB e := funext fun x => by rw [liveB, liveB, hg]
  obtain ⟨w1, h1⟩ := s.hot
  obtain ⟨ex, h2⟩ := s.log
  refine ⟨⟨_, by rw [h1, hw, List.drop_append, List.append_assoc]⟩,
    ⟨_, by rw [h2, hw, hl, List.take_append, List.filter_append, List.append_assoc]⟩, fun x hx hc => ?_⟩
  exact s.gone x (by rw [hw, List.take_append]; exact List.mem_append_left _ hx) ((liveIn_congr (hg x)).2.mpr hc)

/-- a whole `tick`, told against the state before `drain_sync`: the drained ids only lengthen the hot queue -/
theorem tick_spec {e : Exec} (h : Inv e) (n : Nat) : LoopSpec e n ((tick e n).1, (tick e n).2.1) :=
  let sf := tickStart_facts h
  let ⟨_, hw, _⟩ := sf.hot
  (tickLoop_spec n _ sf.inv).of_prefix hw sf.get

theorem reach_in_tickStart {e : Exec} (h : InvB e) {x : Nat} {t : TaskSt} (hg : e.get? x = some t)
    (hw : t.word.notCancelled = false ∨ t.word.scheduled = true) (hq : inMap e x = true) :
    x ∈ (tickStart e).hot := by
  have sf := tickStart_facts h.inv
  rcases (inMap_iff _ _).mp ((sf.inMap x).trans hq) with h1 | h1
  · exact h1
  · have := (sf.cold x).mp h1
    rcases h.inv.reach hg hw this.1 with h2 | h2
    · exact absurd h2 this.2
    · rw [h.idle] at h2; cases h2

/-- `k` consecutive ticks with `max_interval = n`; the concatenated poll logs -/
def tickN (e : Exec) (n : Nat) : Nat → Exec × List Nat
  | 0 => (e, [])
  | k + 1 => ((tickN (tick e n).1 n k).1, (tick e n).2.1 ++ (tickN (tick e n).1 n k).2)

theorem tickN_eff {e : Exec} (h : Inv e) (n k : Nat) : Eff true e (tickN e n k).1 := by
  induction k generalizing e with
  | zero => exact .refl h
  | succ k ih => exact (tick_eff h n).trans (ih (tick_inv h n))

theorem tickN_sub (n : Nat) : ∀ (k : Nat) {e : Exec}, Inv e →
    ∀ y, inMap (tickN e n k).1 y = true → inMap e y = true := by
  intro k
  induction k with
  | zero => intro e _ y hy; exact hy
  | succ k ihk =>
    intro e he y hy
    have := (tickLoop_sub n (tickStart e) (tickStart_facts he).inv).1 y (ihk (tick_inv he n) y hy)
    rw [(tickStart_facts he).inMap] at this; exact this

theorem tickN_visits {e : Exec} (h : Inv e) (n k : Nat) :
    ∀ p x, (tickStart e).hot[p]? = some x → p < k * n →
      (liveIn e x → x ∈ (tickN e n k).2) ∧ (cancelledIn e x → inMap (tickN e n k).1 x = false) := by
  induction k generalizing e with
  | zero => intro p x _ hp; omega
  | succ k ih =>
    intro p x hx hp
    have sf := tickStart_facts h
    have hlc := liveIn_congr (sf.get x)
    simp only [tickN]
    by_cases hpn : p < n
    · have hv := (tickLoop_spec n _ sf.inv).visit hx hpn
      refine ⟨fun hl => List.mem_append_left _ (hv.2 (hlc.1.mpr hl)), fun hc => Bool.eq_false_iff.mpr fun hin => ?_⟩
      -- removed by this tick, and no later tick brings a task back
      have hgone : inMap (tick e n).1 x = false := hv.1 (hlc.2.mpr hc)
      rw [tickN_sub n k (tick_inv h n) x hin] at hgone; cases hgone
    · have hs := (tickLoop_spec n _ sf.inv).shift hx (by omega)
      have ih' := ih (tick_inv h n) (p - n) x (tickStart_hot_get (tick_inv h n) hs) (by
        have : (k + 1) * n = k * n + n := Nat.succ_mul k n
        omega)
      refine ⟨fun hl => List.mem_append_right _ (ih'.1 ?_), fun hc => ih'.2 ?_⟩
      · exact (tickLoop_sub n _ sf.inv).2 x (hlc.1.mpr hl) ((inMap_iff _ _).mpr (Or.inl (List.mem_of_getElem? hs)))
      · obtain ⟨t, hg, hnc⟩ := hlc.2.mpr hc
        obtain ⟨t', hg', hst⟩ := tickLoop_steps n _ sf.inv x t hg
        exact ⟨t', hg', (taskSteps_mono hst).cancelled hnc⟩

theorem mem_getElem? {l : List Nat} {x : Nat} (h : x ∈ l) : ∃ p, p < l.length ∧ l[p]? = some x := by
  obtain ⟨p, hp, he⟩ := List.getElem_of_mem h
  exact ⟨p, hp, by simp [hp, he]⟩

theorem tickStart_hot_length {e : Exec} (h : Inv e) : (tickStart e).hot.length ≤ e.hot.length + e.sync.length := by
  obtain ⟨w, hw, hl, _⟩ := (tickStart_facts h).hot
  rw [hw]; simp; omega

theorem tickN_reaps_cancelled {e : Exec} (h : InvB e) (n k : Nat) {x : Nat}
    (hc : cancelledIn e x) (hk : e.hot.length + e.sync.length ≤ k * n) : inMap (tickN e n k).1 x = false := by
  cases hq : inMap e x
  · cases hin : inMap (tickN e n k).1 x
    · rfl
    · rw [tickN_sub n k h.inv x hin] at hq; cases hq
  · obtain ⟨p, hp, hx⟩ := mem_getElem? (let ⟨_, hg, hn⟩ := hc; reach_in_tickStart h hg (Or.inl hn) hq)
    have := tickStart_hot_length h.inv
    exact (tickN_visits h.inv n k p x hx (by omega)).2 hc

theorem tickN_polls_scheduled {e : Exec} (h : InvB e) (n k : Nat) {x : Nat} {t : TaskSt}
    (hg : e.get? x = some t) (hs : t.word.scheduled = true) (hl : t.word.notCancelled = true)
    (hq : inMap e x = true) (hk : e.hot.length + e.sync.length ≤ k * n) : x ∈ (tickN e n k).2 := by
  obtain ⟨p, hp, hx⟩ := mem_getElem? (reach_in_tickStart h hg (Or.inr hs) hq)
  have := tickStart_hot_length h.inv
  exact (tickN_visits h.inv n k p x hx (by omega)).1 ⟨t, hg, hl⟩

end Compio.Executor
