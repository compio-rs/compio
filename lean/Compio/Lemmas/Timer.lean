/-
The timer wheel model (Model/Timer.lean). The early returns of `update_waker`, `wake` and `poll_timer` are special
cases of their general branch (`updateWaker_eq`, `wake_eq`, `pollTimer_eq`); `WF` is what every operation keeps of a
wheel until an `insert` panics. For runs, two facts about one step carry the rest: a key leaves only by its own
`cancel` or by a `wake` at or after its deadline (`key_leaves`), and an issued key that is out stays out
(`absent_step`). A poll of a `Sleep` answers `sleepDone` and changes no key, so a `Timeout` polled between runs is
decided by its first poll that is not pending (`Timeout.drive_eq_iff`) and its worlds keep what runs keep. Last, the
facts that rest on tables extracted from the source (`tickBegin_*`, `tickEnd_*`, `pollWith_eq_wake`).
-/
import Compio.Model.Timer

namespace Compio.Timer

theorem Key.lt_irrefl (a : Key) : ¬ a.lt a := by
  unfold Key.lt; omega

theorem Key.lt_trans {a b c : Key} (h1 : a.lt b) (h2 : b.lt c) : a.lt c := by
  unfold Key.lt at *; omega

theorem Key.lt_asymm {a b : Key} (h : a.lt b) : ¬ b.lt a := by
  unfold Key.lt at *; omega

theorem Key.lt_total (a b : Key) : a.lt b ∨ a = b ∨ b.lt a := by
  cases a; cases b; simp only [Key.lt, Key.mk.injEq]; omega

theorem Key.lt_deadline_le {a b : Key} (h : a.lt b) : a.deadline ≤ b.deadline := by
  unfold Key.lt at h; omega

theorem Key.ne_of_lt {a b : Key} (h : a.lt b) : a ≠ b :=
  fun e => Key.lt_irrefl b (e ▸ h)

theorem lt_splitKey_iff (k : Key) (now : Nat) :
    k.lt (splitKey now) ↔ k.deadline < now ∨ (k.deadline = now ∧ k.gen < u64Max) := Iff.rfl

/-- the representation invariant of the map: keys strictly increasing -/
def Sorted (es : List Entry) : Prop := (keys es).Pairwise Key.lt

@[simp] theorem keys_nil : keys [] = [] := rfl

@[simp] theorem keys_cons (e : Entry) (es : List Entry) : keys (e :: es) = e.1 :: keys es := rfl

theorem mem_keys {k : Key} {es : List Entry} : k ∈ keys es ↔ ∃ v, (k, v) ∈ es := by
  simp [keys]

theorem mem_keys_of_mem {e : Entry} {es : List Entry} (h : e ∈ es) : e.1 ∈ keys es :=
  List.mem_map_of_mem h

theorem sorted_cons {e : Entry} {es : List Entry} :
    Sorted (e :: es) ↔ (∀ k ∈ keys es, e.1.lt k) ∧ Sorted es := List.pairwise_cons

theorem Sorted.nodup {es : List Entry} (h : Sorted es) : (keys es).Nodup :=
  List.Pairwise.imp Key.ne_of_lt h

theorem Sorted.filter {es : List Entry} (p : Entry → Bool) (h : Sorted es) : Sorted (es.filter p) :=
  List.Pairwise.sublist (List.filter_sublist.map _) h

theorem filter_split_sorted (p : Entry → Bool) (es : List Entry) (hs : Sorted es)
    (hp : ∀ a b : Entry, a.1.lt b.1 → p b = true → p a = true) :
    es.filter p ++ es.filter (fun e => !p e) = es := by
  induction es with
  | nil => rfl
  | cons e rest ih =>
    have ⟨hhead, hrest⟩ := sorted_cons.mp hs
    cases hpe : p e with
    | true => simp [hpe, ih hrest]
    | false =>
      -- `p` fails at the head, hence on all of the tail
      have h1 : rest.filter p = [] := List.filter_eq_nil_iff.mpr fun x hx hpx => by
        simp [hp e x (hhead x.1 (mem_keys_of_mem hx)) hpx] at hpe
      have h2 := ih hrest
      rw [h1, List.nil_append] at h2
      simp [hpe, h1, h2]

theorem mem_insertEntry_self (k : Key) (v : Option Nat) (es : List Entry) : (k, v) ∈ insertEntry k v es := by
  fun_induction insertEntry k v es <;> simp [*]

theorem mem_insertEntry_of_ne (k : Key) (v : Option Nat) (es : List Entry) (e : Entry) (hne : e.1 ≠ k) :
    e ∈ insertEntry k v es ↔ e ∈ es := by
  have h1 (v') : e ≠ (k, v') := fun h => hne (h ▸ rfl)
  fun_induction insertEntry k v es <;> simp [*]

theorem mem_insertEntry_of_fresh (k : Key) (v : Option Nat) (es : List Entry) (e : Entry)
    (h : k ∉ keys es) : e ∈ insertEntry k v es ↔ e = (k, v) ∨ e ∈ es := by
  fun_induction insertEntry k v es with
  | case1 => simp
  | case2 => simp
  | case3 => simp at h
  | case4 k' v' rest _ _ ih =>
    rw [keys_cons, List.mem_cons, not_or] at h
    rw [List.mem_cons, ih h.2, List.mem_cons, or_left_comm]

theorem mem_keys_insertEntry (k : Key) (v : Option Nat) (es : List Entry) (k' : Key) :
    k' ∈ keys (insertEntry k v es) ↔ k' = k ∨ k' ∈ keys es := by
  fun_induction insertEntry k v es <;> simp [*, or_left_comm]

theorem sorted_insertEntry (k : Key) (v : Option Nat) (es : List Entry) (h : Sorted es) :
    Sorted (insertEntry k v es) := by
  fun_induction insertEntry k v es with
  | case1 => simp [Sorted]
  | case2 k' v' rest hlt =>
    have hhead := (sorted_cons.mp h).1
    exact sorted_cons.mpr ⟨List.forall_mem_cons.mpr ⟨hlt, fun x hx => Key.lt_trans hlt (hhead x hx)⟩, h⟩
  | case3 v' rest _ => exact h
  | case4 k' v' rest hnlt hne ih =>
    have ⟨hhead, hrest⟩ := sorted_cons.mp h
    refine sorted_cons.mpr ⟨fun x hx => ?_, ih hrest⟩
    rcases (mem_keys_insertEntry ..).mp hx with rfl | hx
    · exact ((Key.lt_total x k').resolve_left hnlt).resolve_left hne
    · exact hhead x hx

theorem keys_setValue (k : Key) (v : Option Nat) (es : List Entry) : keys (setValue k v es) = keys es := by
  fun_induction setValue k v es <;> simp [*]

theorem lookup_none_iff (k : Key) (es : List Entry) : lookup k es = none ↔ k ∉ keys es := by
  fun_induction lookup k es <;> simp [*]

theorem lookup_setValue_self (k : Key) (v : Option Nat) (es : List Entry) (h : k ∈ keys es) :
    lookup k (setValue k v es) = some v := by
  fun_induction setValue k v es <;> simp_all [lookup]

theorem lookup_setValue_ne (k k' : Key) (v : Option Nat) (es : List Entry) (hne : k' ≠ k) :
    lookup k' (setValue k v es) = lookup k' es := by
  fun_induction setValue k v es <;> simp [lookup, *]

theorem setValue_eq_self (k : Key) (v : Option Nat) (es : List Entry)
    (h : lookup k es = none ∨ lookup k es = some v) : setValue k v es = es := by
  fun_induction setValue k v es <;> simp_all [lookup]

theorem isCompleted_iff (w : Wheel) (k : Key) : isCompleted w k = true ↔ k ∉ keys w.entries := by
  simp [isCompleted]

theorem isCompleted_false_iff (w : Wheel) (k : Key) : isCompleted w k = false ↔ k ∈ keys w.entries := by
  simp [isCompleted]

/-- `update_waker` always leaves `wk` in the slot of `k`, if there is one: its two early returns
are the cases in which that write changes nothing -/
theorem updateWaker_eq (w : Wheel) (k : Key) (wk : Nat) :
    updateWaker w k wk = { w with entries := setValue k (some wk) w.entries } := by
  unfold updateWaker
  split
  next h => rw [setValue_eq_self _ _ _ (Or.inl h)]
  next old h =>
    split
    next heq => rw [setValue_eq_self _ _ _ (Or.inr (heq ▸ h))]
    next => rfl
  next => rfl

theorem updateWaker_keys (w : Wheel) (k : Key) (wk : Nat) :
    keys (updateWaker w k wk).entries = keys w.entries := by
  rw [updateWaker_eq]; exact keys_setValue ..

theorem updateWaker_gen (w : Wheel) (k : Key) (wk : Nat) : (updateWaker w k wk).gen = w.gen := by
  rw [updateWaker_eq]

/-- `update_waker` is a no-op on a completed key, so the branch of `poll_timer` that skips it is no
special case -/
theorem pollTimer_eq (w : Wheel) (k : Key) (wk : Nat) :
    pollTimer w k wk = (updateWaker w k wk, isCompleted w k) := by
  unfold pollTimer
  split
  next h =>
    rw [h, updateWaker_eq, setValue_eq_self _ _ _ (Or.inl ((lookup_none_iff ..).mpr ((isCompleted_iff ..).mp h)))]
  next h => simp [h]

theorem cancel_gen (w : Wheel) (k : Key) : (cancel w k).gen = w.gen := rfl

theorem mem_cancel (w : Wheel) (k : Key) (e : Entry) :
    e ∈ (cancel w k).entries ↔ e ∈ w.entries ∧ e.1 ≠ k := by
  simp [cancel]

theorem mem_keys_cancel (w : Wheel) (k k' : Key) :
    k' ∈ keys (cancel w k).entries ↔ k' ∈ keys w.entries ∧ k' ≠ k := by
  simp [mem_keys, mem_cancel]

theorem insert_due (w : Wheel) (now d : Nat) (h : d ≤ now) : insert w now d = (w, .none) := by
  simp [insert, h]

theorem insert_ok (w : Wheel) (now d : Nat) (h : now < d) (hg : w.gen < u64Max) :
    insert w now d = (⟨w.gen + 1, insertEntry ⟨d, w.gen⟩ none w.entries⟩, .some ⟨d, w.gen⟩) := by
  simp [insert, Nat.not_le.mpr h, Nat.not_le.mpr hg]

theorem insert_panic (w : Wheel) (now d : Nat) (h : now < d) (hg : u64Max ≤ w.gen) :
    insert w now d = ({ w with entries := insertEntry ⟨d, w.gen⟩ none w.entries }, .panic) := by
  simp [insert, Nat.not_le.mpr h, hg]

theorem insert_gen_le (w : Wheel) (now d : Nat) : w.gen ≤ (insert w now d).1.gen := by
  unfold insert
  split
  · exact Nat.le_refl _
  · split
    · exact Nat.le_refl _
    · exact Nat.le_succ _

theorem insert_bound (w : Wheel) (now d : Nat) (h : w.gen ≤ u64Max) : (insert w now d).1.gen ≤ u64Max := by
  unfold insert
  split
  · exact h
  · split
    · exact h
    · simp only []; omega

theorem insert_some {w : Wheel} {now d : Nat} {k : Key} (h : (insert w now d).2 = .some k) :
    k = ⟨d, w.gen⟩ ∧ (insert w now d).1.gen = w.gen + 1 ∧ now < d := by
  unfold insert at h ⊢
  split at h
  · cases h
  · next hd =>
    rw [if_neg hd]
    split at h
    · cases h
    · next hg => rw [if_neg hg]; exact ⟨(InsertRes.some.inj h).symm, rfl, Nat.not_le.mp hd⟩

theorem mem_keys_insert (w : Wheel) (now d : Nat) (k : Key) :
    k ∈ keys (insert w now d).1.entries ↔
      k ∈ keys w.entries ∨ (now < d ∧ k = ⟨d, w.gen⟩) := by
  unfold insert
  split
  next h => simp [Nat.not_lt.mpr h]
  next h => split <;> simp [mem_keys_insertEntry, Nat.not_le.mp h, or_comm]

theorem insert_sorted (w : Wheel) (now d : Nat) (h : Sorted w.entries) : Sorted (insert w now d).1.entries := by
  unfold insert
  split
  · exact h
  · split <;> exact sorted_insertEntry _ _ _ h

theorem insert_fresh {w : Wheel} {now d : Nat} (h : ∀ k ∈ keys w.entries, k.gen < w.gen)
    (hnp : (insert w now d).2 ≠ .panic) :
    ∀ k ∈ keys (insert w now d).1.entries, k.gen < (insert w now d).1.gen := by
  intro k hk
  rcases (mem_keys_insert ..).mp hk with hk | ⟨hlt, rfl⟩
  · exact Nat.lt_of_lt_of_le (h k hk) (insert_gen_le w now d)
  · by_cases hg : w.gen < u64Max
    · rw [insert_ok w now d hlt hg]; exact Nat.lt_succ_self _
    · rw [insert_panic w now d hlt (Nat.not_lt.mp hg)] at hnp
      exact absurd rfl hnp

theorem minTimeout_some {w : Wheel} {now t : Nat} (h : minTimeout w now = some t) :
    ∃ k v rest, w.entries = (k, v) :: rest ∧ t = k.deadline - now := by
  unfold minTimeout at h
  split at h
  · cases h
  · next k v rest he => exact ⟨k, v, rest, he, (Option.some.inj h).symm⟩

theorem wake_eq (w : Wheel) (now : Nat) :
    wake w now = ({ w with entries := w.entries.filter fun e => ¬ e.1.lt (splitKey now) },
      w.entries.filter fun e => e.1.lt (splitKey now)) := by
  unfold wake
  split
  next h => cases w; simp_all
  next => rfl

theorem wake_gen (w : Wheel) (now : Nat) : (wake w now).1.gen = w.gen := by
  rw [wake_eq]

theorem mem_wake_pending (w : Wheel) (now : Nat) (e : Entry) :
    e ∈ (wake w now).1.entries ↔ e ∈ w.entries ∧ ¬ e.1.lt (splitKey now) := by
  simp [wake_eq]

theorem mem_wake_expired (w : Wheel) (now : Nat) (e : Entry) :
    e ∈ (wake w now).2 ↔ e ∈ w.entries ∧ e.1.lt (splitKey now) := by
  simp [wake_eq]

theorem mem_keys_wake (w : Wheel) (now : Nat) (k : Key) :
    k ∈ keys (wake w now).1.entries ↔ k ∈ keys w.entries ∧ ¬ k.lt (splitKey now) := by
  simp [mem_keys, mem_wake_pending]

/-- `wake now` leaves no key whose deadline has been reached, except the one the split point
`(now, u64::MAX)` spares: deadline `now`, generation `u64::MAX` -/
theorem wake_pending {w : Wheel} {now : Nat} {k : Key} (hk : k ∈ keys (wake w now).1.entries)
    (hg : k.gen < u64Max) : now < k.deadline := by
  have hn := ((mem_keys_wake w now k).mp hk).2
  rw [lt_splitKey_iff] at hn
  omega

theorem wake_sorted (w : Wheel) (now : Nat) (h : Sorted w.entries) : Sorted (wake w now).1.entries := by
  rw [wake_eq]
  exact h.filter _

/-- What holds of a wheel as long as no `insert` has panicked. -/
structure WF (w : Wheel) : Prop where
  sorted : Sorted w.entries
  fresh : ∀ k ∈ keys w.entries, k.gen < w.gen
  bound : w.gen ≤ u64Max

theorem WF.new : WF Wheel.new := ⟨List.Pairwise.nil, by simp [Wheel.new], Nat.zero_le _⟩

theorem WF.insert {w : Wheel} (h : WF w) (now d : Nat) (hnp : (insert w now d).2 ≠ .panic) :
    WF (insert w now d).1 :=
  ⟨insert_sorted w now d h.sorted, insert_fresh h.fresh hnp, insert_bound w now d h.bound⟩

theorem WF.updateWaker {w : Wheel} (h : WF w) (k : Key) (wk : Nat) : WF (updateWaker w k wk) := by
  refine ⟨?_, ?_, ?_⟩
  · unfold Sorted; rw [updateWaker_keys]; exact h.sorted
  · rw [updateWaker_keys, updateWaker_gen]; exact h.fresh
  · rw [updateWaker_gen]; exact h.bound

theorem WF.cancel {w : Wheel} (h : WF w) (k : Key) : WF (cancel w k) :=
  ⟨Sorted.filter _ h.sorted, fun k' hk' => h.fresh k' ((mem_keys_cancel w k k').mp hk').1, h.bound⟩

theorem WF.wake {w : Wheel} (h : WF w) (now : Nat) : WF (wake w now).1 := by
  refine ⟨wake_sorted w now h.sorted, fun k hk => ?_, ?_⟩ <;> rw [wake_gen]
  · exact h.fresh k ((mem_keys_wake w now k).mp hk).1
  · exact h.bound

theorem WF.pollTimer {w : Wheel} (h : WF w) (k : Key) (wk : Nat) : WF (pollTimer w k wk).1 := by
  rw [pollTimer_eq]; exact h.updateWaker k wk

theorem run_append (s : World) (a b : List Op) : run s (a ++ b) = run (run s a) b := by
  induction a generalizing s with
  | nil => rfl
  | cons op rest ih => exact ih _

theorem run_induct {P : World → Prop} {s : World} {ops : List Op} (h : P s)
    (hstep : ∀ s, ∀ op ∈ ops, P s → P (step s op).1) : P (run s ops) := by
  induction ops generalizing s with
  | nil => exact h
  | cons op rest ih =>
    exact ih (hstep s op List.mem_cons_self h) fun s op hop => hstep s op (List.mem_cons_of_mem _ hop)

theorem step_now_le (s : World) (op : Op) : s.now ≤ (step s op).1.now := by
  cases op <;> simp [step]

theorem run_now_le (s : World) (ops : List Op) : s.now ≤ (run s ops).now :=
  run_induct (P := fun t => s.now ≤ t.now) (Nat.le_refl _) fun t op _ h => Nat.le_trans h (step_now_le t op)

theorem step_gen_le (s : World) (op : Op) : s.wheel.gen ≤ (step s op).1.wheel.gen := by
  cases op <;> simp [step, pollTimer_eq, updateWaker_gen, wake_gen, cancel_gen, insert_gen_le]

theorem run_gen_le (s : World) (ops : List Op) : s.wheel.gen ≤ (run s ops).wheel.gen :=
  run_induct (P := fun t => s.wheel.gen ≤ t.wheel.gen) (Nat.le_refl _)
    fun t op _ h => Nat.le_trans h (step_gen_le t op)

theorem step_bound (s : World) (op : Op) (h : s.wheel.gen ≤ u64Max) : (step s op).1.wheel.gen ≤ u64Max := by
  cases op <;> simp [step, pollTimer_eq, updateWaker_gen, wake_gen, cancel_gen, insert_bound, h]

theorem run_bound (s : World) (ops : List Op) (h : s.wheel.gen ≤ u64Max) : (run s ops).wheel.gen ≤ u64Max :=
  run_induct (P := fun t => t.wheel.gen ≤ u64Max) h fun t op _ => step_bound t op

theorem step_sorted (s : World) (op : Op) (h : Sorted s.wheel.entries) :
    Sorted (step s op).1.wheel.entries := by
  cases op with
  | insert d => exact insert_sorted _ _ _ h
  | cancel k => exact h.filter _
  | wake => exact wake_sorted _ _ h
  | advance dt => exact h
  | _ => unfold Sorted; simp only [step, pollTimer_eq, updateWaker_keys]; exact h

theorem step_wf (s : World) (op : Op) (h : WF s.wheel) (hnp : (step s op).2 ≠ .ins .panic) :
    WF (step s op).1.wheel := by
  cases op with
  | insert d => exact h.insert _ _ fun hp => hnp (congrArg Out.ins hp)
  | updateWaker k wk => exact h.updateWaker k wk
  | cancel k => exact h.cancel k
  | wake => exact h.wake _
  | pollTimer k wk => exact h.pollTimer k wk
  | advance dt => exact h

/-- the keys a run has handed out, in order -/
def issued : List Out → List Key
  | [] => []
  | .ins (.some k) :: rest => k :: issued rest
  | _ :: rest => issued rest

theorem step_issued {s : World} {op : Op} {k : Key} (h : (step s op).2 = .ins (.some k)) :
    k.gen = s.wheel.gen ∧ (step s op).1.wheel.gen = s.wheel.gen + 1 := by
  cases op with
  | insert d =>
    have ⟨hk, hg, _⟩ := insert_some (Out.ins.inj h)
    exact ⟨hk ▸ rfl, hg⟩
  | _ => cases h

theorem key_leaves (s : World) (op : Op) (k : Key) (hin : k ∈ keys s.wheel.entries)
    (hout : k ∉ keys (step s op).1.wheel.entries) :
    op = .cancel k ∨ (op = .wake ∧ k.deadline ≤ s.now) := by
  cases op with
  | insert d => exact absurd ((mem_keys_insert ..).mpr (Or.inl hin)) hout
  | cancel k' =>
    by_cases hk : k = k'
    · exact Or.inl (hk ▸ rfl)
    · exact absurd ((mem_keys_cancel ..).mpr ⟨hin, hk⟩) hout
  | wake =>
    have hlt : k.lt (splitKey s.now) :=
      Classical.not_not.mp fun hn => hout ((mem_keys_wake ..).mpr ⟨hin, hn⟩)
    rw [lt_splitKey_iff] at hlt
    exact Or.inr ⟨rfl, by omega⟩
  | _ => simp [step, pollTimer_eq, updateWaker_keys, hin] at hout

theorem absent_step (s : World) (op : Op) (k : Key) (hout : k ∉ keys s.wheel.entries)
    (hg : k.gen < s.wheel.gen) : k ∉ keys (step s op).1.wheel.entries := by
  cases op with
  | insert d =>
    rintro h
    rcases (mem_keys_insert ..).mp h with h | ⟨_, rfl⟩
    · exact hout h
    · exact Nat.lt_irrefl _ hg
  | cancel k' => exact fun h => hout ((mem_keys_cancel ..).mp h).1
  | wake => exact fun h => hout ((mem_keys_wake ..).mp h).1
  | _ => simp [step, pollTimer_eq, updateWaker_keys, hout]

theorem absent_run (s : World) (ops : List Op) (k : Key) (hout : k ∉ keys s.wheel.entries)
    (hg : k.gen < s.wheel.gen) : k ∉ keys (run s ops).wheel.entries :=
  (run_induct (P := fun t => k ∉ keys t.wheel.entries ∧ k.gen < t.wheel.gen) ⟨hout, hg⟩
    fun t op _ h => ⟨absent_step t op k h.1 h.2, Nat.lt_of_lt_of_le h.2 (step_gen_le t op)⟩).1

/-- `k` is still registered, or its deadline has been reached: what every step but `cancel k` keeps, and why a
key that is gone was due -/
def Inv (k : Key) (s : World) : Prop := k ∈ keys s.wheel.entries ∨ k.deadline ≤ s.now

theorem inv_step (s : World) (op : Op) (k : Key) (h : Inv k s) (hc : op ≠ .cancel k) :
    Inv k (step s op).1 := by
  rcases h with h | h
  · by_cases hin : k ∈ keys (step s op).1.wheel.entries
    · exact Or.inl hin
    · rcases key_leaves s op k h hin with h1 | ⟨_, h1⟩
      · exact absurd h1 hc
      · exact Or.inr (Nat.le_trans h1 (step_now_le s op))
  · exact Or.inr (Nat.le_trans h (step_now_le s op))

theorem inv_run (s : World) (ops : List Op) (k : Key) (h : Inv k s) (hc : Op.cancel k ∉ ops) :
    Inv k (run s ops) :=
  run_induct h fun t op hop ht => inv_step t op k ht fun e => hc (e ▸ hop)

/-- once `kb` is out of the wheel, so is `ka` -/
def Before (ka kb : Key) (s : World) : Prop :=
  kb ∉ keys s.wheel.entries → ka ∉ keys s.wheel.entries

/-- `kb` leaves by a `wake` at or after its deadline, which is at or after that of `ka`: the same
`wake` takes `ka` along -/
theorem before_step (s : World) (op : Op) (ka kb : Key) (hd : ka.deadline ≤ kb.deadline)
    (hga : ka.gen < s.wheel.gen) (hb : s.wheel.gen ≤ u64Max) (h : Before ka kb s)
    (hc : op ≠ .cancel kb) : Before ka kb (step s op).1 := by
  intro hout
  by_cases hin : kb ∈ keys s.wheel.entries
  · rcases key_leaves s op kb hin hout with h1 | ⟨rfl, h2⟩
    · exact absurd h1 hc
    · intro hka
      have := wake_pending hka (Nat.lt_of_lt_of_le hga hb)
      omega
  · exact absent_step s op ka (h hin) hga

theorem before_run (s : World) (ops : List Op) (ka kb : Key) (hd : ka.deadline ≤ kb.deadline)
    (hga : ka.gen < s.wheel.gen) (hb : s.wheel.gen ≤ u64Max) (h : Before ka kb s)
    (hc : Op.cancel kb ∉ ops) : Before ka kb (run s ops) :=
  (run_induct (P := fun t => (ka.gen < t.wheel.gen ∧ t.wheel.gen ≤ u64Max) ∧ Before ka kb t)
    ⟨⟨hga, hb⟩, h⟩ fun t op hop ht =>
      ⟨⟨Nat.lt_of_lt_of_le ht.1.1 (step_gen_le t op), step_bound t op ht.1.2⟩,
        before_step t op ka kb hd ht.1.1 ht.1.2 ht.2 fun e => hc (e ▸ hop)⟩).2

/-- what a poll of the sleep will find: no timer was needed, or the key has left the wheel -/
def sleepDone (w : Wheel) (s : Sleep) : Bool :=
  match s.key with
  | none => true
  | some k => isCompleted w k

theorem Sleep.poll_ready (w : Wheel) (s : Sleep) (wk : Nat) : (Sleep.poll w s wk).2 = sleepDone w s := by
  unfold Sleep.poll sleepDone
  cases s.key with
  | none => rfl
  | some k => simp only [pollTimer_eq]

theorem Sleep.poll_keys (w : Wheel) (s : Sleep) (wk : Nat) :
    keys (Sleep.poll w s wk).1.entries = keys w.entries := by
  unfold Sleep.poll
  split
  · rfl
  · rw [pollTimer_eq]; exact updateWaker_keys ..

theorem Sleep.poll_gen (w : Wheel) (s : Sleep) (wk : Nat) : (Sleep.poll w s wk).1.gen = w.gen := by
  unfold Sleep.poll
  split
  · rfl
  · rw [pollTimer_eq]; exact updateWaker_gen ..

theorem Sleep.poll_wf {w : Wheel} (h : WF w) (s : Sleep) (wk : Nat) : WF (Sleep.poll w s wk).1 := by
  unfold Sleep.poll
  split
  · exact h
  · exact h.pollTimer _ _

theorem Sleep.new_some {w w' : Wheel} {now d : Nat} {slp : Sleep}
    (h : Sleep.new w now d = (w', some slp)) :
    (slp.key = none ∧ d ≤ now) ∨ ∃ k, slp.key = some k ∧ k.deadline = d ∧ k ∈ keys w'.entries := by
  unfold Sleep.new at h
  by_cases hd : d ≤ now
  · rw [insert_due w now d hd] at h
    simp only [Prod.mk.injEq, Option.some.injEq] at h
    exact Or.inl ⟨h.2 ▸ rfl, hd⟩
  · by_cases hg : w.gen < u64Max
    · rw [insert_ok w now d (Nat.not_le.mp hd) hg] at h
      simp only [Prod.mk.injEq, Option.some.injEq] at h
      obtain ⟨rfl, rfl⟩ := h
      exact Or.inr ⟨_, rfl, rfl, (mem_keys_insertEntry ..).mpr (Or.inl rfl)⟩
    · rw [insert_panic w now d (Nat.not_le.mp hd) (Nat.not_lt.mp hg)] at h
      simp at h

theorem Timeout.poll_eq (w : Wheel) (s : Sleep) (inner : Bool) (wk : Nat) :
    Timeout.poll w s inner wk =
      if inner then (w, .ok)
      else ((Sleep.poll w s wk).1, if sleepDone w s then .elapsed else .pending) := by
  unfold Timeout.poll
  rw [← Sleep.poll_ready w s wk]
  cases inner
  · cases Sleep.poll w s wk with
    | mk w' r => cases r <;> rfl
  · rfl

/-- the world after a poll of the sleep: a pending poll has stored the waker, nothing else -/
def afterPoll (s : World) (slp : Sleep) (wk : Nat) : World := ⟨s.now, (Sleep.poll s.wheel slp wk).1⟩

theorem sleepDone_afterPoll (s : World) (slp slp' : Sleep) (wk : Nat) :
    sleepDone (afterPoll s slp wk).wheel slp' = sleepDone s.wheel slp' := by
  unfold sleepDone isCompleted afterPoll
  rw [Sleep.poll_keys]

theorem Timeout.drive_nil (s : World) (slp : Sleep) (wk : Nat) :
    Timeout.drive s slp wk [] = (s, .pending) := rfl

theorem Timeout.drive_cons (s : World) (slp : Sleep) (wk : Nat) (ops : List Op) (inner : Bool)
    (rest : List (List Op × Bool)) :
    Timeout.drive s slp wk ((ops, inner) :: rest) =
      if inner then (run s ops, .ok)
      else if sleepDone (run s ops).wheel slp then (afterPoll (run s ops) slp wk, .elapsed)
      else Timeout.drive (afterPoll (run s ops) slp wk) slp wk rest := by
  rw [Timeout.drive, Timeout.poll_eq]
  cases inner
  · cases sleepDone (run s ops).wheel slp <;> rfl
  · rfl

/-- the world in which poll number `j` of the timeout happens, if all earlier polls were pending -/
def worldAt (s : World) (slp : Sleep) (wk : Nat) : List (List Op × Bool) → Nat → World
  | [], _ => s
  | (ops, _) :: _, 0 => run s ops
  | (ops, _) :: rest, j + 1 => worldAt (afterPoll (run s ops) slp wk) slp wk rest j

/-- polls `0 .. i - 1` of the timeout were pending: inner future not ready, sleep not expired -/
def PendingBefore (s : World) (slp : Sleep) (wk : Nat) (rounds : List (List Op × Bool)) (i : Nat) : Prop :=
  ∀ j, j < i → (∃ ops, rounds[j]? = some (ops, false)) ∧
    sleepDone (worldAt s slp wk rounds j).wheel slp = false

theorem pendingBefore_zero (s : World) (slp : Sleep) (wk : Nat) (rounds : List (List Op × Bool)) :
    PendingBefore s slp wk rounds 0 :=
  fun _ hj => absurd hj (Nat.not_lt_zero _)

theorem pendingBefore_succ (s : World) (slp : Sleep) (wk : Nat) (ops : List Op) (b : Bool)
    (rest : List (List Op × Bool)) (i : Nat) :
    PendingBefore s slp wk ((ops, b) :: rest) (i + 1) ↔
      (b = false ∧ sleepDone (run s ops).wheel slp = false) ∧
        PendingBefore (afterPoll (run s ops) slp wk) slp wk rest i := by
  unfold PendingBefore
  rw [Nat.forall_lt_succ_left]
  simp only [List.getElem?_cons_zero, List.getElem?_cons_succ, worldAt, Option.some.injEq,
    Prod.mk.injEq, exists_and_right, exists_eq', true_and]

theorem Timeout.drive_eq_iff (s : World) (slp : Sleep) (wk : Nat) (rounds : List (List Op × Bool))
    (r : TimeoutPoll) (hr : r ≠ .pending) :
    (Timeout.drive s slp wk rounds).2 = r ↔
      ∃ i ops b, rounds[i]? = some (ops, b) ∧ PendingBefore s slp wk rounds i ∧
        (Timeout.poll (worldAt s slp wk rounds i).wheel slp b wk).2 = r := by
  induction rounds generalizing s with
  | nil => simpa [Timeout.drive_nil] using hr.symm
  | cons rd rest ih =>
    obtain ⟨ops, b⟩ := rd
    by_cases hp : b = false ∧ sleepDone (run s ops).wheel slp = false
    · -- poll 0 is pending: `drive` goes on with the other rounds, whose poll `i` is poll `i + 1` here
      obtain ⟨rfl, hd⟩ := hp
      simp only [Timeout.drive_cons, hd, Bool.false_eq_true, if_false]
      rw [ih]
      constructor
      · rintro ⟨i, ops', b', hi, hpb, hres⟩
        exact ⟨i + 1, ops', b', hi, (pendingBefore_succ ..).mpr ⟨⟨rfl, hd⟩, hpb⟩, hres⟩
      · rintro ⟨i, ops', b', hi, hpb, hres⟩
        cases i with
        | zero =>
          obtain ⟨rfl, rfl⟩ : ops = ops' ∧ false = b' := by simpa using hi
          change (Timeout.poll (run s ops).wheel slp false wk).2 = r at hres
          rw [Timeout.poll_eq, hd] at hres
          exact absurd hres.symm hr
        | succ i => exact ⟨i, ops', b', hi, ((pendingBefore_succ ..).mp hpb).2, hres⟩
    · -- poll 0 decides, and no later poll is reached
      have h0 : (Timeout.drive s slp wk ((ops, b) :: rest)).2 =
          (Timeout.poll (run s ops).wheel slp b wk).2 := by
        rw [Timeout.drive_cons, Timeout.poll_eq]
        cases b
        · cases hd : sleepDone (run s ops).wheel slp
          · exact absurd ⟨rfl, hd⟩ hp
          · rfl
        · rfl
      rw [h0]
      constructor
      · exact fun h => ⟨0, ops, b, rfl, pendingBefore_zero _ _ _ _, h⟩
      · rintro ⟨i, ops', b', hi, hpb, hres⟩
        cases i with
        | zero =>
          obtain ⟨rfl, rfl⟩ : ops = ops' ∧ b = b' := by simpa using hi
          exact hres
        | succ i => exact absurd ((pendingBefore_succ ..).mp hpb).1 hp

theorem Timeout.drive_induct {P : World → Prop} {s : World} {slp : Sleep} {wk : Nat}
    {rounds : List (List Op × Bool)} (h : P s) (hrun : ∀ t, ∀ r ∈ rounds, P t → P (run t r.1))
    (hpoll : ∀ t, P t → P (afterPoll t slp wk)) : P (Timeout.drive s slp wk rounds).1 := by
  induction rounds generalizing s with
  | nil => exact h
  | cons rd rest ih =>
    obtain ⟨ops, b⟩ := rd
    have h1 := hrun s _ List.mem_cons_self h
    rw [Timeout.drive_cons]
    split
    · exact h1
    · split
      · exact hpoll _ h1
      · exact ih (hpoll _ h1) fun t r hr => hrun t r (List.mem_cons_of_mem _ hr)

theorem Timeout.drive_now_le (s : World) (slp : Sleep) (wk : Nat) (rounds : List (List Op × Bool)) :
    s.now ≤ (Timeout.drive s slp wk rounds).1.now :=
  Timeout.drive_induct (P := fun t => s.now ≤ t.now) (Nat.le_refl _)
    (fun t r _ h => Nat.le_trans h (run_now_le t r.1)) fun _ h => h

theorem Timeout.drive_inv (k : Key) (s : World) (slp : Sleep) (wk : Nat)
    (rounds : List (List Op × Bool)) (h : Inv k s) (hc : ∀ r ∈ rounds, Op.cancel k ∉ r.1) :
    Inv k (Timeout.drive s slp wk rounds).1 :=
  Timeout.drive_induct h (fun t r hr ht => inv_run t r.1 k ht (hc r hr))
    fun t ht => by unfold Inv afterPoll; rw [Sleep.poll_keys]; exact ht

theorem Timeout.drive_elapsed_done (s : World) (slp : Sleep) (wk : Nat)
    (rounds : List (List Op × Bool)) (h : (Timeout.drive s slp wk rounds).2 = .elapsed) :
    sleepDone (Timeout.drive s slp wk rounds).1.wheel slp = true := by
  induction rounds generalizing s with
  | nil => cases h
  | cons rd rest ih =>
    obtain ⟨ops, b⟩ := rd
    rw [Timeout.drive_cons] at h ⊢
    cases b
    · cases hd : sleepDone (run s ops).wheel slp
      · rw [hd] at h; exact ih _ h
      · simpa [sleepDone_afterPoll] using hd
    · cases h

theorem tick_first (iv : Interval) (now : Nat) (h : iv.firstTicked = false) :
    iv.tickDeadline now = .deadline iv.start := by
  simp [Interval.tickDeadline, h]

/-- the first multiple of `p` above `a`, the way `tick` computes it, and how far away it is -/
theorem next_multiple (a p : Nat) (hp : 0 < p) :
    a + p - a % p = (a / p + 1) * p ∧ a < (a / p + 1) * p ∧ (a / p + 1) * p ≤ a + p := by
  have hdm := Nat.div_add_mod a p
  have hlt := Nat.mod_lt a hp
  rw [Nat.add_mul, Nat.one_mul, Nat.mul_comm]
  generalize p * (a / p) = m at *
  omega

theorem tickDeadline_periodic (iv : Interval) (now : Nat) (hf : iv.firstTicked = true)
    (hp : 0 < iv.period) (hp64 : iv.period ≤ 2 ^ 64) (hs : iv.start ≤ now) :
    iv.tickDeadline now =
      if instMax < now + iv.period then .panic
      else .deadline (iv.start + ((now - iv.start) / iv.period + 1) * iv.period) := by
  obtain ⟨a, rfl⟩ := Nat.exists_eq_add_of_le hs
  have hlt : a % iv.period < iv.period := Nat.mod_lt _ hp
  -- the truncation to `u64` does nothing to a remainder below `2 ^ 64`
  have htr : a % iv.period % 2 ^ 64 = a % iv.period := Nat.mod_eq_of_lt (Nat.lt_of_lt_of_le hlt hp64)
  simp only [Interval.tickDeadline, hf, Nat.ne_of_gt hp, Nat.add_sub_cancel_left, htr, Bool.not_true,
    Bool.false_eq_true, if_false, gt_iff_lt]
  rw [← (next_multiple a iv.period hp).1, Nat.add_assoc,
    Nat.add_sub_assoc (Nat.le_trans (Nat.le_of_lt hlt) (Nat.le_add_left _ _))]

/-- in the first branch nothing is written to `self` before the await -/
theorem tickBegin_first (iv : Interval) (now : Nat) (h : iv.firstTicked = false) :
    iv.tickBegin now = some (iv, .first, iv.start) := by
  simp [Interval.tickBegin, h, stmtsBeforeAwait, Compio.Gen.IntervalTick.firstBranch,
    Interval.applyStmts]

/-- in the first branch `first_ticked` is set after the await -/
theorem tickEnd_first (iv : Interval) :
    iv.tickEnd .first = ({ iv with firstTicked := true }, iv.start) := by
  simp [Interval.tickEnd, stmtsAfterAwait, Compio.Gen.IntervalTick.firstBranch, Interval.applyStmts]

/-- the periodic branch never writes to `self` -/
theorem tickBegin_periodic (iv : Interval) (now : Nat) (h : iv.firstTicked = true) :
    iv.tickBegin now =
      match iv.tickDeadline now with
      | .panic => none
      | .deadline d => some (iv, .periodic d, d) := by
  simp only [Interval.tickBegin, h, Bool.not_true, Bool.false_eq_true, if_false]
  cases iv.tickDeadline now <;>
    simp [stmtsBeforeAwait, Compio.Gen.IntervalTick.periodicBranch, Interval.applyStmts]

theorem tickEnd_periodic (iv : Interval) (d : Nat) : iv.tickEnd (.periodic d) = (iv, d) := by
  simp [Interval.tickEnd, stmtsAfterAwait, Compio.Gen.IntervalTick.periodicBranch, Interval.applyStmts]

theorem tickBegin_aligned (iv : Interval) (now : Nat) (hp : 0 < iv.period) (hp64 : iv.period ≤ 2 ^ 64)
    (hs : iv.firstTicked = true → iv.start ≤ now) {iv1 : Interval} {fut : TickFut} {d : Nat}
    (hb : iv.tickBegin now = some (iv1, fut, d)) :
    iv1 = iv ∧ iv.tickEnd fut = ({ iv with firstTicked := true }, d) ∧
      iv.start ≤ d ∧ (d - iv.start) % iv.period = 0 := by
  cases hf : iv.firstTicked with
  | false =>
    rw [tickBegin_first iv now hf] at hb
    simp only [Option.some.injEq, Prod.mk.injEq] at hb
    obtain ⟨rfl, rfl, rfl⟩ := hb
    exact ⟨rfl, tickEnd_first iv, Nat.le_refl _, by simp⟩
  | true =>
    rw [tickBegin_periodic iv now hf, tickDeadline_periodic iv now hf hp hp64 (hs hf)] at hb
    by_cases hmax : instMax < now + iv.period
    · rw [if_pos hmax] at hb; cases hb
    · simp only [if_neg hmax, Option.some.injEq, Prod.mk.injEq] at hb
      obtain ⟨rfl, rfl, rfl⟩ := hb
      refine ⟨rfl, ?_, Nat.le_add_right _ _, ?_⟩
      · rw [tickEnd_periodic, ← hf]
      · rw [Nat.add_sub_cancel_left]; exact Nat.mul_mod_left _ _

theorem pollWith_eq_wake (w : Wheel) (now : Nat) (o : PollOutcome) :
    pollWith w now o = if o = .otherError then none else some (wake w now) := by
  cases o <;>
    simp [pollWith, pollWithStmts, Compio.Gen.PollWith.body, Compio.Gen.PollWith.swallowedErrors,
      PollOutcome.errName]

theorem pollWith_some {w w' : Wheel} {now : Nat} {o : PollOutcome} {ex : List Entry}
    (h : pollWith w now o = some (w', ex)) : w' = (wake w now).1 ∧ ex = (wake w now).2 := by
  rw [pollWith_eq_wake] at h
  split at h
  · cases h
  · rw [Option.some.inj h]; exact ⟨rfl, rfl⟩

end Compio.Timer
