/-
C13 — witnesses of the defects F7a, F7b and F130 of /repo as found (repaired there by the `fix:` commits
4d27a6d, f78366f and 7b2e667; the theorems of Props/C13 and Props/C13Sink are about the repaired functions).
-/
import Compio.Lemmas.Frame
import Compio.Model.Cmsg
import Compio.Model.Sink

namespace Compio.Cex.C13
open Compio Compio.Frame Compio.Cmsg

/-- F7a: an 8-byte length field of all ones made `LengthDelimited::extract` overflow (`lfl + len`) -/
theorem f7a_unfixed_panics :
    LD.extractUnfixed ⟨8, true⟩ [255, 255, 255, 255, 255, 255, 255, 255, 0] = .panic := by decide

/-- ... and the repaired function (`checked_add`, an `InvalidData` error) panics on no buffer -/
theorem f7a_fixed_never_panics (f : LD) (b : Bytes) : f.extract b ≠ .panic := by
  rcases LD.extract_cases f b with h | h | ⟨_, h, _⟩ <;> simp [h]

/-- F7b: a message carrying 2 payload bytes (`cmsg_len = 18`), placed last in its buffer, decoded as
a 4-byte value: the code as found read 2 bytes of whatever memory follows the buffer (`0xEE` here). -/
theorem f7b_unfixed_reads_past_buffer :
    decodeDataUnfixed
      ([18, 0, 0, 0, 0, 0, 0, 0, 1, 0, 0, 0, 2, 0, 0, 0] ++ [7, 9]) [0xEE, 0xEE, 0xEE] 0 4
      = .ok [7, 9, 0xEE, 0xEE] := by decide

theorem f7b_fixed_reports_small :
    decodeData ([18, 0, 0, 0, 0, 0, 0, 0, 1, 0, 0, 0, 2, 0, 0, 0] ++ [7, 9]) 0 4 = .small := by decide

/-- F130: as found, `poll_flush` on a sink whose write is in flight (`SinkExt::send` = `feed` + `flush`)
answered `Ready` as soon as the write completed, without ever flushing the writer: the frame stays in
the writer's buffer although the sink reported it flushed. -/
theorem f130_unfixed_flush_skips_writer_flush :
    let r := Sink.run Sink.stepUnfixed {} [.ready 0, .send [0, 0, 0, 1, 7], .flush 0]
    r.2 = [.ready, .ready, .ready] ∧ r.1.io.flushes = 0 ∧ r.1.io.delivered = [] ∧
      r.1.io.buffered = [0, 0, 0, 1, 7] := by decide

/-- F130: as found, `poll_close` after `feed` answered `Ready` without shutting the writer down -/
theorem f130_unfixed_close_skips_shutdown :
    let r := Sink.run Sink.stepUnfixed {} [.ready 0, .send [0, 0, 0, 1, 7], .close 0]
    r.2 = [.ready, .ready, .ready] ∧ r.1.io.shutdowns = 0 ∧ r.1.io.delivered = [] := by decide

/-- ... and the repaired entry points deliver on the same scripts -/
theorem f130_fixed_delivers :
    (Sink.run Sink.step {} [.ready 0, .send [0, 0, 0, 1, 7], .flush 0]).1.io.delivered = [0, 0, 0, 1, 7] ∧
    (Sink.run Sink.step {} [.ready 0, .send [0, 0, 0, 1, 7], .close 0]).1.io.shutdowns = 1 := by decide

end Compio.Cex.C13
