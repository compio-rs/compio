/-
C04 — machine-checked witnesses.

On the remote-join LTS (Compio.Model.RemoteJoin):
  * `delivery_counterexample_unfixed`  the lost wake-up of the code BEFORE the re-check after
    `finish_setting_waker::<true>()` (finding F1, repaired by e466077): handle parked, task completed, executor
    done, nobody woken; `delivery_needs_recheck`: the same for the code as extracted, should a site lose its re-check.
  * `waker_leak_counterexample`        CURRENT code (finding F040): a join waker is still in the slot
    when the allocation is freed — it is never dropped.
  * `executor_drop_does_not_wake`      observation on the current code: dropping the executor while the
    handle is parked drops the waker without waking it.

On the home-thread model (Compio.Model.Executor):
  * `stranded_cancelled_task_witness`  observation F031: with three threads a cancelled task can be left SCHEDULED,
    cold and in no queue (`pusherBailsOut` on `blockedPusherState`); only the teardown drops its future.
-/
import Compio.Lemmas.RemoteJoinTie
import Compio.Lemmas.ExecutorSteps

namespace Compio.Cex.C04
open Compio.RemoteJoin Compio.TaskWord Compio.Gen

/-- handle: load, start_setting_waker; executor: unschedule, poll Ready, finish_running (sees
SETTING_WAKER ⇒ no wake), Task::drop, release; handle: write waker 7, finish_setting_waker::<true>,
returns Pending (old program: no re-check) -/
def lostWakeTrace : List Label :=
  [.hPoll 7, .hStartSetting, .eUnschedule, .ePollReady, .eFinishRunning, .eSetDropped, .eClearShared,
   .eDec, .hWrite, .hFinishTrue]

theorem lost_wake_run_unfixed :
    ∃ s : RState, Trace false init lostWakeTrace s ∧ Reachable false s ∧
      s.parked = some 7 ∧ s.hpc = .idle ∧ TaskState.isCompleted s.word = true ∧ ePastWake s = true ∧
      s.epc = .done ∧ s.woken = [] := by
  obtain ⟨s, ht, hr, hp⟩ := run_witness (fixed := false) (ls := lostWakeTrace)
    (p := fun s => decide (s.parked = some 7 ∧ s.hpc = .idle ∧ TaskState.isCompleted s.word = true ∧
      ePastWake s = true ∧ s.epc = .done ∧ s.woken = [])) (by decide)
  exact ⟨s, ht, hr, of_decide_eq_true hp⟩

/-- the delivery statement fails for the program before the fix -/
theorem delivery_counterexample_unfixed : ¬ (∀ s : RState, Reachable false s → deliveryStatement s) := by
  intro h
  obtain ⟨s, _, hr, hp, _, hc, he, _, hw⟩ := lost_wake_run_unfixed
  have := h s hr 7 hp hc he
  simp [hw] at this

/-- whenever the extracted `Remote::poll` does NOT re-check at every `finish_setting_waker::<true>()` site,
delivery fails for the code as extracted -/
theorem delivery_needs_recheck (h : pollRechecks = false) :
    ¬ (∀ s : RState, Reachable pollRechecks s → deliveryStatement s) := by
  rw [h]; exact delivery_counterexample_unfixed

/-- the same interleaving on the CURRENT program: `finish_setting_waker::<true>` returns a completed
snapshot, the handle reloads, takes the result and, as last holder, drops the waker and frees the task -/
example : ∃ s : RState, Trace true init
      (lostWakeTrace ++ [.hReload, .hClearResult, .hTakeResult, .hDec, .hLast]) s ∧
      s.hret = some true ∧ s.resTaken = 1 ∧ s.resDrops = 0 ∧ s.futDrops = 1 ∧ s.deallocs = 1 ∧
      s.slot = none ∧ s.slotSets = 1 ∧ s.slotDrops = 1 ∧ s.uaf = 0 ∧ s.bad = 0 := by
  obtain ⟨s, ht, _, hp⟩ := run_witness (fixed := true)
    (ls := lostWakeTrace ++ [.hReload, .hClearResult, .hTakeResult, .hDec, .hLast])
    (p := fun s => decide (s.hret = some true ∧ s.resTaken = 1 ∧ s.resDrops = 0 ∧ s.futDrops = 1 ∧
      s.deallocs = 1 ∧ s.slot = none ∧ s.slotSets = 1 ∧ s.slotDrops = 1 ∧ s.uaf = 0 ∧ s.bad = 0)) (by decide)
  exact ⟨s, ht, of_decide_eq_true hp⟩

/-- a run where the executor wakes the parked handle: park with 3, complete, `wake_by_ref(3)` -/
example : ∃ s : RState, Trace true init
      [.hPoll 3, .hStartSetting, .hWrite, .hFinishTrue, .eUnschedule, .ePollPending, .eUnschedule,
       .ePollReady, .eFinishRunning, .eWake] s ∧
      s.parked = some 3 ∧ s.woken = [3] ∧ s.polls = 2 ∧ deliveryStatement s := by
  obtain ⟨s, ht, hr, hp⟩ := run_witness (fixed := true)
    (ls := [.hPoll 3, .hStartSetting, .hWrite, .hFinishTrue, .eUnschedule, .ePollPending, .eUnschedule,
       .ePollReady, .eFinishRunning, .eWake])
    (p := fun s => decide (s.parked = some 3 ∧ s.woken = [3] ∧ s.polls = 2)) (by decide)
  obtain ⟨h1, h2, h3⟩ := of_decide_eq_true hp
  exact ⟨s, ht, h1, h2, h3, delivery hr⟩

/-- ... and the woken handle polls again with another waker after the executor is gone: result taken,
old waker dropped by `Task::drop`, nothing leaked -/
example : ∃ s : RState, Trace true init
      [.hPoll 3, .hStartSetting, .hWrite, .hFinishTrue, .eUnschedule, .ePollReady, .eFinishRunning,
       .eWake, .eSetDropped, .eClearShared, .eDropSlot, .eDec, .hPoll 4, .hClearResult, .hTakeResult,
       .hDec, .hLast] s ∧
      s.woken = [3] ∧ s.hret = some true ∧ s.deallocs = 1 ∧ s.slot = none ∧ s.slotSets = 1 ∧ s.slotDrops = 1 := by
  obtain ⟨s, ht, _, hp⟩ := run_witness (fixed := true)
    (ls := [.hPoll 3, .hStartSetting, .hWrite, .hFinishTrue, .eUnschedule, .ePollReady, .eFinishRunning,
       .eWake, .eSetDropped, .eClearShared, .eDropSlot, .eDec, .hPoll 4, .hClearResult, .hTakeResult,
       .hDec, .hLast])
    (p := fun s => decide (s.woken = [3] ∧ s.hret = some true ∧ s.deallocs = 1 ∧ s.slot = none ∧
      s.slotSets = 1 ∧ s.slotDrops = 1)) (by decide)
  exact ⟨s, ht, of_decide_eq_true hp⟩

/-- handle dropped while the task is running: cancelled, the executor drops the future, no output -/
example : ∃ s : RState, Trace true init
      [.eUnschedule, .ePollPending, .hCancel true, .hSchedShared, .hSchedFinish, .hSetCancelled, .hDec,
       .eUnschedule, .eSetDropped, .eClearShared, .eDropFuture, .eDec, .eLast] s ∧
      s.eroute = .sawCancelled ∧ s.futDrops = 1 ∧ s.resTaken + s.resDrops = 0 ∧ s.deallocs = 1 ∧ s.polls = 1 := by
  obtain ⟨s, ht, _, hp⟩ := run_witness (fixed := true)
    (ls := [.eUnschedule, .ePollPending, .hCancel true, .hSchedShared, .hSchedFinish, .hSetCancelled, .hDec,
       .eUnschedule, .eSetDropped, .eClearShared, .eDropFuture, .eDec, .eLast])
    (p := fun s => decide (s.eroute = .sawCancelled ∧ s.futDrops = 1 ∧ s.resTaken + s.resDrops = 0 ∧
      s.deallocs = 1 ∧ s.polls = 1)) (by decide)
  exact ⟨s, ht, of_decide_eq_true hp⟩

/-- OBSERVATION (current code, not a violation of the property text): the handle parks with waker 5,
then the executor is dropped (`Executor::clear` ⇒ `Task::drop` without running): the waker is dropped
from the slot WITHOUT being woken; the parked handle learns about the cancellation only if it is polled
again for another reason. -/
theorem executor_drop_does_not_wake :
    ∃ s : RState, Trace true init
      [.hPoll 5, .hStartSetting, .hWrite, .hFinishTrue, .eClear, .eSetDropped, .eClearShared,
       .eDropFuture, .eDropSlot, .eDec] s ∧ Reachable true s ∧
      s.parked = some 5 ∧ s.hpc = .idle ∧ s.woken = [] ∧ s.slot = none ∧ s.slotDrops = 1 ∧
      s.eroute = .cleared ∧ s.epc = .done ∧ TaskState.isCancelled s.word = true ∧
      TaskState.isCompleted s.word = false ∧ s.futDrops = 1 := by
  obtain ⟨s, ht, hr, hp⟩ := run_witness (fixed := true)
    (ls := [.hPoll 5, .hStartSetting, .hWrite, .hFinishTrue, .eClear, .eSetDropped, .eClearShared,
       .eDropFuture, .eDropSlot, .eDec])
    (p := fun s => decide (s.parked = some 5 ∧ s.hpc = .idle ∧ s.woken = [] ∧ s.slot = none ∧ s.slotDrops = 1 ∧
      s.eroute = .cleared ∧ s.epc = .done ∧ TaskState.isCancelled s.word = true ∧
      TaskState.isCompleted s.word = false ∧ s.futDrops = 1)) (by decide)
  exact ⟨s, ht, hr, of_decide_eq_true hp⟩

/-- F040, current code: the handle parks with waker 9 and is polled a second time (with the same waker)
while the task completes. Its `load` is before `finish_running`, its `start_setting_waker` after: the
snapshot has HAS_RESULT, so the section is left through `finish_setting_waker::<false>`. In between the
executor runs `Task::drop`: `set_dropped` clears HAS_WAKER and, seeing SETTING_WAKER, leaves the waker
to the handle — which never looks at it again. The last holder's `dec` snapshot has no HAS_WAKER. -/
def wakerLeakTrace : List Label :=
  [.eUnschedule, .ePollReady, .hPoll 9, .hStartSetting, .hWrite, .hFinishTrue, .hPoll 9,
   .eFinishRunning, .eWake, .hStartSetting, .eSetDropped, .eClearShared, .eDec, .hFinishFalse,
   .hClearResult, .hTakeResult, .hDec, .hLast]

theorem waker_leak_run :
    ∃ s : RState, Trace true init wakerLeakTrace s ∧ Reachable true s ∧
      s.deallocs = 1 ∧ s.epc = .done ∧ s.hpc = .done ∧ s.slot = some 9 ∧ s.slotSets = 1 ∧ s.slotDrops = 0 ∧
      s.woken = [9] ∧ s.hret = some true := by
  obtain ⟨s, ht, hr, hp⟩ := run_witness (fixed := true) (ls := wakerLeakTrace)
    (p := fun s => decide (s.deallocs = 1 ∧ s.epc = .done ∧ s.hpc = .done ∧ s.slot = some 9 ∧ s.slotSets = 1 ∧
      s.slotDrops = 0 ∧ s.woken = [9] ∧ s.hret = some true)) (by decide)
  exact ⟨s, ht, hr, of_decide_eq_true hp⟩

/-- "every waker written into the slot has been dropped when the task is deallocated" is false for the current code -/
theorem waker_leak_counterexample :
    ¬ (∀ s : RState, Reachable true s → s.deallocs = 1 → s.slot = none ∧ s.slotSets = s.slotDrops) := by
  intro h
  obtain ⟨s, _, hr, hd, _, _, hs, _⟩ := waker_leak_run
  have := (h s hr hd).1
  simp [hs] at this

/-- the word can be in SETTING_WAKER while the executor is about to read the slot: H's section then
started after `finish_running` and leaves through `finish<false>` without touching the slot -/
example : ∃ s : RState, Trace true init
      [.hPoll 1, .hStartSetting, .hWrite, .hFinishTrue, .hPoll 1, .eUnschedule, .ePollReady,
       .eFinishRunning, .hStartSetting] s ∧
      s.epc = .wake ∧ eAccessesSlot s = true ∧ TaskState.isSettingWaker s.word = true ∧
      s.hpc = .finishFalse ∧ hAccessesSlot s = false := by
  obtain ⟨s, ht, _, hp⟩ := run_witness (fixed := true)
    (ls := [.hPoll 1, .hStartSetting, .hWrite, .hFinishTrue, .hPoll 1, .eUnschedule, .ePollReady,
       .eFinishRunning, .hStartSetting])
    (p := fun s => decide (s.epc = .wake ∧ eAccessesSlot s = true ∧ TaskState.isSettingWaker s.word = true ∧
      s.hpc = .finishFalse ∧ hAccessesSlot s = false)) (by decide)
  exact ⟨s, ht, of_decide_eq_true hp⟩

/-! ## Observation F031 in terms of the C04 home-thread model

The queue clause of the invariant (`Compio.Executor.Inv.c`: a cancelled task that is still queued is hot, in
the sync queue or about to be pushed there) is an invariant of SEQUENTIAL cross-thread use only. With THREE threads it can be broken:
a remote waker of task 1 is blocked on a full sync queue (reserved, spinning); meanwhile the JoinHandle of
task 1 is dropped on another thread (`Remote::schedule` coalesces on SCHEDULED, then `set_cancelled`); the
spinning pusher then sees `is_cancelled()`, releases its reservation and returns WITHOUT pushing. Task 1 is
cancelled, SCHEDULED, cold, in no queue: no tick reaps it; its future is dropped only by `Executor::drop`.
Not a violation of "dropped exactly once" (it is dropped at teardown), hence an observation. -/

open Compio.Executor in
/-- the bail-out branch of the push loop of `Remote::schedule` (`is_cancelled()` ⇒ `pending.fetch_sub(1)`,
`finish_scheduling`, return) — the only branch the sequential model never takes -/
def pusherBailsOut (e : Exec) (id : Nat) : Exec :=
  finishSched { e with pending := e.pending - 1, inflight := none } id

open Compio.Executor in
/-- the state in which a remote waker of task 1 has reserved its slot and spins on the full queue -/
def blockedPusherState : Exec :=
  let e := run 1 [.spawn [.cloneWaker, .pending], .spawn [.cloneWaker, .pending], .tick 61, .rwake 0]
  match e.get? 1 with
  | some t =>
    { e.setTask 1 { t with word := Compio.Gen.TaskState.startScheduling t.word } with
        pending := e.pending + 1, inflight := some 1 }
  | none => e

open Compio.Executor in
theorem stranded_cancelled_task_witness :
    let e := pusherBailsOut (remoteHandleDrop blockedPusherState 1) 1
    -- cancelled, SCHEDULED, still in the executor's map (cold), in neither the hot nor the sync queue
    (e.get? 1).map (fun t => (t.word.notCancelled, t.word.scheduled, t.futDrops)) = some (false, true, 0) ∧
    e.cold = [0, 1] ∧ e.hot = [] ∧ e.sync = [0] ∧ e.inflight = none ∧
    -- ticks never reach it ...
    ((tickN e 61 5).1.get? 1).map (fun t => t.futDrops) = some 0 ∧ inMap (tickN e 61 5).1 1 = true ∧
    -- ... not even after further remote wake-ups (they coalesce on SCHEDULED); only the teardown drops the future
    ((tickN (remoteSchedule e 1) 61 5).1.get? 1).map (fun t => t.futDrops) = some 0 ∧
    ((execDrop (tickN e 61 5).1).get? 1).map (fun t => (t.futDrops, t.polls)) = some (1, 1) := by decide

end Compio.Cex.C04
