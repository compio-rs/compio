/-
C16 — machine-checked witnesses of the three defects found in compio-quic's own logic, on the model the driver
runs (the behaviour is reproduced on the real code by harness/apps/src/bin/c16.rs, cases `f160-two-waiters`,
`f161-cancelled-closed`, `f162-closed-twice`).

F160  `on_connected` is one `Option<Waker>`, `Connection::accepted_0rtt(&self)` can be awaited by several tasks:
      the second registration drops the first task's waker; no event and no close ever wakes the first task.
F161  a dropped `Connection::closed()` future drops the worker's `JoinHandle`, which cancels the worker: no event
      and no `Endpoint::close` is processed any more, every pending future hangs.
F162  a second `closed()` finds `worker = None` and panics in `try_state().unwrap_err()` on an open connection.
-/
import Compio.Lemmas.QuicWakers

namespace Compio.Cex.C16
open Compio.QuicWakers Compio.Gen.QuicWakers

/-- what the environment can do without the help of the stranded task -/
def isEnv : Op → Bool
  | .event _ _ _ _ => true
  | .close => true
  | .endpointClose => true
  | .drained => true
  | _ => false

theorem phi_zero_not_woken {s : St} {w : Nat} (h : phi s w = 0) : w ∉ s.woken := by
  intro hm
  have := List.count_pos_iff.mpr hm
  unfold phi at h; omega

theorem env_never_wakes (x : Waiter) : ∀ (ops : List Op) (W : World), ops.all isEnv = true →
    x ∈ W.owed → phi W.st x.w = 0 → x ∈ (W.run ops).owed ∧ x.w ∉ (W.run ops).st.woken := by
  intro ops
  induction ops with
  | nil => intro W _ hx hp; exact ⟨hx, phi_zero_not_woken hp⟩
  | cons o os ih =>
    intro W hall hx hp
    rw [List.all_cons, Bool.and_eq_true] at hall
    -- an operation of the environment only wakes
    cases did_step W o with
    | wakes hadv howed =>
      -- the potential of `x.w` stays 0, so `x.w` is not among the newly woken
      have hp' : phi (W.step o).1.st x.w = 0 := (hadv.count x.w).trans hp
      refine ih _ hall.2 ?_ hp'
      rw [howed, mem_discharge]
      exact ⟨hx, fun h => phi_zero_not_woken hp' (List.mem_of_mem_drop h)⟩
    | _ => cases hall.1

/-- two tasks (1 and 2) await `accepted_0rtt()` on clones of one connection -/
def f160World : World :=
  World.init.run [.poll .connectionAccepted0rtt 0 1, .poll .connectionAccepted0rtt 0 2]

/-- the second registration is exactly what the one-task-per-slot discipline forbids, and it breaks the
    "owed ⇒ registered" invariant: task 1 is owed a wake-up, but the slot holds only task 2's waker -/
theorem f160_counterexample :
    admissible (World.init.step (.poll .connectionAccepted0rtt 0 1)).1 (.poll .connectionAccepted0rtt 0 2) = false ∧
    (⟨.connectionAccepted0rtt, 0, 1⟩ : Waiter) ∈ f160World.owed ∧
    f160World.st.tabs .onConnected = [(0, 2)] ∧
    ¬ Inv f160World := by
  refine ⟨by decide, by decide, by decide, ?_⟩
  intro h
  have := h ⟨.connectionAccepted0rtt, 0, 1⟩ (by decide)
  revert this; decide

/-- `Connected` wakes task 2 only; a later close wakes nobody: task 1 is stranded -/
theorem f160_connected_then_close_wakes_only_the_last :
    (f160World.run [.event .connected 0 false .reset, .close]).st.woken = [2] ∧
    (⟨.connectionAccepted0rtt, 0, 1⟩ : Waiter) ∈ (f160World.run [.event .connected 0 false .reset, .close]).owed := by
  decide

/-- … and nothing the environment can do (any events, close, endpoint close) ever wakes task 1 -/
theorem f160_stranded_forever (ops : List Op) (h : ops.all isEnv = true) :
    (⟨.connectionAccepted0rtt, 0, 1⟩ : Waiter) ∈ (f160World.run ops).owed ∧ 1 ∉ (f160World.run ops).st.woken :=
  env_never_wakes ⟨.connectionAccepted0rtt, 0, 1⟩ ops f160World h (by decide) (by decide)

/-- task 9 starts `closed()` and drops it (timeout / select); task 1 then blocks in a stream read -/
def f161World : World :=
  World.init.run [.closedPoll 9, .closedDrop 9, .poll .recvStreamExecutePollRead 4 1]

theorem f161_counterexample :
    closedTakesWorkerHandle = true ∧ f161World.worker = .cancelled ∧
    (⟨.recvStreamExecutePollRead, 4, 1⟩ : Waiter) ∈ f161World.owed := by decide

/-- what reaches the connection through its worker -/
def isNet : Op → Bool
  | .event _ _ _ _ => true
  | .endpointClose => true
  | .drained => true
  | _ => false

theorem cancelled_step {W : World} (hw : W.worker = .cancelled) {o : Op} (ho : isNet o = true) :
    (W.step o).1 = W := by
  obtain ⟨st, owed, _, taken, owner⟩ := W
  cases hw
  cases o with
  | event | endpointClose | drained => rfl
  | _ => cases ho

theorem cancelled_worker_is_deaf : ∀ (ops : List Op) (W : World), W.worker = .cancelled → ops.all isNet = true →
    W.run ops = W := by
  intro ops
  induction ops with
  | nil => intro W _ _; rfl
  | cons o os ih =>
    intro W hw hall
    rw [List.all_cons, Bool.and_eq_true] at hall
    rw [World.run, cancelled_step hw hall.1]
    exact ih W hw hall.2

/-- no event from the peer (data, reset, connection lost, idle timeout) and no `Endpoint::close` ever completes
    the read: the worker that would process them is gone -/
theorem f161_stranded_forever (ops : List Op) (h : ops.all isNet = true) :
    (⟨.recvStreamExecutePollRead, 4, 1⟩ : Waiter) ∈ (f161World.run ops).owed ∧ (f161World.run ops).st.woken = [] := by
  rw [cancelled_worker_is_deaf ops f161World (by decide) h]; decide

/-- a second `closed()` while the first one waits, or after the first one was dropped, on an OPEN connection -/
theorem f162_counterexample :
    ((World.init.step (.closedPoll 1)).1.step (.closedPoll 2)).2 = .panic ∧
    (((World.init.step (.closedPoll 1)).1.step (.closedDrop 1)).1.step (.closedPoll 2)).2 = .panic := by
  decide

/-- on a closed connection the second call returns the error (no panic) -/
theorem f162_no_panic_once_closed :
    (((World.init.step (.closedPoll 1)).1.step .close).1.step (.closedPoll 2)).2 = .err .locallyClosed := by
  decide

end Compio.Cex.C16
