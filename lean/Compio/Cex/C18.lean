/-
C18: machine-checked witnesses of what Props/C18.lean does not claim -- the points excluded by the guards of its
theorems, and the panic of a task body, which `join` does not re-raise -- behaviours of the code as it is (each one
reproduced on the real dispatcher, see notes/C18.md).
-/
import Compio.Lemmas.Dispatcher

namespace Compio.Dispatcher

/-- Concurrent mode: `join` right after `dispatch` may drop an accepted task that was never started (the
worker spawns it, leaves its loop and drops its runtime; the real `block_on` polls at most 61 spawned tasks
once before that).  The receiver is cancelled -- it does not hang -- but "every accepted task finishes before
`join` returns" (`sequential_all_finished_at_join`) holds in sequential mode only. -/
def cexDrop : List Event :=
  [.dispatch 0 1 ⟨0, .ok 7⟩, .joinStart, .joinPool, .recv 0 1, .exitLoop 0, .teardown 0, .joinReturn]

theorem concurrent_join_drops_unstarted_counterexample :
    ∃ s, Reachable 1 true s ∧ s.joined = some none ∧ 1 ∈ s.accepted ∧ s.started 1 = 0 ∧
      s.chan 1 = .cancelled := by
  -- one evaluation of the schedule; the witness is its final state
  have h : (run? (init 1 true) cexDrop).map (fun s => (s.joined, s.accepted, s.started 1, s.chan 1)) =
      some (some none, [1], 0, .cancelled) := by decide
  obtain ⟨s, hs, he⟩ := Option.map_eq_some_iff.mp h
  simp only [Prod.mk.injEq] at he
  exact ⟨s, ⟨cexDrop, hs⟩, he.1, by rw [he.2.1]; exact List.mem_singleton.mpr rfl, he.2.2.1, he.2.2.2⟩

/-- All workers have panicked while the dispatcher is still alive: an item that was accepted before stays in
the flume channel (the `Sender` keeps it alive), its receiver stays pending until `join` is called -- only
"joined first ⇒ cancellation" is guaranteed (`no_receiver_pending_after_join`), not resolution before `join`. -/
def cexStranded : List Event :=
  [.dispatch 0 1 ⟨0, .never⟩, .dispatch 0 2 ⟨0, .ok 5⟩, .recv 0 1, .poll 0 1, .die 0 9, .reap 0]

theorem stranded_until_join_counterexample :
    ∃ s, Reachable 1 false s ∧ s.sender = true ∧ s.main 0 = .dead 9 ∧ 2 ∈ s.accepted ∧ s.queue = [2] ∧
      s.chan 2 = .pending := by
  have h : (run? (init 1 false) cexStranded).map
      (fun s => (s.sender, s.main 0, s.accepted, s.queue, s.chan 2)) =
      some (true, .dead 9, [1, 2], [2], .pending) := by decide
  obtain ⟨s, hs, he⟩ := Option.map_eq_some_iff.mp h
  simp only [Prod.mk.injEq] at he
  exact ⟨s, ⟨cexStranded, hs⟩, he.1, he.2.1, by rw [he.2.2.1]; simp, he.2.2.2.1, he.2.2.2.2⟩

/-- A panic of a task *body* is contained in the task: the worker goes on, `join` returns `Ok`; only a panic
of the worker thread itself is re-raised (`join_reraises_worker_panic`). -/
def cexTaskPanic : List Event :=
  [.dispatch 0 1 ⟨0, .panic⟩, .recv 0 1, .poll 0 1, .poll 0 1, .joinStart, .joinPool, .exitLoop 0, .teardown 0, .joinReturn]

theorem task_panic_not_reraised_counterexample :
    ∃ s, Reachable 1 false s ∧ s.joined = some none ∧ s.ended 1 = 1 ∧ s.chan 1 = .cancelled := by
  have h : (run? (init 1 false) cexTaskPanic).map (fun s => (s.joined, s.ended 1, s.chan 1)) =
      some (some none, 1, .cancelled) := by decide
  obtain ⟨s, hs, he⟩ := Option.map_eq_some_iff.mp h
  simp only [Prod.mk.injEq] at he
  exact ⟨s, ⟨cexTaskPanic, hs⟩, he.1, he.2.1, he.2.2⟩

end Compio.Dispatcher
