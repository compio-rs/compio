/-
C11 — machine-checked witnesses of the defects found in the tree under /repo (all reproduced on the real
code by harness/pure/src/bin/c11.rs; recorded in known-findings.json, not repaired). Each witness
runs the very functions the model driver runs; the positive theorems in Props/C11 carry the
corresponding explicit guard.
-/
import Compio.Lemmas.IoLoops

namespace Compio.Cex.C11
open Compio Compio.Io

/-- "hello" -/
def hello : Bytes := [104, 101, 108, 108, 111]

/-- an honest script: five positive transfers and one to spare -/
def honest6 : List Outcome := [.ok 100, .ok 100, .ok 100, .ok 100, .ok 100, .ok 100]

/-! ## F12 — `BufReader::with_capacity(0)`: silent truncation -/

/-- the scripted reader is live: it never reports a premature end -/
theorem f12_inner_is_live : (Rd.script hello honest6).Live := by
  refine ⟨?_, by decide⟩
  intro o ho
  simp [honest6] at ho
  exact Or.inr ⟨100, by omega, ho⟩

/-- through a zero-capacity `BufReader`, `read_to_end` answers `Ok(0)` and delivers nothing,
although the inner reader still holds all five bytes -/
theorem f12_bufreader_cap0_counterexample :
    readToEnd 40 (.buf (.script hello honest6) (Buffer.withCapacity 0)) ⟨[], 0⟩ =
      (.ok 0, .buf (.script hello (honest6.drop 1)) (Buffer.withCapacity 0), ⟨[], 32⟩) := by decide +kernel

/-- `read_exact` through it reports `UnexpectedEof` with the data still there -/
theorem f12_read_exact_counterexample :
    (readExact 40 (.buf (.script hello honest6) (Buffer.withCapacity 0)) ⟨[], 5⟩).1 = .err .unexpectedEof := by
  decide +kernel

/-- with capacity 1 the same call delivers everything -/
theorem f12_cap1_delivers :
    (readToEnd 40 (.buf (.script hello honest6) (Buffer.withCapacity 1)) ⟨[], 0⟩).1 = .ok 5 ∧
    (readToEnd 40 (.buf (.script hello honest6) (Buffer.withCapacity 1)) ⟨[], 0⟩).2.2.data = hello := by
  decide +kernel

/-! ## F17 — `BufWriter::write` reports an error after it has taken the bytes -/

/-- "abcdefgh" -/
def abc8 : Bytes := [97, 98, 99, 100, 101, 102, 103, 104]

/-- one `write` on a `BufWriter` of capacity 4 over a writer that answers `Interrupted` once:
the call returns `Interrupted`, yet four bytes sit in the buffer -/
theorem f17_write_err_after_buffering :
    bufWrite (.script [] [.intr, .ok 100] 0 0) (Buffer.withCapacity 4) abc8 =
      (.err .interrupted, .script [] [.ok 100] 0 0, ⟨[97, 98, 99, 100], 4, 0⟩) := by decide +kernel

/-- `write_all` retries on `Interrupted` with the same data: "abcd" reaches the inner writer twice -/
theorem f17_bufwriter_duplicates_counterexample :
    writeAll 40 (.buf (.script [] [.intr, .ok 100, .ok 100, .ok 100, .ok 100] 0 0) (Buffer.withCapacity 4)) abc8 =
      (.ok (), .buf (.script ([97, 98, 99, 100] ++ abc8) [.ok 100] 0 0) ⟨[], 4, 0⟩) := by decide +kernel

/-- without the interruption the same call delivers the data once -/
theorem f17_without_interruption :
    writeAll 40 (.buf (.script [] [.ok 100, .ok 100, .ok 100, .ok 100] 0 0) (Buffer.withCapacity 4)) abc8 =
      (.ok (), .buf (.script abc8 [.ok 100, .ok 100] 0 0) ⟨[], 4, 0⟩) := by decide +kernel

/-! ## F18 — `copy_with_size(.., 0)` copies nothing -/

theorem f18_copy_size0_counterexample :
    copy 40 (.script hello honest6) (.base (.script [] honest6 0 0)) 0 =
      (.ok 0, .script hello (honest6.drop 1), .base (.script [] honest6 1 1)) := by decide +kernel

theorem f18_copy_size1_delivers :
    (copy 40 (.script hello honest6) (.base (.script [] honest6 0 0)) 1).1 = .ok 5 := by decide +kernel

/-! ## F19 — in-memory vectored read into a buffer whose initialised part is not a prefix -/

/-- `[Vec::with_capacity(4), vec![1,2,3,4]]`, reading "abc": `Ok(3)`, but the first member stays empty -/
theorem f19_vectored_read_lost_counterexample :
    memReadVectored [97, 98, 99] (VS.plain [MBuf.ofData [] 4, MBuf.ofData [1, 2, 3, 4] 4]) =
      (.ok 3, VS.plain [⟨[97, 98, 99], 0, 4⟩, MBuf.ofData [1, 2, 3, 4] 4]) := by decide +kernel

/-- ... and the visible content of that member is empty -/
theorem f19_first_member_empty : (⟨[97, 98, 99], 0, 4⟩ : MBuf).data = [] := by decide +kernel

/-- `read_vectored_exact` from a cursor over "ab" into the same shape panics (slice index in
`VectoredSlice::iter_slice`) instead of reporting `UnexpectedEof` -/
theorem f19_read_vectored_exact_panics :
    (readVectoredExact 40 (.cursor [97, 98] 0) [MBuf.ofData [] 4, MBuf.ofData [1, 2, 3, 4] 4]).1 = .panic := by
  decide +kernel

/-! ## F20 — `copy` does not retry `Interrupted` on its final flush -/

theorem f20_copy_flush_interrupted_counterexample :
    (copy 40 (.mem [180]) (.buf (.script [] [.intr, .ok 2, .ok 3] 0 0) (Buffer.withCapacity 2)) 1).1 =
      .err .interrupted := by decide +kernel

theorem f20_without_interruption :
    (copy 40 (.mem [180]) (.buf (.script [] [.ok 2, .ok 3] 0 0) (Buffer.withCapacity 2)) 1).1 = .ok 1 := by
  decide +kernel

end Compio.Cex.C11
