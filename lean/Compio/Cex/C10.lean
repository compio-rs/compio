/-
C10 — machine-checked witnesses of the defects found in the repository under /repo (finding F6 and its
consequences, findings V1–V3 for vectored buffers). The F6 ones all come from one inconsistency in
compio-buf/src/uninit.rs: `Uninit::as_uninit` skips the `buf_len()` bytes already recorded through the view,
while `Uninit::set_len` / `as_init` still count from the view's original `begin`.
-/
import Compio.Model.View
import Compio.Model.ViewVec
import Compio.Model.ViewOps

namespace Compio.Cex.C10
open Compio Compio.View

/-- `Vec::with_capacity(10)` -/
def emptyVec10 : Buf := .root ⟨.vec, 0, List.replicate 10 0⟩

def abc : Bytes := [0x61, 0x62, 0x63]
def defgh : Bytes := [0x64, 0x65, 0x66, 0x67, 0x68]

/-- the program of finding F6: `Vec::with_capacity(10).uninit()`, fill "abc", fill "defgh" -/
def f6Program : List Op := [.uninit, .fill abc, .fill defgh]

/-- F6: the second fill is written at 3..8 (`defgh` is in memory) but recorded as `set_len(0 + 5)`:
the root ends up as `abcde` — `fgh` was written and is lost. -/
theorem f6_uninit_second_fill_counterexample :
    (emptyVec10.run f6Program).toOption.map (fun v => (v.getRoot.len, v.getRoot.mem.take 8))
      = some (5, abc ++ defgh) := by decide

/-- after the *first* fill the view reports initialised bytes `0..3` but a writable region starting at `3`: not a
prefix -/
theorem f6_reused_uninit_not_prefix_counterexample :
    (emptyVec10.run [.uninit, .fill abc]).toOption.map (fun v => (v.asInit.toOption, v.asUninit.toOption))
      = some (some (0, 3), some (3, 7)) := by decide

/-- a `Slice` taken in range (`5 ≤ buf_len() = 6`) over a re-used `Uninit` panics in `as_uninit`: its
capacity range `5 .. 4` is computed from the writable region the `Uninit` has shortened to `10 - 6 = 4` -/
theorem f6_slice_over_reused_uninit_panics_counterexample :
    ((emptyVec10.run [.uninit, .fill (List.replicate 6 1), .slice 5 none]).toOption.map
      (fun v => (v.asInit.toOption, v.asUninit.toOption))) = some (some (5, 1), none) := by decide

/-- F6 through `Writer` / `extend_from_slice` (safe API): `Vec::with_capacity(8).uninit().into_writer()`,
`write(b"abcd")`, `write(b"efgh")`: the second copy is aimed at `buf_mut_ptr() + buf_len() = 4 + 4 = 8`,
i.e. 4 bytes *past the 8-byte allocation*, although `reserve(4)` succeeded. -/
theorem f6_writer_second_write_out_of_bounds_counterexample :
    (match (Buf.root ⟨.vec, 0, List.replicate 8 0⟩).mkUninit with
      | .ok u => match u.extend [1, 2, 3, 4] with
        | .done u1 => (match u1.extend [5, 6, 7, 8] with
          | .fault .ub => true
          | _ => false)
        | _ => false
      | _ => false) = true := by decide

/-- F6 through `as_mut_slice` (safe API): `Vec::with_capacity(1).uninit()`, one byte recorded: `as_mut_slice()` is
`from_raw_parts_mut(buf_mut_ptr() = base + 1, buf_len() = 1)`, a slice that lies entirely behind the 1-byte allocation -/
theorem f6_as_mut_slice_outside_allocation_counterexample :
    ((Buf.root ⟨.vec, 0, [0]⟩).run [.uninit, .fill [7]]).toOption.map
      (fun v => (v.asInit.toOption, v.asMutSlice.toOption)) = some (some (0, 1), none) := by decide

/-- F6 through `ensure_init` (safe API): after 6 of 10 bytes have been recorded through an `Uninit`, `ensure_init`
indexes `slice[6..]` of the 4-byte region `as_uninit` has shrunk to, and panics -/
theorem f6_ensure_init_panics_counterexample :
    (emptyVec10.run [.uninit, .fill (List.replicate 6 1)]).toOption.map (fun v => v.ensureInit.toOption.isSome)
      = some false := by decide

def rootsOf (v : VBuf) : List (Nat × Bytes) := v.members.map fun m => (m.getRoot.len, m.getRoot.mem)

/-- V3: `[Vec::with_capacity(2), vec![0x20]]` (not packed), one byte read: it is written to member 0, but
`advance_vec_to(1)` compares with `total_len() = 1` and records nothing — the byte is lost -/
theorem v3_unpacked_fill_lost_counterexample :
    ((VBuf.base .list [.root ⟨.vec, 0, [0x10, 0x11]⟩, .root ⟨.vec, 1, [0x20]⟩]).fill [0xEE]).toOption.map rootsOf
      = some [(0, [0xEE, 0x11]), (1, [0x20])] := by decide

/-- V3: the doc example of `IoVectoredBuf::slice` (two 10-byte buffers holding 5 bytes each, `slice(6)`) used
for a 6-byte read: `begin` counts initialised bytes, `set_len(begin + 6)` capacity: member 0 is declared fully
initialised (5 never-written bytes exposed), member 1 is cut to 2 bytes -/
theorem v3_slice_counts_initialised_bytes_counterexample :
    (match (VBuf.base .list [.root ⟨.vec, 5, List.replicate 10 0⟩, .root ⟨.vec, 5, List.replicate 10 0⟩]).mkSlice 6 with
      | .ok s => (s.fill [1, 2, 3, 4, 5, 6]).toOption.map fun v => (rootsOf v).map Prod.fst
      | .error _ => none) = some [10, 2] := by decide

/-- V2: `[b"hello world".slice(0..5), Vec::with_capacity(5)]` filled with 7 bytes: `default_set_len` calls
`set_len(5)` on the (full) first member, which truncates its root from 11 to 5 bytes -/
theorem v2_bounded_member_truncated_counterexample :
    ((VBuf.base .list [.slice (.root ⟨.vec, 11, List.replicate 11 7⟩) 0 (some 5),
        .root ⟨.vec, 0, List.replicate 5 0⟩]).fill (List.replicate 7 1)).toOption.map
      (fun v => (rootsOf v).map Prod.fst) = some [5, 2] := by decide

/-- V1: `[Vec::with_capacity(5); 2].owned_iter()`: fill 3 bytes, `next()`, fill 2 bytes: the container is told
`set_len(3 + 2)`, which member 0 swallows (2 never-written bytes exposed), member 1 stays empty -/
theorem v1_viter_partial_then_next_counterexample :
    (match (VBuf.base .list [.root ⟨.vec, 0, List.replicate 5 0⟩, .root ⟨.vec, 0, List.replicate 5 0⟩]).ownedIter with
      | .ok (.inr it) =>
        match it.fill [1, 2, 3] with
        | .ok it1 =>
          match it1.next with
          | .inr it2 => (it2.fill [4, 5]).toOption.map fun it3 => (rootsOf it3.buf).map Prod.fst
          | .inl _ => none
        | .error _ => none
      | _ => none) = some [5, 0] := by decide

end Compio.Cex.C10
