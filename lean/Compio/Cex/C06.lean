/-
C06 — machine-checked witnesses (model level): the lost wake-ups of `compio-driver/src/fd.rs` (F8, F8b) with
`stuck_is_forever` (the state they end in has no way out), the leak of an unpolled `File::close` / `Socket::close`
future (F8c), the io_uring blocking fallback on `Compio.Produced` (F8d), and seed C06-4a as a model on `MultiWait`.
-/
import Compio.Lemmas.SharedFd

namespace Compio.Cex.C06
open Compio.SharedFd

/-- the closer `c` is parked, owns the only reference, and nobody has woken it: `close().await` hangs -/
def Stuck (s : St) (c : Nat) : Prop :=
  s.actors[c]? = some (.closer .parked) ∧ s.count = 1 ∧ c ∉ s.woken ∧ refs s.actors = 1

instance (s : St) (c : Nat) : Decidable (Stuck s c) := by unfold Stuck; infer_instance

/-- `Stuck` really is for ever, in every reachable state of either build: no actor other than the
closer itself can take a step any more (nobody else owns a reference), so nothing will ever wake it;
the only enabled events are a poll of the closer — which nothing triggers — or dropping its future. -/
theorem stuck_is_forever (b : Bool) (evs : List Ev) (s s' : St) (c : Nat) (e : Ev)
    (h : run (init b) evs = some s) (hst : Stuck s c) (hs : step s e = some s') : e.target = c :=
  stuck_forever (inv_reach h) hst.1 hst.2.1 hs

/-- F8, first shape (`sync` build): the dropper's wake is issued BEFORE its decrement; the woken closer
re-polls in between, still sees 2, parks again; the decrement follows and nobody wakes the closer. -/
theorem sync_wake_before_decrement_counterexample :
    ∃ s, run (init true)
      [.clone 0, .take 0, .poll 0,          -- closer parked, count 2
       .dropCheck 1,                        -- other thread: count == 2 && waits → wake
       .pBegin 0, .pTry1 0, .pReg 0, .pTry2 0,  -- woken closer polls: 2, register, 2 → Pending
       .dropDec 1]                          -- other thread: decrement → 1
      = some s ∧ Stuck s 0 := ⟨_, rfl, by decide⟩

/-- F8, second shape: two droppers on two threads both read `strong_count == 3`: neither wakes. -/
theorem sync_two_droppers_counterexample :
    ∃ s, run (init true)
      [.clone 0, .clone 0, .take 0, .poll 0, .dropCheck 1, .dropCheck 2, .dropDec 1, .dropDec 2]
      = some s ∧ Stuck s 0 ∧ s.wakes = 0 := ⟨_, rfl, by decide⟩

/-- F8b (both builds, single thread): a second `take()`/`close()` on another clone finds `waits` set,
returns `None` and drops its raw `Shared` without the wake test. -/
theorem second_closer_lost_wake_counterexample :
    ∃ s, run (init false) [.clone 0, .take 0, .poll 0, .take 1, .poll 1] = some s ∧
      Stuck s 0 ∧ s.wakes = 0 ∧ s.actors[1]? = some (.closer .doneNone) := ⟨_, rfl, by decide⟩

/-- F8b, second shape: a `take()` future dropped before its first poll drops the raw `Shared` too. -/
theorem unpolled_take_dropped_lost_wake_counterexample :
    ∃ s, run (init false) [.clone 0, .take 0, .poll 0, .take 1, .dropFut 1] = some s ∧
      Stuck s 0 ∧ s.wakes = 0 := ⟨_, rfl, by decide⟩

/-- F8c: `File::close` / `Socket::close` future dropped before its first poll: the handle sits in a
`ManuallyDrop` inside the never-started `async` block, its reference is never released, the
descriptor is never closed although no usable value is left. -/
theorem close_unpolled_leak_counterexample :
    ∃ s, run (init false) [.close 0, .dropFut 0] = some s ∧
      s.released = 0 ∧ s.count = 1 ∧ s.actors = [.closer .leaked] ∧
      ∀ e, step s e = none := by
  refine ⟨_, rfl, by decide, by decide, by decide, ?_⟩
  intro e
  cases e with
  | clone n | opStart n | drop n | dropCheck n | dropDec n | tryUnwrap n | take n | close n | poll n
  | pSwap n | pNone n | pTry1 n | pReg n | pTry2 n | pBegin n | dropFut n =>
    cases n with
    | zero => rfl
    | succ n => rfl
  | setWaker n w =>
    cases n with
    | zero => rfl
    | succ n => rfl

/-- F8d: io_uring driver on a kernel without the opcode (`IORING_OP_SOCKET` < 5.19): the blocking
fallback adopts the created descriptor twice; the caller receives a descriptor that has already been
closed (and will close the number again). -/
theorem iour_blocking_fallback_counterexample :
    ∃ s, Compio.Produced.run Compio.Produced.init [.poll, .completeFallback, .poll] = some s ∧
      s.finished ∧ 0 ∈ s.taken ∧ 0 ∈ s.closed := by
  refine ⟨_, rfl, ?_⟩
  unfold Compio.Produced.St.finished
  decide

/-- seed C06-4a as a model: a `cancel` that stops after the first descriptor whose interest it removed.
For a two-descriptor op (`Splice`) one interest — and with it one key clone — survives: the op is never
dropped, its clones of both pipe ends are never released. -/
def cancelFirstOnly (s : Compio.MultiWait.St) (key : Nat) : List Nat → Compio.MultiWait.St
  | [] => s
  | fd :: rest =>
    if s.reg.any (fun e => e == (fd, key)) then
      { s with reg := s.reg.filter (fun e => !(e == (fd, key))), completed := key :: s.completed }
    else cancelFirstOnly s key rest

theorem cancel_first_only_counterexample :
    Compio.MultiWait.keyRefs
      (Compio.MultiWait.reap
        (cancelFirstOnly (Compio.MultiWait.dropFuture (Compio.MultiWait.push Compio.MultiWait.init 7 [3, 4]) 7) 7 [3, 4]) 7) 7
      = 1 := by decide

end Compio.Cex.C06
