/- C08 — machine-checked witnesses of defects and of the points the theorems of Props/C08 exclude: a read row of
kind `init` (F2), a vectored read that is not recorded (F15) or shrinks a member, the three points where the drivers
differ from each other and from `pread` (C08a sequential read on a regular file, C08b 0-byte read of a directory,
C08c offset `-1`), and what the trial changes to /repo would do: custom flags that are not masked, a length narrowed
by a cast, `AlreadyExists` taken for "is a directory", both ends of a `splice` registered with epoll (F080). -/
import Compio.Lemmas.BufShape
import Compio.Model.DirUtil

namespace Compio.Cex.C08

open Compio Compio.BufShape Compio.FileRef

def fresh5 : Buf := Buf.ofRoot ⟨[0, 1, 2, 3, 4], 0⟩

/-- "hello world!" -/
def hello : Bytes := [104, 101, 108, 108, 111, 32, 119, 111, 114, 108, 100, 33]

/-- F2 (repaired in /repo e6d0541): had the vectored read handed the *initialised* ranges (`sys_slices()`)
to the OS, two `Vec::with_capacity(5)` on a 12-byte file would read 0 bytes; with the writable ranges 10. -/
theorem f2_init_kind_reads_nothing_counterexample :
    (readVecOp .init [fresh5, fresh5] hello 0).1 = 0 ∧ (readVecOp .writable [fresh5, fresh5] hello 0).1 = 10 := by
  decide

/-- F15 reached through file reads (known finding): `advance_vec_to(n)` is a no-op when `n` does not exceed
the members' current total length. Reading 2 bytes into [empty Vec with capacity 3, full 2-byte Vec]: the
OS stores both bytes in the first member, nothing is recorded, and the visible content is the stale second
member — the data read is not a prefix of what the caller sees. The positive theorem
(`read_vectored_law`, visible content = data) is therefore stated for fresh members. -/
theorem f15_vectored_read_not_recorded_counterexample :
    let bs := [Buf.ofRoot ⟨[0, 0, 0], 0⟩, Buf.ofRoot ⟨[7, 8], 2⟩]
    let res := readVecOp .writable bs [1, 2] 0
    res.1 = 2 ∧ windowVec res.2 = [1, 2, 0, 7, 8] ∧ visibleVec res.2 = [7, 8] ∧
      res.2.map (·.root.len) = [0, 2] := by
  decide

/-- the vectored mapping can also SHRINK a member (the single-buffer `advance_to` never does): 4 bytes into
[capacity 3 holding 1 byte, capacity 3 holding 2 bytes] records lengths 3 and 1 -/
theorem vectored_set_len_shrinks_member_counterexample :
    let bs := [Buf.ofRoot ⟨[5, 0, 0], 1⟩, Buf.ofRoot ⟨[7, 8, 0], 2⟩]
    (readVecOp .writable bs [1, 2, 3, 4] 0).2.map (·.root.len) = [3, 1] := by
  decide

/-- C08a (known finding): sequential reads through `AsyncFd` on a regular file. The io_uring entry carries
offset 0 whatever the file position is, so the second 5-byte read of "hello world!" returns "hello" again,
where `read(2)` continues at position 5; the polling driver fails with `EPERM`. -/
theorem c08a_seq_read_restarts_at_zero_counterexample :
    seqOffset .iour 5 = .ok 0 ∧ seqOffset .poll 5 = .error EPERM ∧
    (readOp .writable fresh5 hello 0).2.visible = [104, 101, 108, 108, 111] ∧
    pread hello 5 5 = [32, 119, 111, 114, 108] := by
  refine ⟨rfl, rfl, by decide, by decide⟩

def h0 : Handle := ⟨some 0, true, true, 0⟩
def s0 : St := { inodes := [(0, hello)] }

/-- C08c (known finding): position `u64::MAX` is `-1`; `pread`/`pwrite` (and the polling driver) answer
`EINVAL`, io_uring reads/writes at the file position and advances it -/
theorem c08c_offset_minus_one_counterexample :
    readView .poll s0 h0 minusOne 4 false = .error EINVAL ∧
    readView .iour s0 h0 minusOne 4 false = .ok (hello, 0, true) ∧
    (writeAtPos .poll s0 1 h0 0 minusOne [1]).2 = "err 22" ∧
    (writeAtPos .iour s0 1 h0 0 minusOne [1]).2 = "ok 1" := by
  refine ⟨by rfl, by rfl, by rfl, by rfl⟩

/-- C08b (known finding): a single 0-byte read of a directory handle: `EISDIR` from `pread` and the polling
driver, 0 from io_uring -/
theorem c08b_zero_read_of_directory_counterexample :
    readView .poll s0 ⟨none, true, false, 0⟩ 0 0 false = .error EISDIR ∧
    readView .iour s0 ⟨none, true, false, 0⟩ 0 0 false = .ok ([], 0, false) := by
  refine ⟨by rfl, by rfl⟩

/-- seed C08-b (why `custom_flags` must mask): without the `.difference(OFlags::ACCMODE)` (mask list `[]`),
`read(true).custom_flags(O_WRONLY|O_NOFOLLOW)` opens write-only and `write(true).custom_flags(O_RDWR|O_NOFOLLOW)`
yields access mode 3 -/
theorem unmasked_custom_flags_change_access_mode_counterexample :
    flagWord [.CLOEXEC, .RDONLY] (keepCustom [] (0o400000 + 1)) % 4 = 1 ∧
    flagWord [.CLOEXEC, .WRONLY] (keepCustom [] (0o400000 + 2)) % 4 = 3 := by
  decide

/-- seed C08-2b (why the length derivation is in the table): with a plain cast a fresh buffer of capacity 2^32
asks the OS for 0 bytes — a false end of file with 14 bytes pending — and capacity 2^32+5 for at most 5 -/
theorem cast_length_false_eof_counterexample :
    hugeRead .cast (2 ^ 32) hello = [] ∧ (hugeRead .cast (2 ^ 32 + 5) hello).length = 5 ∧
    hugeRead .saturating (2 ^ 32) hello = hello := by
  decide

/-- seed C08-3a (why the arms of `create_dir_all` are regenerated): with the re-check arm replaced by
`Err(e) if e.kind() == AlreadyExists => return Ok(())`, `create_dir_all` answers `Ok` for an existing regular
file and for a dangling symlink — nothing is a directory afterwards -/
theorem already_exists_is_not_is_dir_counterexample :
    let seeded : List Gen.DirBuilder.Arm :=
      [⟨true, .always, .retOk⟩, ⟨false, .kindEq 2, .fall⟩, ⟨false, .kindEq 17, .retOk⟩, ⟨false, .always, .retErr⟩]
    let ns : DirUtil.Ns := { ents := [(["f"], .file 0), (["dang"], .link 1 ["nowhere"])], nextIno := 2 }
    (DirUtil.cda DirUtil.Ns.ops seeded Gen.DirBuilder.secondAttempt 2 ns ["f"]).2 = .ok () ∧
    DirUtil.Ns.isDir ns ["f"] = false ∧
    (DirUtil.cda DirUtil.Ns.ops seeded Gen.DirBuilder.secondAttempt 2 ns ["dang"]).2 = .ok () ∧
    (DirUtil.cda DirUtil.Ns.ops Gen.DirBuilder.firstAttempt Gen.DirBuilder.secondAttempt 2 ns ["f"]).2
      = .error FileRef.EEXIST := by
  refine ⟨by rfl, by rfl, by rfl, by rfl⟩

/-- F080 (repaired in /repo 482f69a): had the polling driver registered both ends of a splice with epoll
(`bothEnds`), which refuses regular files, every splice from or to a regular file would fail with `EPERM` there,
while io_uring (and `splice(2)`) move the bytes -/
theorem f080_poll_splice_regular_file_counterexample :
    let s : St := { inodes := [(0, hello)], handles := [(1, ⟨some 0, true, true, 0⟩)],
                    pipes := [(1, ⟨[], true, true, false, 0, []⟩)] }
    (St.splice .poll .bothEnds s (.file 1) (.pipe 1) 5 none none).2 = .err EPERM ∧
    (St.splice .iour .bothEnds s (.file 1) (.pipe 1) 5 none none).2 = .ok 5 ∧
    (St.splice .poll .pollableEnds s (.file 1) (.pipe 1) 5 none none).2 = .ok 5 := by
  refine ⟨by rfl, by rfl, by rfl⟩

end Compio.Cex.C08
