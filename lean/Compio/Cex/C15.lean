/-
C15 — machine-checked witnesses of the defects found with the harness (both reproduced on the real code,
see notes/C15.md and known-findings.json F150 / F151) and of two latent defects of the model level (the `Done` arm of
`handshake()`, the double flush of compio-ws). The runs are `TlsSys.run` over `Sys.init`, as the driver executes them;
the compio-ws witness is a theorem about `WsShim.pollFlush` in every state.
-/
import Compio.Model.TlsSys
import Compio.Model.WsShim

namespace Compio.Cex.C15
open Compio.TlsNet Compio.TlsShim Compio.TlsSys

/-- a three-flight handshake (client hello, server flight, client finished) -/
def tape3 : List Side := [.client, .client, .server, .server, .server, .client]

def sched (buffering astream : Bool) (dw dfh df : Nat) : Sched :=
  { lim := 4, buffering, astream, dr := 0, dw, dfh, df, fuel := 400 }

def hasAlert (l : List Cell) : Bool := l.any (· == Cell.alert)

/-! ### F150: native-tls back-end, `poll_close` over a buffering transport whose flush pends once -/

def f150 : Sys := (run 200 (Sys.init (sched true false 0 0 1) false tape3 2 [.closeInit] [.closeResp])).1

/-- the handshake completes, the client's `close()` returns `Ok` (step result `running 1` = past the close,
inside the read), and then nobody can run any more -/
theorem f150_close_stuck :
    (run 200 (Sys.init (sched true false 0 0 1) false tape3 2 [.closeInit] [.closeResp])).2 = .stuck
    ∧ f150.c.res = [.ok 0, .running 1] ∧ f150.s.res = [.ok 0, .running 0] := by decide +kernel

/-- ... because the close_notify is still in the client's transport buffer: the `Pending` of the flush that
`SSL_shutdown` issues was ignored, and `poll_close` neither retries it nor closes the transport -/
theorem f150_alert_stranded :
    hasAlert f150.tpC.wbuf.toList = true ∧ hasAlert f150.c2s.q.toList = false ∧ f150.c2s.closed = false
    ∧ f150.tpC.cf = 1 := by decide +kernel

/-- the same transport with a flush that never pends: clean close -/
theorem f150_guard_flush_ready :
    let r := run 200 (Sys.init (sched true false 0 0 0) false tape3 2 [.closeInit] [.closeResp])
    r.2 = .done ∧ r.1.c.res = [.ok 0, .ok 0] ∧ r.1.s.res = [.ok 0, .ok 0] := by decide +kernel

/-- the same defect over compio's `AsyncStream` (always buffering) when the inner write pends once -/
theorem f150_astream :
    let r := run 200 (Sys.init (sched false true 1 0 0) false tape3 2 [.closeInit] [.closeResp])
    r.2 = .stuck ∧ r.1.c.res = [.ok 0, .running 1] ∧ hasAlert r.1.tpC.wbuf.toList = true
    ∧ r.1.tpC.flushing = true := by decide +kernel

/-! ### F151: rustls back-end (futures-rustls `Stream::handshake`), a `Pending` flush is dropped -/

def f151 : Sys := (run 200 (Sys.init (sched true false 0 1 0) true tape3 2 [] [])).1

theorem f151_handshake_stuck :
    (run 200 (Sys.init (sched true false 0 1 0) true tape3 2 [] [])).2 = .stuck
    ∧ f151.c.res = [.running 0] ∧ f151.s.res = [.running 0] := by decide +kernel

/-- the client hello sits in the client's transport buffer behind the one flush call that returned `Pending` -/
theorem f151_hello_stranded :
    f151.tpC.wbuf.toList = [Cell.hs, Cell.hs] ∧ f151.c2s.q.toList = [] ∧ f151.tpC.cf = 1 := by decide +kernel

theorem f151_guard_flush_ready :
    let r := run 200 (Sys.init (sched true false 0 0 0) true tape3 2 [] [])
    r.2 = .done ∧ r.1.c.res = [.ok 0] ∧ r.1.s.res = [.ok 0] := by decide +kernel

/-! ### latent (model level only, not reachable with a real TLS handshake polled in lockstep):
`handshake()` returns `StartedHandshake::Done` without `finish_handshake()` and without the flush when the
engine finishes inside the first poll. With a two-flight "handshake" the server's flight is never flushed
and `handshaken` stays false, so every later `poll_flush` is a no-op. -/

def tape2 : List Side := [.client, .server]

theorem done_path_unflushed :
    let r := run 200 (Sys.init (sched true false 0 0 0) false tape2 0 [] [])
    r.2 = .stuck ∧ r.1.s.res = [.ok 0] ∧ r.1.c.res = [.running 0]
    ∧ r.1.tpS.wbuf.toList = [Cell.hs] ∧ r.1.s2c.q.toList = [] := by decide +kernel

/-! ### latent (model level only): the double flush of compio-ws restarts the protocol flush on every poll

`WebSocketStream::poll_flush` is `ready!(inner.poll_flush(cx))` followed by `ready!(stream.poll_flush(cx))`,
and the first of the two is started afresh on every poll. Over a transport on which *every* flush call returns
`Pending` at least once before it is performed (`df ≥ 1`), the two can never be `Ready` within the same poll:
the flush never completes although every `Pending` has its wake-up - a spin. The transports compio-ws admits
(`PollFd`, `TlsStream<PollFd>`) complete a flush with nothing to write immediately (`df = 0`), so this cannot
be reproduced on the real code; the positive theorems of `Props/C15` are conditional on `Ready` and hold for
every schedule. -/

open Compio.WsShim in
theorem ws_flush_never_ready_of_flush_delay (sc : WSched) (w : Ws) (v : WView) (hdf : 1 ≤ sc.df) :
    (WsShim.pollFlush sc w v).2.2 ≠ .ready () := by
  intro h
  unfold WsShim.pollFlush at h
  cases he : engFlush sc w.e v with
  | mk e1 x =>
    obtain ⟨v1, r1⟩ := x
    rw [he] at h
    cases r1 with
    | pending p => simp at h
    | ready u =>
      cases u
      simp only at h
      -- the flush inside the protocol flush has just been performed: its counter is back at 0
      have hcf : v1.cf = 0 := by
        unfold engFlush at he
        simp only at he
        cases hw : writeOut sc w.e.queueReply.out v with
        | mk rest y =>
          obtain ⟨v0, r0⟩ := y
          rw [hw] at he
          cases r0 with
          | pending p => simp at he
          | ready u =>
            cases u
            simp only at he
            cases hf : sFlush sc v0 with
            | mk v2 r2 =>
              rw [hf] at he
              cases r2 with
              | pending p => simp at he
              | ready u =>
                simp only [Prod.mk.injEq] at he
                rw [← he.2.1]
                unfold sFlush at hf
                split at hf
                · simp at hf
                · simp only [Prod.mk.injEq] at hf
                  rw [← hf.1]
      unfold sFlush at h
      simp [hcf, show 0 < sc.df by omega] at h

end Compio.Cex.C15
