/-
C17 — machine-checked witnesses, as concrete schedules of the model the driver executes (code as it is,
`reserve = false`): the two defects of `AsyncifyPool::dispatch` below, and the `thread_limit == 0` panic that drops
the closure unrun.  `stuck` says when no event at all is enabled (used for F170).

F10  `counter` is incremented by the worker after it has started but read by the dispatcher before it
     spawns: more than `thread_limit` pool threads, and then more than `thread_limit` jobs at once.
F170 the freshly spawned worker may reach `recv_timeout`, time out and exit before the dispatcher
     reaches `sender.send(f)`: the rendezvous `send` then blocks with no worker left.
-/
import Compio.Lemmas.AsyncifyPool

namespace Compio.Cex.C17
open Compio Compio.Asyncify

/-- two dispatchers (e.g. two runtimes sharing the pool), `thread_limit = 1`: both read `counter = 0` -/
def twoDispatchers : List Event :=
  [.submit 0 .value, .submit 1 .value, .trySend 0, .trySend 1, .load 0, .load 1,
   .spawn 0, .spawn 1, .send 0, .send 1, .count 0, .count 1, .recv 0, .recv 1]

/-- **F10**: two jobs run at once although the limit is 1 -/
theorem overshoot_two_dispatchers_counterexample :
    ∃ s, run? (init 1 2 false) twoDispatchers = some s ∧ s.limit = 1 ∧ running s = 2 ∧ live s = 2 ∧ s.counter = 2 := by
  refine ⟨_, rfl, ?_⟩; decide

/-- the same schedule is impossible once the slot is reserved with the limit check:
the second `load` refuses, so its `spawn` is not enabled -/
theorem overshoot_excluded_by_reservation : run? (init 1 2 true) twoDispatchers = none := by decide

/-- one dispatcher, `thread_limit = 2`: the blocking `send` of job 1 is served by the older worker 0
while the new thread 1 has not counted itself yet, so job 2 spawns a third thread -/
def oneDispatcher : List Event :=
  [.submit 0 .value, .trySend 0, .load 0, .spawn 0, .send 0, .count 0, .recv 0,
   .submit 0 .value, .trySend 0, .load 0, .spawn 0, .send 0, .finish 0, .recv 0,
   .submit 0 .value, .trySend 0, .load 0, .spawn 0, .send 0, .count 1, .recv 1, .count 2, .recv 2,
   .submit 0 .value, .trySend 0, .wake 2]

/-- **F10**, single dispatcher: three threads, three jobs at once, limit 2 -/
theorem overshoot_single_dispatcher_counterexample :
    ∃ s, run? (init 2 1 false) oneDispatcher = some s ∧ s.limit = 2 ∧ running s = 3 ∧ live s = 3 := by
  refine ⟨_, rfl, ?_⟩; decide

/-- the new worker retires (idle timeout) between `thread::spawn` and `sender.send` -/
def strand : List Event :=
  [.submit 0 .value, .trySend 0, .load 0, .spawn 0, .count 0, .recv 0, .timeout 0, .exit 0, .send 0]

/-- when every dispatcher is blocked in `send`, every pool thread has exited and no result is waiting to be
collected, no event is enabled -/
theorem stuck {s : State} (hd : ∀ d, d < s.nd → s.disp d = .blocked) (hw : ∀ w, w < s.nw → s.wrk w = .exited)
    (hc : s.completed = []) (e : Event) : step? s e = none := by
  cases h : step? s e with
  | none => rfl
  | some s' =>
    exfalso
    obtain ⟨x, y, a, b, h⟩ := step_sound h
    cases h with
    | submit h1 h2 | tryHand h1 h2 | tryFull h1 h2 | loadPanic h1 h2 | loadRefuse h1 h2 | loadReserve h1 h2 | loadPass h1 h2
    | spawn h1 h2 | sendHand h1 h2 | sendBlock h1 h2 | retry h1 h2 | giveUp h1 h2 | unwind h1 h2 =>
      exact nomatch h2.symm.trans (hd _ h1)
    | reap h2 => rw [hc] at h2; cases h2
    | countRes h1 h2 | count h1 h2 | serve h1 h2 | park h1 h2 | wake h1 h2 | timeout h1 h2 | crash h1 h2 | finish h1 h2
    | exit h1 h2 =>
      exact nomatch h2.symm.trans (hw _ h1)

/-- **F170**: the dispatcher is blocked inside `dispatch`, its job sits in the channel, no pool thread is
left, the job was never started, and *no* event is enabled any more: with a single runtime the thread
is stuck in `push_blocking` for good. -/
theorem stranded_dispatch_counterexample :
    ∃ s, run? (init 1 1 false) strand = some s ∧ s.disp 0 = .blocked ∧ s.sendq = [(0, 0)] ∧ live s = 0
      ∧ ranCount s 0 = 0 ∧ ∀ e, step? s e = none := by
  exact ⟨_, rfl, by decide, by decide, by decide, by decide, stuck (by decide) (by decide) (by decide)⟩

/-- the window also opens without any timer when the parked new worker is taken by another
dispatcher's `try_send` and that job's uncaught panic kills it (raw `dispatch` users only) -/
def strandByCrash : List Event :=
  [.submit 0 .value, .trySend 0, .load 0, .spawn 0, .count 0, .recv 0,
   .submit 1 .raw, .trySend 1, .send 0, .wake 0, .finish 0, .exit 0]

theorem stranded_by_crash_counterexample :
    ∃ s, run? (init 2 2 false) strandByCrash = some s ∧ s.disp 0 = .blocked ∧ s.sendq = [(0, 0)] ∧ live s = 0
      ∧ s.crashed = [1] := by
  refine ⟨_, rfl, ?_⟩; decide

/-- `thread_limit = 0`: `dispatch` panics and the closure is dropped unrun -/
theorem limit_zero_drops_counterexample :
    ∃ s, run? (init 0 1 false) [.submit 0 .value, .trySend 0, .load 0, .giveUp 0] = some s
      ∧ s.dropped = [0] ∧ ranCount s 0 = 0 := by
  refine ⟨_, rfl, ?_⟩; decide

end Compio.Cex.C17
