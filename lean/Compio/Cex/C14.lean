/-
C14 — machine-checked witnesses of defects and of points excluded from the positive theorems: the vectored receive
guard (F141), the fallback op that never learned its result (F140), an unclamped `MSG_TRUNC` return; headers of
`io_uring_recvmsg_out` the two `assert!`s let through and one the second stops, a control length on which op and parser
disagree; what the stream adapters do after an error and at the end.
-/
import Compio.Lemmas.SockMap
import Compio.Model.RecvMsgOut
import Compio.Model.MultiStream

namespace Compio.C14.Cex

open Compio Compio.Sock

/-- F141 (socket flavour of F19): `recv_vectored` into `[Vec::with_capacity(4), [0xee; 4]]` with 3
bytes received: `advance_vec_to(3)` compares with the sum of the current lengths (4), finds nothing
to do, and the caller sees no received byte at all although `Ok(3)` is returned. -/
theorem f141_recv_vectored_counterexample :
    let bs := [Buf.vecOf [] 4, Buf.arrOf [0xee, 0xee, 0xee, 0xee]]
    ∃ bs', mapRecvVectored 3 (scatter bs [1, 2, 3]) = .ok (3, bs') ∧
      seen bs' 3 = [] ∧ bs'.map (·.vis) = [[], [0xee, 0xee, 0xee, 0xee]] ∧
      ¬ (3 > totalLen bs ∨ covers bs 3 = true) := by
  refine ⟨_, rfl, rfl, rfl, ?_⟩
  decide

/-- F141, second face: a member that already has content and spare room is cut back —
`[Vec "ab" cap 4, Vec "xyz" cap 4]`, 6 bytes received: the second member's length goes from 3 to 2. -/
theorem f141_prefilled_counterexample :
    let bs := [Buf.vecOf [0x61, 0x62] 4, Buf.vecOf [0x78, 0x79, 0x7a] 4]
    ∃ bs', mapRecvVectored 6 (scatter bs [1, 2, 3, 4, 5, 6]) = .ok (6, bs') ∧
      bs'.map (·.vis) = [[1, 2, 3, 4], [5, 6]] := ⟨_, rfl, rfl⟩

/-- F140 (repaired in /repo 9127ff7; this is the behaviour *before* the repair, `setResultUnfixed`): in the
fusion build the polling fallback of `RecvFromMulti` / `RecvMsgMulti` never learned the result
(`set_result` was not forwarded), `take_buffer` advanced to 0: every datagram arrived empty. -/
theorem f140_fusion_poll_counterexample (cap : Nat) (w : Bytes) :
    ∃ b, ((FallbackMulti.mk ((Buf.poolOf cap).write w) 0).setResultUnfixed w.length).takeBuffer = .ok b ∧
      b.vis = [] := by
  refine ⟨(Buf.poolOf cap).write w, ?_, ?_⟩
  · simp [FallbackMulti.setResultUnfixed, FallbackMulti.takeBuffer, advanceTo, Buf.write, Buf.poolOf]
  · simp [Buf.vis, Buf.write, Buf.poolOf]

/-- excluded point of `compLen_exact`: a receive call that reports more than the capacity (only with
`MSG_TRUNC` among the *receive* flags) on a flavour that does not clamp makes `Vec::set_len` exceed
the capacity -/
theorem unclamped_trunc_counterexample :
    compLen .recv .poll 10 4 = 10 ∧
      mapRecv (compLen .recv .poll 10 4) ((Buf.vecOf [] 4).write [1, 2, 3, 4]) = .ub := by
  constructor <;> rfl

def bufNamelen129 : Bytes :=
  RecvMsgOut.leBytes4 129 ++ RecvMsgOut.leBytes4 0 ++ RecvMsgOut.leBytes4 0 ++ RecvMsgOut.leBytes4 0
    ++ List.replicate 140 0

/-- excluded point of `addr_in_bounds`: a header with `namelen = 129` passes both `assert!`s of `new`
(they only look at `payloadlen`), and `addr()` then copies 129 bytes into the 128-byte
`SockAddrStorage` without a check.  Not reachable with a kernel-written buffer (no address family is
longer than `sockaddr_storage`); reachable through the public `unsafe fn RecvMsgMultiResult::new`. -/
theorem namelen_unchecked_counterexample :
    RecvMsgOut.new bufNamelen129 0 = .ok ⟨bufNamelen129, 0⟩ ∧
      (RecvMsgOut.Parsed.mk bufNamelen129 0).addr = .ub := by
  decide +kernel

def bufCtl3 : Bytes :=
  RecvMsgOut.leBytes4 0 ++ RecvMsgOut.leBytes4 3 ++ RecvMsgOut.leBytes4 4 ++ RecvMsgOut.leBytes4 0
    ++ List.replicate 128 0 ++ [7, 7, 7, 7]

/-- `ancillary()` trusts `controllen`: a header claiming more control bytes than the registered area
(`clen = 0`) yields a slice that runs into the payload (inside the buffer, so no panic) -/
theorem controllen_overlaps_payload_counterexample :
    RecvMsgOut.new bufCtl3 0 = .ok ⟨bufCtl3, 0⟩ ∧
      (RecvMsgOut.Parsed.mk bufCtl3 0).ancillary = .ok [7, 7, 7] ∧
      (RecvMsgOut.Parsed.mk bufCtl3 0).data = .ok [7, 7, 7, 7] := by
  decide +kernel

def bufTrunc : Bytes :=
  RecvMsgOut.leBytes4 0 ++ RecvMsgOut.leBytes4 0 ++ RecvMsgOut.leBytes4 1000 ++ RecvMsgOut.leBytes4 0x20
    ++ List.replicate 128 0 ++ [1, 2, 3]

/-- with `MSG_TRUNC` among the *receive* flags the kernel reports the full datagram length in
`payloadlen`; the second `assert!` then fires (a panic, not an out-of-bounds read) -/
theorem payloadlen_beyond_buffer_panics : RecvMsgOut.new bufTrunc 0 = .panic := by
  decide +kernel

def bufClen16 : Bytes := RecvMsgOut.layout [] [] [0x68, 0x69] 0 16

/-- the op (which tells the kernel the size of the control area) and the result parser must use the
SAME control length: a buffer laid out for 16 control bytes parsed with `clen = 13` yields the payload
with 3 stale control-area bytes in front (seeded change C14-a rounded the op's value up to the `cmsghdr`
alignment while the stream adapter kept parsing with the caller's value) -/
theorem clen_mismatch_counterexample :
    (RecvMsgOut.Parsed.mk bufClen16 13).data = .ok [0, 0, 0, 0x68, 0x69] ∧
      (RecvMsgOut.Parsed.mk bufClen16 16).data = .ok [0x68, 0x69] := by
  decide +kernel

open Compio.MultiStream in
/-- an error does not end the stream: it is yielded once and the next poll re-submits
(`ENOBUFS`, then data again) -/
theorem error_does_not_end_stream :
    (Stream.take 3 (Stream.new .bytes
      [.op [⟨.err .busy, false, none⟩], .op [⟨.ok 2, true, some [5, 6]⟩, ⟨.ok 0, false, none⟩]])).1
      = [.err .busy, .item [5, 6], .end_] := by decide

open Compio.MultiStream in
/-- the datagram flavours (`recv_from_multi`, `recv_msg_multi`, `read_multi_with_ancillary`) have no
end-of-stream token: a terminal 0-byte completion with a buffer is an item with empty data, and the
stream re-submits -/
theorem msg_flavour_never_ends :
    (Stream.take 2 (Stream.new .msg [.op [⟨.ok 0, false, some []⟩], .op [⟨.ok 0, false, some []⟩]])).1
      = [.item [], .item []] := by decide

open Compio.MultiStream in
/-- `Ready(None)` is not sticky: polled again after the end, an un-cancelled stream submits again -/
theorem end_is_not_fused :
    (Stream.take 2 (Stream.new .bytes [.op [⟨.ok 0, false, none⟩], .op [⟨.ok 1, false, some [4]⟩]])).1
      = [.end_, .item [4]] := by decide

end Compio.C14.Cex
