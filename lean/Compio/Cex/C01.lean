/-
C01 — machine-checked witnesses.

* F13 (repaired in /repo by 4ea6d14): before the repair `impl Drop for iour::Driver` turned EVERY CQE of the drained
  completion queue back into a key, also the ones flagged `more`. The model with `drainChecksMore := false` (what
  the extractor read from the pre-fix source) reaches states that violate the C01 statements; with the repaired
  loop (`drainChecksMore := true`, what it reads now) the same event lists are harmless.
* the order of the statements of that `Drop` matters: with "free in-flight keys" before "close ring" an
  operation is freed while the kernel still has it in flight and the ring is open.
* on the several-descriptor model (`MultiFd`): a cancel loop of the polling driver that leaves after the first
  descriptor (seeded change C01-4a) leaves the key registered (`early_break_leaves_key_registered`).
-/
import Compio.Model.KeyLife
import Compio.Model.MultiFd

namespace Compio.Cex.C01

open Compio Compio.KeyLife Compio.PollQueues

/-- the configuration of the source BEFORE commits 4ea6d14 (F13) and 0f15c6d (F9), spelled out: the witnesses below
document the defect that was repaired; `Props/C01.lean` is about `Cfg.gen`, the code as it is now -/
def pinned : Cfg := ⟨[.drainCq, .closeRing, .freeInFlight], false, false⟩

def repaired : Cfg := ⟨[.drainCq, .closeRing, .freeInFlight], true, true⟩

/-- zero-copy send, submitted (`flush`), both CQEs (send result flagged `more`, notification) unseen, the caller
still holds its key, the proactor is dropped -/
def zcHeld : List Event :=
  [.pushSq .zc 6 .wr, .submit, .kPost 0 true (.ok 5), .kPost 0 false (.ok 0), .dropBegin, .dropStep]

/-- **F13, caller still holds the key**: after the drain statement of `Drop` the operation is freed
(`freed = 1`, strong count 0) although the caller owns a handle (`user = 1`): refcount ≠ holders, the
caller's key dangles. -/
theorem F13_freed_under_the_caller_counterexample :
    (run pinned (init .iour 4) zcHeld).map
      (fun s => (s.hazard, s.ring, s.ops.map fun o => (o.user, o.rc, o.freed)))
    = some (true, true, [(1, 0, 1)]) := by rfl

/-- the same, the caller having dropped its future before: the second CQE re-materialises a reference that no
longer exists — use after free / double free (`uaf`) -/
theorem F13_double_release_counterexample :
    (run pinned (init .iour 4)
        [.pushSq .zc 6 .wr, .submit, .userCancel 0 [], .kPost 0 true (.ok 5), .kPost 0 false (.ok 0),
          .dropBegin, .dropStep]).map
      (fun s => s.ops.map fun o => (o.user, o.freed, o.uaf))
    = some [(0, 1, true)] := by rfl

/-- one unseen `more` CQE of a multishot accept whose future was dropped: the operation is freed by the drain
statement while the kernel still has it armed and the ring is still open -/
theorem F13_freed_before_ring_close_counterexample :
    (run pinned (init .iour 4)
        [.pushSq .multi 4 .rd, .submit, .userDrop 0, .kPost 0 true (.ok 1), .dropBegin, .dropStep]).map
      (fun s => (s.ring, s.ops.map fun o => (o.kstat, o.freed)))
    = some (true, [(.inflight, 1)]) := by rfl

/-- what the extractor reads from /repo as it stands, after 4ea6d14 (F13) and 0f15c6d (F9) -/
theorem generated_cfg_is_repaired : Cfg.gen.drainChecksMore = true ∧ Cfg.gen.cancelPushRaw = true := ⟨rfl, rfl⟩

/-- with the drain loop skipping `more` CQEs the same run is fine: the key stays in `in_flight` and is freed
once, after the ring is closed -/
theorem F13_repaired_ok :
    (run repaired (init .iour 4) (zcHeld ++ [.dropStep, .dropStep, .dropStep, .userDrop 0])).map
      (fun s => (s.hazard, s.ops.map fun o => (o.user, o.rc, o.freed, o.uaf)))
    = some (false, [(0, 0, 1, false)]) := by rfl

/-- **drop order**: if `Drop` freed the in-flight keys BEFORE closing the ring, a pending receive whose future
was dropped would be freed while the kernel still owns its buffer and the ring is open (the next event could be
the kernel writing into it: `kPost` is still accepted). -/
theorem free_before_close_counterexample :
    (run ⟨[.drainCq, .freeInFlight, .closeRing], true, true⟩ (init .iour 4)
        [.pushSq .single 0 .rd, .submit, .userCancel 0 [], .dropBegin, .dropStep, .dropStep]).map
      (fun s => (s.ring, s.ops.map fun o => (o.kstat, o.freed)))
    = some (true, [(.inflight, 1)]) := by rfl

/-- … and the kernel's completion is indeed still accepted in that state -/
theorem free_before_close_kernel_still_writes :
    ((run ⟨[.drainCq, .freeInFlight, .closeRing], true, true⟩ (init .iour 4)
        [.pushSq .single 0 .rd, .submit, .userCancel 0 [], .dropBegin, .dropStep, .dropStep,
          .kPost 0 false (.ok 4)]).isSome) = true := by rfl

/-- seeded change C01-4a (`break` after the first cancelled descriptor in `poll::Driver::cancel`): with a loop that leaves
early a two-descriptor operation stays in the write queue of its second descriptor after the cancel was reported, and is
still alive (count 1, not freed) after the poll that reaps the cancellation, although the caller holds nothing -/
theorem early_break_leaves_key_registered :
    (MultiFd.run true (MultiFd.init .poll) [.push [(0, .rd), (1, .wr)], .cancel 0, .poll]).map
      (fun s => (s.reg 0, s.reg 1, s.ops.map fun o => (o.user, o.rc, o.freed, o.result)))
    = some (⟨[], []⟩, ⟨[], [0]⟩, [(0, 1, 0, some 125)]) := by rfl

end Compio.Cex.C01
