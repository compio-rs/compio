/-
C20 — machine-checked witnesses of two defects: F200, which /repo has, and F201, which /repo had up to 61828f8.

F200: polling driver + blocking pipe descriptors: a `write` on the child's stdin occupies the runtime
      thread until the whole chunk is in the pipe; with an echoing child and more bytes in one write
      than stdin pipe + child buffer + stdout pipe hold, the reader of stdout can never run: deadlock.
      (`concurrent_complete`, Props/C20.lean, is the same scenario with `blocking = false`: always finishes.)
F201 (REPAIRED in /repo 61828f8; the witnesses are about the behaviour before the repair, plan
      `heldUnfixed`): `Child::wait(self)` / `wait_with_output(self)` closed a still-contained `stdin` only
      when they returned; a child that reads to end of file never exits, the wait never returns.
      The repaired code drops stdin first, like `std::process` (plan `held`): `wait_closes_stdin_first`, Props/C20.lean.
-/
import Compio.Lemmas.ChildIo

namespace Compio.ChildIo

/-- F200, all sizes: polling driver (`blocking`), the whole payload offered in one `write`
(`payload.length ≤ wchunk`), echoing child, payload larger than both pipes and the child's buffer:
no schedule at all reaches the end — although reader and writer are concurrent tasks. -/
theorem F200_counterexample {c : Cfg} {blk : Nat} {tail : List CAct} {payload : Bytes} {es : List Ev} {s : St}
    (hq : quiet tail = true) (hb : c.blocking = true) (hch : payload.length ≤ c.wchunk)
    (hbig : c.capIn + blk + c.capOut < payload.length)
    (hr : run c (init (.copy none blk .out :: tail) payload false) es = some s) :
    s.completed = false ∧ s.wclosed = false ∧ s.rout = [] := by
  have ⟨h1, h2, h3, _⟩ := unread_run (A := OneWrite) (p := payload) hbig
    (fun hi hc _ ho => noread_oneWrite hi hc ho)
    (fun hi hk ho hne hs => oneWrite_step hi hk.alive hne hb hch ho hs) (inv_init c _ payload false)
    (catInv_init blk tail hq payload false) ⟨rfl, rfl, tail, rfl⟩ rfl (Or.inl ⟨rfl, rfl⟩) hr
  exact ⟨h1, h2, h3⟩

/-- F200, concrete (`f200Cfg`: polling driver, 1-byte pipes, a 1-byte `cat`, 4 bytes in one `write`,
everything concurrent): the canonical schedule ends stuck with nothing finished: one byte in each pipe, one in
the child's buffer, one still in the `write` call that occupies the runtime thread. -/
theorem F200_witness :
    let s := runCanon f200Cfg 100 (init [.copy none 1 .out, .exit 0] [1, 2, 3, 4] false)
    (next f200Cfg s).isNone = true ∧ s.completed = false ∧ s.wblock = 1 ∧ s.wleft = [4] ∧ s.pin = [3] ∧
      s.pend = [2] ∧ s.pout = [1] ∧ s.rout = [] := by
  decide +kernel

/-- the same scenario on io_uring (`blocking = false`) finishes with the four bytes echoed -/
theorem F200_witness_uring :
    let s := runCanon { f200Cfg with blocking := false } 100 (init [.copy none 1 .out, .exit 0] [1, 2, 3, 4] false)
    s.completed = true ∧ s.rout = [1, 2, 3, 4] ∧ s.wt = .done (.exited 0) := by
  decide +kernel

/-- F201 (before the repair), all sizes: the writer's close waits for the wait (`stdin` is still inside the
`Child`; `Plan.heldUnfixed` is such a plan), the child reads to end of file: no schedule finishes, the wait
never completes, the child never exits. -/
theorem F201_counterexample {c : Cfg} {blk : Nat} {dst : Dst} {tail : List CAct} {payload : Bytes} {es : List Ev}
    {s : St} (hheld : c.plan.deps .W .Wt = true)
    (hr : run c (init (.copy none blk dst :: tail) payload false) es = some s) :
    s.completed = false ∧ s.wt.isDone = false ∧ s.status = none := by
  have ⟨hk, hnw⟩ := reading_held_run (blk := blk) (dst := dst) hheld (inv_init c _ payload false)
    ⟨rfl, rfl, tail, rfl⟩ rfl hr
  exact ⟨hk.unfinished, hnw, hk.alive⟩

/-- `Plan.heldUnfixed` satisfies the hypothesis of `F201_counterexample` -/
theorem F201_unfixed_plan : Plan.heldUnfixed.deps .W .Wt = true := rfl

/-- F201 (before the repair), concrete: `cat` with `child.wait().await` and nothing else: stuck after the
wait has started -/
theorem F201_witness :
    let c : Cfg := { exCfg with plan := .heldUnfixed, pidfd := false }
    let s := runCanon c 100 (init [.copy none 4 .out, .exit 0] [] false)
    (next c s).isNone = true ∧ s.completed = false ∧ s.wt = .started ∧ s.wclosed = false ∧ s.status = none := by
  decide +kernel

/-- what `std::process::Child::wait` does, and compio since the repair — close stdin first — finishes -/
theorem F201_witness_repaired :
    let c : Cfg := { exCfg with plan := .held, pidfd := false }
    let s := runCanon c 100 (init [.copy none 4 .out, .exit 0] [] false)
    s.completed = true ∧ s.wt = .done (.exited 0) := by
  decide +kernel

end Compio.ChildIo
