/-
C05 — machine-checked witness of finding F9 (repaired in /repo by commit 0f15c6d).

BEFORE the repair `iour::Driver::cancel` pushed the AsyncCancel SQE with a bare `squeue.push(..)` and only logged a
warning when the submission queue was full, while `Proactor::cancel_token` still returned `true`
(`iourCancelUnfixed`, selected by `cancelPushRaw := false`). With capacity 2 and two receives pushed (both SQ slots
taken, nothing submitted yet) the cancel of the first one was lost: the kernel never heard about it, and on a
never-ready descriptor the operation stayed pending for ever. `F9_repaired_ok` runs the same events on the code as it
is now (`Cfg.gen`): the cancel submits the queue, is queued itself and reaches the kernel.

Last: the witness for seeded change C05-4a on the several-descriptor queues (`seed4a_leaves_key_queued`).
-/
import Compio.Lemmas.KeyLifeCancel
import Compio.Model.PollQueuesMulti05

namespace Compio.Cex.C05

open Compio Compio.KeyLife Compio.PollQueues

/-- the configuration of the source before the repairs of F13 and F9 -/
def pinned : Cfg := ⟨[.drainCq, .closeRing, .freeInFlight], false, false⟩

/-- capacity 2: push, push, register a token for op 0, `cancel_token` -/
def full : List Event :=
  [.pushSq .single 0 .rd, .pushSq .single 1 .rd, .tokenRegister 0, .tokenCancel 0 []]

/-- `cancel_token` reports that a cancellation was issued … -/
theorem F9_cancel_token_says_true :
    ((run pinned (init .iour 2) [.pushSq .single 0 .rd, .pushSq .single 1 .rd, .tokenRegister 0]).bind
      fun s => (s.ops[0]?).map cancelTokRet) = some true := by rfl

/-- **F9**: … but the SQE was dropped (`cancelDropped = 1`, nothing queued for the op), so after the submit the
kernel knows of no cancel (`kcancel = false`) for the in-flight receive -/
theorem F9_cancel_dropped_counterexample :
    (run pinned (init .iour 2) (full ++ [.submit])).map
      (fun s => s.ops.map fun o => (o.cancelled, o.cancelSq, o.cancelDropped, o.kcancel, o.kstat, o.result))
    = some [(true, 0, 1, false, .inflight, none), (false, 0, 0, false, .inflight, none)] := by rfl

/-- one round of `poll`: submit, look at the completion queue -/
def pollRound : List Event := [.submit, .pollEntries]

/-- a round of `poll` changes nothing about an op with nothing queued and nothing posted: by induction it is pending
after any number of polls as long as the descriptor stays unready (the kernel has no reason to post a CQE; `kPost` is
an environment event that needs readiness or a cancel request) -/
theorem F9_never_finishes (n : Nat) :
    ∀ s : State, s.alive = true → s.drv = .iour →
      (∀ o, o ∈ s.ops → o.pendMore = [] ∧ o.pendFinal = none ∧ o.cancelSq = 0 ∧ o.kstat ≠ .queued) →
      ∃ s', run Cfg.gen s ((List.replicate n pollRound).flatten) = some s' ∧ s'.ops = s.ops ∧ s'.alive = true ∧
        s'.drv = .iour := by
  induction n with
  | zero => intro s ha hd _; exact ⟨s, rfl, rfl, ha, hd⟩
  | succ n ih =>
    intro s ha hd hq
    have hsub : s.ops.map Op.submit = s.ops :=
      (List.map_congr_left fun o ho => submit_fix (hq o ho).2.2.1 (hq o ho).2.2.2).trans (List.map_id _)
    have hdr : s.ops.map Op.drainCq = s.ops :=
      (List.map_congr_left fun o ho => drainCq_fix (hq o ho).1 (hq o ho).2.1).trans (List.map_id _)
    have h1 : step Cfg.gen s .submit = some { s with sqLen := 0, ops := s.ops.map Op.submit } := if_pos ⟨ha, hd⟩
    have h2 : step Cfg.gen { s with sqLen := 0 } .pollEntries = some { s with sqLen := 0, ops := s.ops.map Op.drainCq } :=
      if_pos ⟨ha, hd⟩
    rw [hsub] at h1
    rw [hdr] at h2
    have hstep : run Cfg.gen s pollRound = some { s with sqLen := 0 } :=
      (isRun _).cons_some.2 ⟨_, h1, (isRun _).cons_some.2 ⟨_, h2, rfl⟩⟩
    obtain ⟨s', h1, h2, h3, h4⟩ := ih { s with sqLen := 0 } ha hd hq
    refine ⟨s', ?_, h2, h3, h4⟩
    simp only [List.replicate_succ, List.flatten_cons]
    rw [run_append _ _ _ _ _ hstep]; exact h1

/-- the state after the lost cancel and the first submit satisfies the hypothesis of `F9_never_finishes`, and
op 0 has no result in it -/
theorem F9_state_is_stuck :
    (run pinned (init .iour 2) (full ++ [.submit])).map
      (fun s => (s.alive, decide (s.drv = .iour),
        s.ops.map fun o => (o.pendMore, o.pendFinal, o.cancelSq, decide (o.kstat ≠ .queued), o.result)))
    = some (true, true, [([], none, 0, true, none), ([], none, 0, true, none)]) := by rfl

/-- with room in the queue (a poll happened before the cancel) the same cancel did reach the kernel -/
theorem F9_room_is_fine :
    (run pinned (init .iour 2)
        [.pushSq .single 0 .rd, .pushSq .single 1 .rd, .submit, .tokenRegister 0, .tokenCancel 0 [], .submit]).map
      (fun s => s.ops.map fun o => (o.cancelled, o.cancelDropped, o.kcancel))
    = some [(true, 0, true), (false, 0, false)] := by rfl

/-- the repaired code on the very same events: the cancel finds the queue full, submits both receives (`push_raw`),
queues its SQE (`cancelSq = 1`, nothing dropped), and the next submit hands it to the kernel -/
theorem F9_repaired_ok :
    (run Cfg.gen (init .iour 2) full).map
        (fun s => (s.sqLen, s.ops.map fun o => (o.cancelled, o.cancelSq, o.cancelDropped, o.kstat)))
      = some (1, [(true, 1, 0, .inflight), (false, 0, 0, .inflight)]) ∧
    (run Cfg.gen (init .iour 2) (full ++ [.submit])).map
        (fun s => s.ops.map fun o => (o.cancelDropped, o.kcancel, o.kstat))
      = some [(0, true, .inflight), (0, false, .inflight)] := ⟨by rfl, by rfl⟩

/-- seeded/C05-4a (`Driver::cancel` stops after the first descriptor): the cancelled splice (key 0) is still at the head of the
output descriptor's write queue, in front of its neighbour — the next writability event runs it -/
theorem seed4a_leaves_key_queued :
    let reg := Multi05.pushQueues (Multi05.pushQueues PollQueues.Reg.empty [(0, .rd), (1, .wr)] 0) [(0, .rd), (1, .wr)] 1
    (Multi05.cancelQueuesFirstOnly reg [0, 1] 0 1).wq = [0, 1] ∧ (Multi05.cancelQueues reg [0, 1] 0 1).wq = [1] := by decide

end Compio.Cex.C05
