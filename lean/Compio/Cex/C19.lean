/-
C19 — machine-checked witness of finding F14: a call whose envelope is still queued when the actor exits is
never completed (the code as it is: `finish` drops the flume receiver, flume keeps queued items until the last
sender is gone, and the caller's own `Mailbox` is a sender).
Replayed on the real code by corpus/C19/f14-call-stranded.case (monitor `F14:call-stranded-at-exit`).
-/
import Compio.Props.C19

namespace Compio.Cex.C19
open Compio Compio.Actor Compio.Props.C19

/-- capacity 4: message 1 is being handled when call 2 is accepted; the handler stops the actor; the next
`recv` prefers the stop request; `finish` runs; call 2 stays queued in the dead channel -/
def strandedSchedule : List Ev :=
  [ .preStart true, .signalStarted, .postStart true,
    .sendCheck ⟨1, false, 2⟩, .sendPush ⟨1, false, 2⟩, .pollStop, .pollMsg,
    .sendCheck ⟨2, true, 4⟩, .sendPush ⟨2, true, 4⟩,
    .stopSwap, .stopPush, .handlerEnd true, .pollStop,
    .beginStop, .preStop true, .dropRx, .postStop true, .release, .notifyExit ]

theorem call_stranded_counterexample :
    ∃ s, run (St.init 4 false) strandedSchedule = some s ∧
      s.pc = .exited .stopped ∧ s.inflight = [] ∧ s.issued = 1 ∧ s.resolved = [] ∧
      s.queue = [⟨2, true, 4⟩] ∧ s.callResult 2 = none := by
  refine ⟨_, rfl, ?_⟩
  decide

/-- hence the unguarded statement of `calls_over_after_exit_partial` is false -/
theorem calls_over_after_exit_counterexample :
    ¬ (∀ (cap : Nat) (named : Bool) (s : St), Reached cap named s →
        ∀ e, s.pc = .exited e → s.inflight = [] → s.issued = s.resolved.length) := by
  intro h
  obtain ⟨s, hr, hp, hin, his, hres, _⟩ := call_stranded_counterexample
  have := h 4 false s ⟨strandedSchedule, hr⟩ _ hp hin
  rw [his, hres] at this
  simp at this

/-- and the call stays pending for good: after the exit nothing dequeues any more, and as long as a `Mailbox`
handle exists (no `dropSenders`) the only calls that get an answer are new ones, rejected with `Closed` -/
theorem stranded_forever {cap named} (s s' : St) (hreach : Reached cap named s) (e : Ev) (x : Exit)
    (hp : s.pc = .exited x) (hs : step s e = some s') (hne : e ≠ .dropSenders) :
    s'.pc = .exited x ∧ s'.queue = s.queue ∧ s'.handled = s.handled ∧
    (∀ c r, (c, r) ∈ s'.resolved → (c, r) ∈ s.resolved ∨
      (r = .closed ∨ r = .full) ∧ ∃ it, it.id = c ∧ (e = .sendCheck it ∨ e = .sendPush it)) := by
  have hrx : s.rxAlive = false := by rw [hreach.inv.r.rx, hp]; rfl
  -- the task is over, so the step is one of the other threads'; an accepted `try_send` would need the receiver
  have h := (step_sound hs).env_of_terminal (by rw [hp]; rfl)
  have hq : s'.queue = s.queue ∧ s'.handled = s.handled := by
    cases h with
    | sendPushOk _ _ hok => simp [St.pushRes, hrx] at hok
    | _ => exact ⟨rfl, rfl⟩
  refine ⟨h.same.pc.trans hp, hq.1, hq.2, fun c r hm => ?_⟩
  rcases answers_step (.env h) hm with ho | ha | ⟨_, _, hh, _⟩ | ⟨hd, _⟩
  · exact .inl ho
  · exact .inr ha
  · rw [hp] at hh; cases hh
  · exact absurd hd hne

end Compio.Cex.C19
