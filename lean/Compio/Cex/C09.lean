/-
C09 — witnesses of the two points excluded by the guards of Props/C09.lean.
-/
import Compio.Model.Timer

namespace Compio.Cex.C09
open Compio Compio.Timer

/-- `Interval::tick` truncates the remainder `(now - start).as_nanos() % period.as_nanos()` (a `u128`)
with `as _` to the `u64` taken by `Duration::from_nanos`. For a period above 2^64 ns (~584.5 years)
and a start more than 2^64 ns before `now` the truncation drops multiples of 2^64 ns and the tick is
off the grid `start + k * period`. Reproduced on the real code by the harness (`ivx` lines, monitor
`C09a:interval-u64-truncation`, known finding C09a).
Here: period 3·2^64 ns, start 0, called at 2·2^64 + 5; the remainder 2·2^64 + 5 is truncated to 5 and
the tick lands on 5·2^64. -/
theorem interval_truncation_counterexample :
    let iv : Interval := ⟨true, 0, 3 * 2 ^ 64⟩
    let now := 2 * 2 ^ 64 + 5
    iv.tickDeadline now = .deadline (5 * 2 ^ 64) ∧
      (5 * 2 ^ 64 - iv.start) % iv.period ≠ 0 ∧
      -- the aligned instant would have been
      iv.start + ((now - iv.start) / iv.period + 1) * iv.period = 3 * 2 ^ 64 := by
  decide

/-- `TimerRuntime::insert` puts the entry into the map before `generation.checked_add(1).expect(..)`
panics; the entry left behind has generation `u64::MAX`, the one key that `wake` (which splits at
`(now, u64::MAX)`) does not expire at the very instant of its deadline. Reproduced on the real code
up to the panic and the stranded entry (harness `setgen` cases); the coincidence `deadline == now`
cannot be arranged with a real clock. Needs 2^64 timers: of no practical consequence, recorded
because it shows that the guard `WF` of `Props.C09.wake_fires_all_due` is needed. -/
theorem generation_overflow_counterexample :
    let w0 : Wheel := ⟨u64Max, []⟩
    let r := insert w0 5 10
    r.2 = .panic ∧ keys r.1.entries = [⟨10, u64Max⟩] ∧
      keys (wake r.1 10).1.entries = [⟨10, u64Max⟩] ∧ (wake r.1 10).2 = [] ∧
      -- one instant later it does expire
      keys (wake r.1 11).1.entries = [] := by
  decide

end Compio.Cex.C09
