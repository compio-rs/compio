/-
C09: theorems over the extracted shape of `TimerRuntime::insert` (key allocation) and of
the loop of `Runtime::block_on_at` (every iteration sweeps the wheel).
-/
import Compio.Props.C09
import Compio.Model.TimerAlloc
import Compio.Lemmas.Lts

namespace Compio.Props.C09Alloc
open Compio.Timer Compio.Timer.Alloc

/-- the generation of a new key is the counter, the counter starts at 0 and `insert` is the only
place that writes it (all three read from the source) -/
theorem insert_generation_is_counter :
    Compio.Gen.TimerInsert.keyGeneration = .counter ∧ Compio.Gen.TimerInsert.counterInit = 0 ∧
      Compio.Gen.TimerInsert.counterWrites = 1 := by decide

/-- the extracted `insert` is the hand model's `insert`, so every theorem of Props/C09 about `insert`
is a theorem about the statement list read from the source -/
theorem insertG_eq_insert (w : Wheel) (now d : Nat) : insertG w now d = some (Timer.insert w now d) := by
  unfold insertG Timer.insert
  simp only [Compio.Gen.TimerInsert.body, Compio.Gen.TimerInsert.keyGeneration, execStmts, stmt]
  by_cases h1 : d ≤ now
  · simp [h1]
  · by_cases h2 : w.gen ≥ u64Max
    · simp [h1, h2]
    · simp [h1, h2]

theorem nodup_eraseIdx_not_mem {α : Type} (l : List α) (i : Nat) (k : α) (hn : l.Nodup)
    (hk : l[i]? = some k) : k ∉ l.eraseIdx i := by
  rw [List.mem_eraseIdx_iff_getElem?]
  rintro ⟨j, hne, hj⟩
  exact hne ((List.getElem?_inj (List.getElem?_eq_some_iff.mp hj).1 hn).mp (hj.trans hk.symm))

structure AInv (s : ASt) : Prop where
  nodup : s.live.Nodup
  fresh : ∀ k ∈ s.live, k.gen < s.w.gen
  registered : ∀ k ∈ s.live, k ∈ keys s.w.entries
  future : ∀ k ∈ keys s.w.entries, k.gen < s.w.gen

theorem AInv.init : AInv ASt.init := by
  refine ⟨?_, ?_, ?_, ?_⟩ <;> simp [ASt.init, keys]

theorem AInv.step {s s' : ASt} (op : AOp) (h : AInv s) (hs : astep s op = some s') : AInv s' := by
  cases op with
  | insert now d =>
    simp only [astep, insertG_eq_insert] at hs
    have hge := insert_gen_le s.w now d
    have hkeys := mem_keys_insert s.w now d
    have hfut := insert_fresh (now := now) (d := d) h.future
    have hsome := @insert_some s.w now d
    generalize Timer.insert s.w now d = p at *
    obtain ⟨w', r⟩ := p
    have hfresh : ∀ k ∈ s.live, k.gen < w'.gen := fun k hk => Nat.lt_of_lt_of_le (h.fresh k hk) hge
    have hreg : ∀ k ∈ s.live, k ∈ keys w'.entries :=
      fun k hk => (hkeys k).mpr (Or.inl (h.registered k hk))
    cases r with
    | panic => cases hs
    | none =>
      cases Option.some.inj hs
      exact ⟨h.nodup, hfresh, hreg, hfut (by simp)⟩
    | some k =>
      cases Option.some.inj hs
      obtain ⟨rfl, hgen, hlt⟩ := hsome rfl
      exact ⟨List.nodup_cons.mpr ⟨fun hin => Nat.lt_irrefl _ (h.fresh _ hin), h.nodup⟩,
        List.forall_mem_cons.mpr ⟨Nat.lt_of_lt_of_eq (Nat.lt_succ_self _) hgen.symm, hfresh⟩,
        List.forall_mem_cons.mpr ⟨(hkeys _).mpr (Or.inr ⟨hlt, rfl⟩), hreg⟩, hfut (by simp)⟩
  | cancel i =>
    simp only [astep] at hs
    split at hs
    · next k hk =>
      cases Option.some.inj hs
      have hsub := (List.eraseIdx_sublist s.live i).subset
      refine ⟨h.nodup.eraseIdx i, fun k' hk' => h.fresh k' (hsub hk'), fun k' hk' => ?_,
        fun k' hk' => h.future k' ((mem_keys_cancel ..).mp hk').1⟩
      -- the dropped key was held once, so what stays live is another key
      exact (mem_keys_cancel ..).mpr ⟨h.registered k' (hsub hk'),
        fun e => nodup_eraseIdx_not_mem s.live i k h.nodup hk (e ▸ hk')⟩
    · cases Option.some.inj hs
      exact h
  | wake now =>
    cases Option.some.inj hs
    refine ⟨h.nodup.sublist List.filter_sublist, fun k hk => ?_, fun k hk => ?_, fun k hk => ?_⟩
    · rw [wake_gen]
      exact h.fresh k (List.mem_filter.mp hk).1
    · have hk := List.mem_filter.mp hk
      exact (mem_keys_wake ..).mpr ⟨h.registered k hk.1, of_decide_eq_true hk.2⟩
    · rw [wake_gen]
      exact h.future k ((mem_keys_wake ..).mp hk).1

theorem AInv.run {s s' : ASt} (ops : List AOp) (h : AInv s) (hs : arun s ops = some s') : AInv s' :=
  IsRun.invariant ⟨fun _ => rfl, fun s op _ => by rw [arun]; cases astep s op <;> rfl⟩
    (fun _ op _ h h1 => h.step op h1) h hs

/-- For every sequence of timer creations, drops and sweeps (any deadlines, equal ones included, any
clock readings): a new timer can never take over, overwrite, or — when it is dropped — remove the
entry of another live timer. -/
theorem live_keys_distinct (ops : List AOp) (s : ASt) (h : arun ASt.init ops = some s) :
    s.live.Nodup ∧ (∀ k ∈ s.live, k ∈ keys s.w.entries) ∧ (∀ k ∈ s.live, k.gen < s.w.gen) :=
  let i := AInv.run ops AInv.init h
  ⟨i.nodup, i.registered, i.fresh⟩

/-- never early: a live timer (neither dropped nor expired by a `wake`) is still registered -/
theorem live_timer_stays_registered (ops : List AOp) (s : ASt) (k : Key)
    (h : arun ASt.init ops = some s) (hk : k ∈ s.live) : isCompleted s.w k = false :=
  (isCompleted_false_iff ..).mpr ((live_keys_distinct ops s h).2.1 k hk)

/-- the scenario of seeded/C09-5a (generation taken from `wheel.len()`): A(d), B(d), drop A, C(d),
drop C — B is still registered, under its own key -/
example : (arun ASt.init [.insert 0 5, .insert 0 5, .cancel 1, .insert 0 5, .cancel 0]).map
    (fun s => (s.live, keys s.w.entries)) = some ([⟨5, 1⟩], [⟨5, 1⟩]) := by decide

/-- every iteration of the `block_on` loop in which the main future is pending reaches `poll_with`,
whatever `Executor::tick` reported about remaining runnable tasks, and `Runtime::poll` is
`poll_with(current_timeout())` -/
theorem block_on_iteration_polls (remaining : Bool) :
    reachesPollWith remaining Compio.Gen.BlockOnLoop.loopBody = true ∧
      Compio.Gen.BlockOnLoop.pollIsPollWithCurrentTimeout = true := by
  cases remaining <;> decide

theorem blockOnIter_eq_pollWith (w : Wheel) (now : Nat) (remaining : Bool) (o : PollOutcome) :
    blockOnIter w now remaining o = pollWith w now o := by
  unfold blockOnIter
  rw [(block_on_iteration_polls remaining).1]
  simp

/-- bounded progress: a due timer fires within ONE loop iteration that does not panic, whatever the
run queue holds and however the driver poll returned -/
theorem block_on_iteration_sweeps (w w' : Wheel) (now : Nat) (remaining : Bool) (o : PollOutcome)
    (ex : List Entry) (hwf : WF w) (h : blockOnIter w now remaining o = some (w', ex)) :
    (∀ k ∈ keys w'.entries, now < k.deadline) ∧
      (∀ e, e ∈ ex ↔ e ∈ w.entries ∧ e.1.deadline ≤ now) ∧
      (∀ k wk, (k, some wk) ∈ w.entries → k.deadline ≤ now → wk ∈ woken ex) ∧ WF w' := by
  rw [blockOnIter_eq_pollWith] at h
  exact Compio.Props.C09.poll_with_sweeps w w' now o ex hwf h

/-- `poll_with_always_fires` for a loop iteration: `pre` is the task activity inside it -/
theorem block_on_always_fires (s : World) (pre post : List Op) (k : Key) (remaining : Bool)
    (o : PollOutcome) (w' : Wheel) (ex : List Entry)
    (hwf : WF s.wheel) (hnp : Out.ins .panic ∉ outs s pre) (hissued : k.gen < s.wheel.gen)
    (hdue : k.deadline ≤ (run s pre).now)
    (h : blockOnIter (run s pre).wheel (run s pre).now remaining o = some (w', ex)) :
    k ∉ keys (run ⟨(run s pre).now, w'⟩ post).wheel.entries := by
  rw [blockOnIter_eq_pollWith] at h
  exact Compio.Props.C09.poll_with_always_fires s pre post k o w' ex hwf.bound hissued hdue h

/-- non-vacuity: a wheel with a due and a pending timer, run queue non-empty, driver returned Ok -/
example : (blockOnIter ⟨2, [(⟨5, 0⟩, some 7), (⟨9, 1⟩, none)]⟩ 6 true .ok).map
    (fun r => (keys r.1.entries, woken r.2)) = some ([⟨9, 1⟩], [7]) := by decide

end Compio.Props.C09Alloc
