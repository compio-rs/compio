/-
C06 — descriptors are closed exactly once, never in use, never leaked.
Property theorems (helper lemmas: Compio/Lemmas/SharedFd.lean; defect witnesses: Compio/Cex/C06.lean).
The statements about reachable states quantify over every event list (= every interleaving of handle clones /
drops, operation starts / completions, `take()`/`close()` polls and future drops), for both builds
(`sync = false/true`) unless they restrict the events to the single-threaded ones (`Ev.unsync`).
Sections 1–2b and the closing `child_wait` theorem are about `Compio.SharedFd` (the `SharedFd` handle,
`take()`/`close()`), section 3 about `Compio.Produced` (descriptors created by accept / open / socket / pipe), section 4 about
`Compio.MultiWait` (cancel of an operation waiting on k descriptors), section 5 ties the `SharedFd` model functions to
the constructs generated from the source (`Compio.Gen.SharedFdProto`).
-/
import Compio.Lemmas.SharedFd
import Compio.Gen.SharedFdProto

namespace Compio.Props.C06
open Compio.SharedFd

/-! ## 1. Safety, both builds, every interleaving (split drops and interleaved polls included) -/

/-- The inner descriptor leaves the `Shared` (is closed in place, or handed to the one closer /
`try_unwrap` caller who then owns it) at most once. -/
theorem closed_at_most_once (b : Bool) (evs : List Ev) (s : St) (h : run (init b) evs = some s) :
    s.released ≤ 1 ∧ s.delivered ≤ s.released :=
  (inv_reach h).once

/-- It leaves only in a step taken at strong count 1, and after that step no actor owns a reference:
no other handle, no operation holding a clone, no other closer. -/
theorem release_only_when_unique (b : Bool) (evs : List Ev) (s s' : St) (e : Ev)
    (h : run (init b) evs = some s) (hs : step s e = some s') (hr : s'.released = s.released + 1) :
    s.count = 1 ∧ refs s.actors = 1 ∧ refs s'.actors = 0 ∧
      ∀ (i : Nat) (r : Role), s'.actors[i]? = some r → r.holds = false := by
  have hi := inv_reach h
  have hi' := inv_step hi hs
  have h1 : s.count = 1 := by
    rcases step_released hs with h2 | h2
    · omega
    · exact h2.2
  have h0 : refs s'.actors = 0 := by
    have := hi'.cnt
    rcases hi'.rel with h3 | h3 <;> omega
  exact ⟨h1, by rw [← hi.cnt]; exact h1, h0, fun i r hir => refs_zero_not_holds _ h0 i r hir⟩

/-- While an operation (or any other actor) owns a clone, the descriptor is open: never closed in use. -/
theorem open_while_held (b : Bool) (evs : List Ev) (s : St) (h : run (init b) evs = some s)
    (i : Nat) (r : Role) (hir : s.actors[i]? = some r) (hh : r.holds = true) :
    s.released = 0 ∧ 1 ≤ s.count :=
  have hc := (inv_reach h).count_pos hir hh
  ⟨((inv_reach h).unreleased hc).1, hc⟩

/-- Not leaked: once nobody owns a reference any more, the descriptor has been released exactly once.
(A reference forgotten by dropping an unpolled `File::close` future is still owned — role `leaked` —
so that state never becomes quiescent: see `Cex.C06.close_unpolled_leak_counterexample`.) -/
theorem released_at_quiescence (b : Bool) (evs : List Ev) (s : St) (h : run (init b) evs = some s)
    (hq : s.quiescent) : s.released = 1 :=
  (inv_reach h).quiescent hq

/-! ## 2. Liveness of `close().await` -/

/-- An explicit close is not early and not late: a poll of the waiting closer returns `Ready(Some fd)`
exactly when the strong count is 1 (every other handle and operation has let go). Both builds. -/
theorem poll_ready_iff_unique (b : Bool) (evs : List Ev) (s s' : St) (c : Nat)
    (_h : run (init b) evs = some s) (hc : s.parked c) (hp : step s (.poll c) = some s') :
    s'.actors[c]? = some (.closer .doneSome) ↔ s.count = 1 := by
  rw [step_poll_parked hc] at hp
  cases hp
  unfold pollBody
  split
  · next h1 => exact iff_of_true (set_self hc) h1
  · next h1 => exact iff_of_false (fun h => nomatch (set_self hc).symm.trans h) h1

/-- Bounded progress, single-threaded build (whole drops, whole polls), every interleaving: when the
closer is parked and the last other holder (a handle, or an operation that completes) performs its
drop, the closer's task is woken by that very step, and its next poll returns `Ready(Some fd)`. -/
theorem last_drop_wakes_closer (b : Bool) (evs : List Ev) (s : St)
    (hev : ∀ e ∈ evs, e.unsync = true) (h : run (init b) evs = some s) (c x : Nat)
    (hc : s.parked c) (h2 : s.count = 2)
    (hx : s.actors[x]? = some (.handle .live) ∨ s.actors[x]? = some (.op .live)) :
    ∃ s1 s2, step s (.drop x) = some s1 ∧ c ∈ s1.woken ∧ s1.count = 1 ∧ s1.parked c ∧
      step s1 (.poll c) = some s2 ∧ s2.actors[c]? = some (.closer .doneSome) ∧
      s2.released = 1 ∧ s2.delivered = 1 := by
  obtain ⟨hi, -, hu⟩ := uinv_reach hev h
  obtain ⟨s1, hstep, hwk, h1, hpk⟩ := last_drop_wakes hu hc h2 hx
  obtain ⟨s2, hp, ha, hr, hd⟩ := (inv_step hi hstep).sole_owner_poll hpk h1
  exact ⟨s1, s2, hstep, hwk, h1, hpk, hp, ha, hr, hd⟩

/-- Single-threaded build, every interleaving: no reachable state has the closer parked as the sole
owner without a pending wake-up — unless a reference was released by one of the two paths that skip
`Drop for SharedFd` (`rawDecs`, see `rawDecs_only_by_raw_paths`; defect F8b). -/
theorem no_parked_forever_unsync (b : Bool) (evs : List Ev) (s : St)
    (hev : ∀ e ∈ evs, e.unsync = true) (h : run (init b) evs = some s) (c : Nat)
    (hc : s.parked c) (h1 : s.count = 1) (hraw : s.rawDecs = 0) : c ∈ s.woken :=
  (uinv_reach hev h).2.2.sole_parked_woken hc h1 hraw

/-- The same without the ghost: if `c` is the only `take()`/`close()` future that was ever created
(at most one explicit close per descriptor), it is never left parked as the sole owner without a wake-up. -/
theorem no_parked_forever_single_closer (b : Bool) (evs : List Ev) (s : St)
    (hev : ∀ e ∈ evs, e.unsync = true) (h : run (init b) evs = some s) (c : Nat)
    (hc : s.parked c) (h1 : s.count = 1)
    (honly : ∀ (i : Nat) (pc : CPc), s.actors[i]? = some (.closer pc) → i = c) : c ∈ s.woken := by
  have hk := (inv_reach h).raw
  have h0 : cntP Role.isRaw s.actors = 0 := by
    apply cntP_zero
    intro i r hir
    cases r with
    | closer pc =>
      cases honly i pc hir
      cases hir.symm.trans hc
      rfl
    | _ => rfl
  exact no_parked_forever_unsync b evs s hev h c hc h1 (hk.trans h0)

/-- ... and such a woken closer completes at its next poll. -/
theorem sole_owner_poll_completes (b : Bool) (evs : List Ev) (s : St) (h : run (init b) evs = some s)
    (c : Nat) (hc : s.parked c) (h1 : s.count = 1) :
    ∃ s', step s (.poll c) = some s' ∧ s'.actors[c]? = some (.closer .doneSome) ∧ s'.released = 1 :=
  have ⟨s', hp, ha, hr, _⟩ := (inv_reach h).sole_owner_poll hc h1
  ⟨s', hp, ha, hr⟩

/-- The ghost counter `rawDecs` moves only on the two paths of fd.rs that drop the raw `Shared`:
a first poll that finds `waits` already set (`else { None }`), and dropping a `take()` future that
still holds its reference. -/
theorem rawDecs_only_by_raw_paths (s s' : St) (e : Ev) (h : step s e = some s') :
    s'.rawDecs = s.rawDecs ∨
    (s'.rawDecs = s.rawDecs + 1 ∧
      ((∃ c, e = .poll c ∧ s.waits = true) ∨ (∃ c, e = .pNone c) ∨ (∃ c, e = .dropFut c))) := by
  obtain ⟨_, _, _, _, _, -, hd⟩ := dropTest_frame s
  cases step_cases h with
  | pollLose _ _ hw => exact .inr ⟨by rw [decRef_eq]; rfl, .inl ⟨_, rfl, hw⟩⟩
  | pNone => exact .inr ⟨by rw [decRef_eq]; rfl, .inr (.inl ⟨_, rfl⟩)⟩
  | futRaw => exact .inr ⟨by rw [decRef_eq]; rfl, .inr (.inr ⟨_, rfl⟩)⟩
  | dec => exact .inl (by rw [decRef_eq]; rfl)
  | drop => exact .inl (by rw [hd, decRef_eq]; rfl)
  | checkH | checkOp => exact .inl (by rw [hd]; rfl)
  | clone | opStart | unwrap | unwrapFail | take | close | pollWin | pollPark | repollWin | repollPark | swapLose
  | swapWin | try1Win | try1Reg | pReg | try2Win | try2Park | pBegin | futLeak | setWaker => exact .inl rfl

/-! ## 2a. Waker identity: the task that is woken is the task that is waiting

The pending `take()`/`close()` future may change hands between polls (`setWaker c w`: handed to a
spawned task, polled through a `select`/`timeout` wrapper): every poll supplies its own waker. -/

/-- Both builds, every interleaving (split drops, interleaved polls): whenever the closer is parked and
the slot holds its waker, that waker is the one supplied by the poll that parked it — its latest poll.
(`register` on every poll that finds the descriptor shared; a stale waker from an earlier poll never
survives a later park.) -/
theorem slot_holds_latest_waker (b : Bool) (evs : List Ev) (s : St) (h : run (init b) evs = some s)
    (c : Nat) (hc : s.parked c) (hs : s.slot = some c) : s.slotW = wOf s.parkedW c :=
  (sinv_run (sinv_init b) h).s1 c hc hs

/-- the ghost `parkedW` is what its name says: a poll that parks records the waker that poll was given -/
theorem poll_parks_with_its_waker (s s' : St) (c : Nat) (h : step s (.poll c) = some s')
    (hp : s'.parked c) : wOf s'.parkedW c = wOf s.nextW c := by
  cases step_cases h with
  | pollLose hx => rw [decRef_eq] at hp; cases (set_self hx).symm.trans hp
  | pollWin hx | repollWin hx => cases (set_self hx).symm.trans hp
  | pollPark | repollPark => exact wOf_cons_self ..

/-- Single-threaded build: a pending wake-up of a parked closer was delivered to the waker of its latest poll. -/
theorem pending_wake_is_for_latest_waker (b : Bool) (evs : List Ev) (s : St)
    (hev : ∀ e ∈ evs, e.unsync = true) (h : run (init b) evs = some s) (c : Nat)
    (hc : s.parked c) (hw : c ∈ s.woken) : (c, wOf s.parkedW c) ∈ s.wokenW :=
  (uinv_reach hev h).2.2.v2 c hc hw

/-- Single-threaded build, bounded progress with identity: when the last other holder drops, the waker
that has a wake-up pending afterwards is the one the closer's LATEST poll supplied — the task currently
awaiting `close()` is the one woken, also when the future changed hands between polls. -/
theorem last_drop_wakes_latest_waker (b : Bool) (evs : List Ev) (s : St)
    (hev : ∀ e ∈ evs, e.unsync = true) (h : run (init b) evs = some s) (c x : Nat)
    (hc : s.parked c) (h2 : s.count = 2)
    (hx : s.actors[x]? = some (.handle .live) ∨ s.actors[x]? = some (.op .live)) :
    ∃ s1, step s (.drop x) = some s1 ∧ s1.parked c ∧ (c, wOf s1.parkedW c) ∈ s1.wokenW := by
  obtain ⟨hi, hs, hu⟩ := uinv_reach hev h
  obtain ⟨s1, hstep, hwk, -, hpk⟩ := last_drop_wakes hu hc h2 hx
  exact ⟨s1, hstep, hpk, (uinv_step hi hs hu rfl hstep).v2 c hpk hwk⟩

/-- non-vacuity: the future changes hands twice; the last drop wakes waker 2, the latest one -/
example : ∃ s, run (init false)
    [.clone 0, .take 0, .setWaker 0 1, .poll 0, .setWaker 0 2, .poll 0, .drop 1] = some s ∧
    s.parked 0 ∧ s.count = 1 ∧ s.wakeLog = [(0, 2)] ∧ wOf s.parkedW 0 = 2 := by
  refine ⟨_, rfl, ?_⟩
  unfold St.parked
  decide

/-! ## 2b. The one-step events are schedules of the split ones

so every interleaving of the single-threaded build is also an interleaving of the `sync` build: the
safety theorems of section 1 cover both, and the defect witnesses of `Cex.C06` for the `sync` build
differ from the proved-live executions only by where the other thread's two halves of `Drop` fall. -/

/-- the one-step `drop` is the schedule `dropCheck; dropDec` of the split drop -/
theorem drop_eq_split (s : St) (x : Nat) (hs : s.sync = true) :
    step s (.drop x) = run s [.dropCheck x, .dropDec x] := by
  obtain ⟨_, _, _, _, _, -, hd⟩ := dropTest_frame s
  simp only [run, step, stepDrop, stepDropCheck, hs, if_true]
  split
  · next hx => simp [stepDropDec, hd, hs, set_self hx, setRole_setRole]
  · next hx => simp [stepDropDec, hd, hs, set_self hx, setRole_setRole]
  · rfl

/-- a whole re-poll of a parked closer is the schedule of its micro steps -/
theorem poll_parked_eq_micro (s : St) (c : Nat) (hs : s.sync = true) (hc : s.parked c) :
    step s (.poll c) =
      run s (if s.count = 1 then [.pBegin c, .pTry1 c] else [.pBegin c, .pTry1 c, .pReg c, .pTry2 c]) := by
  have hb : step s (.pBegin c) = some (beginPoll s c) := by
    simp [step, stepMicro, hs, show s.actors[c]? = _ from hc]
  exact (step_poll_parked hc).trans (run_pollBody (t := clearWoken s c) hs hb hc).symm

/-- a whole first poll is the schedule of its micro steps -/
theorem poll_first_eq_micro (s : St) (c : Nat) (hs : s.sync = true)
    (hc : s.actors[c]? = some (.closer .created) ∨ s.actors[c]? = some (.closer .wrapped)) :
    step s (.poll c) =
      run s (if s.waits = true then [.pSwap c, .pNone c]
        else if s.count = 1 then [.pSwap c, .pTry1 c] else [.pSwap c, .pTry1 c, .pReg c, .pTry2 c]) := by
  obtain ⟨old, hx⟩ : ∃ old, s.actors[c]? = some old := by rcases hc with h | h <;> exact ⟨_, h⟩
  have hsw : step s (.pSwap c) = some (swapWaits s c) := by
    rcases hc with h | h <;> simp [step, stepPSwap, hs, h]
  rw [step_poll_first hc]
  unfold firstPoll
  unfold swapWaits at hsw
  split
  · next hw =>
    rw [if_pos hw] at hsw
    simp only [run, hsw]
    simp [step, stepMicro, hs, set_self hx, loseNone, setRole, List.set_set]
  · next hw =>
    rw [if_neg hw] at hsw
    exact (run_pollBody (t := { s with waits := true, winner := some c }) hs hsw hx).symm

/-! non-vacuity of sections 1–2 (`Compio.SharedFd`): a complete run of the single-threaded build (one wake-up,
quiescent at the end) and one of the `sync` build with the other thread's split drop falling between the closer's micro
steps -/

example : ∃ s, run (init false) [.clone 0, .opStart 0, .take 0, .poll 0, .drop 1, .drop 2, .poll 0] = some s ∧
    s.released = 1 ∧ s.delivered = 1 ∧ s.wakes = 1 ∧ s.quiescent := by
  refine ⟨_, rfl, ?_⟩
  unfold St.quiescent
  decide

example : ∃ s, run (init true) [.clone 0, .take 0, .pSwap 0, .pTry1 0, .dropCheck 1, .pReg 0, .dropDec 1, .pTry2 0] = some s ∧
    s.released = 1 ∧ s.delivered = 1 := ⟨_, rfl, by decide⟩

/-! ## 3. Descriptors produced by operations (accept / open / socket / pipe / multishot accept) -/

section Produced
open Compio.Produced

/-- Every descriptor the kernel created for the operation is, at every moment and for every
interleaving of polls / completions / multishot deliveries / drops of the future, in exactly one place:
taken by the caller, closed, or still owned by the op struct. No descriptor is in two places, none is
closed twice, none taken twice. Guard `hk`: the io_uring driver does not take its blocking fallback for
this operation (the kernel supports the opcode) — see `Cex.C06.iour_blocking_fallback_counterexample`. -/
theorem produced_exactly_one_owner (evs : List Produced.Ev) (s : Produced.St)
    (hk : ∀ e ∈ evs, e ≠ .completeFallback) (h : Produced.run Produced.init evs = some s) :
    (s.taken ++ s.closed ++ s.held).Nodup ∧
      ∀ n, n < s.next ↔ (n ∈ s.taken ∨ n ∈ s.closed ∨ n ∈ s.held) :=
  (pinv_run pinv_init hk h).one_owner

/-- Once the operation is finished for everybody (the driver has let go of it and the future has
returned `Ready` or has been dropped — cancelled before, around or after the completion), every
produced descriptor has been taken XOR closed: delivered or closed, never leaked, never both. -/
theorem produced_taken_xor_closed (evs : List Produced.Ev) (s : Produced.St)
    (hk : ∀ e ∈ evs, e ≠ .completeFallback) (h : Produced.run Produced.init evs = some s)
    (hf : s.finished) (n : Nat) (hn : n < s.next) :
    (n ∈ s.taken ∧ n ∉ s.closed) ∨ (n ∈ s.closed ∧ n ∉ s.taken) := by
  have hi := pinv_run pinv_init hk h
  have hheld : s.held = [] := hi.held_nil hf
  obtain ⟨hnd, hmem⟩ := produced_exactly_one_owner evs s hk h
  rw [hheld, List.append_nil] at hnd
  have hdis := (List.nodup_append.mp hnd).2.2
  have := (hmem n).mp hn
  rw [hheld] at this
  rcases this with h1 | h1 | h1
  · exact Or.inl ⟨h1, fun h2 => hdis n h1 n h2 rfl⟩
  · exact Or.inr ⟨h1, fun h2 => hdis n h2 n h1 rfl⟩
  · simp at h1

/-- Multishot accept ending with a TERMINAL SUCCESSFUL completion (`complete true` after any number of
`shot`s: the polling driver and kernels < 5.19 for every accept, io_uring when the completion queue
overflows): `set_result` has adopted the last descriptor into the finished op, which owns it until the
stream takes the op back (`poll` = `try_take().into_inner()`). At that hand-over everything the op held
moves to the caller and nothing stays behind in the op — exactly one of {op, stream} owns each
descriptor before and after, so dropping the finished op later closes nothing the caller holds. -/
theorem terminal_success_handover (evs : List Produced.Ev) (s s' : Produced.St)
    (hk : ∀ e ∈ evs, e ≠ .completeFallback) (h : Produced.run Produced.init evs = some s)
    (hf : s.fut = .submitted) (hr : s.result = some true) (hp : Produced.step s .poll = some s') :
    s'.held = [] ∧ s'.taken = s.taken ++ s.held ∧ s'.closed = s.closed ∧
      (s'.taken ++ s'.closed ++ s'.held).Nodup := by
  have hnd := (pinv_step (e := .poll) (pinv_run pinv_init hk h) nofun hp).one_owner.1
  simp only [Produced.step, hf, hr] at hp
  cases hp
  exact ⟨rfl, rfl, rfl, hnd⟩

/-- polling-driver `incoming()`: three accepts, each a terminal success, stream re-armed in between,
dropped while the fourth accept is in flight -/
example : ∃ s, Produced.run Produced.init
    [.poll, .complete true, .poll, .rearm, .pollImm true, .rearm, .poll, .complete true, .poll, .rearm, .poll,
     .dropFut, .complete false] = some s ∧
    s.finished ∧ s.taken = [0, 1, 2] ∧ s.closed = [] := by
  refine ⟨_, rfl, ?_⟩
  unfold Produced.St.finished
  decide

/-- io_uring, completion queue overflow: two multishot deliveries, then the terminal success -/
example : ∃ s, Produced.run Produced.init
    [.poll, .shot, .shot, .complete true, .popShot, .popShot, .poll, .rearm, .poll] = some s ∧
    s.taken = [0, 1, 2] ∧ s.held = [] ∧ s.closed = [] := ⟨_, rfl, by decide⟩

example : ∃ s, Produced.run Produced.init [.poll, .dropFut, .complete true] = some s ∧
    s.finished ∧ s.closed = [0] ∧ s.taken = [] := by
  refine ⟨_, rfl, ?_⟩
  unfold Produced.St.finished
  decide

example : ∃ s, Produced.run Produced.init [.poll, .shot, .shot, .popShot, .dropFut, .shot, .complete false] = some s ∧
    s.finished ∧ s.taken = [0] ∧ s.closed = [1, 2] := by
  refine ⟨_, rfl, ?_⟩
  unfold Produced.St.finished
  decide

end Produced

/-! ## 4. An operation holding k shared descriptors (polling driver `Splice`: k = 2) -/

section MultiWait
open Compio.MultiWait

/-- Cancelling an op that waits on k ≥ 1 descriptors removes it from ALL k interest queues, emits exactly
one cancelled entry, leaves every other op's interests alone, and — once the future is gone and the entry
is reaped — no key clone is left: the op is dropped and all k descriptor references are released. -/
theorem cancel_releases_all (s0 : MultiWait.St) (key : Nat) (fds : List Nat) (hk : fds ≠ [])
    (hfresh : keyRefs s0 key = 0) :
    let s1 := cancel (dropFuture (push s0 key fds) key) key fds
    (∀ fd, (fd, key) ∉ s1.reg) ∧ s1.completed.count key = 1 ∧
      s1.reg = s0.reg ∧ keyRefs (reap s1 key) key = 0 := by
  unfold keyRefs at hfresh
  have hr : s0.reg.filter (·.2 == key) = [] := List.length_eq_zero_iff.mp (by omega)
  have hc : s0.completed.count key = 0 := by omega
  have hf : s0.futures.count key = 0 := by omega
  have hkeep : s0.reg.filter (fun e => !mine key fds e) = s0.reg := by
    rw [List.filter_eq_self]
    intro e he
    have := List.filter_eq_nil_iff.mp hr e he
    simp at this
    simp [mine, this]
  have hany : (s0.reg ++ fds.map (·, key)).any (mine key fds) = true := by
    cases fds with
    | nil => exact absurd rfl hk
    | cons a t => simp [mine]
  have hs1 : cancel (dropFuture (push s0 key fds) key) key fds = { s0 with completed := key :: s0.completed } := by
    simp [cancel, dropFuture, push, List.filter_append, hkeep, filter_map_key, hany]
  intro s1
  rw [show s1 = _ from hs1]
  refine ⟨fun fd hmem => ?_, by simp [hc], rfl, by simp [keyRefs, reap, hr, hc, hf]⟩
  have := List.filter_eq_nil_iff.mp hr (fd, key) hmem
  simp at this

example : keyRefs (reap (cancel (dropFuture (push MultiWait.init 7 [3, 4]) 7) 7 [3, 4]) 7) 7 = 0 := by decide

end MultiWait

/-! ## 5. Tie to the source: constructs regenerated from fd.rs / file.rs / socket/mod.rs (`Gen/SharedFdProto.lean`)

The extractor target `SharedFdProto` reads `impl Drop for SharedFd`, `SharedFd::take` (swap, the statements of the
`poll_fn` closure in source order), `new_unchecked`, `File::close`, `Socket::close`. The theorems below say that the
functions the driver executes (`dropTest`, `swapWaits`, `stepPoll`/`pollBody`, `stepClose`, `init`) ARE those
constructs, for every state — a source change to the constant, the condition, the swap polarity or the order /
presence of `register` between the two `try_unwrap`s breaks one of them even if no generated case samples it. -/

section Generated
open Compio.Gen.SharedFdProto

/-- the model function of one statement of the `poll_fn` closure, with the program counter it runs at; `none`: the
statement (`inner.take().unwrap()`) has no counterpart in the model -/
def fnOfStep : PollStep → Option (CPc × (St → Nat → St))
  | .takeSlot => none
  | .tryUnwrapReturn => some (.try1, tryUnwrap1)
  | .register => some (.reg, register)
  | .tryUnwrapOrPark => some (.try2, tryUnwrap2)

/-- run the statements of the closure in the order given; `return Poll::Ready(..)` ends the poll; a statement
without a model function is skipped; a statement reached at a program counter it is not written for is stuck (`none`) -/
def interpPoll (c : Nat) : St → List PollStep → Option St
  | s, [] => some s
  | s, st :: rest =>
    match fnOfStep st with
    | none => interpPoll c s rest
    | some (pc, f) =>
      match s.actors[c]? with
      | some (.closer .doneSome) => some s
      | some (.closer pc') => if pc' = pc then interpPoll c (f s c) rest else none
      | _ => none

/-- the generated statement list, run from `try1`, is `pollBody` -/
theorem interp_pollBody {t : St} {c : Nat} {old : Role} (hx : t.actors[c]? = some old) :
    interpPoll c (setRole t c (.closer .try1)) takePoll = some (pollBody t c) := by
  have h1 := set_self (a := Role.closer .try1) hx
  have h2 := set_self (a := Role.closer .reg) hx
  have h3 := set_self (a := Role.closer .try2) hx
  have h4 := set_self (a := Role.closer .doneSome) hx
  by_cases hc : t.count = 1
  · simp [takePoll, interpPoll, fnOfStep, hc, h1, h4, pollBody, tryUnwrap1, setRole, List.set_set, deliver]
  · simp [takePoll, interpPoll, fnOfStep, hc, h1, h2, h3, pollBody, tryUnwrap1, tryUnwrap2, register, setRole,
      List.set_set]

/-- `new_unchecked` initialises `waits` as the model's `init` does -/
theorem gen_init_waits (b : Bool) : (init b).waits = initWaits := rfl

/-- the wake test of `Drop for SharedFd` in the model is the generated condition, for every state -/
theorem gen_dropTest (s : St) : dropTest s = if dropWakes s.count s.waits = true then wake s else s := by
  unfold dropTest dropWakes
  by_cases h1 : s.count = 2 <;> by_cases h2 : s.waits = true <;> simp [h1, h2]

/-- hence for every history: a whole `drop` of a live handle / op wakes exactly when the generated condition holds in
the state it is taken in, and then decrements -/
theorem gen_drop_step (b : Bool) (evs : List Ev) (s s' : St) (x : Nat) (_h : run (init b) evs = some s)
    (hd : step s (.drop x) = some s') :
    s' = decRef (setRole (if dropWakes s.count s.waits = true then wake s else s) x .gone) := by
  cases step_cases hd with
  | drop => rw [← gen_dropTest]

/-- `waits.swap(v)` and the branch taken on its result, from the generated constants -/
theorem gen_swapWaits (s : St) (c : Nat) :
    swapWaits s c =
      if s.waits = takeWinsWhenSwapReturned
      then setRole { s with waits := takeSwapStores, winner := some c } c (.closer .try1)
      else setRole { s with waits := takeSwapStores } c (.closer .losing) := by
  unfold swapWaits takeWinsWhenSwapReturned takeSwapStores
  cases s with
  | mk sync actors count waits slot woken wakes released delivered winner rawDecs slotW nextW parkedW wokenW wakeLog =>
    cases waits <;> simp [setRole]

/-- a re-poll of a parked closer (the event the driver executes, any build) is the generated statement list run
from the top of the closure -/
theorem gen_poll_parked (s : St) (c : Nat) (hc : s.parked c) :
    step s (.poll c) = interpPoll c (beginPoll s c) takePoll :=
  (step_poll_parked hc).trans (interp_pollBody (t := clearWoken s c) hc).symm

/-- a first poll (of a `take()` or a `close()` future) is the generated swap, then `None` for the loser or the
generated statement list for the winner -/
theorem gen_poll_first (s : St) (c : Nat)
    (hc : s.actors[c]? = some (.closer .created) ∨ s.actors[c]? = some (.closer .wrapped)) :
    step s (.poll c) =
      if s.waits = takeWinsWhenSwapReturned then interpPoll c (swapWaits s c) takePoll
      else some (loseNone (swapWaits s c) c) := by
  obtain ⟨old, hx⟩ : ∃ old, s.actors[c]? = some old := by rcases hc with h | h <;> exact ⟨_, h⟩
  rw [step_poll_first hc]
  unfold firstPoll swapWaits takeWinsWhenSwapReturned
  cases hw : s.waits
  · exact (interp_pollBody (t := { s with waits := true, winner := some c }) hx).symm
  · simp [loseNone, setRole, List.set_set]

/-- program counter a `close(self)` future starts at, by the way the handle is captured -/
def pcOfCapture : Capture → CPc
  | .manuallyDrop => .wrapped

/-- `File::close` / `Socket::close` as generated: the handle becomes a closer whose future, dropped before its first
poll, forgets the reference (count, released unchanged; nobody is woken) — the shape behind finding F8c -/
theorem gen_close_capture (s s' s'' : St) (h : Nat) (h1 : step s (.close h) = some s')
    (h2 : step s' (.dropFut h) = some s'') :
    s'.actors[h]? = some (.closer (pcOfCapture fileClose)) ∧
    s'.actors[h]? = some (.closer (pcOfCapture socketClose)) ∧
    s''.actors[h]? = some (.closer .leaked) ∧ s''.count = s.count ∧ s''.released = s.released ∧
    s''.wakes = s.wakes := by
  cases step_cases h1 with
  | close hx =>
    have hw := set_self (a := Role.closer .wrapped) hx
    cases step_cases h2 with
    | futRaw hx' ho => rcases ho with rfl | rfl <;> cases hw.symm.trans hx'
    | futLeak hx' => exact ⟨hw, hw, set_self hx', rfl, rfl, rfl⟩

/-! non-vacuity: the generated list really runs (parks at count 2, completes at count 1) -/
example : ∃ s, run (init false) [.clone 0, .take 0, .poll 0, .drop 1] = some s ∧ s.parked 0 ∧
    step s (.poll 0) = interpPoll 0 (beginPoll s 0) takePoll ∧
    (∃ s', interpPoll 0 (beginPoll s 0) takePoll = some s' ∧ s'.delivered = 1) := by
  refine ⟨_, rfl, rfl, rfl, _, rfl, rfl⟩

example : ∃ s s', run (init true) [.clone 0, .close 0] = some s ∧ step s (.poll 0) = some s' ∧
    interpPoll 0 (swapWaits s 0) takePoll = some s' ∧ s'.parked 0 ∧ s'.slot = some 0 := by
  refine ⟨_, _, rfl, rfl, rfl, rfl, rfl⟩

example : dropWakes 2 true = true ∧ dropWakes 3 true = false ∧ dropWakes 2 false = false := by decide

end Generated

/-- `compio-process` `child_wait` (linux.rs): `fd.clone()` goes into a `PollOnce`, the op is awaited to completion, then
`fd.take().await.expect("cannot retrieve the child back")`. In every state in which the handle is the only owner and no
closer has waited before, `take` followed by its FIRST poll hands the descriptor out (never `None`, never `Pending`). -/
theorem sole_handle_take_completes_first_poll (s : St) (h : Nat) (hh : s.actors[h]? = some (.handle .live))
    (hc : s.count = 1) (hw : s.waits = false) :
    ∃ s', run s [.take h, .poll h] = some s' ∧ s'.actors[h]? = some (.closer .doneSome) ∧
      s'.delivered = s.delivered + 1 ∧ s'.released = s.released + 1 ∧ s'.count = 0 ∧ s'.rawDecs = s.rawDecs := by
  have e1 := set_self (a := Role.closer .created) hh
  have e2 := set_self (a := Role.closer .doneSome) hh
  refine ⟨deliver (setRole { (setRole s h (.closer .created)) with waits := true, winner := some h } h
    (.closer .doneSome)), ?_, ?_⟩
  · simp [run, step, stepTake, hh, setRole, stepPoll, e1, firstPoll, hw, pollBody, hc]
  · simp [deliver, setRole, e2, List.set_set]

/-- the whole `child_wait` program on a fresh descriptor -/
example : ∃ s, run (init false) [.opStart 0, .drop 1, .take 0, .poll 0] = some s ∧
    s.actors[0]? = some (.closer .doneSome) ∧ s.delivered = 1 ∧ s.released = 1 := ⟨_, rfl, rfl, rfl, rfl⟩

end Compio.Props.C06
