/-
C02 — every operation completes exactly once, with its own result.

All theorems are about the functions the line-protocol driver `c02d` executes (`Compio.PollDriver.*`,
`Compio.Completion.*`); they quantify over every list of driver calls / environment actions (`run`), every
behaviour of the operations (`Ops.operate`), every set of descriptors epoll refuses (`Ops.addFails`), every
kernel script of the io_uring submission loop.

Guard of the polling-driver theorems: `Step.single` — each pushed operation waits for at most ONE descriptor.
That is every operation of compio-driver except `Splice`; for `Splice` the arming invariant is false on the
unchanged tree (Cex/C02.lean, finding C02a).
-/
import Compio.Lemmas.PollDriver

namespace Compio.Props.C02
open Compio.Completion Compio.PollDriver

variable {W : Type}

/-- the driver right after `Driver::new` -/
def init (w : W) : St W := { world := w }

/-- reachable: some accepted sequence of single-descriptor steps leads from `init` to `s` -/
def Reachable (ops : Ops W) (s : St W) : Prop :=
  ∃ (w : W) (steps : List Step), (∀ e ∈ steps, e.single) ∧ run ops (init w) steps = .ok s

theorem reachable_inv {ops : Ops W} {s : St W} (h : Reachable ops s) : Inv noPend s := by
  obtain ⟨w, steps, hs, hr⟩ := h
  rcases run_inv ops steps (init w) (Inv.init w) hs with ⟨m, hm⟩ | ⟨s', hs', hinv⟩
  · rw [hm] at hr; cases hr
  · rw [hs'] at hr; cases hr; exact hinv

/-- No sequence of calls makes the polling driver panic (`expect("the fd should be submitted")`):
    `run` ends in a state or rejects an impossible environment event. -/
theorem never_panics (ops : Ops W) (w : W) (steps : List Step) (hs : ∀ e ∈ steps, e.single) (msg : String) :
    run ops (init w) steps ≠ .error (.panic msg) := by
  rcases run_inv ops steps (init w) (Inv.init w) hs with ⟨m, hm⟩ | ⟨s', hs', _⟩
  · rw [hm]; simp
  · rw [hs']; simp

/-- `poll` in a reachable state handles every reported event: it returns `Ok` or the timeout, never an
    error that would skip the remaining events, and never takes the "FIXME: should not happen" exit early. -/
theorem poll_handles_all_events (ops : Ops W) {s : St W} (h : Reachable ops s) (t : Bool) (fired : List Fired) :
    (∃ m, poll ops s t fired = .error (.reject m)) ∨
    (∃ s' r, poll ops s t fired = .ok (s', r) ∧ (r = .ok ∨ r = .timedOut) ∧ Inv noPend s') := by
  rcases inv_poll ops (reachable_inv h) t fired with h1 | ⟨s', r, h1, h2, h3, _⟩
  · exact Or.inl h1
  · exact Or.inr ⟨s', r, h1, h3, h2⟩

/-- An outcome that is already queued in the driver (thread-pool result, ECANCELED entry of a cancelled
    operation) makes the wait of the next `poll` non-blocking, whatever timeout the caller asked for —
    `has_completed` is read before the wait.  (The cancel path queues its entry WITHOUT waking the poller,
    so this is what keeps `poll(None)` from blocking on an outcome the driver already holds.) -/
theorem queued_outcome_forces_nonblocking_wait (s : St W) (notified : Bool) (timeout : Option Nat)
    (h : s.chan ≠ []) : waitTimeout s notified timeout = some 0 := by
  unfold waitTimeout
  cases hc : s.chan with
  | nil => exact (h hc).elim
  | cons a l => simp

/-- …and that `poll` hands every queued outcome to `set_result`: afterwards the channel is empty and every
    result produced so far is in its slot or delivered. -/
theorem poll_delivers_every_queued_outcome (ops : Ops W) {s s' : St W} {r : PollRes} (h : Reachable ops s)
    (t : Bool) (fired : List Fired) (hp : poll ops s t fired = .ok (s', r)) :
    s'.chan = [] ∧ ∀ id res, s'.keys.src id = [res] → s'.keys.slot id = .ready res ∨ s'.keys.dlv id = [res] := by
  rcases inv_poll ops (reachable_inv h) t fired with ⟨m, hm⟩ | ⟨s2, r2, h2, hinv2, _, hc⟩
  · rw [hm] at hp; cases hp
  · rw [h2] at hp
    cases hp
    exact ⟨hc, fun id res hsrc => hinv2.k.finished_is_delivered (by rw [hc]; rfl) hsrc⟩

/-- A cancellation is only a request: once the OS / the driver has produced the outcome of an operation
    (`src id ≠ []`: its `operate` succeeded, its job finished, its ECANCELED entry exists), `cancel_token`
    changes neither the slots nor the histories nor the channel — it can only set the `cancelled` mark.
    The result slot is written once, by the completion. -/
theorem cancel_does_not_alter_a_produced_outcome (ops : Ops W) {s : St W} (h : Reachable ops s) (id : Id)
    (hdone : s.keys.src id ≠ []) :
    (cancelToken s id).1.keys = s.keys ∧ (cancelToken s id).1.chan = s.chan := by
  rcases cancelToken_eq s id with ⟨hp, hc, e⟩ | e | e <;> rw [e]
  · unfold driverCancel
    cases ht : s.track id with
    | nil => exact ⟨rfl, rfl⟩
    | cons t ts =>
      -- a pending, not cancelled operation that waits for a descriptor is queued, hence has no outcome yet
      have hinv := reachable_inv h
      exact (hdone (hinv.k.qFresh id (hinv.q.live id hp (by rw [ht]; simp) hc)).1).elim
  · exact ⟨rfl, rfl⟩
  · exact ⟨rfl, rfl⟩

/-- the same for `Proactor::cancel(key)`: a produced and stored outcome is handed out, never replaced -/
theorem cancel_key_returns_the_stored_outcome (s : St W) (id : Id) (r : Res)
    (hs : s.keys.slot id = .ready r) (hc : s.cancelled id = false) :
    (cancelDrop s id).2 = some r := by
  unfold cancelDrop
  simp only [hc, Bool.false_eq_true, if_false]
  rw [pop_ready _ _ _ (by simpa using hs)]

/-- io_uring: `Driver::cancel` only stages an `AsyncCancel` SQE (or drops it when the queue is full); it
    touches no slot, no history and no queued completion … -/
theorem iour_cancel_only_requests (r : Ring) (id : Id) :
    (r.cancel id).keys = r.keys ∧ (r.cancel id).cq = r.cq ∧ (r.cancel id).chan = r.chan := by
  unfold Ring.cancel
  split <;> exact ⟨rfl, rfl, rfl⟩

/-- … and a final CQE is stored verbatim: whatever was requested in the meantime, the submitter gets the
    result the kernel reported for that operation (bytes moved ⇒ `Ok(n)`), the slot being written once. -/
theorem iour_completion_stored_verbatim (r : Ring) (id : Id) (res : Res) (w : Option WakerId)
    (hs : r.keys.slot id = .pending w) :
    (r.handleCqe ⟨.key id, res, false⟩).keys.slot id = .ready res ∧
    ((r.cancel id).handleCqe ⟨.key id, res, false⟩).keys.slot id = .ready res := by
  have e := (iour_cancel_only_requests r id).1
  constructor
  · simp [Ring.handleCqe, notify_slot, hs, Slot.store]
  · simp [Ring.handleCqe, e, notify_slot, hs, Slot.store]

/-! ## (a) own result -/

/-- The value `Proactor::pop(k)` returns is the one and only result produced for `k`
    (by `k`'s own `operate`, `k`'s own thread-pool job or `k`'s own cancellation), and it is what
    `set_result` stored. -/
theorem own_result (ops : Ops W) {s : St W} (h : Reachable ops s) (id : Id) (r : Res) (s' : St W)
    (hp : pop s id = (s', some r)) : s.keys.src id = [r] ∧ s.keys.fin id = [r] :=
  (reachable_inv h).k.pop_own (congrArg Prod.snd hp)

/-- A completion resolves only the operation whose key it carries (`user_data` / `Entry::key`):
    `set_result(id, r)` leaves every other operation's slot, history and waker count alone. -/
theorem completion_touches_only_its_key (ks : Keys) (id : Id) (r : Res) (x : Id) (hx : x ≠ id) :
    (ks.notify id r).slot x = ks.slot x ∧ (ks.notify id r).fin x = ks.fin x ∧
    (ks.notify id r).dlv x = ks.dlv x ∧ (ks.notify id r).woken x = ks.woken x := by
  have h := notify_frame ks id r x hx
  exact ⟨congrArg OpView.slot h, congrArg OpView.fin h, congrArg OpView.dlv h, congrArg OpView.woken h⟩

/-- the io_uring side of the same fact: a CQE with `user_data = key id` changes no other operation -/
theorem cqe_touches_only_its_key (r : Ring) (id : Id) (res : Res) (x : Id) (hx : x ≠ id) :
    (r.handleCqe ⟨.key id, res, false⟩).keys.slot x = r.keys.slot x := by
  simp [Ring.handleCqe, notify_slot, hx]

/-! ## (b) exactly once -/

/-- `set_result` runs at most once per operation, the user receives at most one result, and only a
    result that was stored; no `set_result` ever reaches an operation whose storage is gone. -/
theorem exactly_once (ops : Ops W) {s : St W} (h : Reachable ops s) (id : Id) :
    (s.keys.fin id).length ≤ 1 ∧ (s.keys.dlv id).length ≤ 1 ∧
    (s.keys.dlv id = [] ∨ s.keys.dlv id = s.keys.fin id) ∧ s.keys.uaf = false :=
  (reachable_inv h).k.exactly_once id

/-- Nothing finished is left undelivered: once the `completed` channel is drained, every result the
    OS / the driver produced for an operation is either waiting in its slot for `pop` (also when the user
    gave the key up) or has been handed to the user. -/
theorem finished_is_delivered (ops : Ops W) {s : St W} (h : Reachable ops s) (id : Id) (r : Res)
    (hq : s.chan = []) (hdone : s.keys.src id = [r]) :
    s.keys.slot id = .ready r ∨ s.keys.dlv id = [r] :=
  (reachable_inv h).k.finished_is_delivered (by rw [hq]; rfl) hdone

/-- An operation that is still owed a completion (queued for readiness or running in the thread pool) has
    had no result produced, notified or delivered yet, and its slot is still allocated and pending. -/
theorem owed_is_pending (ops : Ops W) {s : St W} (h : Reachable ops s) (id : Id)
    (ho : queuedP s id ∨ id ∈ s.pool) :
    s.keys.src id = [] ∧ s.keys.fin id = [] ∧ ∃ w, s.keys.slot id = .pending w :=
  (reachable_inv h).k.owed_spec ho

/-! ## (c) the arming invariant of the polling driver, and bounded progress -/

/-- After every driver call — including the rollback of a failed `submit` and `cancel` —
    a descriptor is in the registry iff one of its queues is non-empty, it is registered with the poller
    iff it is in the registry, and the armed interest is exactly `FdQueue::event()`:
    readable iff the read queue is non-empty, writable iff the write queue is non-empty. -/
theorem arming_invariant (ops : Ops W) {s : St W} (h : Reachable ops s) (fd : Fd) :
    (s.reg fd = none → s.epoll fd = none) ∧
    (∀ q, s.reg fd = some q →
        (q.readQ ≠ [] ∨ q.writeQ ≠ []) ∧ s.epoll fd = some q.event ∧
        q.event.readable = !q.readQ.isEmpty ∧ q.event.writable = !q.writeQ.isEmpty) := by
  have ha := (reachable_inv h).q.armed fd
  constructor
  · intro hr; exact ha.reg_none hr
  · intro q hr
    obtain ⟨hne, ev, he, _, hev⟩ := ha.reg_some hr
    have : ev = q.event := hev (fun hp => hp)
    exact ⟨(FdQueue.isEmpty_false_iff q).1 hne, by rw [he, this], rfl, rfl⟩

/-- Every queued operation waits for exactly the descriptor and direction of the queue it is in, is in
    no other queue, and appears once. -/
theorem queued_where_it_waits (ops : Ops W) {s : St W} (h : Reachable ops s) (fd : Fd) (d : Dir) (id : Id)
    (hm : id ∈ s.queue fd d) :
    s.track id = [⟨fd, d, false⟩] ∧ (s.queue fd d).Nodup ∧
    ∀ fd' d', id ∈ s.queue fd' d' → fd' = fd ∧ d' = d := by
  have hq := (reachable_inv h).q
  exact ⟨hq.tracked fd d id hm, hq.nodup fd d, fun fd' d' hm' => hq.unique hm' hm⟩

/-- Bounded progress: if the head of a queue waits for a direction that the kernel reports ready, the
    very next `poll` runs it; when its system call succeeds the result is in its slot when `poll` returns.
    (By `arming_invariant` the descriptor IS armed for that direction, so the kernel will report it.) -/
theorem head_runs_at_next_poll (ops : Ops W) {s : St W} (h : Reachable ops s) (t : Bool)
    (fd : Fd) (q : FdQueue) (id : Id) (rest : List Id) (rd wr : Bool) (r : Res) (w' : W)
    (hr : s.reg fd = some q)
    (hhead : (rd = true ∧ q.readQ = id :: rest) ∨
             (wr = true ∧ q.writeQ = id :: rest ∧ (rd = false ∨ q.readQ = [])))
    (hop : ops.operate s.world id = (some r, w')) :
    ∃ s', poll ops s t [⟨fd, rd, wr⟩] = .ok (s', .ok) ∧ s'.keys.slot id = .ready r ∧
      s'.keys.fin id = [r] ∧ Inv noPend s' := by
  obtain ⟨d, q', s2, s', ev2, w0, hpop, _, _, hr2, he2, htr2, hworld, hp, hf, hs', hinv', hpoll⟩ :=
    poll_single ops (reachable_inv h) hr t rd wr hhead
  rw [pollOne_ready ops s2 ⟨q.event.key, rd, wr⟩ fd q q' ev2 id d r w' hr2 he2 hpop htr2
    (by rw [hworld]; exact hop)] at hs'
  cases hs'
  refine ⟨_, hpoll, ?_, ?_, hinv'⟩
  · rw [notify_slot, if_pos rfl, produce_slot, hp]; rfl
  · rw [notify_fin]; simp [hf]

/-- `PollExtra::reset`: afterwards NO tracked descriptor of the operation is marked ready — whatever the
    number of descriptors (one for every operation except `Splice`). -/
theorem reset_marks_every_fd_unready (ts : List Track) : ∀ t ∈ resetTracks ts, t.ready = false := by
  intro t ht
  obtain ⟨t0, _, rfl⟩ := List.mem_map.1 ht
  rfl

/-- Spurious / stolen readiness.  The head of a queue is run on a readiness event but its system call
    answers EAGAIN (`operate` = `Pending`: somebody else took the data, e.g. a receive on another
    descriptor of the same socket).  When `poll` returns the operation is back at the FRONT of the very
    same queue, its tracked descriptor is marked NOT ready (`PollExtra::reset` runs for single-descriptor
    operations too), the descriptor is armed again with `event()`, the slot is still pending, and the
    invariant holds — so `head_runs_at_next_poll` applies again at the next event: the operation is not lost.
    (`head_runs_at_next_poll` needs exactly this: it finds the descriptor of an event through
    `next_fd()` = first not-ready descriptor of the registered key, i.e. through the invariant "a queued
    operation is tracked not-ready", `queued_where_it_waits`.) -/
theorem pending_operate_requeues_unready (ops : Ops W) {s : St W} (h : Reachable ops s) (t : Bool)
    (fd : Fd) (q : FdQueue) (id : Id) (rest : List Id) (rd wr : Bool) (w' : W)
    (hr : s.reg fd = some q)
    (hhead : (rd = true ∧ q.readQ = id :: rest) ∨
             (wr = true ∧ q.writeQ = id :: rest ∧ (rd = false ∨ q.readQ = [])))
    (hop : ops.operate s.world id = (none, w')) :
    ∃ s' d, poll ops s t [⟨fd, rd, wr⟩] = .ok (s', .ok) ∧
      s'.reg fd = some q ∧ q.get d = id :: (match d with | .read => rest | .write => rest) ∧
      s'.track id = [⟨fd, d, false⟩] ∧ nextFd (s'.track id) = some fd ∧
      s'.epoll fd = some q.event ∧ (∃ w, s'.keys.slot id = .pending w) ∧ s'.keys.fin id = [] ∧
      Inv noPend s' := by
  obtain ⟨d, q', s2, s', ev2, w0, hpop, hget, hqeq, hr2, he2, htr2, hworld, hp, hf, hs', hinv', hpoll⟩ :=
    poll_single ops (reachable_inv h) hr t rd wr hhead
  rw [pollOne_pending ops s2 ⟨q.event.key, rd, wr⟩ fd q q' ev2 id d w' hr2 he2 hpop hqeq htr2
    (by rw [hworld]; exact hop)] at hs'
  cases hs'
  exact ⟨_, d, hpoll, hr2, by cases d <;> exact hget, htr2, by rw [htr2]; simp [nextFd], upd_same _ _ _, ⟨w0, hp⟩, hf, hinv'⟩

/-! ## (d) FIFO per (descriptor, direction) -/

/-- Every readiness queue is a subsequence of the submission order of its (descriptor, direction):
    operations are only ever removed (completion, cancel) or put back where they were (not ready after
    all), never reordered. -/
theorem fifo (ops : Ops W) {s : St W} (h : Reachable ops s) (fd : Fd) (d : Dir) :
    (s.queue fd d).Sublist (s.pushed fd d) :=
  (reachable_inv h).q.fifo fd d

/-- `poll_one` runs only the HEAD of a queue (`pop_interest`), read direction first. -/
theorem only_the_head_runs (q q' : FdQueue) (ev : Event) (id : Id) (h : q.popInterest ev = some (id, q')) :
    ∃ d, q.get d = id :: q'.get d ∧ ∀ d', d' ≠ d → q'.get d' = q.get d' := by
  obtain ⟨d, h1, h2, _⟩ := FdQueue.popInterest_some h
  exact ⟨d, h1, h2⟩

/-- hence the operation at the head was submitted before everything behind it -/
theorem head_was_submitted_first (ops : Ops W) {s : St W} (h : Reachable ops s) (fd : Fd) (d : Dir)
    (x y : Id) (rest : List Id) (hq : s.queue fd d = x :: rest) (hy : y ∈ rest) :
    ∃ l1 l2, s.pushed fd d = l1 ++ x :: l2 ∧ y ∈ l2 := by
  have := fifo ops h fd d
  rw [hq] at this
  exact sublist_cons_mem this hy

/-! ## (e) submission-queue overflow (io_uring `push_raw`) -/

/-- `push_raw` terminates with the entry queued as soon as ONE `io_uring_enter` inside the loop consumes
    a staged SQE.  Assumption stated: the kernel eventually does (the Rust loop has no bound of its own: EBUSY/EAGAIN
    are mapped to `Interrupted` and retried, so a kernel that kept refusing would make it spin). -/
theorem push_raw_terminates (e : Sqe) (script : List Enter) (r : Ring)
    (hlen : r.sq.length ≤ r.sqCap) (hcap : 0 < r.sqCap) (hk : ∃ en ∈ script, 1 ≤ en.taken) :
    (r.pushRaw e script).2 = .ok := by
  unfold Ring.pushRaw
  induction script generalizing r with
  | nil => obtain ⟨_, hm, _⟩ := hk; cases hm
  | cons en rest ih =>
    rw [pushRawAux_cons]
    split
    · rfl
    · obtain ⟨hs, hc⟩ := overflowRound_sq r en
      have hl : (overflowRound r en).sq.length = r.sq.length - en.taken := by rw [hs, List.length_drop]
      by_cases ht : 1 ≤ en.taken
      · -- this round made room
        have hroom : (overflowRound r en).sq.length < (overflowRound r en).sqCap := by omega
        cases rest <;> simp [pushRawAux, hroom]
      · obtain ⟨en', hm, ht'⟩ := hk
        rcases List.mem_cons.1 hm with rfl | hm
        · exact (ht ht').elim
        · exact ih _ (by omega) (hc ▸ hcap) ⟨en', hm, ht'⟩

/-- The new SQE is staged; the ones staged before it were only consumed from the front, by the kernel. -/
theorem push_raw_keeps_the_sqe (e : Sqe) (script : List Enter) (r r' : Ring)
    (h : r.pushRaw e script = (r', .ok)) : ∃ k, r'.sq = r.sq.drop k ++ [e] :=
  pushRaw_keeps_sqe e script r r' h

/-- Every final completion the loop drains from the completion queue has been passed to `set_result` of
    exactly the operation its `user_data` names (nothing drained is dropped). -/
theorem push_raw_loses_no_completion (e : Sqe) (script : List Enter) (r : Ring) :
    ∃ D, (r.pushRaw e script).1.drained = r.drained ++ D ∧
      ∀ c ∈ D, ∀ id, c.ud = .key id → c.more = false → c.res ∈ (r.pushRaw e script).1.keys.fin id := by
  unfold Ring.pushRaw
  obtain ⟨r0, ⟨_, D, _, hd, hf⟩, hres | hres⟩ := pushRawAux_drains e script r <;> rw [hres] <;>
    exact ⟨D, hd, fun c hc id hud hm => (hf id).symm ▸ List.mem_append_right _ (mem_chanRes_cqFinals hc hud hm)⟩

/-- …and `poll_entries` in general: each final CQE of a key ends up in that key's `set_result`. -/
theorem poll_entries_notifies (r : Ring) (c : Cqe) (id : Id) (hc : c ∈ r.cq) (hud : c.ud = .key id)
    (hm : c.more = false) : c.res ∈ r.pollEntries.keys.fin id := by
  unfold Ring.pollEntries
  rw [foldl_handleCqe_fin]
  exact List.mem_append_right _ (mem_chanRes_cqFinals hc hud hm)

/-! ## (f) `set_result` stores, then wakes -/

/-- If a waker `w` is registered when the operation completes, `set_result` (1) makes the slot `Ready`
    with the result, (2) wakes `w` exactly once, and (3) the wake happens when the slot is already `Ready`
    (the record logged at wake time says so). Without a registered waker nobody is woken. -/
theorem set_result_stores_then_wakes (ks : Keys) (id : Id) (r : Res) (w : WakerId)
    (h : ks.slot id = .pending (some w)) :
    (ks.notify id r).slot id = .ready r ∧ (ks.notify id r).woken id = ks.woken id + 1 ∧
    (ks.notify id r).wakeLog = ks.wakeLog ++ [⟨id, w, true, true⟩] := by
  rw [notify_eq]; simp [h, Slot.store]

theorem set_result_without_waker (ks : Keys) (id : Id) (r : Res) (h : ks.slot id = .pending none) :
    (ks.notify id r).slot id = .ready r ∧ (ks.notify id r).woken = ks.woken ∧
    (ks.notify id r).wakeLog = ks.wakeLog := by
  rw [notify_eq]; simp [h, Slot.store]

/-- In every reachable state: a waker is never woken before its operation's result is stored, never woken
    twice, and every final wake found the slot `Ready`. -/
theorem wake_only_on_completion (ops : Ops W) {s : St W} (h : Reachable ops s) (id : Id) :
    s.keys.woken id ≤ (s.keys.fin id).length ∧ s.keys.woken id ≤ 1 ∧
    ∀ w ∈ s.keys.wakeLog, w.final = true → w.readyAtWake = true := by
  have hinv := (reachable_inv h).k
  have h1 := hinv.wokenLe id
  have h2 := hinv.finLen id
  exact ⟨h1, by omega, hinv.wakeReady⟩

/-- (f) over whole runs.  `hadWaker id` (ghost, written only by `update_waker` on a pending slot, never
    cleared) = "a waker was registered for `id` before it completed".  In every reachable state:
    while the operation is incomplete nobody was woken and the slot holds a waker iff one was registered;
    once it is complete the registered waker has been woken exactly once — and if none was registered,
    nobody.  So a waker registered before completion is woken exactly when the slot becomes `Ready`. -/
theorem registered_waker_woken_exactly_on_completion (ops : Ops W) {s : St W} (h : Reachable ops s) (id : Id) :
    (s.keys.fin id = [] → s.keys.woken id = 0) ∧
    (s.keys.fin id ≠ [] → s.keys.woken id = if s.keys.hadWaker id then 1 else 0) ∧
    (∀ w, s.keys.slot id = .pending w → w.isSome = s.keys.hadWaker id) :=
  (reachable_inv h).k.woken_spec id

/-- (f) with waker identities.  `lastWaker id` (ghost) = the waker passed to the LATEST `update_waker` made
    while `id` was pending; `finalWakers ks id` = the wakers `set_result` woke for `id` (from the wake log).
    In every reachable state: nobody is woken before completion; on completion exactly the latest registered
    waker is woken, exactly once — never an older one (a future re-polled under a new waker, e.g. after being
    moved into another task); with no registration nobody.  A pending slot holds precisely that latest waker. -/
theorem latest_waker_woken_exactly_once (ops : Ops W) {s : St W} (h : Reachable ops s) (id : Id) :
    finalWakers s.keys id = (if (s.keys.fin id).isEmpty then [] else (s.keys.lastWaker id).toList) ∧
    (∀ w, s.keys.slot id = .pending w → w = s.keys.lastWaker id) := by
  have hinv := (reachable_inv h).k
  exact ⟨hinv.wakersEq id, hinv.lastReg id⟩

/-- `update_waker(k, w)` on a pending operation REPLACES whatever waker was registered before -/
theorem update_waker_replaces (ks : Keys) (id : Id) (w : WakerId) (old : Option WakerId)
    (h : ks.slot id = .pending old) :
    (ks.setWaker id w).slot id = .pending (some w) ∧ (ks.setWaker id w).lastWaker id = some w := by
  have := view_setWaker_pending (w := w) h
  exact ⟨congrArg OpView.slot this, congrArg OpView.last this⟩

/-- `Proactor::update_waker` on a pending operation registers the waker (so the completion will wake it) -/
theorem update_waker_registers (ks : Keys) (id : Id) (w : WakerId) (w0 : Option WakerId)
    (h : ks.slot id = .pending w0) :
    (ks.setWaker id w).slot id = .pending (some w) ∧ (ks.setWaker id w).hadWaker id = true := by
  have := view_setWaker_pending (w := w) h
  exact ⟨congrArg OpView.slot this, congrArg OpView.had this⟩

section futures
variable {σ : Type} (push : σ → Id → σ × Option Res) (getK : σ → Keys) (setK : σ → Keys → σ)

/-- `Submit::poll` returning `Pending` leaves the task's waker registered in the operation's slot
    (given the driver's `push` allocated the slot), so by `set_result_stores_then_wakes` the completion
    wakes the task; the state is `Submitted`. -/
theorem submit_pending_registers_waker (hlens : ∀ s ks, getK (setK s ks) = ks)
    (hpush : ∀ s s1 id, push s id = (s1, none) → ∃ w0, (getK s1).slot id = .pending w0)
    (s s' : σ) (st st' : FutState) (id : Id) (w : WakerId)
    (hst : st = .idle ∨ (st = .submitted ∧ ∃ w0, (getK s).slot id = .pending w0))
    (h : submitPoll push getK setK s st id w = (s', st', .pending)) :
    st' = .submitted ∧ (getK s').slot id = .pending (some w) := by
  have hpt : ∀ (ks : Keys) (w0 : Option WakerId), ks.slot id = .pending w0 → pollTask ks id w = (ks.setWaker id w, none) := by
    intro ks w0 hs
    unfold pollTask
    rw [pop_not_ready ks id (by simp [hs])]
  have hreg : ∀ (ks : Keys) (w0 : Option WakerId), ks.slot id = .pending w0 → (ks.setWaker id w).slot id = .pending (some w) :=
    fun ks w0 hs => (update_waker_registers ks id w w0 hs).1
  unfold submitPoll at h
  rcases hst with rfl | ⟨rfl, w0, hw0⟩
  · cases hp : push s id with
    | mk s1 o =>
      cases o with
      | some r => simp [hp] at h
      | none =>
        obtain ⟨w0, hw0⟩ := hpush s s1 id hp
        simp only [hp, hpt _ w0 hw0, Prod.mk.injEq, and_true] at h
        obtain ⟨rfl, rfl⟩ := h
        exact ⟨rfl, by rw [hlens]; exact hreg _ w0 hw0⟩
  · simp only [hpt _ w0 hw0, Prod.mk.injEq, and_true] at h
    obtain ⟨rfl, rfl⟩ := h
    exact ⟨rfl, by rw [hlens]; exact hreg _ w0 hw0⟩

/-- Once the slot is `Ready(r)`, the next `Submit::poll` returns exactly `r`, consumes the key, and the
    future is finished: polling it again is the documented panic ("Cannot poll after ready") — the result
    is handed out once. -/
theorem submit_ready_returns_own_result (s : σ) (id : Id) (w : WakerId) (r : Res)
    (h : (getK s).slot id = .ready r) :
    ∃ s', submitPoll push getK setK s .submitted id w = (s', .gone, .ready r) ∧
      (submitPoll push getK setK s' .gone id w).2.2 = .panic := by
  unfold submitPoll pollTask
  rw [pop_ready _ _ _ h]
  exact ⟨_, rfl, rfl⟩

/-- `SubmitMulti`: items queued by multishot completions are yielded first, in order; the final result
    is yielded once and moves the stream to `Finished`, after which it reports end-of-stream. -/
theorem submit_multi_yields_items_in_order (ks : Keys) (id : Id) (w : WakerId) (r : Res) (rest : List Res)
    (h : ks.multi id = r :: rest) :
    ∃ ks', multiSubmitted ks id w = (ks', .submitted, .item r) ∧ ks'.multi id = rest := by
  unfold multiSubmitted pollMultishot Keys.popMulti
  simp [h]

theorem submit_multi_final_once (ks : Keys) (id : Id) (w : WakerId) (r : Res)
    (hm : ks.multi id = []) (hs : ks.slot id = .ready r) :
    ∃ ks', multiSubmitted ks id w = (ks', .finished, .item r) := by
  unfold multiSubmitted pollMultishot Keys.popMulti pollTask
  simp only [hm]
  have : (ks.setWaker id w).slot id = .ready r := by rw [setWaker_slot]; simp [hs, Slot.setWaker]
  rw [pop_ready _ _ _ this]
  exact ⟨_, rfl⟩

end futures

/-! ## io_uring: (a) and (b) for every run under the kernel contract

`RunOk` is what the environment has to respect: keys are fresh allocations, `jobDone` names a running job,
and every `io_uring_enter` / asynchronous post honours `EnterOk` — the kernel posts CQEs only with the
user_data of SQEs it consumed and has not finished yet, at most one final CQE each (assumption A-K: the
io_uring ABI).  Under that contract the driver's own logic — overflow loop, `poll_entries`, the `completed`
channel — keeps "exactly once, own result". -/

def RReachable (r : Ring) : Prop :=
  ∃ (cap : Nat) (steps : List RStep), RunOk { sqCap := cap } steps ∧ r = Ring.run { sqCap := cap } steps

theorem rreachable_inv {r : Ring} (h : RReachable r) : RInv r := by
  obtain ⟨cap, steps, hok, rfl⟩ := h
  exact RInv.run steps _ (RInv.init cap) hok

/-- what `pop` hands out on io_uring is the one result the kernel (or the thread pool) produced for that key -/
theorem iour_own_result {r : Ring} (h : RReachable r) (id : Id) (res : Res) (ks' : Keys)
    (hp : r.keys.pop id = (ks', some res)) : r.keys.src id = [res] ∧ r.keys.fin id = [res] :=
  (rreachable_inv h).k.pop_own (congrArg Prod.snd hp)

/-- (f) on io_uring: same statement (multishot `wake_by_ref` nudges are counted separately in `nudged`) -/
theorem iour_registered_waker_woken_exactly_on_completion {r : Ring} (h : RReachable r) (id : Id) :
    (r.keys.fin id = [] → r.keys.woken id = 0) ∧
    (r.keys.fin id ≠ [] → r.keys.woken id = if r.keys.hadWaker id then 1 else 0) ∧
    (∀ w, r.keys.slot id = .pending w → w.isSome = r.keys.hadWaker id) :=
  (rreachable_inv h).k.woken_spec id

theorem iour_latest_waker_woken_exactly_once {r : Ring} (h : RReachable r) (id : Id) :
    finalWakers r.keys id = (if (r.keys.fin id).isEmpty then [] else (r.keys.lastWaker id).toList) ∧
    (∀ w, r.keys.slot id = .pending w → w = r.keys.lastWaker id) := by
  have hk := (rreachable_inv h).k
  exact ⟨hk.wakersEq id, hk.lastReg id⟩

theorem iour_exactly_once {r : Ring} (h : RReachable r) (id : Id) :
    (r.keys.fin id).length ≤ 1 ∧ (r.keys.dlv id).length ≤ 1 ∧
    (r.keys.dlv id = [] ∨ r.keys.dlv id = r.keys.fin id) ∧ r.keys.uaf = false :=
  (rreachable_inv h).k.exactly_once id

/-- once completion queue and `completed` channel are drained, every result the kernel / the pool produced
    sits in its slot or has been delivered -/
theorem iour_finished_is_delivered {r : Ring} (h : RReachable r) (id : Id) (res : Res)
    (hcq : r.cq = []) (hch : r.chan = []) (hdone : r.keys.src id = [res]) :
    r.keys.slot id = .ready res ∨ r.keys.dlv id = [res] :=
  (rreachable_inv h).finished_is_delivered hcq hch hdone

/-- an operation whose SQE is staged or which the kernel owns has a live, pending slot and no result yet;
    the staged / kernel-owned operations are pairwise distinct -/
theorem iour_owed_is_pending {r : Ring} (h : RReachable r) (id : Id) (ho : r.owed id ∨ id ∈ r.pool) :
    r.keys.src id = [] ∧ r.keys.fin id = [] ∧ (∃ w, r.keys.slot id = .pending w) ∧
    (r.kern ++ opsOf r.sq).Nodup := by
  have hi := rreachable_inv h
  obtain ⟨a, b, c⟩ := hi.k.owed_spec ho
  exact ⟨a, b, c, hi.nod⟩

section examples

/-- a world in which every `operate` succeeds with 5 bytes -/
def okOps : Ops Unit := { operate := fun w _ => (some (.ok 5), w), addFails := fun _ => none }
/-- a world in which descriptor 7 is a regular file (epoll refuses it) -/
def fileOps : Ops Unit := { operate := fun w _ => (none, w), addFails := fun fd => if fd = 7 then some EPERM else none }

def demo : List Step :=
  [ .push 0 (.wait [(3, .read)]), .push 1 (.wait [(3, .read)]), .push 2 (.wait [(3, .write)]),
    .push 3 .blocking, .setWaker 0 9, .poll true [⟨3, true, true⟩], .jobDone 3 (.ok 1), .poll true [],
    .cancelToken 1, .poll true [], .pop 0 ]

example : ∀ e ∈ demo, e.single := by
  intro e he
  simp only [demo, List.mem_cons, List.not_mem_nil, or_false] at he
  rcases he with rfl | rfl | rfl | rfl | rfl | rfl | rfl | rfl | rfl | rfl | rfl <;> simp [Step.single]

/-- the demo run is accepted, operation 0 (head of the read queue) completed with its own 5 bytes and was
    delivered, the job and the cancelled read were notified, the write is still queued and armed -/
example :
    (match run okOps (init ()) demo with
     | .ok s => s.keys.dlv 0 == [.ok 5] && s.keys.fin 3 == [.ok 1] && s.keys.fin 1 == [.err ECANCELED] &&
                s.queue 3 .write == [2] && s.queue 3 .read == [] && s.keys.woken 0 == 1 &&
                (s.epoll 3).map (·.writable) == some true && (s.epoll 3).map (·.readable) == some false
     | .error _ => false) = true := by decide

/-- two wakers registered one after the other for the same pending operation: only the second is woken -/
example :
    (match run okOps (init ()) [.push 0 (.wait [(3, .read)]), .setWaker 0 7, .setWaker 0 8,
                               .poll true [⟨3, true, false⟩]] with
     | .ok s => finalWakers s.keys 0 == [8] && s.keys.lastWaker 0 == some 8 && s.keys.woken 0 == 1
     | .error _ => false) = true := by decide

/-- error rollback: a `Read` on a regular file is refused by epoll; nothing stays registered -/
example :
    (match run fileOps (init ()) [.push 0 (.wait [(7, .read)])] with
     | .ok s => s.keys.dlv 0 == [.err EPERM] && (s.reg 7).isNone && (s.epoll 7).isNone
     | .error _ => false) = true := by decide

/-- io_uring overflow: capacity 1, the queue is full, the kernel takes the staged entry and completes it
    inline; the drained completion is notified and the new entry is staged -/
example :
    let r0 : Ring := { sqCap := 1, sq := [.op 0], keys := ({} : Keys).alloc 0 }
    let (r1, res) := r0.pushOp 1 [⟨1, [⟨.key 0, .ok 3, false⟩]⟩]
    (res == .ok && r1.sq == [.op 1] && r1.keys.fin 0 == [.ok 3] && r1.drained.length == 1) = true := by decide

/-- an io_uring run that respects the contract: two reads, a poll whose `io_uring_enter` takes both and the
    notifier and completes the first, the second completing later on its own, a second poll, both popped -/
def ringDemo : List RStep :=
  [ .pushOp 0 [], .pushOp 1 [], .poll [] ⟨3, [⟨.key 0, .ok 3, false⟩]⟩, .kernel [⟨.key 1, .ok 4, false⟩],
    .poll [] ⟨0, []⟩, .pop 0, .pop 1 ]

theorem ringDemo_ok : RunOk { sqCap := 4 } ringDemo := by
  refine ⟨⟨⟨rfl, rfl, by unfold Ring.owed; decide, by decide⟩, trivial⟩, ?_⟩
  refine ⟨⟨⟨rfl, rfl, by unfold Ring.owed; decide, by decide⟩, trivial⟩, ?_⟩
  refine ⟨?_, ?_⟩
  · -- first poll: nothing in the channel, the notifier is staged without overflow
    unfold RStepOk PollOk
    refine (if_pos (by decide)).mpr ?_
    refine (if_pos (by decide)).mpr ⟨trivial, ?_⟩
    intro r2 h2
    have : r2 = (((({ sqCap := 4 } : Ring).step (.pushOp 0 [])).step (.pushOp 1 [])).pollBlocking.1.pushRaw .notifier []).1 := by
      rw [h2]
    subst this
    exact .single_final (by decide)
  refine ⟨.single_final (by decide), ?_⟩
  refine ⟨?_, trivial, trivial, trivial⟩
  unfold RStepOk PollOk
  refine (if_pos (by decide)).mpr ?_
  refine (if_neg (by decide)).mpr ⟨(by intro c hc; cases hc), (by decide)⟩

/-- …and it ends with both operations delivered their own result, nothing owed, queues empty -/
example :
    let r := Ring.run { sqCap := 4 } ringDemo
    (r.keys.dlv 0 == [.ok 3] && r.keys.dlv 1 == [.ok 4] && r.kern == [] && r.cq == [] && r.sq == []) = true := by
  decide

end examples

end Compio.Props.C02
