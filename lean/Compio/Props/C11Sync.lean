/- C11: op histories on a bare `Buffer` (fill, `advance`, `compact_to`, `prep`: what `compat::SyncStream`'s read side,
the caller of `Buffer::compact_to`, does to it): for every sequence of operations the unread bytes are preserved —
nothing lost, duplicated or reordered. -/
import Compio.Model.SyncRead
import Compio.Lemmas.Buffer

namespace Compio.Props.C11Sync
open Compio Compio.Io

theorem fill_spec (b : Buffer) (bs : Bytes) (h : b.WF) :
    (b.fill bs).pending = b.pending ++ bs ∧ (b.fill bs).WF := by
  obtain ⟨h1, h2⟩ := h
  refine ⟨?_, ?_, ?_⟩
  · simp only [Buffer.fill, Buffer.pending]
    rw [List.drop_append_of_le_length h1]
  · simp [Buffer.fill]; omega
  · simp [Buffer.fill]; omega

/-- **Every history** of fill / advance / compact_to / prep on a `Buffer` behaves as a FIFO queue of the
unread bytes: compaction (any capacities) never changes the unread suffix, a fill appends, `advance`
removes from the front, and the only panic is an `advance` beyond the unread bytes. -/
theorem buffer_history_preserves_unread (ops : List BufOp) :
    ∀ (b : Buffer), b.WF →
      match b.runOps ops, queueRun b.pending ops with
      | some b', some q => b'.pending = q ∧ b'.WF
      | none, none => True
      | _, _ => False := by
  induction ops with
  | nil => intro b h; exact ⟨rfl, h⟩
  | cons op r ih =>
    intro b h
    cases op with
    | fill bs =>
      have := ih (b.fill bs) (fill_spec b bs h).2
      rw [(fill_spec b bs h).1] at this
      exact this
    | advance n =>
      simp only [Buffer.runOps, queueRun]
      by_cases hn : n ≤ b.pending.length
      · obtain ⟨b', ha, hp, hw, _⟩ := b.advance_some n h hn
        have := ih b' hw
        rw [hp] at this
        rw [ha, if_pos hn]
        exact this
      · rw [b.advance_none n (Nat.lt_of_not_le hn), if_neg hn]
        trivial
    | compact c m =>
      have := ih (b.compactTo c m) (b.compactTo_spec c m h).2.2
      rw [(b.compactTo_spec c m h).1] at this
      exact this
    | prep =>
      have := ih b.prep (b.prep_wf h)
      rw [b.prep_pending] at this
      exact this

/-- non-vacuity: fill 4, consume a short prefix, compact, refill, consume: FIFO -/
example : ((Buffer.withCapacity 8).runOps
    [.fill [1,2,3,4], .advance 1, .compact 8 64, .fill [5,6], .advance 2]).map Buffer.pending
    = some [4,5,6] := by decide +kernel

end Compio.Props.C11Sync
