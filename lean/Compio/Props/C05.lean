/-
C05 — Cancellation is prompt, honest and local.

Stated over the key life-cycle LTS (`Compio.KeyLife`, the same `step` the model driver `c05d` executes):
`cancelKey` is `Proactor::cancel(key)` (what dropping a submitted future / a timed-out future does),
`cancelTok` is `Proactor::cancel_token`, `cancelIssue` their common tail that reaches `Driver::cancel`,
`Token` is compio-runtime's `CancelToken` registry.

Thread-pool operations are excluded from promptness (documented as not interruptible): `pollCancel` does
nothing for them and io_uring has nothing to cancel.

io_uring promptness has ONE condition: the kernel honours `AsyncCancel` (A-K2, an assumption about the
environment: the `kPost` in `iour_cancel_prompt`). That the cancel SQE finds room in the submission queue (finding F9)
is not a condition: since commit 0f15c6d `iour::Driver::cancel` goes through `push_raw`, which the extractor
reads from the source (`Gen.iourCancelUsesPushRaw = true`). `Compio.Cex.C05` keeps the pre-fix behaviour
(`iourCancelUnfixed`) as a witness. Note that a cancel whose SQE overflows the queue submits and reaps completions
INSIDE `cancel` / `cancel_token` (`overflowDrain`).

Not over the LTS, but over tables the extractor regenerates from the source: `WithCancel` and the `Ext::with_*` builders
carry the token down to `Submit::poll` (`Gen.extBuilders`, `ExtStack`), every submit flavour registers its key with the
token (`Gen.submitRegisterSites`). Last section: cancel of an operation queued on several descriptors (`Multi05`).
-/
import Compio.Lemmas.KeyLifeCancel
import Compio.Lemmas.MultiFd
import Compio.Gen.WithCancel
import Compio.Model.ExtStack
import Compio.Model.KeyLifeScript05

namespace Compio.Props.C05

open Compio Compio.KeyLife Compio.PollQueues

/-- `Proactor::cancel` on an op whose `cancelled` flag is set (`set_cancelled()` returned true) only drops the
key that was passed in: no driver action — no SQE, no queue change, no completed-channel entry. -/
theorem cancel_again_no_driver_action (c : Cfg) (s : State) (id : Nat) (o : Op) (posts : List (Nat × Bool × Res))
    (hc : o.cancelled = true) :
    cancelKey c s id o posts = { s with ops := modAt (fun o => { o with user := o.user - 1 }.dropRef) s.ops id } := by
  unfold cancelKey; simp [hc]

/-- `Proactor::cancel_token` on an op that is already cancelled or already completed returns `false` and
leaves the driver and the op as they were (the temporary key from the upgrade is dropped again). -/
theorem cancel_token_again_no_driver_action (c : Cfg) (s : State) (id : Nat) (o : Op)
    (posts : List (Nat × Bool × Res)) (ho : s.ops[id]? = some o)
    (hc : o.cancelled = true ∨ o.result.isSome = true) :
    cancelTokRet o = false ∧
      (cancelTok c s id o posts).sqLen = s.sqLen ∧ (cancelTok c s id o posts).reg = s.reg ∧
      (cancelTok c s id o posts).armed = s.armed ∧
      (∀ j, j ≠ id → (cancelTok c s id o posts).ops[j]? = s.ops[j]?) ∧
      ∃ x, (cancelTok c s id o posts).ops[id]? = some x ∧ x.cancelSq = o.cancelSq ∧ x.chan = o.chan ∧
        x.user = o.user ∧ x.result = o.result ∧ x.kcancel = o.kcancel := by
  refine ⟨?_, ?_, ?_, ?_, ?_, ?_⟩
  · unfold cancelTokRet
    rcases hc with h | h
    · simp [h]
    · cases hr : o.result with
      | none => rw [hr] at h; cases h
      | some r => simp
  all_goals unfold cancelTok; simp only [hc, if_true]
  · intro j hj
    simp only [getElem?_modAt_ne _ _ (Ne.symm hj)]
  · refine ⟨_, modAt_get (modAt_get ho), rfl, rfl, ?_, rfl, rfl⟩
    simp only [Op.dropRef, Op.dropRefs, Op.cloneRef]; omega

/-- **cancel after completion returns the genuine result**: a unique key with a result (`is_unique ∧
has_result`) is not sent to the driver; the op goes back to the caller with exactly the stored result, and
that result is one the kernel / `operate` / the pool closure produced (or ECANCELED from an earlier cancel). -/
theorem cancel_after_complete_returns_genuine_result {c : Cfg} {d : Drv} {cap : Nat} {evs : List Event} {s : State}
    (h : run c (init d cap) evs = some s) {id : Nat} {o : Op} (ho : s.ops[id]? = some o)
    (hc : o.cancelled = false) (hu : o.rc = 1) {r : Res} (hr : o.result = some r) (c' : Cfg)
    (posts : List (Nat × Bool × Res)) :
    (∃ x, (cancelKey c' s id o posts).ops[id]? = some x ∧ x.returned = o.returned + 1 ∧ x.result = some r ∧
        x.freed = o.freed) ∧
      (cancelKey c' s id o posts).sqLen = s.sqLen ∧ (cancelKey c' s id o posts).reg = s.reg ∧
      (r ∈ o.produced ∨ r = ECANCELED) := by
  have hg := (reach_inv2 h id o ho).h_result r hr
  have hcond : o.rc = 1 ∧ o.result.isSome = true := ⟨hu, by rw [hr]; rfl⟩
  refine ⟨?_, ?_, ?_, hg⟩
  · unfold cancelKey
    simp only [hc, hcond, and_self, if_true, Bool.false_eq_true, if_false]
    exact ⟨_, modAt_get ho, rfl, hr, rfl⟩
  all_goals unfold cancelKey; simp only [hc, hcond, and_self, if_true, Bool.false_eq_true, if_false]

/-- **never a fabricated result**: in every reachable state, whatever sits in a result slot, in the queue of
multishot results, in an entry of the completed channel or in an unseen CQE is a value that the kernel,
`operate` or the pool closure produced for THIS operation — or ECANCELED. -/
theorem honesty {c : Cfg} {d : Drv} {cap : Nat} {evs : List Event} {s : State}
    (h : run c (init d cap) evs = some s) {i : Nat} {o : Op} (ho : s.ops[i]? = some o) :
    (∀ r, o.result = some r → r ∈ o.produced ∨ r = ECANCELED) ∧
      (∀ r, r ∈ o.multi → r ∈ o.produced ∨ r = ECANCELED) ∧
      (∀ r, r ∈ o.chan → r ∈ o.produced ∨ r = ECANCELED) := by
  have ok := reach_inv2 h i o ho
  exact ⟨ok.h_result, ok.h_multi, ok.h_chan⟩

/-- in particular a reported success is a success the environment produced -/
theorem no_fabricated_success {c : Cfg} {d : Drv} {cap : Nat} {evs : List Event} {s : State}
    (h : run c (init d cap) evs = some s) {i : Nat} {o : Op} (ho : s.ops[i]? = some o) {n : Nat}
    (hr : o.result = some (.ok n)) : Res.ok n ∈ o.produced := by
  rcases (honesty h ho).1 _ hr with h1 | h1
  · exact h1
  · simp [ECANCELED] at h1

/-- **locality**: cancelling op `id` (a descriptor op, not yet cancelled) on the polling driver
* filters exactly `id` out of both queues of ITS descriptor and keeps everything else in place and in order,
* leaves the queues of every other descriptor alone,
* re-arms the poller for what remains on that descriptor (`renew`), other descriptors keep their interest,
* touches no other operation,
* emits exactly one completed-channel entry for `id`, carrying ECANCELED. -/
theorem poll_cancel_local (c : Cfg) (s : State) (id : Nat) (o : Op) (posts : List (Nat × Bool × Res))
    (hd : s.drv = .poll) (ho : s.ops[id]? = some o) (hk : o.kind ≠ .blocking) :
    (∀ fd dir, ((cancelIssue c s id o posts).reg fd).sel dir =
        if fd = o.fd then ((s.reg fd).sel dir).filter (· != id) else (s.reg fd).sel dir) ∧
      (cancelIssue c s id o posts).armed o.fd = ((cancelIssue c s id o posts).reg o.fd).event ∧
      (∀ fd, fd ≠ o.fd → (cancelIssue c s id o posts).armed fd = s.armed fd) ∧
      (∀ j, j ≠ id → (cancelIssue c s id o posts).ops[j]? = s.ops[j]?) ∧
      (∃ x, (cancelIssue c s id o posts).ops[id]? = some x ∧ x.chan = o.chan ++ [ECANCELED] ∧ x.cancelled = true) := by
  obtain ⟨hreg, harm⟩ := cancelIssue_poll c s id o posts hd hk
  refine ⟨?_, ?_, ?_, fun j hj => cancelIssue_frame_poll c s id o posts hd hj, ?_⟩
  · intro fd dir
    rw [hreg]
    by_cases hf : fd = o.fd
    · subst hf; simp only [upd_same, FdQ.sel_remove, if_true]
    · simp only [upd_other _ _ _ _ hf, hf, if_false]
  · rw [hreg, harm]; simp only [upd_same]
  · intro fd hf; rw [harm]; exact upd_other _ _ _ _ hf
  · unfold cancelIssue driverCancel pollCancel
    simp only [hd, hk, if_false]
    exact ⟨_, modAt_get (modAt_get (modAt_get ho)), rfl, rfl⟩

/-- **promptness (polling)**: after such a cancel the very next `poll` — its first action is to drain the
completed channel — completes the op, whatever the readiness of any descriptor. If nothing else was queued for
it the result is ECANCELED. -/
theorem poll_cancel_prompt {c : Cfg} (s : State) (id : Nat) (o : Op) (posts : List (Nat × Bool × Res))
    (hd : s.drv = .poll) (ho : s.ops[id]? = some o) (hk : o.kind ≠ .blocking) {s' : State}
    (hp : step c (cancelIssue c s id o posts) .pollBlocking = some s') :
    ∃ x, s'.ops[id]? = some x ∧ x.result = some ECANCELED ∧ x.chan = [] := by
  obtain ⟨x, hx, hchan, _⟩ := (poll_cancel_local c s id o posts hd ho hk).2.2.2.2
  cases Step.of_step hp with
  | pollBlocking =>
    refine ⟨x.drainChan, map_get hx, ?_⟩
    unfold Op.drainChan
    rw [hchan]; simp [Op.dropRefs]

/-- **weak tokens never keep an operation alive**: registering a token changes nothing but the token count;
the strong count and every holder stay as they are (`refcount_eq_holders` of C01 has no term for tokens). -/
theorem token_register_holds_nothing {c : Cfg} {s s' : State} {id : Nat}
    (h : step c s (.tokenRegister id) = some s') :
    s'.reg = s.reg ∧ (∀ j, j ≠ id → s'.ops[j]? = s.ops[j]?) ∧
      ∃ o, s.ops[id]? = some o ∧ s'.ops[id]? = some { o with weak := o.weak + 1 } := by
  cases Step.of_step h with
  | tokenRegister ho => exact ⟨rfl, fun j hj => getElem?_modAt_ne _ _ (Ne.symm hj), _, ho, modAt_get ho⟩

/-- a token whose operation is gone (freed or handed back) cannot be upgraded: `cancel_token` does nothing -/
theorem dead_token_does_nothing {c : Cfg} {s s' : State} {id : Nat} {o : Op} {posts : List (Nat × Bool × Res)}
    (ho : s.ops[id]? = some o) (hrc : o.rc = 0) (h : step c s (.tokenCancel id posts) = some s') :
    s' = s ∧ cancelTokRet o = false :=
  ⟨(tokenCancel_effect h).2.2 o ho hrc, by simp [cancelTokRet, hrc]⟩

/-- "dealt with": flagged cancelled, or already released (then there is nothing left to cancel) -/
def Done (x : Op) : Prop := x.cancelled = true ∨ x.rc = 0

/-- **a fired `CancelToken` cancels exactly what was registered with it**: running the events of
`CancelToken::cancel()` (for every order of the registered set — the statement is for every list — and whatever the
kernel posts meanwhile, `env`)
* never touches handles, flags or identity of an operation that is not registered (`Same`; it may progress on
  io_uring, because a cancel that overflows the submission queue submits and reaps completions, but it is not
  cancelled),
* leaves every registered operation flagged cancelled — or released, if it completed and was let go before its turn,
* and un-cancels nothing. -/
theorem token_cancels_exactly_the_registered {c : Cfg} (env : Nat → List (Nat × Bool × Res)) :
    ∀ (regs : List Nat) (s s' : State),
      run c s ((regs.map fun id => [Event.tokenCancel id (env id), Event.tokenDrop id]).flatten) = some s' →
      (∀ (j : Nat) (x : Op), j ∉ regs → s.ops[j]? = some x → ∃ x', s'.ops[j]? = some x' ∧ Same x x') ∧
      (∀ id, id ∈ regs → ∀ o : Op, s.ops[id]? = some o → ∃ x, s'.ops[id]? = some x ∧ Done x) ∧
      (∀ (i : Nat) (x : Op), s.ops[i]? = some x → ∃ x', s'.ops[i]? = some x' ∧ (Done x → Done x')) := by
  -- per op: spared if not registered, dealt with if registered, and what was dealt with stays so
  have key : ∀ (regs : List Nat) (s s' : State),
      run c s ((regs.map fun id => [Event.tokenCancel id (env id), Event.tokenDrop id]).flatten) = some s' →
      ∀ (i : Nat) (x : Op), s.ops[i]? = some x →
        ∃ x', s'.ops[i]? = some x' ∧ (i ∉ regs → Same x x') ∧ (i ∈ regs → Done x') ∧ (Done x → Done x') := by
    intro regs
    induction regs with
    | nil =>
      intro s s' h i x hx
      obtain rfl := Option.some.inj h
      exact ⟨x, hx, fun _ => Same.rfl' x, fun hm => (by cases hm), fun hd => hd⟩
    | cons a rest ih =>
      intro s s' h i x hx
      simp only [List.map_cons, List.flatten_cons, List.cons_append, List.nil_append] at h
      obtain ⟨s1, hs1, h⟩ := (isRun c).cons_some.1 h
      obtain ⟨s2, hs2, h⟩ := (isRun c).cons_some.1 h
      obtain ⟨x2, hx2, hs, hda, hd⟩ := tokenCancelDrop_effect hs1 hs2 hx
      obtain ⟨x', hx', g1, g2, g3⟩ := ih s2 s' h i x2 hx2
      refine ⟨x', hx', fun hj => (hs fun e => hj (e ▸ List.mem_cons_self)).trans (g1 fun e => hj (List.mem_cons_of_mem _ e)),
        fun hid => ?_, fun h => g3 (hd h)⟩
      by_cases hir : i ∈ rest
      · exact g2 hir
      · exact g3 (hda ((List.mem_cons.mp hid).resolve_right hir))
  intro regs s s' h
  exact ⟨fun j x hj hx => (key regs s s' h j x hx).imp fun _ h => ⟨h.1, h.2.1 hj⟩,
    fun id hid o ho => (key regs s s' h id o ho).imp fun _ h => ⟨h.1, h.2.2.1 hid⟩,
    fun i x hx => (key regs s s' h i x hx).imp fun _ h => ⟨h.1, h.2.2.2⟩⟩

/-- the events of `CancelToken::cancel()` are exactly one `cancel_token` per registered operation; a second
`cancel()` issues nothing -/
theorem token_cancel_events (t : Token) (env : Nat → List (Nat × Bool × Res)) :
    (t.fired = false →
        (t.cancel env).2 = (t.regs.map fun id => [Event.tokenCancel id (env id), Event.tokenDrop id]).flatten ∧
        (t.cancel env).1.fired = true ∧ (t.cancel env).1.regs = []) ∧
      (t.fired = true → (t.cancel env).2 = [] ∧ (t.cancel env).1 = t) := by
  constructor <;> intro h <;> simp [Token.cancel, h]

/-- **registration after the token fired**: the operation is cancelled at once, through a clone of its key; no other
operation is cancelled -/
theorem late_registration_cancels {c : Cfg} (t : Token) (ht : t.fired = true) (id : Nat)
    (posts : List (Nat × Bool × Res)) {s s' : State} (h : run c s (t.register id posts).2 = some s') :
    (t.register id posts).2 = [.cloneCancel id posts] ∧
      (∀ (j : Nat) (x : Op), j ≠ id → s.ops[j]? = some x → ∃ x', s'.ops[j]? = some x' ∧ Same x x') ∧
      ∃ x, s'.ops[id]? = some x ∧ x.cancelled = true := by
  have he : (t.register id posts).2 = [.cloneCancel id posts] := by simp [Token.register, ht]
  rw [he] at h
  obtain ⟨s1, hs1, h⟩ := (isRun c).cons_some.1 h
  obtain rfl := Option.some.inj h
  exact ⟨he, cloneCancel_effect hs1⟩

/-- the token theorems above reach `Submit::poll` because `WithCancel::poll` / `poll_next` poll the wrapped future ONLY
through an `ExtWaker` that carries the token — the shape of both bodies is checked against the source by the extractor
(target `WithCancel`, fails closed), and the runtime-level cases of the harness (`rt/*`: real `Runtime`, ops submitted
before and after the token fires) are predicted by running `Token.register` / `Token.cancel` through `step` -/
theorem with_cancel_carries_token : Gen.withCancelAlwaysWrapsWaker = true := rfl

/-- every `Ext::with_*` builder of the source (regenerated table `Gen.extBuilders`) either sets the cancel token or
preserves it -/
theorem ext_builders_keep_the_token :
    ∀ r, r ∈ Gen.extBuilders → (r.2.1.contains "cancel" || r.2.2.1.contains "cancel") = true := by decide

/-- … and, more generally, preserves every field it does not set (none is dropped) -/
theorem ext_builders_drop_nothing : ∀ r, r ∈ Gen.extBuilders → r.2.2.2 = [] := by decide

/-- **a token attached by an outer `with_cancel` is visible to `Submit::poll` through any stack of inner combinators**
(and whatever is wrapped around it further out): for every `outer` and `inner` lists of combinators. -/
theorem outer_token_visible_through_any_stack (outer inner : List String) :
    ExtStack.tokenVisible (outer ++ "with_cancel" :: inner) = true := by
  have keep : ∀ (e : ExtStack.Ext) (n : String), e.contains "cancel" = true → (ExtStack.applyBuilder e n).contains "cancel" = true := by
    intro e n he
    unfold ExtStack.applyBuilder
    cases hf : Gen.extBuilders.find? (fun r => r.1 == n) with
    | none => exact he
    | some r =>
      have hm : r ∈ Gen.extBuilders := List.mem_of_find?_eq_some hf
      have := ext_builders_keep_the_token r hm
      simp only [ExtStack.applyRow, List.contains_eq_mem, List.mem_append, List.mem_filter, decide_eq_true_eq,
        Bool.or_eq_true] at this he ⊢
      rcases this with h | h
      · exact Or.inl h
      · exact Or.inr ⟨he, h⟩
  have fold : ∀ (l : List String) (e : ExtStack.Ext), e.contains "cancel" = true →
      (l.foldl ExtStack.applyBuilder e).contains "cancel" = true := by
    intro l
    induction l with
    | nil => intro e he; exact he
    | cons n ns ih => intro e he; exact ih _ (keep e n he)
  unfold ExtStack.tokenVisible ExtStack.bottom
  rw [List.foldl_append, List.foldl_cons]
  apply fold
  -- `with_cancel` sets the field
  have hsets : ∀ r, r ∈ Gen.extBuilders → (r.1 == "with_cancel") = true → r.2.1.contains "cancel" = true := by decide
  have hex : (Gen.extBuilders.find? (fun r => r.1 == "with_cancel")).isSome = true := by decide
  unfold ExtStack.applyBuilder
  cases hf : Gen.extBuilders.find? (fun r => r.1 == "with_cancel") with
  | none => rw [hf] at hex; cases hex
  | some r =>
    have h1 := hsets r (List.mem_of_find?_eq_some hf) (List.find?_some (p := fun (r : String × List String × List String × List String) => r.1 == "with_cancel") hf)
    simp only [ExtStack.applyRow, List.contains_eq_mem, List.mem_append, decide_eq_true_eq] at h1 ⊢
    exact Or.inl h1

/-- **the cancel request is never lost** (repair of F9, `c.cancelPushRaw = true` — what the extractor reads from the
source): whatever the occupancy of the submission queue, after `Driver::cancel` the AsyncCancel SQE of the op sits
in the queue, nothing was dropped, and the op is flagged. With a full queue the driver first submitted and drained. -/
theorem iour_cancel_always_queued (c : Cfg) (hc : c.cancelPushRaw = true) (s : State) (id : Nat) (o : Op)
    (posts : List (Nat × Bool × Res)) (hd : s.drv = .iour) (ho : s.ops[id]? = some o) :
    0 < (cancelIssue c s id o posts).sqLen ∧
      ∃ x, (cancelIssue c s id o posts).ops[id]? = some x ∧ 0 < x.cancelSq ∧ x.cancelDropped = o.cancelDropped ∧
        x.cancelled = true := by
  have h1 : ({ s with ops := modAt (fun o => { o with cancelled := true }) s.ops id } : State).ops[id]?
      = some { o with cancelled := true } := modAt_get ho
  obtain ⟨hq, z, hz, hz1, hz2, hz3⟩ :=
    iourCancel_at c hc { s with ops := modAt (fun o => { o with cancelled := true }) s.ops id } id posts h1
  simp only [cancelIssue]
  rw [driverCancel_iour c { s with ops := modAt (fun o => { o with cancelled := true }) s.ops id } id o posts hd]
  exact ⟨hq, _, modAt_get hz, hz1, hz2, hz3⟩

/-- **promptness (io_uring)**, without any condition on the submission queue: the AsyncCancel reaches the kernel with
the next submit (`kcancel`), and as soon as the kernel answers for the target — A-K2: it posts a final CQE,
`-ECANCELED` or the genuine result — the same poll completes the op with exactly that value. (If the op already
completed inside the cancel's own overflow round, the kernel has nothing left to post and the hypothesis is void:
the op is complete anyway.) -/
theorem iour_cancel_prompt {c : Cfg} (hc : c.cancelPushRaw = true) (s : State) (id : Nat) (o : Op)
    (posts : List (Nat × Bool × Res)) (hd : s.drv = .iour) (ho : s.ops[id]? = some o) (r : Res) {s' : State}
    (h : run c (cancelIssue c s id o posts) [.submit, .kPost id false r, .pollEntries] = some s') :
    ∃ x, s'.ops[id]? = some x ∧ x.kcancel = true ∧ x.result = some r ∧ x.inFl = false ∧ x.kstat = .done := by
  obtain ⟨_, x0, hx0, hsq, _, _⟩ := iour_cancel_always_queued c hc s id o posts hd ho
  obtain ⟨s1, hs1, h⟩ := (isRun c).cons_some.1 h
  obtain ⟨s2, hs2, h⟩ := (isRun c).cons_some.1 h
  obtain ⟨s3, hs3, h⟩ := (isRun c).cons_some.1 h
  obtain rfl := Option.some.inj h
  exact ⟨_, pollEntries_op hs3 (kPost_final_op hs2 (submit_op hs1 hx0)),
    by simp [Op.drainCq, Op.dropRef, Op.dropRefs, Op.submit, hsq]⟩

/-- the code as it is (what the extractor reads) is the repaired one -/
theorem gen_cancel_is_repaired : Cfg.gen.cancelPushRaw = true := rfl

/-! ### non-vacuity -/

/-- three receives wait on one descriptor of the polling driver; the middle one is cancelled through a token:
the queue keeps the other two in order, the poller stays armed for the head, one ECANCELED entry is queued -/
example :
    (run Cfg.gen (init .poll 8) [.pushWait .single 0 .rd, .pushWait .single 0 .rd, .pushWait .single 0 .rd,
        .tokenRegister 1, .tokenCancel 1 []]).map
      (fun s => ((s.reg 0).rq, (s.armed 0).key, s.ops.map fun o => (o.cancelled, o.chan, o.rc)))
    = some ([0, 2], some 0, [(false, [], 2), (true, [ECANCELED], 2), (false, [], 2)]) := by rfl

/-- … the next poll completes it; the neighbours complete later with their own data -/
example :
    (run Cfg.gen (init .poll 8) [.pushWait .single 0 .rd, .pushWait .single 0 .rd, .pushWait .single 0 .rd,
        .tokenRegister 1, .tokenCancel 1 [], .pollBlocking, .fdEvent 0 true false (some (.ok 4)),
        .fdEvent 0 true false (some (.ok 4))]).map
      (fun s => ((s.reg 0).rq, s.ops.map fun o => (o.result, o.rc)))
    = some ([], [(some (.ok 4), 1), (some ECANCELED, 1), (some (.ok 4), 1)]) := by rfl

/-- io_uring: cancel, submit, the kernel answers, the poll completes the op -/
example :
    (run Cfg.gen (init .iour 8) [.pushSq .single 0 .rd, .submit, .tokenRegister 0, .tokenCancel 0 [], .submit,
        .kPost 0 false ECANCELED, .pollEntries, .userPop 0]).map
      (fun s => s.ops.map fun o => (o.kcancel, o.result, o.returned, o.cancelDropped))
    = some [(true, some ECANCELED, 1, 0)] := by rfl

/-- cancel after completion: the unique key gets its genuine result back, nothing goes to the driver -/
example :
    (run Cfg.gen (init .iour 8) [.pushSq .single 0 .rd, .submit, .kPost 0 false (.ok 4), .pollEntries,
        .userCancel 0 []]).map
      (fun s => (s.sqLen, s.ops.map fun o => (o.result, o.returned, o.cancelSq, o.freed)))
    = some (0, [(some (.ok 4), 1, 0, 0)]) := by rfl

/-- io_uring with a FULL submission queue (capacity 2, two receives pushed, nothing submitted): the cancel submits
the two receives, queues its SQE, and the next submit carries it to the kernel — the situation of finding F9 -/
example :
    (run Cfg.gen (init .iour 2) [.pushSq .single 0 .rd, .pushSq .single 1 .rd, .tokenRegister 0, .tokenCancel 0 [],
        .submit, .kPost 0 false ECANCELED, .pollEntries, .userPop 0]).map
      (fun s => s.ops.map fun o => (o.kstat, o.kcancel, o.result, o.returned, o.cancelDropped))
    = some [(.done, true, some ECANCELED, 1, 0), (.inflight, false, none, 0, 0)] := by rfl

/-! ### every submit flavour registers the fresh key unconditionally (table regenerated from future.rs / stream.rs) -/

/-- the three flavours are all there, each exactly once -/
theorem submit_flavours_complete : Gen.submitRegisterSites.map (·.1) = ["plain", "with_extra", "multi"] := by decide

/-- `Submit<T, ()>::poll`, `Submit<T, Extra>::poll`, `SubmitMulti::poll_next`: the `State::Idle` arm is exactly
`if let Some(cancel) = cx.get_cancel() { cancel.register(&key); }` — no condition on the state of the token -/
theorem submit_flavours_register_unconditionally :
    ∀ r ∈ Gen.submitRegisterSites, r.2.2.1 = true ∧ r.2.2.2 = true := by decide

/-- hence the model driver hands the key of every flavour to the token, fired or not -/
theorem every_flavour_reaches_the_token :
    ∀ fl ∈ ["plain", "with_extra", "multi"], ∀ fired : Bool,
      KeyLife.Script05.flavourRegisters Gen.submitRegisterSites fl fired = true := by decide

/-- **late registration, every submit flavour**: the flavour registers the key with the fired token
(`every_flavour_reaches_the_token`, from the source), and `Token.register` on a fired token cancels it at once
(`late_registration_cancels`) -/
theorem late_registration_cancels_every_flavour {c : Cfg} (fl : String) (hfl : fl ∈ ["plain", "with_extra", "multi"])
    (t : Token) (ht : t.fired = true) (id : Nat) (posts : List (Nat × Bool × Res)) {s s' : State}
    (h : run c s (t.register id posts).2 = some s') :
    KeyLife.Script05.flavourRegisters Gen.submitRegisterSites fl t.fired = true ∧
      (t.register id posts).2 = [.cloneCancel id posts] ∧ ∃ x, s'.ops[id]? = some x ∧ x.cancelled = true :=
  ⟨every_flavour_reaches_the_token fl hfl t.fired, (late_registration_cancels t ht id posts h).1,
    (late_registration_cancels t ht id posts h).2.2⟩

/-- a flavour whose registration is conditional (the seeded `cx.get_cancel().filter(|c| !c.is_cancelled())`) loses the late
registration: the obligation above is not vacuous -/
example : KeyLife.Script05.flavourRegisters [("with_extra", "f", true, false)] "with_extra" true = false := by decide

/-! ### operations waiting on several descriptors (polling driver, `Splice`): cancel is local and complete -/

/-- the cancel emits exactly ONE cancelled entry, for the cancelled operation, whatever the number of descriptors -/
theorem multi_cancel_one_entry (w : Multi05.MW) (id : Nat) (o : Multi05.MOp) (h : w.ops[id]? = some o) :
    (Multi05.pollCancelMulti w id).ops = modAt (fun o => { o with chan := o.chan ++ [ECANCELED] }) w.ops id ∧
      (Multi05.pollCancelMulti w id).reg = Multi05.cancelQueues w.reg (o.waits.map (·.1)) id := by
  simp [Multi05.pollCancelMulti, h]

/-- **locality and completeness of a multi-descriptor cancel, all queue states**: for every registry, every list of
descriptors and every key, each descriptor of the operation gets `remove id` (order of the others kept, `FdQ.remove` is a
filter) and every other descriptor is untouched -/
theorem multi_cancel_queues_eq (fds : List Nat) : ∀ (reg : Reg) (id fd : Nat),
    Multi05.cancelQueues reg fds id fd = if fd ∈ fds then (reg fd).remove id else reg fd :=
  fun reg id fd => by rw [MultiFd.cancelQueues_eq, MultiFd.cancelFds_apply]

/-- after the cancel the key is in NO queue of any of its descriptors: no later readiness event can pop it (`fdEvent` only runs
what `popInterest` returns), so nothing of the cancelled operation runs -/
theorem multi_cancel_gone (fds : List Nat) (reg : Reg) (id fd : Nat) (h : fd ∈ fds) :
    id ∉ (Multi05.cancelQueues reg fds id fd).rq ∧ id ∉ (Multi05.cancelQueues reg fds id fd).wq := by
  rw [multi_cancel_queues_eq, if_pos h]
  simp [FdQ.remove]

/-- non-vacuity: a splice (key 0) queued behind nothing on descriptors 0 (read) and 1 (write), a neighbour (key 1) behind it -/
example :
    let reg := Multi05.pushQueues (Multi05.pushQueues Reg.empty [(0, .rd), (1, .wr)] 0) [(0, .rd), (1, .wr)] 1
    ((Multi05.cancelQueues reg [0, 1] 0 0).rq, (Multi05.cancelQueues reg [0, 1] 0 1).wq) = ([1], [1]) := by decide

end Compio.Props.C05
