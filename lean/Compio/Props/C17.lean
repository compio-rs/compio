/-
C17 — the blocking pool is bounded and loses nothing.

The property theorems, after `Reach` (the states some schedule reaches) and what holds of every such state
(helper lemmas: Compio/Lemmas/AsyncifyPool.lean).  Every statement quantifies over
all schedules: `run? (init limit nd reserve) evs = some s` ranges over every interleaving `evs : List Event`
of any number `nd` of dispatching threads, any thread limit, any number of jobs of any kind.
`reserve = false` is the code as it is, `reserve = true` the protocol with the guard the bound needs.
The functions are the ones the driver `c17d` executes (`step?`, `run?`, `quiesce`, `Spec.step`).
-/
import Compio.Lemmas.AsyncifyPool

namespace Compio.Props.C17
open Compio Compio.Asyncify

/-- the states reachable by some schedule -/
def Reach (limit nd : Nat) (reserve : Bool) (s : State) : Prop :=
  ∃ evs : List Event, run? (init limit nd reserve) evs = some s

theorem reach_inv {limit nd : Nat} {reserve : Bool} {s : State} (h : Reach limit nd reserve s) : Inv s := by
  obtain ⟨evs, h⟩ := h; exact inv_run (inv_init _ _ _) h

theorem reach_meta {limit nd : Nat} {reserve : Bool} {s : State} (h : Reach limit nd reserve s) : Meta s := by
  obtain ⟨evs, h⟩ := h; exact meta_run (inv_init _ _ _) (meta_init _ _ _) h

theorem reach_static {limit nd : Nat} {reserve : Bool} {s : State} (h : Reach limit nd reserve s) :
    s.limit = limit ∧ s.reserve = reserve ∧ s.nd = nd := by
  obtain ⟨evs, h⟩ := h; exact run_static h

/-! ## 1. Every job is in exactly one place -/

/-- A submitted job is held by exactly one of: a dispatching thread (before / during / after a refused
`dispatch`), the channel (a blocked `send`), one worker (slot filled or running), a completion queue,
its submitter (delivered), the crash list (uncaught panic), the caller's hands (`DispatchError(f)` kept),
the `thread_limit == 0` panic.  Jobs not yet submitted are nowhere. -/
theorem one_place {limit nd : Nat} {reserve : Bool} {s : State} (h : Reach limit nd reserve s) (j : Nat) :
    holders s j = if j < s.njobs then 1 else 0 :=
  (reach_inv h).place j

theorem started_at_most_once {limit nd : Nat} {reserve : Bool} {s : State} (h : Reach limit nd reserve s)
    (j : Nat) : ranCount s j ≤ 1 := by
  have := started_or_not_yet (reach_inv h) j
  omega

/-- started exactly once ⇔ the job is running, completed, delivered or crashed; never started otherwise -/
theorem started_iff_past_start {limit nd : Nat} {reserve : Bool} {s : State} (h : Reach limit nd reserve s)
    (j : Nat) :
    ranCount s j = cnt s.wrk (WState.runs j) s.nw + s.completed.countP (fun e => e.job == j)
      + s.delivered.countP (fun e => e.job == j) + s.crashed.count j :=
  (reach_inv h).started j

/-- **accepted ⇒ run exactly once, result or panic reaches the submitter**: an entry that reached a
submitter belongs to a job that was started exactly once, carries that job's outcome (`Ok(v)`, or the
panic for `resume_unwind_io`) and arrived at the thread that submitted the job. -/
theorem delivered_ran_once {limit nd : Nat} {reserve : Bool} {s : State} (h : Reach limit nd reserve s)
    (e : Done) (he : e ∈ s.delivered) :
    ranCount s e.job = 1 ∧ e.owner = s.owner e.job ∧ e.out = outcomeOf (s.kind e.job) ∧ e.job < s.njobs :=
  let ⟨a, b, c, _⟩ := (reach_meta h).done_meta e (.inr he)
  ⟨ranCount_of_done (reach_inv h) (.inr he), b, c, a⟩

/-- the same for an entry still in a completion queue -/
theorem completed_ran_once {limit nd : Nat} {reserve : Bool} {s : State} (h : Reach limit nd reserve s)
    (e : Done) (he : e ∈ s.completed) :
    ranCount s e.job = 1 ∧ e.owner = s.owner e.job ∧ e.out = outcomeOf (s.kind e.job) :=
  let ⟨_, b, c, _⟩ := (reach_meta h).done_meta e (.inl he)
  ⟨ranCount_of_done (reach_inv h) (.inl he), b, c⟩

/-- nothing is delivered twice, and a delivered job is nowhere else -/
theorem delivered_once {limit nd : Nat} {reserve : Bool} {s : State} (h : Reach limit nd reserve s) (j : Nat) :
    s.delivered.countP (fun e => e.job == j) ≤ 1 := by
  have hp := holders_le_one (reach_inv h) j
  unfold holders at hp
  omega

/-- **refused ⇒ handed back intact**: when `dispatch` returns `Err(DispatchError(f))` the closure is held
by the very thread that submitted it, by nobody else, and it has not been started. -/
theorem refused_handed_back {limit nd : Nat} {reserve : Bool} {s : State} (h : Reach limit nd reserve s)
    {d j : Nat} (hd : d < s.nd) (hr : s.disp d = .refused j) :
    s.owner j = d ∧ ranCount s j = 0 ∧ holders s j = 1 ∧ cnt s.disp (DState.holds j) s.nd = 1 := by
  have hI := reach_inv h
  have hh : DState.holds j (s.disp d) = true := by rw [hr]; simp [DState.holds]
  obtain ⟨ho, hj⟩ := (reach_meta h).disp_owner d hd j hh
  have hp := hI.place j
  have hs := started_or_not_yet hI j
  have h1 := cnt_pos s.disp (DState.holds j) hd hh
  rw [if_pos hj] at hp
  exact ⟨ho, by omega, hp, by unfold holders at hp; omega⟩

/-- a closure kept by the caller, or dropped by the `thread_limit == 0` panic, was never started -/
theorem returned_never_ran {limit nd : Nat} {reserve : Bool} {s : State} (h : Reach limit nd reserve s)
    {j : Nat} (hj : j ∈ s.returned ∨ j ∈ s.dropped) : ranCount s j = 0 := by
  have hs := started_or_not_yet (reach_inv h) j
  have : 1 ≤ s.returned.count j + s.dropped.count j := by
    rcases hj with hj | hj <;> have := List.count_pos_iff.mpr hj <;> omega
  omega

/-- with `thread_limit >= 1` nothing is ever dropped -/
theorem nothing_dropped {limit nd : Nat} {reserve : Bool} (hl : 1 ≤ limit) :
    ∀ {evs : List Event} {s : State}, run? (init limit nd reserve) evs = some s →
      s.dropped = [] ∧ ∀ d j, s.disp d ≠ .panicked j := by
  intro evs s h
  refine (isRun.invariant (P := fun s => s.limit = limit ∧ s.dropped = [] ∧ ∀ d j, s.disp d ≠ .panicked j)
    (fun s0 e s1 ⟨hl0, hd0, hp0⟩ h1 => ?_) ⟨rfl, rfl, fun d j => by simp [init]⟩ h).2
  refine ⟨(step_static h1).1.trans hl0, ?_⟩
  have key : ∀ (d' : Nat) (y : DState), (∀ j, y ≠ .panicked j) → ∀ d j, upd s0.disp d' y d ≠ .panicked j := by
    intro d' y hy d j
    by_cases he : d = d'
    · subst he; rw [upd_same]; exact hy j
    · rw [upd_ne _ _ he]; exact hp0 d j
  obtain ⟨x, y, a, b, h1⟩ := step_sound h1
  cases h1 with
  | loadPanic _ _ hz => omega
  | unwind _ hj => exact absurd hj (hp0 _ _)
  | submit | tryHand | tryFull | loadRefuse | loadReserve | loadPass | spawn | sendHand | sendBlock | retry | giveUp | serve =>
    exact ⟨hd0, key _ _ (fun _ => nofun)⟩
  | _ => exact ⟨hd0, hp0⟩

/-! ## 2. The channel and the counter -/

/-- no job waits in the channel while a worker is parked in `recv` (`try_send` fails only when nobody
is parked; a blocked `send` and a parked receiver never coexist) -/
theorem no_job_waits_beside_a_parked_worker {limit nd : Nat} {reserve : Bool} {s : State}
    (h : Reach limit nd reserve s) {w : Nat} (hw : w < s.nw) (hp : s.wrk w = .parked) : s.sendq = [] :=
  (reach_inv h).sendq_nil_of_parked hw hp

/-- the waiting queue is exactly the set of parked workers, each once -/
theorem waiting_is_parked {limit nd : Nat} {reserve : Bool} {s : State} (h : Reach limit nd reserve s) :
    s.waiting.Nodup ∧ ∀ w, w ∈ s.waiting ↔ (w < s.nw ∧ s.wrk w = .parked) := by
  have hI := reach_inv h
  exact ⟨hI.wait_nodup, fun w => ⟨hI.wait_parked w, fun ⟨a, b⟩ => hI.parked_wait w a b⟩⟩

/-- every blocked sender is a dispatcher inside `sender.send`, once -/
theorem sendq_is_blocked {limit nd : Nat} {reserve : Bool} {s : State} (h : Reach limit nd reserve s) :
    (s.sendq.map Prod.fst).Nodup ∧ ∀ d j, (d, j) ∈ s.sendq → d < s.nd ∧ s.disp d = .blocked ∧ s.owner j = d := by
  have hI := reach_inv h
  exact ⟨hI.sendq_nodup, fun d j hm => ⟨(hI.sendq_blocked d j hm).1, (hI.sendq_blocked d j hm).2,
    ((reach_meta h).sendq_owner d j hm).1⟩⟩

/-- code as it is: `counter` = workers between their `fetch_add` and their `fetch_sub` -/
theorem counter_exact {limit nd : Nat} {s : State} (h : Reach limit nd false s) :
    s.counter = cnt s.wrk WState.counted s.nw :=
  (reach_inv h).counter_raw (reach_static h).2.1

/-- `CounterGuard::drop` never underflows the counter -/
theorem counter_no_underflow {limit nd : Nat} {reserve : Bool} {s : State} (h : Reach limit nd reserve s)
    {w : Nat} (hw : w < s.nw) (hl : s.wrk w = .leaving) : 1 ≤ s.counter := by
  have hI := reach_inv h
  cases hr : s.reserve
  · rw [hI.counter_raw hr]
    exact cnt_pos _ _ hw (by rw [hl]; rfl)
  · rw [hI.counter_res hr]
    have := cnt_pos s.wrk WState.alive hw (by rw [hl]; rfl)
    omega

/-! ## 3. The bound -/

/-- **Bound, with the guard the code would need** (slot reserved together with the limit check, before
`thread::spawn`): pool threads, and hence jobs running at once, never exceed `thread_limit`. -/
theorem live_le_limit_of_reserve {limit nd : Nat} {s : State} (h : Reach limit nd true s) :
    live s ≤ limit := by
  have hI := reach_inv h
  obtain ⟨hl, hr, _⟩ := reach_static h
  have h1 := hI.counter_res hr
  have h2 := hI.res_limit hr
  unfold live
  omega

theorem running_le_limit_of_reserve {limit nd : Nat} {s : State} (h : Reach limit nd true s) :
    running s ≤ limit :=
  Nat.le_trans (running_le_live s) (live_le_limit_of_reserve h)

/-- **Unconditional bound for the code as it is**: pool threads plus spawns already decided never
exceed `limit + (largest number of spawns in flight at any moment of the schedule) - 1`. -/
theorem live_le_limit_add_peak {limit nd : Nat} {evs : List Event} {s : State}
    (h : run? (init limit nd false) evs = some s) :
    live s + cnt s.disp DState.isSpawning s.nd ≤ limit + peak (init limit nd false) evs - 1 := by
  have hx := xcount_run (inv_init limit nd false) rfl h
  have hc := counter_exact ⟨evs, h⟩
  have hl := live_eq_counted_add_starting s
  have h0 : xcount (init limit nd false) = 0 := by
    simp [xcount, inflight, init, cnt, cnt_const (x := DState.idle) (p := DState.isSpawning) rfl]
  have hlim : (init limit nd false).limit = limit := rfl
  rw [h0, hlim] at hx
  unfold xcount inflight at hx
  omega

/-- … so the bound does hold on every schedule in which spawns are serialised: at most one spawn in
flight (limit check passed … new worker has counted itself) at any moment. -/
theorem live_le_limit_of_serial_spawns {limit nd : Nat} {evs : List Event} {s : State}
    (h : run? (init limit nd false) evs = some s) (hp : peak (init limit nd false) evs ≤ 1) :
    running s ≤ limit ∧ live s ≤ limit := by
  have := live_le_limit_add_peak h
  have := running_le_live s
  omega

/-! ## 4. Progress (enabledness and witness schedules; no fairness operator) -/

/-- **the retry loop terminates once any worker parks**: with a worker parked in `recv`, the next turn of
`while let Err(e) = pool.dispatch(closure) { closure = e.0; yield_now() }` is accepted — the closure goes
to the longest-waiting worker and `dispatch` returns `Ok`. -/
theorem retry_succeeds_once_a_worker_parks {s : State} {d j w : Nat} {rest : List Nat} (hd : d < s.nd)
    (hr : s.disp d = .refused j) (hw : s.waiting = w :: rest) :
    ∃ s', run? s [.retry d, .trySend d] = some s' ∧ s'.disp d = .idle ∧ s'.wrk w = .handed j
      ∧ s'.waiting = rest := by
  apply Exists.intro
  refine ⟨?_, ?_⟩
  · simp [run?, step?, doRetry, doTrySend, hd, hr, hw]
    rfl
  · simp

/-- … and that worker then runs it -/
theorem handed_job_starts {s : State} {w j : Nat} (hw : w < s.nw) (hh : s.wrk w = .handed j) :
    ∃ s', step? s (.wake w) = some s' ∧ s'.wrk w = .running j ∧ s'.ran = s.ran ++ [(j, w)] := by
  apply Exists.intro
  refine ⟨?_, ?_⟩
  · simp [step?, doWake, hw, hh]
    rfl
  · simp

/-- a sender blocked in the rendezvous `send` is served by the next worker that enters `recv` -/
theorem blocked_sender_served {s : State} {w d j : Nat} {rest : List (Nat × Nat)} (hw : w < s.nw)
    (hr : s.wrk w = .ready) (hq : s.sendq = (d, j) :: rest) :
    ∃ s', step? s (.recv w) = some s' ∧ s'.wrk w = .running j ∧ s'.disp d = .idle ∧ s'.sendq = rest := by
  apply Exists.intro
  refine ⟨?_, ?_⟩
  · simp [step?, doRecv, hw, hr, hq]
    rfl
  · simp

/-- **after all workers retired a later dispatch spawns again**: no pool thread left (all exited after
their idle timeout), nobody stuck in the channel, `thread_limit >= 1`: the next `dispatch` passes the limit
check, spawns a thread, and that thread runs the job. -/
theorem respawn_after_retirement {limit nd : Nat} {s : State} (h : Reach limit nd false s) (hl : 1 ≤ limit)
    {d : Nat} (hd : d < s.nd) (hidle : s.disp d = .idle) (hall : ∀ w, w < s.nw → s.wrk w = .exited)
    (hq : s.sendq = []) (k : Kind) :
    ∃ s', run? s [.submit d k, .trySend d, .load d, .spawn d, .send d, .count s.nw, .recv s.nw] = some s'
      ∧ s'.wrk s.nw = .running s.njobs ∧ s'.disp d = .idle ∧ s'.nw = s.nw + 1 ∧ live s' = 1 := by
  have hI := reach_inv h
  obtain ⟨hlim, hres, _⟩ := reach_static h
  have hwait : s.waiting = [] := by
    cases hw : s.waiting with
    | nil => rfl
    | cons a l =>
      obtain ⟨h1, h2⟩ := hI.wait_parked a (by rw [hw]; simp)
      rw [hall a h1] at h2; cases h2
  have hc : s.counter = 0 := by
    rw [hI.counter_raw hres]
    exact cnt_zero_of _ _ _ (fun i hi => by rw [hall i hi]; rfl)
  have hl' : ¬ s.limit = 0 := by omega
  have hl'' : ¬ s.limit ≤ 0 := by omega
  have hlive0 : cnt s.wrk WState.alive s.nw = 0 := cnt_zero_of _ _ _ (fun i hi => by rw [hall i hi]; rfl)
  apply Exists.intro
  refine ⟨?_, ?_⟩
  · simp [run?, step?, doSubmit, doTrySend, doLoad, doSpawn, doSend, doCount, doRecv, hd, hidle, hwait, hc, hl',
      hl'', hres, hq, upd]
    rfl
  · refine ⟨by simp [upd], by simp [upd], rfl, ?_⟩
    show cnt _ WState.alive (s.nw + 1) = 1
    rw [cnt_succ]
    have : cnt (upd (upd (upd s.wrk s.nw .starting) s.nw .ready) s.nw (.running s.njobs)) WState.alive s.nw
        = cnt s.wrk WState.alive s.nw := by
      rw [cnt_upd_ge _ _ _ (Nat.le_refl _), cnt_upd_ge _ _ _ (Nat.le_refl _), cnt_upd_ge _ _ _ (Nat.le_refl _)]
    simp only [upd_same]
    rw [this, hlive0]
    rfl

/-- **a refused submission is retried by the submitter itself**: in every state in which `dispatch` has handed
the closure back, the submitting thread's next turn of the loop (`retry`) is enabled — it depends on no
driver event, no wake-up and no other thread (the drivers spin in `push_blocking`; they do not park the job
until the next poll). -/
theorem refused_submission_retried_by_submitter {s : State} {d j : Nat} (hd : d < s.nd) (hr : s.disp d = .refused j) :
    ∃ s', step? s (.retry d) = some s' ∧ s'.disp d = .trying j := by
  apply Exists.intro
  refine ⟨?_, ?_⟩
  · simp [step?, doRetry, hd, hr]
    rfl
  · simp

/-- **completed results are drained on every poll**: whenever a result sits in a completion queue its owner's
`reap` is enabled, whatever else is going on (other file descriptors ready, other jobs running, the pool
saturated); the entry it takes is the oldest one of that owner. -/
theorem completed_result_always_reapable {s : State} {e : Done} (he : e ∈ s.completed) :
    ∃ s', step? s (.reap e.owner) = some s' ∧ s'.delivered.length = s.delivered.length + 1 := by
  obtain ⟨x, rest, hx⟩ := takeOwned_of_mem s.completed e he
  refine ⟨{ s with completed := rest, delivered := x :: s.delivered }, ?_, rfl⟩
  simp [step?, doReap, hx]

/-- **no stranding without timers and crashes**: on a schedule without idle timeouts and without jobs that
panic uncaught, every dispatcher between `thread::spawn` and the end of its rendezvous `send` is matched
by a distinct worker that will enter `recv` again; in particular, whenever a sender is blocked some
worker step (`count`, `recv`, `wake`, `finish`) is enabled. (F170 is exactly the failure of this
statement once `timeout` events are allowed: `Cex.C17.stranded_dispatch_counterexample`.) -/
theorem no_stranding_without_timers_and_crashes {limit nd : Nat} {reserve : Bool} {evs : List Event} {s : State}
    (hb : ∀ e, e ∈ evs → Benign e = true) (h : run? (init limit nd reserve) evs = some s) :
    pendingSends s ≤ cnt s.wrk WState.willRecv s.nw ∧
    (s.sendq ≠ [] → ∃ w, w < s.nw ∧
      ((step? s (.count w)).isSome ∨ (step? s (.recv w)).isSome ∨ (step? s (.wake w)).isSome
        ∨ (step? s (.finish w)).isSome)) := by
  have hI0 := inv_init limit nd reserve
  have hp0 : pendingSends (init limit nd reserve) ≤ cnt (init limit nd reserve).wrk WState.willRecv (init limit nd reserve).nw := by
    simp [pendingSends, init, cnt_const (x := DState.idle) (p := DState.isSending) rfl]
  have hp := pending_run hI0 (by intro j; simp [init]) hb hp0 h
  refine ⟨hp, ?_⟩
  intro hne
  have hI := inv_run hI0 h
  have hpos : 1 ≤ cnt s.wrk WState.willRecv s.nw := by
    have := List.length_pos_iff.mpr hne
    unfold pendingSends at hp
    omega
  obtain ⟨w, hw, hwr⟩ := exists_of_cnt_pos _ _ _ hpos
  refine ⟨w, hw, ?_⟩
  cases hs : s.wrk w with
  | starting => left; cases hr : s.reserve <;> simp [step?, doCount, hw, hs, hr]
  | ready =>
    right; left
    cases hq : s.sendq with
    | nil => exact absurd hq hne
    | cons a l => obtain ⟨d, j⟩ := a; simp [step?, doRecv, hw, hs, hq]
  | parked => exact absurd (hI.sendq_nil_of_parked hw hs) hne
  | handed j => right; right; left; simp [step?, doWake, hw, hs]
  | running j =>
    right; right; right
    by_cases hk : s.kind j = .raw <;> simp [step?, doFinish, hw, hs, hk]
  | leaving => rw [hs] at hwr; simp [WState.willRecv] at hwr
  | exited => rw [hs] at hwr; simp [WState.willRecv] at hwr

/-- the scheduler the driver uses for the forced single-dispatcher cases takes model steps only -/
theorem quiesce_is_a_schedule (fuel : Nat) (s : State) : run? s (quiesce fuel s).1 = some (quiesce fuel s).2 := by
  induction fuel generalizing s with
  | zero => rfl
  | succ fuel ih =>
    unfold quiesce
    split
    · rfl
    · rename_i e he
      split
      · rename_i s' hs
        show run? s (e :: (quiesce fuel s').1) = _
        rw [run?, hs]
        exact ih s'
      · rfl

/-! ## 5. The trace acceptor run on recorded histories is sound for the model -/

/-- **Every schedule projects to an accepted history**: the observable history (`call`, `retOk`, `retBusy`,
`retPanic`, `begin`, `fin`) of any interleaving is accepted by `Spec.step`, the acceptor the driver runs on
the histories recorded from the real pool — so a rejected real history is a behaviour the model does not
have.  What the acceptor enforces: a job starts only inside or after an accepted `dispatch`, at most once,
on one thread at a time; a refused job was not started and `limit` other calls were accepted or are in
progress (needed for `counter >= thread_limit`); `fin` matches `begin`. -/
theorem history_accepted {limit nd : Nat} {reserve : Bool} {evs : List Event} {s : State}
    (h : run? (init limit nd reserve) evs = some s) :
    ∃ t, Spec.runObs (Spec.sinit limit) (trace (init limit nd reserve) evs) = some t ∧ Sim s t :=
  sim_run (inv_init _ _ _) (sim_init _ _ _) h

/-- what the accepted state says about the jobs: an accepted, finished job is settled; a job whose last
`dispatch` was refused is settled as long as the caller keeps it -/
theorem accepted_state_tracks_running {limit nd : Nat} {reserve : Bool} {evs : List Event} {s : State}
    (h : run? (init limit nd reserve) evs = some s) :
    ∃ t, Spec.runObs (Spec.sinit limit) (trace (init limit nd reserve) evs) = some t ∧
      (∀ w j, w < s.nw → s.wrk w = .running j → t.run j = .running w ∧ t.wjob w = some j) ∧
      (∀ d j, d < s.nd → s.disp d = .refused j → t.phase j = .busy d ∧ t.run j = .notRun) := by
  obtain ⟨t, ht, hS⟩ := history_accepted h
  refine ⟨t, ht, ?_, ?_⟩
  · intro w j hw hr
    have := hS.wok w hw
    rw [hr] at this
    exact this
  · intro d j hd hr
    have := hS.dok d hd
    rw [hr] at this
    exact this.2

/-! ## 6. Collecting: a panic in a blocking job reaches its submitter on every path -/

/-- **for every collection path**, a job that panicked with payload `p` makes the collector observe
`unwind p` — never a value, never an `Err` -/
theorem panic_reaches_every_collector (path : CollectPath) (p : Nat) :
    collect path (catchUnwindIo (.panicked p)) = .unwind p := rfl

/-- values and io errors come back unchanged on every path -/
theorem value_and_error_reach_every_collector (path : CollectPath) (v c : Nat) :
    collect path (catchUnwindIo (.ok v)) = .value v ∧ collect path (catchUnwindIo (.err c)) = .error c :=
  ⟨rfl, rfl⟩

/-- the collector unwinds exactly when the job panicked, with the job's payload -/
theorem collector_unwinds_iff_job_panicked (path : CollectPath) (r : JobResult) (p : Nat) :
    collect path (catchUnwindIo r) = .unwind p ↔ r = .panicked p := by
  cases r <;> simp [collect, catchUnwindIo, resumeUnwindIo]

/-! ## 7. Configuration extremes: the new worker reaches `recv` for every idle timeout -/

/-- **for every timeout value** (0, 1 ns, `u64::MAX / 2` s, `Duration::MAX`, …) the prologue of a new pool
thread ends in `recv_timeout` — the deadline arithmetic is checked, nothing panics before the first `recv` -/
theorem worker_reaches_recv_for_every_timeout (now timeout : Nat) :
    ∃ deadline, workerPrologue now timeout = .enterRecv deadline ∧ workerPrologue now timeout ≠ .panic :=
  ⟨checkedDeadline now timeout, rfl, by simp [workerPrologue]⟩

/-- an overflowing deadline means "never retire", and a representable one fires exactly from the deadline on -/
theorem deadline_checked (now timeout t : Nat) :
    (instantMax ≤ now + timeout → timerMayFire (checkedDeadline now timeout) t = false) ∧
    (now + timeout < instantMax → (timerMayFire (checkedDeadline now timeout) t = true ↔ now + timeout ≤ t)) := by
  unfold checkedDeadline timerMayFire
  constructor
  · intro h; rw [if_neg (by omega)]
  · intro h; rw [if_pos h]; simp

/-- **a dispatched job is received by the new worker**: once the limit check has passed (nobody parked, no
sender queued), `spawn`, `send`, and the new thread's `count` and `recv` are all enabled one after the
other and the thread runs the job — no timer event is involved, so this holds for every idle timeout. -/
theorem dispatched_job_received_by_new_worker {s : State} {d j : Nat} (hd : d < s.nd) (hs : s.disp d = .spawning j)
    (hw : s.waiting = []) (hq : s.sendq = []) :
    ∃ s', run? s [.spawn d, .send d, .count s.nw, .recv s.nw] = some s' ∧ s'.wrk s.nw = .running j
      ∧ s'.disp d = .idle ∧ s'.sendq = [] := by
  cases hr : s.reserve
  all_goals
    apply Exists.intro
    refine ⟨?_, ?_⟩
    · simp [run?, step?, doSpawn, doSend, doCount, doRecv, hd, hs, hw, hq, hr, upd]
      rfl
    · simp [upd]

/-! ## non-vacuity -/

/-- a schedule in which two jobs are accepted, run and delivered (one by `try_send` to the parked worker) -/
example : ∃ s, run? (init 1 1 false)
    [.submit 0 .value, .trySend 0, .load 0, .spawn 0, .send 0, .count 0, .recv 0, .finish 0, .recv 0,
     .submit 0 .caught, .trySend 0, .wake 0, .finish 0, .reap 0, .reap 0] = some s
    ∧ s.delivered.length = 2 ∧ ranCount s 0 = 1 ∧ ranCount s 1 = 1 := by
  refine ⟨_, rfl, ?_⟩; decide

/-- the two-dispatcher overshoot schedule (F10) is a schedule of the code as it is; its history is accepted -/
example : (Spec.runObs (Spec.sinit 1) (trace (init 1 2 false)
    [.submit 0 .value, .submit 1 .value, .trySend 0, .trySend 1, .load 0, .load 1,
     .spawn 0, .spawn 1, .send 0, .send 1, .count 0, .count 1, .recv 0, .recv 1])).map (·.maxrun) = some 2 := by
  decide

/-- a benign schedule (hypothesis of `no_stranding_without_timers_and_crashes`) with a blocked sender -/
example : ∃ s, run? (init 1 1 false) [.submit 0 .value, .trySend 0, .load 0, .spawn 0, .send 0] = some s
    ∧ s.sendq = [(0, 0)] ∧ (step? s (.count 0)).isSome := by
  refine ⟨_, rfl, ?_⟩; decide

/-- hypotheses of `respawn_after_retirement` are reachable: the worker has retired -/
example : ∃ s, run? (init 1 1 false)
    [.submit 0 .value, .trySend 0, .load 0, .spawn 0, .send 0, .count 0, .recv 0, .finish 0, .recv 0,
     .timeout 0, .exit 0, .reap 0] = some s ∧ s.wrk 0 = .exited ∧ s.disp 0 = .idle ∧ s.sendq = [] ∧ s.counter = 0 := by
  refine ⟨_, rfl, ?_⟩; decide

end Compio.Props.C17
