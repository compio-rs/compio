/-
C02 — tie of the hand model `Model/Completion.lean` to the source through the extractor target `CompletionPath`
(`Gen/CompletionPath.lean` is regenerated from compio-driver/src/{key.rs, lib.rs, sys/driver/iour/mod.rs} by every
`./check C02`).

The generated file lists, per function, its effects in SOURCE ORDER.  Here each effect gets its meaning on the
model state (a small interpreter per function, `run…`), and the `gen_*_eq` theorems say: interpreting the generated
list gives, for ALL states and inputs, exactly the hand-model function the C02 theorems (and the driver `c02d`) are
about.  Seven theorems interpret nothing and pin a generated list or constant itself (store before wake, `take_result`,
`create_entry`, `poll_blocking`, the tolerated errors, the user_data constants `decodeUd` reads a CQE by).
A source edit that reorders / drops / adds an effect either is not recognised (extractor error = broken tie) or
changes the generated list, and then these theorems fail.

The last part extends the io_uring transition system by `Driver::cancel` as coded (through `push_raw`, with kernel
rounds: `GStep`, `grun`, `GReachable`) and reads own result, exactly once and nothing-undelivered off `RInv` for
every such run (`gen_iour_*_with_coded_cancel`); `gen_cancel_never_dropped`: the AsyncCancel entry is staged.
-/
import Compio.Lemmas.Completion
import Compio.Gen.CompletionPath

namespace Compio.Props.C02Gen
open Compio.Completion
open Compio.Gen.CompletionPath

/-- `t` = the waker the `mem::replace` took out of the slot (nothing before the replace ran) -/
def runSetResult : List SetResultAct → Keys → Option WakerId → Id → Res → Keys
  | [], ks, _, _, _ => ks
  | .carrierHook :: rest, ks, t, id, r => runSetResult rest ks t id r
  | .storeReady :: rest, ks, _, id, r => runSetResult rest (ks.storeResult id r).1 (ks.storeResult id r).2 id r
  | .wakeTaken :: rest, ks, some w, id, r => runSetResult rest (ks.wake id w true) none id r
  | .wakeTaken :: rest, ks, none, id, r => runSetResult rest ks none id r

/-- the source of `set_result`, effect by effect, IS the model's `Keys.notify`, for every state / key / result -/
theorem gen_set_result_eq_notify (ks : Keys) (id : Id) (r : Res) :
    runSetResult setResult ks none id r = ks.notify id r := by
  unfold Keys.notify
  rcases hs : ks.storeResult id r with ⟨ks', _ | w⟩ <;> simp [setResult, runSetResult, hs]

/-- the property-relevant fact directly: the store precedes the wake, and nothing is woken before the store -/
theorem gen_set_result_stores_then_wakes :
    ∃ pre post, setResult = pre ++ .storeReady :: post ∧ SetResultAct.wakeTaken ∈ post ∧
      SetResultAct.wakeTaken ∉ pre ∧ SetResultAct.storeReady ∉ post :=
  ⟨[.carrierHook], [.wakeTaken], rfl, by simp, by simp, by simp⟩

example : (runSetResult setResult ({ slot := upd (fun _ => .free) 3 (.pending (some 7)) } : Keys) none 3 (.ok 5)).wakeLog
    = [⟨3, 7, true, true⟩] := by decide

def runSetWaker : List SetWakerAct → Slot → WakerId → Slot
  | [], s, _ => s
  | .returnUnlessPending :: rest, s, w =>
    match s with
    | .pending _ => runSetWaker rest s w
    | _ => s
  | .returnIfWillWake :: rest, s, w => if s = .pending (some w) then s else runSetWaker rest s w
  | .replace :: rest, _, w => runSetWaker rest (.pending (some w)) w

theorem gen_set_waker_eq (s : Slot) (w : WakerId) : runSetWaker setWaker s w = s.setWaker w := by
  cases s with
  | free => simp [setWaker, runSetWaker, Slot.setWaker]
  | ready r => simp [setWaker, runSetWaker, Slot.setWaker]
  | pending o =>
    simp only [setWaker, runSetWaker, Slot.setWaker]
    split
    · next h => exact h
    · rfl

/-- a DIFFERENT waker always replaces the registered one (what `latest_waker_woken_exactly_once` needs) -/
theorem gen_set_waker_replaces (o : Option WakerId) (w : WakerId) :
    runSetWaker setWaker (.pending o) w = .pending (some w) := by
  rw [gen_set_waker_eq]; rfl

example : runSetWaker setWaker (.pending (some 7)) 8 = .pending (some 8) := by decide
example : runSetWaker setWaker (.ready (.ok 1)) 8 = .ready (.ok 1) := by decide

def runEntryNotify : List NotifyAct → Keys → Id → Res → Keys
  | [], ks, _, _ => ks
  | .copyFlags :: rest, ks, id, r => runEntryNotify rest ks id r
  | .setResultOfOwnKey :: rest, ks, id, r => runEntryNotify rest (runSetResult setResult ks none id r) id r

theorem gen_entry_notify_eq (ks : Keys) (id : Id) (r : Res) :
    runEntryNotify entryNotify ks id r = ks.notify id r := by
  simp [entryNotify, runEntryNotify, gen_set_result_eq_notify]

/-- the ready branch of `pop`: `take_result` consumes the RawOp (`Result not ready` would panic: modelled as "nothing
    handed out"), the value returned is the one taken -/
def runPopReady : List PopAct → Keys → Id → Option Res → Keys × Option Res
  | .takeResult :: rest, ks, id, _ =>
    match ks.slot id with
    | .ready r => runPopReady rest { ks with slot := upd ks.slot id .free, dlv := upd ks.dlv id (ks.dlv id ++ [r]) } id (some r)
    | _ => (ks, none)
  | .readyOwnResAndBuf :: _, ks, _, taken => (ks, taken)
  | _, ks, _, _ => (ks, none)

def runPop : List PopAct → Keys → Id → Keys × Option Res
  | .ifHasResult :: rest, ks, id => if (ks.slot id).isReady then runPopReady rest ks id none else (ks, none)
  | _, ks, _ => (ks, none)

theorem gen_pop_eq (ks : Keys) (id : Id) : runPop pop ks id = ks.pop id := by
  unfold Keys.pop
  cases h : ks.slot id <;> simp [pop, runPop, runPopReady, Slot.isReady, h]

/-- `ErasedKey::take_result` pairs the op's own result with the op's own carrier (buffer), after the uniqueness check -/
theorem gen_take_result_own_buffer :
    takeResult = [.downcast, .unwrapUnique, .takeReady, .pairWithOwnCarrier] ∧ hasResultIsReady = true := ⟨rfl, rfl⟩

def runImmediate : List ImmediateAct → Keys → Id → Res → Keys
  | [], ks, _, _ => ks
  | .setResult :: rest, ks, id, r => runImmediate rest (runSetResult setResult ks none id r) id r
  | .takeResult :: rest, ks, id, r => runImmediate rest (runPop pop ks id).1 id r

/-- `produce` is the ghost event "the driver returned `Poll::Ready(res)` for this key" -/
theorem gen_push_ready_arm_eq (ks : Keys) (id : Id) (r : Res) :
    runImmediate pushReadyArm (ks.produce id r) id r = ks.immediate id r := by
  simp [pushReadyArm, runImmediate, gen_set_result_eq_notify, gen_pop_eq, Keys.immediate]

/-- how `poll_entries` reads a CQE's user_data -/
def decodeUd (n : Nat) : UserData := if n = CANCEL then .cancel else if n = NOTIFY then .notify else .key n

theorem gen_cancel_notify_distinct : CANCEL ≠ NOTIFY ∧ CANCEL < 2 ^ 64 ∧ NOTIFY < 2 ^ 64 := by
  unfold CANCEL NOTIFY; omega

/-- a key (`ErasedKey::as_raw`: the address of the operation, at least 2-aligned) is never mistaken for CANCEL / NOTIFY
    unless it is the very last even address; an 8-aligned one never is -/
theorem gen_key_is_not_special (n : Nat) (hal : n % 8 = 0) : decodeUd n = .key n := by
  unfold decodeUd CANCEL NOTIFY
  have h1 : n ≠ 18446744073709551615 := by omega
  have h2 : n ≠ 18446744073709551614 := by omega
  simp [h1, h2]

example : decodeUd 18446744073709551615 = .cancel ∧ decodeUd 18446744073709551614 = .notify ∧ decodeUd 4096 = .key 4096 := by
  decide

def cqeAct (id : Id) (res : Res) (more : Bool) : CqeAct → Ring → Ring
  | .needNotifierUnlessMore, r => if more then r else { r with needNotifier := true }
  | .clearNotifier, r => r
  | .borrowKeyOfUserData, r => r
  | .pushMultishot, r =>
    { r with keys := { r.keys with multi := upd r.keys.multi id (r.keys.multi id ++ [res]),
                                   uaf := r.keys.uaf || (r.keys.slot id == .free) } }
  | .wakeByRef, r =>
    { r with keys := match r.keys.slot id with
                     | .pending (some w) => r.keys.wake id w false
                     | _ => r.keys }
  | .inflightRemove, r => { r with inflight := r.inflight.erase id }
  | .notifyCreatedEntry, r => { r with keys := runEntryNotify entryNotify r.keys id res }

def runArm (acts : List CqeAct) (id : Id) (c : Cqe) (r : Ring) : Ring :=
  acts.foldl (fun acc a => cqeAct id c.res c.more a acc) r

/-- the loop body of `poll_entries`, arm by arm, from the generated effect lists -/
def genHandleCqe (r : Ring) (c : Cqe) : Ring :=
  match c.ud with
  | .cancel => runArm armCancel 0 c r
  | .notify => runArm armNotify 0 c r
  | .key id => if c.more then runArm armKeyMore id c r else runArm armKeyFinal id c r

theorem gen_handle_cqe_eq (r : Ring) (c : Cqe) : genHandleCqe r c = r.handleCqe c := by
  unfold genHandleCqe Ring.handleCqe
  cases hud : c.ud with
  | cancel => simp [runArm, armCancel]
  | notify =>
    cases hm : c.more <;> simp [runArm, armNotify, cqeAct, hm]
  | key id =>
    cases hm : c.more with
    | false =>
      simp [runArm, armKeyFinal, cqeAct, gen_entry_notify_eq]
    | true =>
      simp only [runArm, armKeyMore, cqeAct, List.foldl, Keys.pushMulti, if_true]
      cases hs : r.keys.slot id with
      | free => simp
      | ready x => simp
      | pending o => cases o <;> simp

/-- `poll_entries` over the generated arms = the model's `pollEntries`, for every completion queue -/
theorem gen_poll_entries_eq (r : Ring) :
    r.cq.foldl genHandleCqe { r with cq := [] } = r.pollEntries := by
  unfold Ring.pollEntries
  have : genHandleCqe = Ring.handleCqe := by funext a b; exact gen_handle_cqe_eq a b
  rw [this]

/-- an `Entry` built from a CQE has the CQE's user_data as key and `create_result(cqe.result())` as result — no other
    statement (e.g. a rewrite depending on the `cancelled` flag) is in `create_entry` -/
theorem gen_create_entry_verbatim :
    createEntry = [.resultOfCqe, .createResult, .keyOfUserData, .entryNew, .setFlags, .ret] := rfl

theorem gen_poll_blocking_shape : pollBlocking = [.drainChannelNotifyEach, .retHadEntry] := rfl

/-- `ud` = the user_data computed so far -/
def runPushKey : List PushKeyAct → Ring → Id → Option Id → List Enter → Ring × PushRaw
  | [], r, _, _, _ => (r, .ok)
  | .userDataIsOwnKey :: rest, r, id, _, s => runPushKey rest r id (some id) s
  | .tagEntry :: rest, r, id, ud, s => runPushKey rest r id ud s
  | .pushRawOrReturn :: rest, r, id, some u, s =>
    match r.pushRaw (.op u) s with
    | (r1, .ok) => runPushKey rest r1 id (some u) []
    | (r1, .spin) => (r1, .spin)
  | .pushRawOrReturn :: _, r, _, none, _ => (r, .spin)
  | .inflightInsert :: rest, r, id, some u, s => runPushKey rest { r with inflight := u :: r.inflight } id (some u) s
  | .inflightInsert :: rest, r, id, none, s => runPushKey rest r id none s
  | .leakKey :: rest, r, id, ud, s => runPushKey rest r id ud s
  | .retOk :: _, r, _, _, _ => (r, .ok)

/-- `push_raw_with_key` (user_data = the operation's own key; `in_flight` insert only after the SQE is staged) -/
theorem gen_push_raw_with_key_eq (r : Ring) (id : Id) (script : List Enter) :
    runPushKey pushRawWithKey { r with keys := r.keys.alloc id } id none script = r.pushOp id script := by
  unfold Ring.pushOp
  simp only [pushRawWithKey, runPushKey]
  cases h : Ring.pushRaw { r with keys := r.keys.alloc id } (.op id) script with
  | mk r1 o => cases o <;> simp

def fullAct (en : Enter) : FullAct → Ring → Ring
  | .submitAutoZero, r => r.enter en
  | .pollEntries, r => { (r.cq.foldl genHandleCqe { r with cq := [] }) with drained := r.drained ++ r.cq }

/-- `push_raw` with the full-queue round taken from the generated list -/
def genPushRawAux (e : Sqe) : List Enter → Ring → Ring × PushRaw
  | [], r => if r.sq.length < r.sqCap then ({ r with sq := r.sq ++ [e] }, .ok) else (r, .spin)
  | en :: rest, r =>
    if r.sq.length < r.sqCap then ({ r with sq := r.sq ++ [e] }, .ok)
    else genPushRawAux e rest (pushRawOnFull.foldl (fun acc a => fullAct en a acc) r)

theorem gen_push_raw_eq (e : Sqe) (script : List Enter) (r : Ring) :
    genPushRawAux e script r = pushRawAux e script r := by
  induction script generalizing r with
  | nil => rfl
  | cons en rest ih =>
    unfold genPushRawAux pushRawAux
    split
    · rfl
    · rw [ih]
      simp [pushRawOnFull, fullAct, gen_poll_entries_eq]

/-- a zero-timeout `submit_auto` that merely timed out / was interrupted must not end the loop
    (otherwise `push` reports an error the OS never produced: seeded change C02-b) -/
theorem gen_push_raw_tolerates_timeout : "TimedOut" ∈ pushRawTolerated ∧ "Interrupted" ∈ pushRawTolerated := by
  simp [pushRawTolerated]

/-- `Driver::cancel` as coded: through `push_raw` (submit-and-drain until there is room) or the raw queue push -/
def genCancel (r : Ring) (id : Id) (script : List Enter) : Ring :=
  match cancelVia with
  | .pushRaw => (genPushRawAux (.cancelOf id) script r).1
  | .rawSqueuePush => r.cancel id

theorem gen_cancel_eq_push_raw (r : Ring) (id : Id) (script : List Enter) :
    genCancel r id script = (r.pushRaw (.cancelOf id) script).1 := by
  simp [genCancel, cancelVia, gen_push_raw_eq, Ring.pushRaw]

/-- the model's `Ring.cancel` (used by `RStep.cancel`) is that function for the empty kernel script: with room the
    AsyncCancel SQE is staged, without room and without a kernel round nothing changes -/
theorem gen_cancel_empty_script (r : Ring) (id : Id) : genCancel r id [] = r.cancel id := by
  rw [gen_cancel_eq_push_raw, cancel_eq_pushRaw]

/-! ## whole io_uring runs including `Driver::cancel` AS CODED (through `push_raw`, any kernel rounds)

`RStep.cancel` of the hand model is the empty-script case (`gen_cancel_empty_script`).  Here the labelled transition
system is extended by the cancel the source really performs: when the submission queue is full it runs overflow rounds
(`submit_auto` + `poll_entries`), which deliver OTHER operations' completions in the middle of a cancel.  The invariant
and with it own-result / exactly-once / nothing-undelivered hold for every list of such steps. -/

inductive GStep where
  | base (e : RStep)
  | cancelVia (id : Id) (script : List Enter)

def gstep (r : Ring) : GStep → Ring
  | .base e => r.step e
  | .cancelVia id script => genCancel r id script

/-- environment contract per step: as for `RStep`, and the kernel contract for the rounds a cancel runs -/
def GStepOk (r : Ring) : GStep → Prop
  | .base e => RStepOk r e
  | .cancelVia _ script => ScriptOk r script

def grun (r : Ring) : List GStep → Ring
  | [] => r
  | e :: rest => grun (gstep r e) rest

def GRunOk : Ring → List GStep → Prop
  | _, [] => True
  | r, e :: rest => GStepOk r e ∧ GRunOk (gstep r e) rest

/-- the coded cancel keeps the ring invariant, whatever the kernel does in its overflow rounds -/
theorem gen_cancel_inv {r : Ring} (h : RInv r) (id : Id) (script : List Enter) (hs : ScriptOk r script) :
    RInv (genCancel r id script) := by
  rw [gen_cancel_eq_push_raw]
  exact (h.reserve fun _ a => nomatch a).pushRaw script hs

theorem grun_inv : ∀ (steps : List GStep) (r : Ring), RInv r → GRunOk r steps → RInv (grun r steps) := by
  intro steps
  induction steps with
  | nil => intro r h _; exact h
  | cons e rest ih =>
    intro r h hok
    refine ih _ ?_ hok.2
    cases e with
    | base e => exact h.step e hok.1
    | cancelVia id script => exact gen_cancel_inv h id script hok.1

def GReachable (r : Ring) : Prop :=
  ∃ (cap : Nat) (steps : List GStep), GRunOk { sqCap := cap } steps ∧ r = grun { sqCap := cap } steps

theorem greachable_inv {r : Ring} (h : GReachable r) : RInv r := by
  obtain ⟨cap, steps, hok, rfl⟩ := h
  exact grun_inv steps _ (RInv.init cap) hok

/-- (b) exactly once, for every run with coded cancels -/
theorem gen_iour_exactly_once_with_coded_cancel {r : Ring} (h : GReachable r) (id : Id) :
    (r.keys.fin id).length ≤ 1 ∧ (r.keys.dlv id).length ≤ 1 ∧
    (r.keys.dlv id = [] ∨ r.keys.dlv id = r.keys.fin id) ∧ r.keys.uaf = false :=
  (greachable_inv h).k.exactly_once id

/-- (a) own result: a Ready slot holds the single result produced for that key -/
theorem gen_iour_own_result_with_coded_cancel {r : Ring} (h : GReachable r) (id : Id) (res : Res)
    (hs : r.keys.slot id = .ready res) : r.keys.src id = [res] ∧ r.keys.fin id = [res] :=
  (greachable_inv h).k.own_result hs

/-- nothing finished stays undelivered once CQ and channel are drained -/
theorem gen_iour_finished_is_delivered_with_coded_cancel {r : Ring} (h : GReachable r) (id : Id) (res : Res)
    (hcq : r.cq = []) (hch : r.chan = []) (hdone : r.keys.src id = [res]) :
    r.keys.slot id = .ready res ∨ r.keys.dlv id = [res] :=
  (greachable_inv h).finished_is_delivered hcq hch hdone

/-- the cancellation request is never dropped: when the loop ends, the AsyncCancel SQE is the last staged entry
    (the raw `squeue.push` that `Ring.cancel` models loses it on a full queue: finding F9) -/
theorem gen_cancel_never_dropped (r r' : Ring) (id : Id) (script : List Enter)
    (h : r.pushRaw (.cancelOf id) script = (r', .ok)) :
    ∃ k, (genCancel r id script).sq = r.sq.drop k ++ [.cancelOf id] := by
  rw [gen_cancel_eq_push_raw, h]
  exact pushRaw_keeps_sqe (.cancelOf id) script r r' h

/-- non-vacuity: capacity 1, op 0 staged (queue full), then a coded cancel whose overflow round makes the kernel take the
    SQE and complete op 0 with 5 bytes — the completion is delivered to op 0 inside the cancel, the request is staged -/
def cancelDemo : List GStep :=
  [ .base (.pushOp 0 []), .cancelVia 0 [⟨1, [⟨.key 0, .ok 5, false⟩]⟩], .base (.pop 0) ]

theorem cancelDemo_ok : GRunOk { sqCap := 1 } cancelDemo := by
  refine ⟨⟨⟨rfl, rfl, by unfold Ring.owed; decide, by decide⟩, trivial⟩, ?_, trivial, trivial⟩
  exact ⟨.single_final (by decide), trivial⟩

example :
    let r := grun { sqCap := 1 } cancelDemo
    (r.keys.dlv 0 == [.ok 5] && r.sq == [.cancelOf 0] && r.kern == [] && r.cq == []) = true := by
  decide

end Compio.Props.C02Gen
