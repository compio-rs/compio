/-
C04 — task and join-handle lifecycle (compio-executor).
Property theorems, and `liveIn_iff` / `cancelledIn_iff`, through which the examples of §6 meet their hypotheses; helper
lemmas live in Compio/Lemmas/Executor*.lean, Lemmas/QueueIntrusive.lean, Lemmas/QueueRefine.lean and Lemmas/RemoteJoin.lean.

Part 1: the executor's home thread, with handles and wakers used there or — sequentially — on another
thread (`Remote::schedule` + sync queue + `drain_sync`, `Remote::poll`). All statements are about the
functions the driver executes (`Compio.Executor.applyR` / `apply` / `run`) and hold for EVERY program
`ops : List Op` and every `sync_queue_size = q`.
Part 2: the join handle polled / dropped on another thread (labelled transition system
Compio/Model/RemoteJoin.lean), for every interleaving.
-/
import Compio.Lemmas.ExecutorSteps
import Compio.Lemmas.RemoteJoinTie
import Compio.Gen.TaskOrder
import Compio.Lemmas.QueueRefine

namespace Compio.Props.C04
open Compio.TaskWord Compio.Gen Compio.Executor

/-! ## 0. The statement order of the source functions the model follows

`Gen/TaskOrder.lean` is regenerated from /repo on every run: for each function the calls on a whitelist,
in evaluation order, with their innermost guard. The theorems pin the order the hand model executes;
reordering, dropping or adding one of these calls in the source makes them fail. -/

/-- `Task::cancel`: `schedule()` FIRST, then `set_cancelled()` (the model: `scheduleLocal` / `remoteSchedule` before `cancelWord`). With the two swapped a handle dropped on another thread never makes the task runnable: `Remote::schedule` returns early on `is_cancelled` (seeded defect C04-c). -/
theorem source_order_taskCancel : TaskOrder.taskCancel = [
  ("schedule", ""),
  ("set_cancelled", ""),
  ("has_result", ""),
  ("set_has_result::<Strong,false>", "if drop_result&&state.has_result()"),
  ("drop_future", "if drop_result&&state.has_result()")
] := rfl

/-- `Task::run`: `unschedule()` unconditionally FIRST (the model: `runTask` clears SCHEDULED before anything else), early return when cancelled, the poll, and only on Ready `finish_running` and the wake of the join waker; nothing touches the word after a Pending poll (seeded defect C04-a cleared SCHEDULED there). -/
theorem source_order_taskRun : TaskOrder.taskRun = [
  ("unschedule", ""),
  ("is_cancelled", ""),
  ("return", "if state.is_cancelled()"),
  ("run_future", ""),
  ("is_ready", ""),
  ("finish_running", "if res.is_ready()"),
  ("has_waker", "if res.is_ready()"),
  ("is_setting_waker", "if res.is_ready()"),
  ("wake_by_ref", "if state.has_waker()&&!state.is_setting_waker()")
] := rfl

/-- `Task::drop` (called by the executor): `set_dropped`, `shared := null`, drop the future unless completed, drop the join waker unless a remote handle is inside its SETTING_WAKER section (the model: `taskDropByExecutor`) -/
theorem source_order_taskDrop : TaskOrder.taskDrop = [
  ("set_dropped", ""),
  ("store", ""),
  ("return", "if ::std::thread::panicking()"),
  ("is_completed", ""),
  ("drop_future", "if !state.is_completed()"),
  ("has_waker", ""),
  ("is_setting_waker", ""),
  ("drop_in_place", "if state.has_waker()&&!state.is_setting_waker()")
] := rfl

/-- `impl Drop for Task`: `dec`; the last holder drops result and waker if flagged, then deallocates (the model: `dropRef`) -/
theorem source_order_taskRelease : TaskOrder.taskRelease = [
  ("dec", ""),
  ("count", ""),
  ("return", "if state.count()>1"),
  ("dealloc", "if ::std::thread::panicking()"),
  ("return", "if ::std::thread::panicking()"),
  ("has_result", ""),
  ("drop_future", "if state.has_result()"),
  ("has_waker", ""),
  ("drop_in_place", "if state.has_waker()"),
  ("dealloc", "")
] := rfl

/-- `Remote::schedule`: `start_scheduling`, early return on scheduled / completed / cancelled / null `shared`, reserve (`pending.fetch_add`) BEFORE the push loop, driver waker when the queue is full or after the push, `finish_scheduling` on every path (the model: `remoteSchedTask`, `remoteSchedule`, `remoteWakeB`) -/
theorem source_order_remoteSchedule : TaskOrder.remoteSchedule = [
  ("start_scheduling", ""),
  ("is_scheduled", ""),
  ("is_completed", ""),
  ("is_cancelled", ""),
  ("finish_scheduling", "if state.is_scheduled()||state.is_completed()||state.is_cancelled()"),
  ("return", "if state.is_scheduled()||state.is_completed()||state.is_cancelled()"),
  ("load", ""),
  ("finish_scheduling", "let-else"),
  ("return", "let-else"),
  ("fetch_add", ""),
  ("push", "while-cond shared.sync.push(self.header().id).is_err()"),
  ("wake_by_ref", "if !notified&&letSome(refwaker)=shared.waker"),
  ("load::<Strong>", "else(!notified&&letSome(refwaker)=shared.waker)"),
  ("is_cancelled", "else(!notified&&letSome(refwaker)=shared.waker)"),
  ("fetch_sub", "if self.header().state.load::<Strong>().is_cancelled()"),
  ("finish_scheduling", "if self.header().state.load::<Strong>().is_cancelled()"),
  ("return", "if self.header().state.load::<Strong>().is_cancelled()"),
  ("yield_now", "else(self.header().state.load::<Strong>().is_cancelled())"),
  ("wake_by_ref", "if letSome(refwaker)=shared.waker"),
  ("finish_scheduling", "")
] := rfl

/-- `Local::schedule`: null check, `drain_sync`, then `make_hot` (the model: `scheduleLocal`) -/
theorem source_order_localSchedule : TaskOrder.localSchedule = [
  ("load", ""),
  ("return", "let-else"),
  ("drain_sync", ""),
  ("make_hot", ""),
  ("wake_by_ref", "if letSome(refwaker)=shared.waker")
] := rfl

/-- `Shared::drain_sync`: fast path on `pending == 0`, pop and `make_hot` everything, then SUBTRACT the number drained (the model: `drainSync`; seeded defect C04-b stored 0 instead, wiping the reservation of a blocked pusher) -/
theorem source_order_drainSync : TaskOrder.drainSync = [
  ("load", ""),
  ("return", "if self.pending.load(Ordering::Acquire)==0"),
  ("pop", "while-cond letSome(id)=self.sync.pop()"),
  ("make_hot", "while letSome(id)=self.sync.pop()"),
  ("fetch_sub", "if drained!=0")
] := rfl

/-- `Executor::tick`: `drain_sync` first, then for each of at most `max_interval` hot ids `make_cold`, `take`, `run`, and `drop` + `remove` on Ready or `reset` otherwise; `has_hot` (the model: `tickFrom`, `tickLoop`, `tickStep`, `runOne`) -/
theorem source_order_tick : TaskOrder.tick = [
  ("drain_sync", ""),
  ("iter_hot", ""),
  ("take", ""),
  ("make_cold", "for queue.iter_hot().take(self.config.max_intervalas_)"),
  ("take", "for queue.iter_hot().take(self.config.max_intervalas_)"),
  ("run", "for queue.iter_hot().take(self.config.max_intervalas_)"),
  ("drop", "if res.is_ready()"),
  ("remove", "if res.is_ready()"),
  ("reset", "else(res.is_ready())"),
  ("has_hot", "")
] := rfl

/-- `TaskQueue::remove`: look the item up, unlink it from the list it IS in (`is_hot` ⇒ hot, else cold), then take it out of the map (the model: `removeTask` erases the id from both lists). A task that woke itself during the poll that returned Ready is hot again when it is removed; the seeded defect C04-2a unlinked from the cold list only. -/
theorem source_order_queueRemove : TaskOrder.queueRemove = [
  ("get", ""),
  ("?", ""),
  ("unlink::<HOT>", "if is_hot"),
  ("unlink::<COLD>", "else(is_hot)"),
  ("remove", ""),
  ("?", "")
] := rfl

/-- `Inner::make_hot`: unknown key or already hot ⇒ nothing; else unlink from cold, link to the hot tail (the model: `makeHot`) -/
theorem source_order_queueMakeHot : TaskOrder.queueMakeHot = [
  ("get", ""),
  ("return", "let-else"),
  ("return", "if item.is_hot"),
  ("unlink::<COLD>", ""),
  ("link_tail::<HOT>", "")
] := rfl

/-- `Inner::make_cold`: unknown key ⇒ nothing; else unlink from hot, link to the cold tail (the model: `makeCold`) -/
theorem source_order_queueMakeCold : TaskOrder.queueMakeCold = [
  ("get", ""),
  ("return", "let-else"),
  ("unlink::<HOT>", ""),
  ("link_tail::<COLD>", "")
] := rfl

/-- `Executor::clear`: empty the sync queue, then drop every task of the map (the model: `clearAll`) -/
theorem source_order_clear : TaskOrder.clear = [
  ("pop", "while-cond self.shared().sync.pop().is_some()"),
  ("clear", "")
] := rfl

/-- `Inner::link_tail`: read the old tail, `list.tail := key`, `list.head := key` if the list was empty, then the item's `prev := old_tail`, `next := None`, `is_hot := HOT`, and last the old tail's `next := key` (the model: `QueueIntrusive.linkTail`, same order) -/
theorem source_shape_queueLinkTailBody : TaskOrder.queueLinkTailBody = [
  ("let list=ifHOT{&mutself.hot}else{&mutself.cold}", ""),
  ("let old_tail=list.tail", ""),
  ("list.tail=Some(key)", ""),
  ("list.head=Some(key)", "if list.head.is_none()"),
  ("let item=self.map.get_mut(key).expect(\"itemexists\")", ""),
  ("item.prev=old_tail", ""),
  ("item.next=None", ""),
  ("item.is_hot=HOT", ""),
  ("tail_item.next=Some(key)", "if letSome(tail_key)=old_tail&&letSome(tail_item)=self.map.get_mut(tail_key)")
] := rfl

/-- `Inner::unlink`: read the item's `(prev, next)`, `list.head := next` if it was the head, `list.tail := prev` if it was the tail, `prev.next := next`, `next.prev := prev`; the list is chosen by the const argument, NOT by `item.is_hot` (the model: `QueueIntrusive.unlink` with the same flag; unlinking with the wrong flag leaves a dead key as head/tail — `QueueIntrusive` example) -/
theorem source_shape_queueUnlinkBody : TaskOrder.queueUnlinkBody = [
  ("let list=ifHOT{&mutself.hot}else{&mutself.cold}", ""),
  ("let (prev,next)={letitem=self.map.get(key).expect(\"itemexists\");debug_assert_eq!(item.is_hot,HOT);(item.prev,item.next)}", ""),
  ("list.head=next", "if list.head==Some(key)"),
  ("list.tail=prev", "if list.tail==Some(key)"),
  ("prev_item.next=next", "if letSome(prev_key)=prev&&letSome(prev_item)=self.map.get_mut(prev_key)"),
  ("next_item.prev=prev", "if letSome(next_key)=next&&letSome(next_item)=self.map.get_mut(next_key)")
] := rfl

/-- `Iter::next` of `iter_hot`: yield `curr` after PREFETCHING `curr := next_hot(curr)` (the model: `tickLoop` takes `nextHot e.hot id` before the loop body; `QueueIntrusive.Iter.next`) -/
theorem source_shape_queueNextBody : TaskOrder.queueNextBody = [
  ("let curr=self.curr?", ""),
  ("self.curr=self.queue.next_hot(curr)", "")
] := rfl

/-- `Remote::poll`: BOTH `finish_setting_waker::<true>()` call sites (the one that leaves an up-to-date waker in place
and the one that has just installed a new waker) bind the returned snapshot and go round the loop again when it
says completed or cancelled — the executor, seeing SETTING_WAKER, skipped the wake-up. This is the premise of
`remote_delivery`: `RemoteJoin.pollRechecks` is computed from this literal (seeded defect C04-2b dropped the
re-check on the new-waker site; fix e466077 had introduced both). -/
theorem source_shape_remote_poll : TaskOrder.remotePollFinishSites = [
  ("::<true>", "", true),
  ("::<false>", "if state.has_result()", false),
  ("::<false>", "if state.is_cancelled()", false),
  ("::<true>", "if state.has_waker()&&self.header().waker.with(|waker|cx.waker().will_wake(unsafe{(&*waker).assume_init_ref()}))", true)
] := rfl

/-- in particular: the cross-thread wake-up / cancellation protocol relies on these three orders -/
theorem source_order_protocol :
    (TaskOrder.taskCancel.map (·.1)).take 2 = ["schedule", "set_cancelled"] ∧
    (TaskOrder.taskRun.map (·.1)).head? = some "unschedule" ∧
    (TaskOrder.taskRun.map (·.1)).getLast? = some "wake_by_ref" ∧
    TaskOrder.drainSync.getLast? = some ("fetch_sub", "if drained!=0") ∧
    ¬ ("store" ∈ TaskOrder.drainSync.map (·.1)) := by decide

/-! ## 1. The lifecycle invariant, for every program -/

/-- the inductive invariant holds after every sequence of operations (and no `Remote::schedule` is
left blocked) -/
theorem lifecycle_invariant (q : Nat) (ops : List Op) : Inv (run q ops) ∧ (run q ops).inflight = none :=
  ⟨run_inv q ops, (run_invB q ops).idle⟩

/-- every operation preserves it (so it also holds between the operations of a program) -/
theorem lifecycle_invariant_step (e : Exec) (h : InvB e) (op : Op) : InvB (apply e op) := apply_invB h op

section unpacked
variable (q : Nat) (ops : List Op) (id : Nat) (t : TaskSt) (hg : (run q ops).get? id = some t)
include hg

/-- (R) reference count = number of holders: the executor (while the task is queued), the handle, the wakers -/
theorem refcount_eq_holders (hd : t.deallocs = 0) :
    t.word.count = (if inMap (run q ops) id then 1 else 0) + (if t.handle then 1 else 0) + t.wakers :=
  ((run_inv q ops).t id t hg).rc hd

/-- (D) the allocation is freed at most once, exactly when the last holder is gone, and nothing touches it
afterwards -/
theorem dealloc_exactly_once :
    t.deallocs ≤ 1 ∧
    (t.deallocs = 1 ↔ (if inMap (run q ops) id then 1 else 0) + (if t.handle then 1 else 0) + t.wakers = 0) ∧
    t.uaf = 0 := by
  have h := (run_inv q ops).t id t hg
  exact ⟨h.dealloc_iff.1, h.dealloc_iff.2, h.uaf⟩

/-- (F) the future is dropped at most once; while the task is queued it is alive (not dropped, not
completed, storage = future, `shared` valid); once the executor let go of the task (completion,
cancellation, executor drop) it has been dropped exactly once -/
theorem future_dropped_exactly_once :
    t.futDrops ≤ 1 ∧
    (inMap (run q ops) id = true →
      t.storage = .future ∧ t.futDrops = 0 ∧ t.word.completed = false ∧ t.shared = true) ∧
    (inMap (run q ops) id = false → t.futDrops = 1 ∧ t.shared = false) := by
  have h := (run_inv q ops).t id t hg
  refine ⟨?_, fun hi => ⟨h.inq_st hi, h.inq_fd hi, h.inq_c hi, h.inq_sh hi⟩, fun hi => ⟨h.outq_fd hi, h.outq_sh hi⟩⟩
  cases hi : inMap (run q ops) id
  · rw [h.outq_fd hi]; omega
  · rw [h.inq_fd hi]; omega

/-- (P) the future is never polled after it completed (and never once cancelled: `cancelled_never_polled_again`) -/
theorem never_polled_after_completion : t.badPolls = 0 := ((run_inv q ops).t id t hg).bp

/-- (S) HAS_RESULT ⇔ the storage holds a result; the output / panic payload is taken or dropped at most
once; once the allocation is freed: exactly once iff the task completed -/
theorem result_exactly_once :
    (t.deallocs = 0 → (t.word.hasResult = true ↔ (t.storage = .resultOk ∨ t.storage = .resultPanic))) ∧
    t.resTaken + t.resDrops ≤ 1 ∧
    (t.deallocs = 1 → (t.resTaken + t.resDrops = 1 ↔ t.word.completed = true)) := by
  have h := (run_inv q ops).t id t hg
  refine ⟨?_, ?_, ?_⟩
  · intro hd
    rw [h.res hd]
    cases t.storage <;> simp [isRes]
  · rw [h.cnt]; split <;> omega
  · intro hd
    rw [h.cnt, hd]
    cases t.word.completed <;> simp

/-- (W) HAS_WAKER ⇔ the waker slot is occupied; every join waker stored is dropped exactly once, except
the one still stored; none is left when the allocation is freed -/
theorem join_waker_accounting :
    (t.word.hasWaker = true ↔ t.slot.isSome = true) ∧
    t.slotSets = t.slotDrops + (if t.slot.isSome then 1 else 0) ∧
    (t.deallocs = 1 → t.slot = none ∧ t.slotSets = t.slotDrops) := by
  have h := (run_inv q ops).t id t hg
  refine ⟨by rw [h.wk], h.sl, ?_⟩
  intro hd
  have hs := h.outq_slot (h.freed hd).1
  exact ⟨hs, by rw [h.sl, hs]; simp⟩

/-- the home thread never leaves the SETTING_WAKER section open -/
theorem not_setting_waker : t.word.notSettingWaker = true := ((run_inv q ops).t id t hg).nsw

end unpacked

/-- (Q) the queues are duplicate-free, disjoint, and contain only valid task ids -/
theorem queue_well_formed (q : Nat) (ops : List Op) :
    (run q ops).hot.Nodup ∧ (run q ops).cold.Nodup ∧ (∀ x, x ∈ (run q ops).hot → x ∉ (run q ops).cold) ∧
    (∀ x, x ∈ (run q ops).hot ∨ x ∈ (run q ops).cold → x < (run q ops).tasks.length) := by
  have q := (run_inv q ops).q
  exact ⟨q.hnd, q.cnd, fun x h1 h2 => q.disj x h1 h2, fun x h => h.elim (q.hval x) (q.cval x)⟩

/-- (D) no use after free, in its strongest form: once the allocation of a task was freed, no
operation whatsoever changes (or reads through a live holder) that task any more -/
theorem nothing_touches_freed_task (q : Nat) (ops : List Op) (id : Nat) (t : TaskSt)
    (hg : (run q ops).get? id = some t) (hd : t.deallocs = 1) (op : Op) :
    (apply (run q ops) op).get? id = some t := frozen_after_free (run_invB q ops) hg hd op

/-- tasks are never forgotten, and each evolves only by the primitive per-task steps of the model -/
theorem task_evolves_by_steps (q : Nat) (ops more : List Op) (id : Nat) (t : TaskSt)
    (hg : (run q ops).get? id = some t) :
    ∃ t', (run q (ops ++ more)).get? id = some t' ∧ TaskSteps true t t' :=
  (run_eff q ops more).steps id t hg

/-- the queue clause for cross-thread wake-ups and cancellations: between operations, a task that is
still queued and has its SCHEDULED bit set, or is cancelled, is in the hot queue or in the sync queue —
the next tick reaches it -/
theorem scheduled_or_cancelled_is_reachable (q : Nat) (ops : List Op) (id : Nat) (t : TaskSt)
    (hg : (run q ops).get? id = some t) (hq : inMap (run q ops) id = true)
    (hs : t.word.scheduled = true ∨ t.word.notCancelled = false) :
    id ∈ (run q ops).hot ∨ id ∈ (run q ops).sync :=
  (run_invB q ops).hot_or_sync hg hs.symm hq

/-- `Shared::pending` never under-counts the sync queue: the fast path of `drain_sync` skips nothing -/
theorem pending_bounds_sync (q : Nat) (ops : List Op) : (run q ops).sync.length ≤ (run q ops).pending := by
  have := (run_inv q ops).p
  omega

/-! ## 2. Polls happen only inside ticks; the handle API never hits its `unreachable!` -/

/-- (P) no operation other than a tick (`tick`, or the tick the executor runs while a remote waker is
blocked: `rwakeb`) polls any future -/
theorem polls_only_in_tick (e : Exec) (h : InvB e) (op : Op) (hop : op.ticks = false)
    (id : Nat) (t : TaskSt) (hg : e.get? id = some t) :
    ∃ t', (apply e op).get? id = some t' ∧ t'.polls = t.polls := by
  obtain ⟨t', hg', hs⟩ := (apply_eff h op).1.steps id t hg
  rw [hop] at hs
  exact ⟨t', hg', taskSteps_norun_polls hs⟩

/-- (P) `tick` polls exactly what its log says: the poll counter of every task grows by the number of
times its id occurs in the log returned by `tick` -/
theorem tick_polls_exactly_logged (e : Exec) (h : Inv e) (n : Nat) (id : Nat) (t : TaskSt)
    (hg : e.get? id = some t) :
    ∃ t', (tick e n).1.get? id = some t' ∧ t'.polls = t.polls + (tick e n).2.1.count id := by
  have sf := tickStart_facts h
  exact tickLoop_polls n (tickStart e) sf.inv id t (by rw [sf.get]; exact hg)

/-- `unreachable!("Task is completed but has no result")` in `Local::poll` is never reached -/
theorem local_poll_never_unreachable (e : Exec) (h : Inv e) (id w : Nat) (t : TaskSt)
    (hg : e.get? id = some t) (hh : t.handle = true) : (handlePoll e id w).2 ≠ .invalid := by
  rw [handlePoll_held w hg hh]
  exact pollTask_valid _ t w (h.t id t hg) hh

/-- `Remote::poll` never spins on a completed task without result; run without interference it does to
the task and returns exactly what `Local::poll` does -/
theorem remote_poll_never_stuck (e : Exec) (h : Inv e) (id w : Nat) (t : TaskSt)
    (hg : e.get? id = some t) (hh : t.handle = true) :
    (remoteHandlePoll e id w).2 ≠ .invalid ∧ remoteHandlePoll e id w = handlePoll e id w := by
  rw [remoteHandlePoll_held w hg hh, handlePoll_held w hg hh, remotePollTask_eq_pollTask t w (h.t id t hg).nsw]
  exact ⟨pollTask_valid _ t w (h.t id t hg) hh, rfl⟩

/-- `JoinHandle::cancel(self).await` completes with its first poll, on the home thread ... -/
theorem cancel_never_pending (e : Exec) (h : Inv e) (id : Nat) (t : TaskSt) (hg : e.get? id = some t)
    (hh : t.handle = true) :
    (applyR e (.hcancel id)).2 = .cancel .ok ∨ (applyR e (.hcancel id)).2 = .cancel .panicked ∨
    (applyR e (.hcancel id)).2 = .cancel .cancelled := by
  rw [hcancel_held hg hh]
  rcases pollTask_cancelled (cancelWord t false) noopWaker (cancelWord_nc t false) with h | h | h <;> simp [h]

/-- ... and on another thread -/
theorem remote_cancel_never_pending (e : Exec) (id : Nat) (t : TaskSt) (hg : e.get? id = some t) :
    (remoteHandleCancel e id).2 = .ok ∨ (remoteHandleCancel e id).2 = .panicked ∨
    (remoteHandleCancel e id).2 = .cancelled := by
  simp only [remoteHandleCancel, remoteSchedule_get?_self hg]
  exact remotePollTask_cancelled _ noopWaker (cancelWord_nc _ false)

/-! ## 3. Dropping the handle cancels; detaching lets the task run; panics are contained; teardown -/

/-- dropping the handle of a task that is still queued cancels it and makes it hot (so the next ticks
reach it) -/
theorem hdrop_cancels_and_schedules (e : Exec) (h : Inv e) (id : Nat) (t : TaskSt) (hg : e.get? id = some t)
    (hh : t.handle = true) (hq : inMap e id = true) :
    id ∈ (handleDrop e id).1.hot ∧ cancelledIn (handleDrop e id).1 id := by
  rw [handleDrop_held hg hh]
  have hg' := get?_setTask_self (dropRef { cancelWord t true with handle := false })
    ((scheduleLocal_get? e id id).trans hg)
  exact ⟨scheduleLocal_makes_hot h hg hq, _, hg', by rw [dropRef_nc]; exact cancelWord_nc t true⟩

/-- the same when the handle is dropped on ANOTHER thread: `Remote::schedule` runs BEFORE `set_cancelled`,
so the id is pushed to the sync queue (or the task was already hot / scheduled): the task is cancelled and
the next tick reaches it -/
theorem remote_hdrop_cancels_and_schedules (e : Exec) (h : InvB e) (id : Nat) (t : TaskSt)
    (hg : e.get? id = some t) (hh : t.handle = true) (hq : inMap e id = true) :
    cancelledIn (remoteHandleDrop e id) id ∧
    (id ∈ (remoteHandleDrop e id).hot ∨ id ∈ (remoteHandleDrop e id).sync) := by
  have nb := norm_eff (op := .rhdrop id) rfl h hg hh
  have hb : InvB (remoteHandleDrop e id) := ⟨nb.1.inv, nb.2⟩
  have hget : ∃ t', (remoteHandleDrop e id).get? id = some t' ∧ t'.word.notCancelled = false := by
    simp only [remoteHandleDrop, remoteSchedule_get?_self hg]
    exact ⟨_, get?_setTask_self _ (remoteSchedule_get?_self hg), by rw [dropRef_nc]; exact cancelWord_nc _ true⟩
  obtain ⟨t', hg', hn⟩ := hget
  refine ⟨⟨t', hg', hn⟩, hb.hot_or_sync hg' (Or.inl hn) ?_⟩
  simp only [remoteHandleDrop, remoteSchedule_get?_self hg]
  exact (remoteSchedule_inMap e id id).trans hq

/-- once cancelled, a task is never polled again and stays cancelled, whatever the program does next -/
theorem cancelled_never_polled_again (q : Nat) (ops more : List Op) (id : Nat) (t : TaskSt)
    (hg : (run q ops).get? id = some t) (hc : t.word.notCancelled = false) :
    ∃ t', (run q (ops ++ more)).get? id = some t' ∧ t'.polls = t.polls ∧ t'.word.notCancelled = false := by
  obtain ⟨t', hg', hs⟩ := (run_eff q ops more).steps id t hg
  exact ⟨t', hg', (taskSteps_mono hs).cpolls hc, (taskSteps_mono hs).cancelled hc⟩

/-- ... and its future is dropped, unpolled, by the first tick that reaches it (position `p` < `n`) -/
theorem cancelled_dropped_when_reached (e : Exec) (h : Inv e) (n p id : Nat) (hx : e.hot[p]? = some id)
    (hp : p < n) (hc : cancelledIn e id) :
    inMap (tick e n).1 id = false ∧ id ∉ (tick e n).2.1 ∧
    ∃ t', (tick e n).1.get? id = some t' ∧ t'.futDrops = 1 := by
  have hgone := ((tick_spec h n).visit hx hp).1 hc
  obtain ⟨t, hg, hnc⟩ := hc
  obtain ⟨t', hg', hpolls⟩ := tick_polls_exactly_logged e h n id t hg
  obtain ⟨t'', hg'', hst⟩ := (tick_eff h n).steps id t hg
  rw [hg'] at hg''; cases hg''
  have hcp := (taskSteps_mono hst).cpolls hnc
  refine ⟨hgone, fun hm => ?_, t', hg', ((tick_inv h n).t id t' hg').outq_fd hgone⟩
  have : 0 < (tick e n).2.1.count id := List.count_pos_iff.mpr hm
  omega

/-- within ⌈(p+1)/n⌉ ticks, wherever it is in the hot queue -/
theorem cancelled_dropped_within (e : Exec) (h : Inv e) (n : Nat) (hn : 0 < n) (k p id : Nat)
    (hx : e.hot[p]? = some id) (hc : cancelledIn e id) (hp : p < k * n) :
    inMap (tickN e n k).1 id = false := (tickN_visits h n k p id (tickStart_hot_get h hx) hp).2 hc

/-- dropping the handle cancels the task WHEREVER the handle was dropped or cancelled (home thread or
another thread): a cancelled task is reaped — future dropped unpolled, task out of the queue — within `k`
ticks as soon as `k * max_interval ≥ |hot| + |sync|` -/
theorem cancelled_reaped_within (q : Nat) (ops : List Op) (n : Nat) (hn : 0 < n) (k id : Nat)
    (hc : cancelledIn (run q ops) id)
    (hk : (run q ops).hot.length + (run q ops).sync.length ≤ k * n) :
    inMap (tickN (run q ops) n k).1 id = false ∧
    ∃ t', (tickN (run q ops) n k).1.get? id = some t' ∧ t'.futDrops = 1 := by
  have hb := run_invB q ops
  have hgone := tickN_reaps_cancelled hb n k hc hk
  obtain ⟨t, hg, _⟩ := hc
  obtain ⟨t', hg', _⟩ := (tickN_eff hb.inv n k).steps id t hg
  exact ⟨hgone, t', hg', ((tickN_eff hb.inv n k).inv.t id t' hg').outq_fd hgone⟩

/-- `detach` only gives up the handle's reference: the task stays where it is in the queue, keeps its
script and is not cancelled by it -/
theorem detach_keeps_running (e : Exec) (id : Nat) (t : TaskSt) (hg : e.get? id = some t)
    (hh : t.handle = true) :
    (handleDetach e id).1.hot = e.hot ∧ (handleDetach e id).1.cold = e.cold ∧
    ∃ t', (handleDetach e id).1.get? id = some t' ∧ t'.handle = false ∧ t'.script = t.script ∧
      t'.word.notCancelled = t.word.notCancelled ∧ t'.polls = t.polls := by
  rw [handleDetach_held hg hh]
  rw [dropRef_eq]
  exact ⟨rfl, rfl, _, get?_setTask_self _ hg, rfl, rfl, rfl, rfl⟩

/-- after `detach` nobody takes the output: when the task has completed and its allocation is freed,
the output (or panic payload) has been dropped exactly once -/
theorem detached_output_dropped_once (q : Nat) (ops more : List Op) (id : Nat) (t t' : TaskSt)
    (hg : (run q ops).get? id = some t) (hh : t.handle = true)
    (hg' : (run q (ops ++ [.hdetach id] ++ more)).get? id = some t') :
    t'.handle = false ∧ t'.resTaken = 0 ∧
    (t'.deallocs = 1 → t'.word.completed = true → t'.resDrops = 1) := by
  have hinv := run_inv q ops
  have ht := hinv.t id t hg
  -- a live handle has not taken anything yet
  have hrt : t.resTaken = 0 := by
    have hc := ht.cnt
    have hd : t.deallocs = 0 := by
      have := ht.dl; simp [holders, hh] at this; exact this
    cases hcp : t.word.completed
    · simp [hcp] at hc; omega
    · have := ht.hd hh hcp
      simp [hcp, this, hd] at hc; omega
  have h1 : (run q (ops ++ [.hdetach id])).get? id = some (dropRef { t with handle := false }) := by
    rw [run_append]
    simp only [apply, applyR, handleDetach_held hg hh]
    exact get?_setTask_self _ hg
  obtain ⟨t2, hg2, hs⟩ := (run_eff q _ more).steps id _ h1
  rw [hg'] at hg2; cases hg2
  have hd1 := (dropRef_mono { t with handle := false }).hdl rfl
  have hd2 := (taskSteps_mono hs).hdl hd1.1
  have hrt' : t'.resTaken = 0 := by rw [hd2.2, hd1.2]; exact hrt
  refine ⟨hd2.1, hrt', ?_⟩
  intro hde hcp
  have := ((run_inv q _).t id t' hg').cnt
  simp [hcp, hde] at this
  omega

/-- frame lemma: running one task (whether its future returns, wakes itself locally or through another
thread, or PANICS) changes no other task's state -/
theorem runOne_frame (e : Exec) (id x : Nat) (hx : x ≠ id) : (runOne e id).1.get? x = e.get? x := by
  unfold runOne
  cases hg : e.get? id with
  | none => rfl
  | some t =>
    simp only
    rcases hr : runTask t with ⟨t', k, w⟩
    cases k <;> simp only
    · exact get?_setTask_ne e t' hx
    · exact get?_setTask_ne e t' hx
    · exact (scheduleLocal_get? _ id x).trans (get?_setTask_ne e t' hx)
    · exact (remoteScheduleGuarded_get?_ne _ hx).trans (get?_setTask_ne e t' hx)
    · exact get?_setTask_ne e t' hx
    · exact (get?_setTask_ne _ t' hx).trans ((scheduleLocal_get? _ id x).trans (get?_setTask_ne e _ hx))

/-- a task whose future finishes leaves BOTH queues — also when it woke itself during that very poll and
`Local::schedule` had put it back on the hot tail (`queue.remove` must unlink it from the hot list: the
seeded defect C04-2a unlinked from the cold list only, leaving a dead key as `hot.tail`); the hot queue
stays duplicate-free with valid ids (`Inv`), so the next `make_hot` / `spawn` links behind a live task -/
theorem finished_task_leaves_queue (e : Exec) (h : Inv e) (id : Nat) (rest : List Nat) (hh : e.hot = id :: rest)
    (t : TaskSt) (hg : e.get? id = some t)
    (hk : (runTask t).2.1 = .finished ∨ (runTask t).2.1 = .finishedWoke) :
    inMap (tickStep e id).1 id = false ∧ Inv (tickStep e id).1 ∧
    ∃ w, (tickStep e id).1.hot = rest ++ w ∧ id ∉ w := by
  obtain ⟨t0, hg0, ht0, sf⟩ := tickStep_facts h hh
  rw [hg] at hg0; cases hg0
  -- a task still queued after its loop body is not cancelled, but `Task::drop` ran on this one
  have hout : inMap (tickStep e id).1 id = false := Bool.eq_false_iff.mpr fun hi => by
    have := ((runTask_spec t ht0).1 (Or.inr hk)).outq_nc rfl
    rw [sf.live hi] at this; cases this
  obtain ⟨w, hw⟩ := sf.hot
  exact ⟨hout, sf.inv, w, hw, fun hm => (inMap_false_iff _ _).mp hout (Or.inl (by rw [hw]; simp [hm]))⟩

/-- ... and no other task's membership in the executor's queue -/
theorem tickStep_queue_frame (e : Exec) (h : Inv e) (id : Nat) (rest : List Nat) (hh : e.hot = id :: rest)
    (x : Nat) (hx : x ≠ id) : inMap (tickStep e id).1 x = inMap e x := by
  obtain ⟨t, _, _, sf⟩ := tickStep_facts h hh
  cases hi : inMap e x
  · cases hi' : inMap (tickStep e id).1 x
    · rfl
    · rw [sf.sub x hi'] at hi; cases hi
  · exact sf.keep x hx hi

/-- a dropped executor stays dropped -/
theorem dead_stays_dead (e : Exec) (h : InvB e) (hd : e.alive = false) (op : Op) : (apply e op).alive = false :=
  (apply_eff h op).1.dead hd

/-- executor torn down while handles and wakers are still used elsewhere (on any thread): whatever
happens afterwards, every task whose handle and wakers are gone has been freed (exactly once, by
`dealloc_exactly_once`), its future dropped exactly once -/
theorem teardown_frees_everything (q : Nat) (ops more : List Op) (id : Nat) (t : TaskSt)
    (hg : (run q (ops ++ [.xdrop] ++ more)).get? id = some t) (hh : t.handle = false) (hw : t.wakers = 0) :
    t.deallocs = 1 ∧ t.futDrops = 1 ∧ t.uaf = 0 := by
  have hdead : (run q (ops ++ [.xdrop] ++ more)).alive = false := by
    refine (run_eff q _ more).dead ?_
    rw [run_append]
    unfold apply applyR
    cases ha : (run q ops).alive <;> simp [ha, execDrop]
  have hinv := run_inv q (ops ++ [.xdrop] ++ more)
  obtain ⟨d1, d2⟩ := hinv.dead hdead
  have hin : inMap (run q (ops ++ [.xdrop] ++ more)) id = false := by
    rw [inMap_false_iff, d1, d2]; simp
  have ht := hinv.t id t hg
  exact ⟨ht.dealloc_iff.2.mpr (by rw [hin]; simp [holders, hh, hw]), ht.outq_fd hin, ht.uaf⟩

/-! ## 4. Tick order and no starvation -/

/-- `tick` polls in hot-queue (FIFO) order: position `p < n` of the poll log is the task at position `p`
of the hot queue, provided the hot tasks up to `p` are live (a cancelled one is dropped instead of polled) -/
theorem tick_polls_in_hot_order (e : Exec) (h : Inv e) (n p x : Nat) (hp : p < n) (hx : e.hot[p]? = some x)
    (hl : ∀ q y, q ≤ p → e.hot[q]? = some y → liveIn e y) : (tick e n).2.1[p]? = some x :=
  (tick_spec h n).order hp hx hl

/-- ... so the poll log starts with `hot.take n` when these tasks are live -/
theorem tick_log_starts_with_hot (e : Exec) (h : Inv e) (n : Nat) (hl : ∀ x, x ∈ e.hot.take n → liveIn e x) :
    (tick e n).2.1.take (e.hot.take n).length = e.hot.take n :=
  (List.prefix_iff_eq_take.mp ((tick_spec h n).order_prefix _ (List.take_prefix n e.hot)
    (List.length_take_le n e.hot) hl)).symm

/-- progress in ONE tick with `max_interval = n`: a hot task at position `p` is visited (polled if live,
dropped and removed if cancelled) when `p < n`, and otherwise moves up to position `p - n` -/
theorem tick_progress (e : Exec) (h : Inv e) (n p x : Nat) (hx : e.hot[p]? = some x) :
    (p < n → (liveIn e x → x ∈ (tick e n).2.1) ∧ (cancelledIn e x → inMap (tick e n).1 x = false)) ∧
    (n ≤ p → (tick e n).1.hot[p - n]? = some x) :=
  ⟨fun hp => ((tick_spec h n).visit hx hp).symm, (tick_spec h n).shift hx⟩

/-- no starvation: a runnable task at position `p` of the hot queue is polled within `k` ticks as soon as
`k * n > p`, i.e. within ⌈(p+1)/n⌉ ticks, for every `max_interval = n > 0` and whatever the other
tasks do (wake themselves, are woken from other threads, complete, panic, ...) -/
theorem no_starvation (e : Exec) (h : Inv e) (n : Nat) (hn : 0 < n) (k p x : Nat)
    (hx : e.hot[p]? = some x) (hl : liveIn e x) (hp : p < k * n) : x ∈ (tickN e n k).2 :=
  (tickN_visits h n k p x (tickStart_hot_get h hx) hp).1 hl

/-- a freshly spawned task is runnable: it is the last element of the hot queue -/
theorem spawn_is_hot (e : Exec) (sc : List Outcome) :
    (spawn e sc).1.hot[e.hot.length]? = some (spawn e sc).2 ∧ liveIn (spawn e sc).1 (spawn e sc).2 := by
  refine ⟨by simp [spawn], ?_⟩
  unfold liveIn
  simp [spawn, Exec.get?]

/-- a wake-up through a task waker on the home thread makes a parked (cold) task runnable again -/
theorem wake_makes_hot (e : Exec) (h : Inv e) (id : Nat) (t : TaskSt) (hg : e.get? id = some t)
    (hw : t.wakers ≠ 0) (hq : inMap e id = true) : id ∈ (wakeLocal e id).1.hot := by
  rw [wakeLocal_held hg hw]
  exact scheduleLocal_makes_hot h hg hq

/-- a wake-up through a task waker on ANOTHER thread is not lost: afterwards the task (still queued, live)
has SCHEDULED set and is in the hot queue or in the sync queue ... -/
theorem remote_wake_is_recorded (e : Exec) (h : InvB e) (id : Nat) (t : TaskSt) (hg : e.get? id = some t)
    (hq : inMap e id = true) :
    ∃ t', (remoteSchedule e id).get? id = some t' ∧ t'.word.scheduled = true ∧
      t'.word.notCancelled = t.word.notCancelled ∧ inMap (remoteSchedule e id) id = true ∧
      (id ∈ (remoteSchedule e id).hot ∨ id ∈ (remoteSchedule e id).sync) := by
  have hq' : inMap (remoteSchedule e id) id = true := (remoteSchedule_inMap e id id).trans hq
  have hb : InvB (remoteSchedule e id) := ⟨remoteSchedule_inv h.inv id, (remoteSchedule_inflight e id).trans h.idle⟩
  exact ⟨_, remoteSchedule_get?_self hg, rfl, rfl, hq', hb.hot_or_sync (remoteSchedule_get?_self hg) (Or.inr rfl) hq'⟩

/-- ... and it is polled within `k` ticks as soon as `k * max_interval ≥ |hot| + |sync|` (no starvation for
cross-thread wake-ups; false if `Task::run` cleared SCHEDULED only after the poll, or if `drain_sync`
forgot a reservation) -/
theorem remote_wake_polled_within (q : Nat) (ops : List Op) (n : Nat) (hn : 0 < n) (k id : Nat) (t : TaskSt)
    (hg : (run q ops).get? id = some t) (hs : t.word.scheduled = true) (hl : t.word.notCancelled = true)
    (hq : inMap (run q ops) id = true)
    (hk : (run q ops).hot.length + (run q ops).sync.length ≤ k * n) : id ∈ (tickN (run q ops) n k).2 :=
  tickN_polls_scheduled (run_invB q ops) n k hg hs hl hq hk

/-! ## 5. Delivery of the completion wake-up to a handle polled on the home thread -/

/-- a poll that returns Pending leaves the caller's waker in the slot, flagged HAS_WAKER -/
theorem pending_poll_parks_waker (e : Exec) (h : Inv e) (id w : Nat) (t : TaskSt)
    (hg : e.get? id = some t) (hh : t.handle = true) (hp : (handlePoll e id w).2 = .pending) :
    ∃ t', (handlePoll e id w).1.get? id = some t' ∧ t'.slot = some w ∧ t'.word.hasWaker = true ∧
      t'.handle = true := by
  rw [handlePoll_held w hg hh] at hp ⊢
  refine ⟨_, get?_setTask_self _ hg, ?_⟩
  rcases pollTask_cases t w with ⟨_, he⟩ | ⟨_, _, he⟩ | ⟨_, _, _, he⟩ | ⟨_, _, _, h4, h5, he⟩ | ⟨_, _, _, _, he⟩ <;>
    rw [he] at hp ⊢
  · simp only at hp; split at hp <;> cases hp
  · cases hp
  · cases hp
  · exact ⟨h5, h4, hh⟩
  · exact ⟨rfl, rfl, hh⟩

/-- when the future of the task at the head of the hot queue returns Ready (or panics), the join waker
parked in the slot (by a poll on the home thread or, sequentially, on another thread) is woken by that
very loop body -/
theorem completion_wakes_parked_waker (e : Exec) (h : Inv e) (id w : Nat) (rest : List Nat) (t : TaskSt)
    (o : Outcome) (r : List Outcome)
    (hh : e.hot = id :: rest) (hg : e.get? id = some t) (hs : t.slot = some w)
    (hc : t.word.notCancelled = true) (hsc : t.script = o :: r) (ho : o = .ready ∨ o = .panic) :
    (tickStep e id).1.woken = e.woken ++ [w] := by
  obtain ⟨t', hg', ht⟩ := h.get_of_mem (id := id) (Or.inl (by simp [hh]))
  rw [hg] at hg'; cases hg'
  have hr := runTask_ready t hc (ht.inq_c rfl) o r hsc ho
  have hmc := makeCold_head hh
  have hgm : (makeCold e id).get? id = some t := by rw [hmc]; exact hg
  have hwk := ht.wk
  rw [hs] at hwk
  simp only [tickStep, runOne, hgm, hr]
  simp [hmc, hwk, ht.nsw, hs, removeTask, Exec.setTask]

/-! ## 6. Non-vacuity: concrete programs (the same `run` the driver executes) -/

/-- `liveIn` / `cancelledIn` are decidable on concrete states -/
theorem liveIn_iff (e : Exec) (x : Nat) :
    liveIn e x ↔ (e.get? x).map (fun t => t.word.notCancelled) = some true := by
  unfold liveIn
  cases e.get? x <;> simp

theorem cancelledIn_iff (e : Exec) (x : Nat) :
    cancelledIn e x ↔ (e.get? x).map (fun t => t.word.notCancelled) = some false := by
  unfold cancelledIn
  cases e.get? x <;> simp

/-- the prefetching iterator: a self-waking task goes to the hot tail and is polled again in the same tick -/
example : (applyR (run 64 [.spawn [.wakeSelf, .ready], .spawn [.pending]]) (.tick 61)).2
    = .polled [0, 1, 0] false := by decide

/-- ... but a lone self-waking task is polled once per tick (the iterator prefetched `None`) -/
example : (applyR (run 64 [.spawn [.wakeSelf, .ready]]) (.tick 61)).2 = .polled [0] true := by decide

/-- handle dropped before completion: never polled again, future dropped at the next tick, freed -/
example : ((run 64 [.spawn [.pending, .ready], .tick 61, .hdrop 0, .tick 61]).get? 0).map
    (fun t => (t.polls, t.futDrops, t.deallocs, t.resTaken + t.resDrops)) = some (1, 1, 1, 0) := by decide

/-- the hypotheses of `hdrop_cancels_and_schedules` / `cancelled_dropped_when_reached` are met there -/
example : let e := run 64 [.spawn [.pending, .ready], .tick 61, .hdrop 0]
    e.hot[0]? = some 0 ∧ ((e.get? 0).map (fun t => t.word.notCancelled)) = some false := by decide

/-- detached task: runs to completion, output dropped exactly once, allocation freed -/
example : ((run 64 [.spawn [.wakeSelf, .ready], .hdetach 0, .tick 61, .tick 61]).get? 0).map
    (fun t => (t.polls, t.word.completed, t.resTaken, t.resDrops, t.deallocs)) = some (2, true, 0, 1, 1) := by decide

/-- a panicking task: the payload reaches the handle exactly once; the other task is untouched -/
example : let e := run 64 [.spawn [.panic], .spawn [.pending], .tick 61]
    (applyR e (.hpoll 0 3)).2 = .join .panicked ∧
    ((apply e (.hpoll 0 3)).get? 0).map (fun t => (t.resTaken, t.resDrops, t.deallocs)) = some (1, 0, 1) ∧
    (e.get? 1).map (fun t => (t.polls, t.futDrops, t.word.completed)) = some (1, 0, false) := by decide

/-- completion wakes the waker the handle was parked with; a second, different waker replaces the first -/
example : (run 64 [.spawn [.pending, .ready], .hpoll 0 7, .tick 61, .hpoll 0 8, .wake 0, .tick 61]).woken = [] ∧
    (run 64 [.spawn [.wakeSelf, .ready], .hpoll 0 7, .tick 61, .hpoll 0 8, .tick 61]).woken = [8] ∧
    ((run 64 [.spawn [.wakeSelf, .ready], .hpoll 0 7, .tick 61, .hpoll 0 8, .tick 61]).get? 0).map
      (fun t => (t.slotSets, t.slotDrops)) = some (2, 2) := by decide

/-- executor dropped while a waker clone and the handle live on: freed only when both are gone -/
example : let e := run 64 [.spawn [.cloneWaker, .ready], .tick 61, .xdrop]
    (e.get? 0).map (fun t => (t.futDrops, t.deallocs, t.word.count)) = some (1, 0, 2) ∧
    ((apply e (.hpoll 0 1)).get? 0).map (fun t => (t.deallocs, t.handle)) = some (0, false) ∧
    ((run 64 [.spawn [.cloneWaker, .ready], .tick 61, .xdrop, .wake 0, .hpoll 0 1, .wdrop 0]).get? 0).map
      (fun t => (t.deallocs, t.uaf, t.futDrops)) = some (1, 0, 1) := by decide

/-- `no_starvation` with `max_interval = 1`: three self-waking tasks, the one at position 2 is polled in
the third tick; and the theorem's hypotheses hold for it -/
example : let e := run 64 [.spawn [.wakeSelf, .wakeSelf, .wakeSelf], .spawn [.wakeSelf, .wakeSelf], .spawn [.ready]]
    e.hot[2]? = some 2 ∧ (tickN e 1 3).2 = [0, 1, 2] ∧ (tickN e 1 2).2 = [0, 1] := by decide

example : 2 ∈ (tickN (run 64 [.spawn [.wakeSelf, .wakeSelf, .wakeSelf], .spawn [.wakeSelf, .wakeSelf], .spawn [.ready]]) 1 3).2 :=
  no_starvation _ (run_inv _ _) 1 (by decide) 3 2 2 (by decide) ((liveIn_iff _ _).mpr (by decide)) (by decide)

/-- `JoinHandle::cancel` on a completed task returns its output; on a running one, `None` -/
example : (applyR (run 64 [.spawn [.ready], .tick 61]) (.hcancel 0)).2 = .cancel .ok ∧
    (applyR (run 64 [.spawn [.pending], .tick 61]) (.hcancel 0)).2 = .cancel .cancelled := by decide

/-- wake itself AND finish in the same poll (seeded defect C04-2a): task 0 is removed from the hot list it
had just re-entered; task 2, which wakes itself afterwards, is linked behind live tasks and polled again -/
example : let e := run 64 [.spawn [.wakeReady], .spawn [.pending], .spawn [.wakeSelf, .ready]]
    (applyR e (.tick 61)).2 = .polled [0, 1, 2] true ∧
    ((apply e (.tick 61)).hot, (apply e (.tick 61)).cold) = ([2], [1]) ∧
    (applyR (apply e (.tick 61)) (.tick 61)).2 = .polled [2] false ∧
    ((apply e (.tick 61)).get? 0).map (fun t => (t.polls, t.futDrops, t.word.completed)) = some (1, 1, true) := by decide

example : (applyR (run 64 [.spawn [.wakePanic], .hpoll 0 4]) (.tick 61)).2 = .polled [0] false ∧
    (run 64 [.spawn [.wakePanic], .hpoll 0 4, .tick 61]).woken = [4] ∧
    (applyR (run 64 [.spawn [.wakePanic], .hpoll 0 4, .tick 61]) (.hpoll 0 4)).2 = .join .panicked ∧
    ((run 64 [.spawn [.cloneReady], .tick 61, .hdrop 0, .wake 0, .wdrop 0]).get? 0).map
      (fun t => (t.deallocs, t.resDrops, t.uaf)) = some (1, 1, 0) := by decide

/-! ### cross-thread operations (the scenarios the seeded defects C04-a, C04-b, C04-c need) -/

/-- handle dropped on another thread while the task is parked: the id goes through the sync queue, the next
tick reaps the task (future dropped once, never polled again). With `set_cancelled` BEFORE `schedule` in
`Task::cancel` the id would never be pushed. -/
example : let e := run 64 [.spawn [.pending], .tick 61, .rhdrop 0]
    e.sync = [0] ∧ e.pending = 1 ∧ e.cold = [0] ∧
    (e.get? 0).map (fun t => (t.word.notCancelled, t.word.scheduled, t.futDrops)) = some (false, true, 0) ∧
    (applyR e (.tick 61)).2 = .polled [] false ∧
    ((apply e (.tick 61)).get? 0).map (fun t => (t.polls, t.futDrops, t.deallocs)) = some (1, 1, 1) := by decide

/-- `cancelled_reaped_within` applies to it: |hot| + |sync| = 1 ≤ 1 · 61 -/
example : inMap (tickN (run 64 [.spawn [.pending], .tick 61, .rhdrop 0]) 61 1).1 0 = false :=
  (cancelled_reaped_within 64 _ 61 (by decide) 1 0 ((cancelledIn_iff _ _).mpr (by decide)) (by decide)).1

/-- a task woken from another thread, polled, and woken again from another thread DURING that poll
(`W`): `Task::run` cleared SCHEDULED before the poll, so the second wake-up pushes the id again and the
task is polled by the following tick -/
example : (run 64 [.spawn [.cloneWaker, .remoteWake, .ready], .tick 61, .rwake 0]).sync = [0] ∧
    (applyR (run 64 [.spawn [.cloneWaker, .remoteWake, .ready], .tick 61, .rwake 0]) (.tick 61)).2 = .polled [0] false ∧
    (run 64 [.spawn [.cloneWaker, .remoteWake, .ready], .tick 61, .rwake 0, .tick 61]).sync = [0] ∧
    (applyR (run 64 [.spawn [.cloneWaker, .remoteWake, .ready], .tick 61, .rwake 0, .tick 61]) (.tick 61)).2
      = .polled [0] false ∧
    ((run 64 [.spawn [.cloneWaker, .remoteWake, .ready], .tick 61, .rwake 0, .tick 61, .tick 61]).get? 0).map
      (fun t => (t.polls, t.word.completed)) = some (3, true) := by decide

/-- `sync_queue_size = 1`: a second remote waker finds the queue full, calls the driver waker, the executor
ticks (drains task 0, `pending` 2 → 1: the reservation of the blocked pusher survives), the push succeeds,
and the next tick polls task 1 -/
example : let e := run 1 [.spawn [.cloneWaker, .pending, .ready], .spawn [.cloneWaker, .pending, .ready], .tick 61, .rwake 0]
    (e.sync, e.pending) = ([0], 1) ∧
    (applyR e (.rwakeb 1 61)).2 = .wokeB (some ([0], false)) ∧
    ((apply e (.rwakeb 1 61)).sync, (apply e (.rwakeb 1 61)).pending) = ([1], 1) ∧
    (applyR (apply e (.rwakeb 1 61)) (.tick 61)).2 = .polled [1] false ∧
    (applyR e (.rwake 1)).2 = .full := by decide

/-- coalescing: a second remote wake-up of an already SCHEDULED task pushes nothing -/
example : (run 64 [.spawn [.cloneWaker, .pending], .tick 61, .rwake 0, .rwake 0]).sync = [0] ∧
    (run 64 [.spawn [.cloneWaker, .pending], .tick 61, .rwake 0, .wake 0]).hot = [0] ∧
    (run 64 [.spawn [.cloneWaker, .pending], .tick 61, .rwake 0, .wake 0]).sync = [] := by decide

/-- the handle polled on another thread parks its waker; completion wakes it; the result is then taken remotely -/
example : (run 64 [.spawn [.pending, .ready], .rhpoll 0 5, .tick 61, .tick 61]).woken = [] ∧
    (run 64 [.spawn [.wakeSelf, .ready], .rhpoll 0 5, .tick 61, .tick 61]).woken = [5] ∧
    (applyR (run 64 [.spawn [.wakeSelf, .ready], .rhpoll 0 5, .tick 61, .tick 61]) (.rhpoll 0 6)).2 = .join .ok ∧
    (applyR (run 64 [.spawn [.ready], .tick 61]) (.rhcancel 0)).2 = .cancel .ok ∧
    (applyR (run 64 [.spawn [.pending], .tick 61]) (.rhcancel 0)).2 = .cancel .cancelled := by decide

/-! ## 6b. The queue as the code stores it: slot map + intrusive doubly linked lists (Model/QueueIntrusive.lean)

`QueueIntrusive.IQ` is queue.rs as coded (`Item{prev,next,is_hot}`, `hot`/`cold` `{head,tail}`, `link_tail`,
`unlink::<HOT|COLD>`, `make_hot`, `make_cold`, `insert`, `remove`, `next_hot`, `iter_hot`, `clear`, assignments in
source order — checked by `source_shape_queueLinkTailBody` / `…UnlinkBody` / `source_order_queue*`).
`Rep c hot cold`: both lists are proper doubly linked lists over live slots, disjoint, `is_hot` agrees with
membership, head/tail consistent, live slots = members (no dangling key); `WF c := ∃ hot cold, Rep c hot cold`;
`abs c` walks the `next` links. -/

section intrusive
open Compio.QueueIntrusive

/-- well-formedness spelled out -/
theorem intrusive_rep_iff (c : IQ) (hot cold : List Nat) :
    Rep c hot cold ↔
      (hot ++ cold).Nodup ∧ (∀ k, (∃ it, c.map[k]? = some (some it)) ↔ k ∈ hot ++ cold) ∧
      c.hotHead = hot.head? ∧ c.hotTail = hot.getLast? ∧ c.coldHead = cold.head? ∧ c.coldTail = cold.getLast? ∧
      (∀ k ∈ hot, c.map[k]? = some (some { prev := predIn hot k, next := succIn hot k, isHot := true })) ∧
      (∀ k ∈ cold, c.map[k]? = some (some { prev := predIn cold k, next := succIn cold k, isHot := false })) :=
  rep_iff

/-- a well-formed structure represents exactly one pair of lists, the one `abs` computes -/
theorem intrusive_abs_of_rep (c : IQ) (hot cold : List Nat) (h : Rep c hot cold) : abs c = (hot, cold) :=
  abs_of_rep h

/-- refinement, operation by operation: on a well-formed queue no `expect` fails, well-formedness is
preserved, and the abstraction commutes with the two-list specification the executor model uses
(`specMakeHot` = `Executor.makeHot`, `specMakeCold` = `Executor.makeCold`, `specRemove` = `Executor.removeTask`,
`specInsert` = the queue part of `Executor.spawn`) -/
theorem intrusive_makeHot_refines (c : IQ) (h : WF c) (k : Nat) :
    ∃ c', QueueIntrusive.makeHot c k = some c' ∧ WF c' ∧ abs c' = specMakeHot (abs c).1 (abs c).2 k := by
  obtain ⟨c', h1, r1, _⟩ := rep_makeHot h.rep k
  exact ⟨c', h1, ⟨_, _, r1⟩, abs_of_rep r1⟩

/-- `make_cold` within its `debug_assert`ed precondition (the key is not cold) -/
theorem intrusive_makeCold_refines (c : IQ) (h : WF c) (k : Nat) (hpre : k ∉ (abs c).2) :
    ∃ c', QueueIntrusive.makeCold c k = some c' ∧ WF c' ∧ abs c' = specMakeCold (abs c).1 (abs c).2 k := by
  obtain ⟨c', h1, r1, _⟩ := rep_makeCold h.rep k hpre
  exact ⟨c', h1, ⟨_, _, r1⟩, abs_of_rep r1⟩

theorem intrusive_insert_refines (c : IQ) (h : WF c) :
    ∃ c', QueueIntrusive.insert c = some (c', c.map.length) ∧ WF c' ∧
      abs c' = specInsert (abs c).1 (abs c).2 c.map.length ∧
      c.map.length ∉ (abs c).1 ∧ c.map.length ∉ (abs c).2 := by
  obtain ⟨c', h1, r1, f1, f2, _⟩ := rep_insert h.rep
  exact ⟨c', h1, ⟨_, _, r1⟩, abs_of_rep r1, f1, f2⟩

/-- `remove` unlinks the item from the list it IS in (hot or cold) — the obligation seeded defect C04-2a violates -/
theorem intrusive_remove_refines (c : IQ) (h : WF c) (k : Nat) :
    ∃ c' b, QueueIntrusive.remove c k = some (c', b) ∧ WF c' ∧ abs c' = specRemove (abs c).1 (abs c).2 k ∧
      (b = true ↔ (k ∈ (abs c).1 ∨ k ∈ (abs c).2)) := by
  obtain ⟨c', h1, r1, _⟩ := rep_remove h.rep k
  exact ⟨c', _, h1, ⟨_, _, r1⟩, abs_of_rep r1, by simp⟩

theorem intrusive_clear_refines (c : IQ) (h : WF c) : WF (QueueIntrusive.clear c) ∧ abs (QueueIntrusive.clear c) = ([], []) :=
  ⟨⟨_, _, (rep_clear h.rep).1⟩, abs_of_rep (rep_clear h.rep).1⟩

/-- `next_hot` is the successor in the abstract hot list (what `tickLoop` prefetches), `hot_head` its head, and
`iter_hot` on an unmodified queue yields the hot list -/
theorem intrusive_iteration_refines (c : IQ) (hot cold : List Nat) (h : Rep c hot cold) :
    (∀ k, k ∈ hot → QueueIntrusive.nextHot c k = Compio.Executor.nextHot hot k) ∧ c.hotHead = hot.head? ∧
    iterCollect (c.map.length + 1) c (iterHot c) = hot :=
  ⟨fun k hk => (nextHot_refines h hk).1, hotHead_refines h, iterHot_yields_hot h⟩

/-- SlotMap generations: a removed key is in neither list, misses in `get`, and every later operation on it
is a no-op -/
theorem intrusive_removed_key_unreachable (c : IQ) (h : WF c) (k : Nat) :
    ∃ c' b, QueueIntrusive.remove c k = some (c', b) ∧ WF c' ∧ k ∉ (abs c').1 ∧ k ∉ (abs c').2 ∧ c'.get k = none ∧
      QueueIntrusive.makeHot c' k = some c' ∧ QueueIntrusive.makeCold c' k = some c' ∧
      QueueIntrusive.nextHot c' k = none ∧ QueueIntrusive.remove c' k = some (c', false) := by
  have hr := h.rep
  obtain ⟨c', h1, r1, _⟩ := rep_remove hr k
  have n1 : k ∉ (abs c).1.erase k := fun e => ((hr.nodupH.mem_erase_iff).1 e).1 rfl
  have n2 : k ∉ (abs c).2.erase k := fun e => ((hr.nodupC.mem_erase_iff).1 e).1 rfl
  have hg : c'.get k = none := Rep.get_none r1 n1 n2
  exact ⟨c', _, h1, ⟨_, _, r1⟩, by rw [abs_of_rep r1]; exact n1, by rw [abs_of_rep r1]; exact n2, hg,
    makeHot_dead hg, makeCold_dead hg, nextHot_dead hg, remove_dead hg⟩

/-- every state reached from the empty queue by any sequence of insert / make_hot / make_cold (of a key that
is not cold) / remove / clear is well-formed and its abstraction is the fold of the specification -/
theorem intrusive_reachable_wf (ops : List QueueIntrusive.Op) (s : Spec) (hs : specRun Spec.init ops = some s) :
    ∃ c, runOps IQ.empty ops = some c ∧ WF c ∧ abs c = (s.hot, s.cold) ∧ c.map.length = s.next := by
  obtain ⟨c, e, m⟩ := sim_run sim_init hs
  exact ⟨c, e, ⟨_, _, m.1⟩, abs_of_rep m.1, m.2⟩

/-- TRANSFER: after EVERY program of the executor model the two lists `hot` / `cold` (about which all the
theorems above speak) are the abstraction of a well-formed intrusive queue, whose key counter is the number of
tasks spawned (`insert` returns the id the model gives the next task): obtained by replaying each `makeHot` /
`makeCold` / `removeTask` / `spawn` / `clearAll` / `drainSync` of the model as the coded `make_hot` / `make_cold` /
`remove` / `insert` / `clear` — concretely: REPLAYING the model's log of queue calls (`qlog`, what the driver does for
every `qdump` line, whose output is compared with the walk of the REAL lists through hook `Executor::verif_queue_dump`)
on the empty intrusive queue never panics and yields that structure, with the stored tails = last elements -/
theorem queue_is_abstraction_of_intrusive (q : Nat) (ops : List Compio.Executor.Op) :
    ∃ c : IQ, runOps IQ.empty (run q ops).qlog = some c ∧
      WF c ∧ abs c = ((run q ops).hot, (run q ops).cold) ∧ c.map.length = (run q ops).tasks.length ∧
      Rep c (run q ops).hot (run q ops).cold ∧
      c.hotTail = (run q ops).hot.getLast? ∧ c.coldTail = (run q ops).cold.getLast? := by
  obtain ⟨c, hq, r, l⟩ := qrep_run q ops
  have ri := rep_iff.mp r
  exact ⟨c, hq, ⟨_, _, r⟩, abs_of_rep r, l, r, ri.2.2.2.1, ri.2.2.2.2.2.1⟩

end intrusive

/-! ## 7. The join handle on ANOTHER thread (Compio/Model/RemoteJoin.lean)

One task, executor thread `E` and handle thread `H`; every transition is one atomic access to the task
word (through a function regenerated from task/state.rs) or one access to the waker slot / storage.
`Reachable pollRechecks s`: `s` is reached by SOME interleaving of `Remote::poll` AS EXTRACTED (`pollRechecks`
is computed from the shape of its `finish_setting_waker::<true>()` call sites in Gen/TaskOrder.lean: does each
re-examine the returned snapshot?) with `Task::run` / `Task::drop` / `Task::cancel` / `impl Drop for Task`
(`reachable_iff_trace`); the theorems hold for ALL of them and for all waker ids. `Reachable false` is the
program in which a site does not re-check (before fix e466077; seeded defect C04-2b). -/

section remote
open Compio.RemoteJoin

/-- the source re-checks after `finish_setting_waker::<true>()` at both sites, so the code as extracted is
the re-checking program of the LTS -/
theorem remote_poll_as_extracted : pollRechecks = true ∧ ∀ s, Reachable pollRechecks s ↔ Reachable true s :=
  ⟨pollRechecks_eq, reachable_extracted_iff⟩

/-- reachable states = end states of the event lists accepted by the LTS -/
theorem remote_reachable_iff_trace (fixed : Bool) (s : RState) :
    Reachable fixed s ↔ ∃ ls : List Label, Trace fixed RemoteJoin.init ls s := reachable_iff_trace

/-- (i) slot exclusivity: no two threads ever have the waker slot as the target of their next access -/
theorem remote_slot_exclusive (s : RState) (h : Reachable pollRechecks s) :
    ¬ (eAccessesSlot s = true ∧ hAccessesSlot s = true) := slot_exclusive (reachable_extracted h)

/-- (i) executor side: E touches the slot only after a snapshot with HAS_WAKER and without SETTING_WAKER,
while H is not comparing / writing / about to publish; the last holder touches it only when H is gone -/
theorem remote_slot_section_executor (s : RState) (h : Reachable pollRechecks s) (he : eAccessesSlot s = true) :
    (s.hpc ≠ .compare ∧ s.hpc ≠ .write ∧ s.hpc ≠ .finishTrue) ∧
    (s.epc = .wake ∨ s.epc = .dropSlot →
      TaskState.hasWaker s.esnap = true ∧ TaskState.isSettingWaker s.esnap = false) ∧
    (s.epc = .last → s.hpc = .done) := slot_section_executor (reachable_extracted h) he

/-- (i) handle side: H compares / writes the slot only inside its SETTING_WAKER section, and then E is
not at a slot access; the SETTING_WAKER bit is exactly "H is inside the section" -/
theorem remote_slot_section_handle (s : RState) (h : Reachable pollRechecks s) :
    (s.hpc = .compare ∨ s.hpc = .write → TaskState.isSettingWaker s.word = true ∧ eAccessesSlot s = false) ∧
    TaskState.isSettingWaker s.word = hInSection s :=
  ⟨fun hh => slot_section_handle (reachable_extracted h) hh, setting_waker_iff_in_section (reachable_extracted h)⟩

/-- the future/result storage is never accessed by both threads, and never in the wrong variant; the
slot is never read or dropped uninitialised -/
theorem remote_storage_exclusive (s : RState) (h : Reachable pollRechecks s) :
    ¬ (eAccessesStorage s = true ∧ hAccessesStorage s = true) ∧ s.bad = 0 :=
  ⟨storage_exclusive (reachable_extracted h), no_bad_access (reachable_extracted h)⟩

/-- (ii) DELIVERY (false before fix e466077: `Compio.Cex.C04.delivery_counterexample_unfixed`): whenever the
handle's last poll returned Pending with waker `w`, the task has completed and the executor is past
`Task::run`'s wake decision, `w` has been woken -/
theorem remote_delivery (s : RState) (h : Reachable pollRechecks s) (w : Nat) (hp : s.parked = some w)
    (hc : TaskState.isCompleted s.word = true) (he : ePastWake s = true) : w ∈ s.woken :=
  delivery (reachable_extracted h) w hp hc he

/-- while the handle is parked with `w` and the task is still running, `w` sits in the slot under
HAS_WAKER; and it is `w` that the executor's wake reads -/
theorem remote_parked_waker_in_slot (s : RState) (h : Reachable pollRechecks s) (w : Nat) (hp : s.parked = some w) :
    (TaskState.isCompleted s.word = false →
      (s.epc = .idle ∨ s.epc = .poll ∨ s.epc = .finishRunning ∨ s.epc = .wake ∨ s.epc = .setDropped) →
      s.slot = some w ∧ TaskState.hasWaker s.word = true ∧ TaskState.isSettingWaker s.word = false) ∧
    (s.epc = .wake → s.slot = some w) :=
  ⟨fun hc hd => pending_means_slot (reachable_extracted h) w hp hc hd, fun he => wake_reads_parked_waker (reachable_extracted h) w hp he⟩

/-- (iii) across threads: the output is taken xor dropped at most once, exactly once after deallocation
iff the task completed; the handle got `Ready(Some)` iff it took the output -/
theorem remote_result_once (s : RState) (h : Reachable pollRechecks s) :
    s.resTaken + s.resDrops ≤ 1 ∧
    (s.deallocs = 1 → (s.resTaken + s.resDrops = 1 ↔ TaskState.isCompleted s.word = true)) ∧
    (s.hret = some true ↔ s.resTaken = 1) ∧ (s.hret = some false → TaskState.isCancelled s.word = true) :=
  ⟨(result_once (reachable_extracted h)).1, (result_once (reachable_extracted h)).2, (join_result (reachable_extracted h)).1, (join_result (reachable_extracted h)).2⟩

/-- (iii) the future is polled only while it is there, dropped exactly once, ... -/
theorem remote_future_once (s : RState) (h : Reachable pollRechecks s) :
    s.futDrops ≤ 1 ∧ (s.epc = .dec ∨ s.epc = .last ∨ s.epc = .done → s.futDrops = 1) ∧
    (s.futDrops = 0 ↔ s.storage = .future) ∧
    (s.epc = .poll → s.storage = .future ∧ TaskState.isCompleted s.word = false) :=
  ⟨(future_once (reachable_extracted h)).1, (future_once (reachable_extracted h)).2.1, (future_once (reachable_extracted h)).2.2, fun hp => poll_only_future (reachable_extracted h) hp⟩

/-- ... and only by the executor thread: every transition that polls or drops the future is the
executor's, every transition that takes the output is the handle's (any program, any state) -/
theorem remote_future_on_home_thread (fixed : Bool) (s s' : RState) (l : Label) (hs : Step fixed s l s') :
    (s'.futDrops ≠ s.futDrops ∨ s'.polls ≠ s.polls → l.actor = .E) ∧
    (s'.resTaken ≠ s.resTaken → l.actor = .H) :=
  ⟨fun hne => future_dropped_by_executor_only hs hne, fun hne => result_taken_by_handle_only hs hne⟩

/-- (iii) deallocation exactly once, when both holders are done; the count is the number of holders;
nothing is accessed after the free -/
theorem remote_dealloc_once (s : RState) (h : Reachable pollRechecks s) :
    s.deallocs ≤ 1 ∧ (s.deallocs = 1 ↔ (s.epc = .done ∧ s.hpc = .done)) ∧ s.uaf = 0 ∧
    TaskState.count s.word = (if s.epc = .last ∨ s.epc = .done then 0 else 1) +
      (if s.hpc = .last ∨ s.hpc = .done then 0 else 1) :=
  ⟨(dealloc_once (reachable_extracted h)).1, (dealloc_once (reachable_extracted h)).2.1, (dealloc_once (reachable_extracted h)).2.2, count_is_holders (reachable_extracted h)⟩

/-- join-waker accounting across threads. The full statement "no waker is left in the slot when the
allocation is freed" is FALSE on the current code (finding F040,
`Compio.Cex.C04.waker_leak_counterexample`); what holds: -/
theorem remote_waker_accounting_partial (s : RState) (h : Reachable pollRechecks s) :
    s.slotSets = s.slotDrops + (if s.slot.isSome then 1 else 0) ∧
    (TaskState.hasWaker s.word = true → s.deallocs = 0 → s.slot.isSome = true) ∧
    (s.deallocs = 1 →
      (∀ w : Nat, s.slot = some w → s.eroute = .completed ∧ w ∈ s.woken) ∧
      (s.eroute ≠ .completed → s.slot = none ∧ s.slotSets = s.slotDrops)) :=
  ⟨waker_slot_accounting (reachable_extracted h), (waker_flag_slot (reachable_extracted h)).1, fun hd => slot_dropped_at_dealloc_partial (reachable_extracted h) hd⟩

end remote

end Compio.Props.C04
