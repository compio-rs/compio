/-
C09 — timers never fire early and always fire.

Theorems about the model of compio-runtime's timer wheel, `Sleep`, `Timeout` and `Interval`
(Model/Timer.lean), for every wheel and every sequence `ops : List Op` of insert / update_waker /
cancel / wake / poll_timer calls with the clock advancing by arbitrary amounts between any two calls
(`Op.advance`; the only assumption on time is that it never goes back). Also `Runtime::poll_with` over its extracted
statement list (section 3) and `Interval::tick` as a coroutine whose futures may be dropped (section 8).
-/
import Compio.Lemmas.Timer

namespace Compio.Props.C09
open Compio Compio.Timer

/-! ## 1. The map invariant: sorted, unique keys, fresh generations -/

/-- The keys stay strictly sorted under every operation sequence, even across a panicking insert. -/
theorem wheel_sorted_preserved (s : World) (ops : List Op) (h : Sorted s.wheel.entries) :
    Sorted (run s ops).wheel.entries :=
  run_induct h fun t op _ => step_sorted t op

theorem wheel_wf_preserved (s : World) (ops : List Op) (h : WF s.wheel)
    (hnp : Out.ins .panic ∉ outs s ops) : WF (run s ops).wheel := by
  induction ops generalizing s with
  | nil => exact h
  | cons op rest ih =>
    simp only [outs, List.mem_cons, not_or] at hnp
    exact ih _ (step_wf s op h (fun e => hnp.1 e.symm)) hnp.2

theorem new_wheel_wf : WF Wheel.new := WF.new

theorem wheel_keys_unique (w : Wheel) (h : Sorted w.entries) : (keys w.entries).Nodup := h.nodup

/-- Keys are never reused, so a stale key (a `Drop` after completion, a late `update_waker`) can
never hit somebody else's timer. -/
theorem issued_keys_fresh (s : World) (ops : List Op) :
    (issued (outs s ops)).Pairwise (fun a b => a.gen < b.gen) ∧
      ∀ k ∈ issued (outs s ops), s.wheel.gen ≤ k.gen := by
  induction ops generalizing s with
  | nil => simp [outs, issued]
  | cons op rest ih =>
    have ⟨ih1, ih2⟩ := ih (step s op).1
    have hrest : ∀ k ∈ issued (outs (step s op).1 rest), s.wheel.gen ≤ k.gen :=
      fun k hk => Nat.le_trans (step_gen_le s op) (ih2 k hk)
    unfold outs
    cases ho : (step s op).2 with
    | ins r =>
      cases r with
      | some k =>
        -- the key handed out has the old counter, all later ones are at or above the new one
        have ⟨hk, hg⟩ := step_issued ho
        refine ⟨List.pairwise_cons.mpr ⟨fun k' hk' => ?_, ih1⟩, fun k' hk' => ?_⟩
        · have := ih2 k' hk'
          omega
        · rcases List.mem_cons.mp hk' with rfl | hk'
          · exact Nat.le_of_eq hk.symm
          · exact hrest k' hk'
      | _ => exact ⟨ih1, hrest⟩
    | _ => exact ⟨ih1, hrest⟩

/-! ## 2. Never early -/

theorem wake_never_early (w : Wheel) (now : Nat) (e : Entry) (h : e ∈ (wake w now).2) :
    e.1.deadline ≤ now := by
  have := ((mem_wake_expired w now e).mp h).2
  rw [lt_splitKey_iff] at this
  omega

theorem woken_never_early (w : Wheel) (now : Nat) (wk : Nat) (h : wk ∈ woken (wake w now).2) :
    ∃ k, (k, some wk) ∈ w.entries ∧ k.deadline ≤ now := by
  obtain ⟨⟨k, v⟩, he, rfl⟩ := List.mem_filterMap.mp h
  exact ⟨k, ((mem_wake_expired w now _).mp he).1, wake_never_early w now _ he⟩

/-- **Never early**, for whole runs: a key leaves the wheel only by its own `cancel` or once its
deadline has been reached. -/
theorem never_early (s : World) (ops : List Op) (k : Key)
    (hin : k ∈ keys s.wheel.entries) (hnc : Op.cancel k ∉ ops)
    (hout : k ∉ keys (run s ops).wheel.entries) : k.deadline ≤ (run s ops).now :=
  (inv_run s ops k (Or.inl hin) hnc).resolve_left hout

/-- never early for the future: `Sleep::poll` answers ready iff `sleepDone` (`Sleep.poll_ready`) -/
theorem sleep_never_early (w w' : Wheel) (now d : Nat) (slp : Sleep) (ops : List Op)
    (hnew : Sleep.new w now d = (w', some slp))
    (hnc : ∀ k, slp.key = some k → Op.cancel k ∉ ops)
    (hready : sleepDone (run ⟨now, w'⟩ ops).wheel slp = true) :
    d ≤ (run ⟨now, w'⟩ ops).now := by
  rcases Sleep.new_some hnew with ⟨_, hd⟩ | ⟨k, hk, rfl, hin⟩
  · exact Nat.le_trans hd (run_now_le ⟨now, w'⟩ ops)
  · simp only [sleepDone, hk, isCompleted_iff] at hready
    exact never_early ⟨now, w'⟩ ops k hin (hnc k hk) hready

/-! ## 3. Always fires -/

/-- without `WF` (an insert has panicked) a due key can stay behind:
`Cex.C09.generation_overflow_counterexample` -/
theorem wake_fires_all_due (w : Wheel) (now : Nat) (h : WF w) (k : Key)
    (hk : k ∈ keys (wake w now).1.entries) : now < k.deadline :=
  wake_pending hk (Nat.lt_of_lt_of_le (h.fresh k ((mem_keys_wake w now k).mp hk).1) h.bound)

theorem wake_expired_exact (w : Wheel) (now : Nat) (h : WF w) (e : Entry) :
    e ∈ (wake w now).2 ↔ e ∈ w.entries ∧ e.1.deadline ≤ now := by
  rw [mem_wake_expired, lt_splitKey_iff]
  constructor
  · rintro ⟨h1, h2⟩
    exact ⟨h1, by omega⟩
  · rintro ⟨h1, h2⟩
    have := h.fresh e.1 (mem_keys_of_mem h1)
    have := h.bound
    exact ⟨h1, by omega⟩

/-- `wake` loses and duplicates nothing and keeps the order -/
theorem wake_splits (w : Wheel) (now : Nat) (h : Sorted w.entries) :
    (wake w now).2 ++ (wake w now).1.entries = w.entries := by
  rw [wake_eq]
  -- the expired keys are those below the split point, a downward-closed set
  simpa using filter_split_sorted (fun e => decide (e.1.lt (splitKey now))) w.entries h
    fun a b hab hb => by
      simp only [decide_eq_true_eq] at *
      exact Key.lt_trans hab hb

theorem wake_wakes (w : Wheel) (now : Nat) (h : WF w) (k : Key) (wk : Nat)
    (hin : (k, some wk) ∈ w.entries) (hdue : k.deadline ≤ now) : wk ∈ woken (wake w now).2 :=
  List.mem_filterMap.mpr ⟨(k, some wk), (wake_expired_exact w now h _).mpr ⟨hin, hdue⟩, rfl⟩

/-- **Always fires**, for whole runs. `WF` is not needed: a counter within `u64` (which it stays
whether or not an `insert` panics) puts every issued generation below `u64::MAX`, and that is all
`wake` needs to take a due key; once out, an issued key does not come back. -/
theorem always_fires (s : World) (pre post : List Op) (k : Key) (hb : s.wheel.gen ≤ u64Max)
    (hissued : k.gen < s.wheel.gen) (hdue : k.deadline ≤ (run s pre).now) :
    k ∉ keys (run s (pre ++ Op.wake :: post)).wheel.entries := by
  rw [run_append]
  have hg : k.gen < (run s pre).wheel.gen := Nat.lt_of_lt_of_le hissued (run_gen_le s pre)
  refine absent_run _ post k (fun hk => ?_) (Nat.lt_of_lt_of_le hg (step_gen_le _ _))
  have : (run s pre).now < k.deadline :=
    wake_pending hk (Nat.lt_of_lt_of_le hg (run_bound s pre hb))
  omega

/-- … so every later poll of the corresponding `Sleep` is ready -/
theorem sleep_always_fires (s : World) (pre post : List Op) (slp : Sleep) (wk : Nat)
    (hwf : WF s.wheel) (hnp : Out.ins .panic ∉ outs s pre)
    (hissued : ∀ k, slp.key = some k → k.gen < s.wheel.gen ∧ k.deadline ≤ (run s pre).now) :
    (Sleep.poll (run s (pre ++ Op.wake :: post)).wheel slp wk).2 = true := by
  rw [Sleep.poll_ready]
  unfold sleepDone
  cases hk : slp.key with
  | none => rfl
  | some k =>
    exact (isCompleted_iff ..).mpr (always_fires s pre post k hwf.bound (hissued k hk).1 (hissued k hk).2)

/-! ### `poll_with`: no starvation, whatever the driver reports

The statement list of `Runtime::poll_with` is regenerated from the source (extractor target
`PollWith`); `pollWith` interprets it with the outcome of the driver poll as a free parameter. -/

/-- `poll_with` panics exactly on an unexpected driver error … -/
theorem poll_with_panics_iff (w : Wheel) (now : Nat) (o : PollOutcome) :
    pollWith w now o = none ↔ o = .otherError := by
  rw [pollWith_eq_wake]
  split <;> simp [*]

/-- … and after every other return every due timer is out of the wheel, its waker invoked — also
when the driver poll returned `Ok(())` because completions or wake-ups kept coming: a runtime that
never idles in the driver cannot starve its timers. -/
theorem poll_with_sweeps (w w' : Wheel) (now : Nat) (o : PollOutcome) (ex : List Entry) (hwf : WF w)
    (h : pollWith w now o = some (w', ex)) :
    (∀ k ∈ keys w'.entries, now < k.deadline) ∧
      (∀ e, e ∈ ex ↔ e ∈ w.entries ∧ e.1.deadline ≤ now) ∧
      (∀ k wk, (k, some wk) ∈ w.entries → k.deadline ≤ now → wk ∈ woken ex) ∧ WF w' := by
  obtain ⟨rfl, rfl⟩ := pollWith_some h
  exact ⟨fun k hk => wake_fires_all_due w now hwf k hk, fun e => wake_expired_exact w now hwf e,
    fun k wk hin hdue => wake_wakes w now hwf k wk hin hdue, hwf.wake now⟩

/-- `always_fires` with any returning `poll_with` in place of the `wake` -/
theorem poll_with_always_fires (s : World) (pre post : List Op) (k : Key) (o : PollOutcome)
    (w' : Wheel) (ex : List Entry) (hb : s.wheel.gen ≤ u64Max) (hissued : k.gen < s.wheel.gen)
    (hdue : k.deadline ≤ (run s pre).now)
    (h : pollWith (run s pre).wheel (run s pre).now o = some (w', ex)) :
    k ∉ keys (run ⟨(run s pre).now, w'⟩ post).wheel.entries := by
  rw [(pollWith_some h).1]
  have := always_fires s pre post k hb hissued hdue
  rwa [run_append] at this

/-! ## 4. `min_timeout`: an idle runtime sleeps no longer than the nearest deadline -/

theorem min_timeout_none_iff (w : Wheel) (now : Nat) : minTimeout w now = none ↔ w.entries = [] := by
  unfold minTimeout
  cases w.entries with
  | nil => simp
  | cons e rest => obtain ⟨k, v⟩ := e; simp

theorem min_timeout_le (w : Wheel) (now t : Nat) (hs : Sorted w.entries)
    (h : minTimeout w now = some t) : ∀ k ∈ keys w.entries, t ≤ k.deadline - now := by
  obtain ⟨k0, v, rest, he, rfl⟩ := minTimeout_some h
  rw [he] at hs ⊢
  intro k hk
  rcases List.mem_cons.mp hk with rfl | hk
  · exact Nat.le_refl _
  · exact Nat.sub_le_sub_right (Key.lt_deadline_le ((sorted_cons.mp hs).1 k hk)) now

/-- the runtime does not wake up needlessly early either -/
theorem min_timeout_attained (w : Wheel) (now t : Nat) (h : minTimeout w now = some t) :
    ∃ k ∈ keys w.entries, t = k.deadline - now := by
  obtain ⟨k0, v, rest, he, rfl⟩ := minTimeout_some h
  exact ⟨k0, he ▸ List.mem_cons_self, rfl⟩

theorem min_timeout_zero_iff (w : Wheel) (now : Nat) (hs : Sorted w.entries) :
    minTimeout w now = some 0 ↔ ∃ k ∈ keys w.entries, k.deadline ≤ now := by
  constructor
  · intro h
    obtain ⟨k, hk, ht⟩ := min_timeout_attained w now 0 h
    exact ⟨k, hk, by omega⟩
  · rintro ⟨k, hk, hdue⟩
    cases hm : minTimeout w now with
    | none =>
      rw [(min_timeout_none_iff w now).mp hm] at hk
      cases hk
    | some t =>
      have := min_timeout_le w now t hs hm k hk
      congr
      omega

/-- The loop of `block_on` / `poll`: having slept (at least) the announced timeout, the following
`wake` does expire a timer — the nearest deadline is not overslept and the loop does not spin. -/
theorem idle_loop_progress (w : Wheel) (now now' t : Nat) (hwf : WF w)
    (h : minTimeout w now = some t) (hslept : now + t ≤ now') : (wake w now').2 ≠ [] := by
  obtain ⟨k, hk, ht⟩ := min_timeout_attained w now t h
  obtain ⟨v, hv⟩ := mem_keys.mp hk
  have : (k, v) ∈ (wake w now').2 := (wake_expired_exact w now' hwf _).mpr ⟨hv, by simp only []; omega⟩
  exact List.ne_nil_of_mem this

/-! ## 5. `cancel` (the `Drop` of a timer future) removes exactly its key -/

theorem cancel_exact (w : Wheel) (k : Key) (e : Entry) :
    e ∈ (cancel w k).entries ↔ e ∈ w.entries ∧ e.1 ≠ k := mem_cancel w k e

theorem cancel_completes (w : Wheel) (k : Key) : isCompleted (cancel w k) k = true := by
  rw [isCompleted_iff, mem_keys_cancel]
  exact fun h => h.2 rfl

/-- a `Drop` after completion, a double drop -/
theorem cancel_stale_noop (w : Wheel) (k : Key) (h : k ∉ keys w.entries) : cancel w k = w := by
  unfold cancel
  rw [List.filter_eq_self.mpr]
  exact fun e he => decide_eq_true fun hek : e.1 = k => h (hek ▸ mem_keys_of_mem he)

theorem cancel_wf (w : Wheel) (k : Key) (h : WF w) : WF (cancel w k) := h.cancel k

/-- **A dropped timer leaves nothing behind**, and its key never comes back. -/
theorem sleep_drop_leaves_nothing (now : Nat) (w : Wheel) (slp : Sleep) (k : Key) (ops : List Op)
    (hk : slp.key = some k) (hissued : k.gen < w.gen) :
    k ∉ keys (run ⟨now, Sleep.drop w slp⟩ ops).wheel.entries ∧
      ∀ e, e ∈ (Sleep.drop w slp).entries ↔ e ∈ w.entries ∧ e.1 ≠ k := by
  unfold Sleep.drop
  rw [hk]
  exact ⟨absent_run _ ops k (fun h => ((mem_keys_cancel ..).mp h).2 rfl) hissued, mem_cancel w k⟩

/-- `update_waker` touches the slot of `k` only (when `will_wake` holds the old clone stays: it has
the same identifier) -/
theorem update_waker_exact (w : Wheel) (k : Key) (wk : Nat) :
    (∀ k', k' ≠ k → lookup k' (updateWaker w k wk).entries = lookup k' w.entries) ∧
      (k ∈ keys w.entries → lookup k (updateWaker w k wk).entries = some (some wk)) ∧
      (k ∉ keys w.entries → updateWaker w k wk = w) := by
  rw [updateWaker_eq]
  exact ⟨fun k' hne => lookup_setValue_ne _ _ _ _ hne, lookup_setValue_self _ _ _,
    fun hout => by rw [setValue_eq_self _ _ _ (Or.inl ((lookup_none_iff ..).mpr hout))]⟩

/-! ## 6. `insert` -/

/-- a deadline that has been reached is not registered: the future is ready at once -/
theorem insert_due_not_registered (w : Wheel) (now d : Nat) (h : d ≤ now) :
    insert w now d = (w, .none) := insert_due w now d h

theorem insert_future_registers (w : Wheel) (now d : Nat) (hwf : WF w) (h : now < d)
    (hg : w.gen < u64Max) :
    (insert w now d).2 = .some ⟨d, w.gen⟩ ∧
      (⟨d, w.gen⟩ : Key) ∉ keys w.entries ∧
      (∀ e : Entry, e ∈ (insert w now d).1.entries ↔ e = (⟨d, w.gen⟩, none) ∨ e ∈ w.entries) ∧
      isCompleted (insert w now d).1 ⟨d, w.gen⟩ = false := by
  have hfresh : (⟨d, w.gen⟩ : Key) ∉ keys w.entries := fun hk => Nat.lt_irrefl _ (hwf.fresh _ hk)
  rw [insert_ok w now d h hg]
  exact ⟨rfl, hfresh, fun e => mem_insertEntry_of_fresh _ _ _ e hfresh,
    (isCompleted_false_iff ..).mpr ((mem_keys_insertEntry ..).mpr (Or.inl rfl))⟩

/-- `sleep(duration)` / `timeout(duration, _)` / `interval(period)`: the deadline is `now + duration`;
the only panic is the documented overflow of `Instant + Duration` -/
theorem duration_deadline (now dur : Nat) :
    (deadlineAfter now dur = none ↔ instMax < now + dur) ∧
      (∀ d, deadlineAfter now dur = some d → d = now + dur) := by
  unfold deadlineAfter
  split <;> simp_all <;> omega

theorem insert_panics_iff (w : Wheel) (now d : Nat) (hb : w.gen ≤ u64Max) :
    (insert w now d).2 = .panic ↔ now < d ∧ w.gen = u64Max := by
  by_cases hd : d ≤ now
  · rw [insert_due w now d hd]; simp; omega
  · by_cases hg : w.gen < u64Max
    · rw [insert_ok w now d (by omega) hg]; simp; omega
    · rw [insert_panic w now d (by omega) (by omega)]; simp; omega

/-! ## 7. `Timeout` -/

/-- one poll: the inner future is polled first and wins ties -/
theorem timeout_poll (w : Wheel) (s : Sleep) (inner : Bool) (wk : Nat) :
    (Timeout.poll w s inner wk).2 =
      if inner then .ok else if sleepDone w s then .elapsed else .pending := by
  rw [Timeout.poll_eq]
  cases inner <;> rfl

theorem timeout_inner_wins_tie (w : Wheel) (s : Sleep) (wk : Nat) :
    Timeout.poll w s true wk = (w, .ok) := by simp [Timeout.poll]

/-- `Ok(inner)` exactly when the inner future was ready at a poll not later than the first poll at
which the sleep was found expired. (`rounds` = what the rest of the program did to the wheel between
the polls, arbitrary.) -/
theorem timeout_ok_iff (s : World) (slp : Sleep) (wk : Nat) (rounds : List (List Op × Bool)) :
    (Timeout.drive s slp wk rounds).2 = .ok ↔
      ∃ i ops, rounds[i]? = some (ops, true) ∧ PendingBefore s slp wk rounds i := by
  rw [Timeout.drive_eq_iff _ _ _ _ _ (by simp)]
  constructor
  · rintro ⟨i, ops, b, hi, hp, hr⟩
    cases b
    · simp only [Timeout.poll_eq, Bool.false_eq_true, if_false] at hr
      split at hr <;> cases hr
    · exact ⟨i, ops, hi, hp⟩
  · rintro ⟨i, ops, hi, hp⟩
    exact ⟨i, ops, true, hi, hp, by rw [Timeout.poll_eq]; rfl⟩

theorem timeout_elapsed_iff (s : World) (slp : Sleep) (wk : Nat) (rounds : List (List Op × Bool)) :
    (Timeout.drive s slp wk rounds).2 = .elapsed ↔
      ∃ i ops, rounds[i]? = some (ops, false) ∧
        sleepDone (worldAt s slp wk rounds i).wheel slp = true ∧ PendingBefore s slp wk rounds i := by
  rw [Timeout.drive_eq_iff _ _ _ _ _ (by simp)]
  constructor
  · rintro ⟨i, ops, b, hi, hp, hr⟩
    rw [Timeout.poll_eq] at hr
    cases b
    · exact ⟨i, ops, hi, by simpa using hr, hp⟩
    · cases hr
  · rintro ⟨i, ops, hi, hd, hp⟩
    exact ⟨i, ops, false, hi, hp, by rw [Timeout.poll_eq]; simp [hd]⟩

theorem timeout_elapsed_never_early (w w' : Wheel) (now d : Nat) (slp : Sleep) (wk : Nat)
    (rounds : List (List Op × Bool))
    (hnew : Sleep.new w now d = (w', some slp))
    (hnc : ∀ k, slp.key = some k → ∀ r ∈ rounds, Op.cancel k ∉ r.1)
    (hres : (Timeout.drive ⟨now, w'⟩ slp wk rounds).2 = .elapsed) :
    d ≤ (Timeout.drive ⟨now, w'⟩ slp wk rounds).1.now := by
  have hdone := Timeout.drive_elapsed_done _ _ _ _ hres
  rcases Sleep.new_some hnew with ⟨_, hd⟩ | ⟨k, hk, rfl, hin⟩
  · exact Nat.le_trans hd (Timeout.drive_now_le ⟨now, w'⟩ slp wk rounds)
  · simp only [sleepDone, hk, isCompleted_iff] at hdone
    exact (Timeout.drive_inv k ⟨now, w'⟩ slp wk rounds (Or.inl hin) (hnc k hk)).resolve_left hdone

/-- **The inner future wins whenever it is not later**: the inner future is a sleep with key `ka`,
the limit a sleep with key `kb`, `ka.deadline ≤ kb.deadline` (equal deadlines included). Whenever
the limit's sleep is found expired the inner sleep is expired too, and `Timeout::poll` polls the
inner future first. -/
theorem timeout_inner_not_later (s : World) (ops : List Op) (ka kb : Key) (wk : Nat)
    (hwf : WF s.wheel) (hnp : Out.ins .panic ∉ outs s ops)
    (hd : ka.deadline ≤ kb.deadline) (hga : ka.gen < s.wheel.gen)
    (hreg : kb ∈ keys s.wheel.entries) (hc : Op.cancel kb ∉ ops) :
    (Timeout.poll (run s ops).wheel ⟨some kb⟩
      (sleepDone (run s ops).wheel ⟨some ka⟩) wk).2 ≠ .elapsed := by
  have hb := before_run s ops ka kb hd hga hwf.bound (fun h => absurd hreg h) hc
  rw [Timeout.poll_eq]
  cases hin : sleepDone (run s ops).wheel ⟨some ka⟩ with
  | true => simp
  | false =>
    cases hl : sleepDone (run s ops).wheel ⟨some kb⟩ with
    | false => simp
    | true => exact absurd ((isCompleted_false_iff ..).mp hin) (hb ((isCompleted_iff ..).mp hl))

/-! ## 8. `Interval` -/

theorem interval_first_tick (start period now : Nat) (iv : Interval)
    (h : intervalAt start period = some iv) : iv.tickDeadline now = .deadline start := by
  unfold intervalAt at h
  split at h
  · simp at h
  · simp only [Option.some.injEq] at h
    subst h
    rfl

theorem interval_zero_period_panics (start : Nat) : intervalAt start 0 = none := rfl

/-- **Ticks stay aligned**: missed ticks are skipped, not accumulated. `hs` is what *never early*
guarantees once the first tick has completed.
Guards, both explicit in the model: the period is at most `2^64` ns (≈ 584.5 years; beyond, see
`Cex.C09.interval_truncation_counterexample`) and `now + period` is a representable `Instant`. -/
theorem interval_next_aligned (iv : Interval) (now : Nat) (hf : iv.firstTicked = true)
    (hp : 0 < iv.period) (hp64 : iv.period ≤ 2 ^ 64) (hs : iv.start ≤ now)
    (hmax : now + iv.period ≤ instMax) :
    ∃ next, iv.tickDeadline now = .deadline next ∧
      (next - iv.start) % iv.period = 0 ∧ iv.start ≤ next ∧
      now < next ∧ next ≤ now + iv.period := by
  have ⟨_, hlo, hhi⟩ := next_multiple (now - iv.start) iv.period hp
  refine ⟨_, by rw [tickDeadline_periodic iv now hf hp hp64 hs, if_neg (Nat.not_lt.mpr hmax)], ?_,
    Nat.le_add_right _ _, ?_⟩
  · rw [Nat.add_sub_cancel_left]
    exact Nat.mul_mod_left _ _
  · omega

theorem interval_ticks_aligned (start period : Nat) (iv : Interval)
    (h : intervalAt start period = some iv) (hp64 : period ≤ 2 ^ 64) :
    (∀ now, iv.tickDeadline now = .deadline start) ∧
      (∀ now, start ≤ now → now + period ≤ instMax →
        ∃ k, 1 ≤ k ∧ iv.ticked.tickDeadline now = .deadline (start + k * period)) := by
  refine ⟨fun now => interval_first_tick start period now iv h, fun now hs hmax => ?_⟩
  unfold intervalAt at h
  split at h
  · cases h
  · next hp =>
    cases Option.some.inj h
    refine ⟨(now - start) / period + 1, Nat.le_add_left _ _, ?_⟩
    rw [tickDeadline_periodic _ now rfl (Nat.pos_of_ne_zero hp) hp64 hs]
    exact if_neg (Nat.not_lt.mpr hmax)

/-! ### `tick()` futures that are cancelled

The statement order of `Interval::tick` is regenerated from the source (extractor target
`IntervalTick`); the theorems below are about `Interval.runTicks`, which interprets it, for every
sequence of `tick()` calls each of which is either awaited to completion or dropped while pending. -/

/-- **Alignment under cancellation**: dropping `tick()` futures while pending does not move the grid. -/
theorem interval_coroutine_aligned (iv : Interval) (floor : Nat) (calls : List (Nat × TickEv))
    (hp : 0 < iv.period) (hp64 : iv.period ≤ 2 ^ 64)
    (hJ : iv.firstTicked = true → iv.start ≤ floor) (hv : iv.ValidCalls floor calls) :
    ∀ v ∈ (iv.runTicks calls).2, iv.start ≤ v ∧ (v - iv.start) % iv.period = 0 := by
  induction calls generalizing iv floor with
  | nil => simp [Interval.runTicks]
  | cons c rest ih =>
    obtain ⟨now, ev⟩ := c
    obtain ⟨hfl, hv⟩ := hv
    have hs : iv.firstTicked = true → iv.start ≤ now := fun hf => Nat.le_trans (hJ hf) hfl
    unfold Interval.runTicks
    cases hb : iv.tickBegin now with
    | none => simp
    | some x =>
      obtain ⟨iv1, fut, d⟩ := x
      obtain ⟨rfl, he, hsd, hal⟩ := tickBegin_aligned iv now hp hp64 hs hb
      rw [hb] at hv
      cases ev with
      | cancel => exact ih iv1 now hp hp64 hs hv
      | complete =>
        simp only [he] at hv ⊢
        intro v hvm
        rcases List.mem_cons.mp hvm with rfl | hvm
        · exact ⟨hsd, hal⟩
        · exact ih { iv1 with firstTicked := true } (max now d) hp hp64
            (fun _ => Nat.le_trans hsd (Nat.le_max_right _ _)) hv v hvm

/-- the tick at `start` is not lost by dropping `tick()` futures before it completes -/
theorem interval_coroutine_first_is_start (iv : Interval) (calls : List (Nat × TickEv))
    (hf : iv.firstTicked = false) :
    (iv.runTicks calls).2 = [] ∨ (iv.runTicks calls).2.head? = some iv.start := by
  induction calls with
  | nil => simp [Interval.runTicks]
  | cons c rest ih =>
    obtain ⟨now, ev⟩ := c
    simp only [Interval.runTicks, tickBegin_first iv now hf]
    cases ev with
    | cancel => exact ih
    | complete => simp [tickEnd_first]

theorem interval_cancel_is_noop (iv : Interval) (now : Nat) (calls : List (Nat × TickEv)) :
    iv.runTicks ((now, .cancel) :: calls) = iv.runTicks calls ∨ iv.tickBegin now = none := by
  cases hf : iv.firstTicked with
  | false => left; simp [Interval.runTicks, tickBegin_first iv now hf]
  | true =>
    have hb := tickBegin_periodic iv now hf
    cases hd : iv.tickDeadline now with
    | panic => right; rw [hb, hd]
    | deadline d => left; rw [hd] at hb; simp [Interval.runTicks, hb]

theorem interval_tick_panics_iff (iv : Interval) (now : Nat) (hf : iv.firstTicked = true)
    (hp : 0 < iv.period) : iv.tickDeadline now = .panic ↔ instMax < now + iv.period := by
  have hp0 : iv.period ≠ 0 := by omega
  simp only [Interval.tickDeadline, hf, hp0, Bool.not_true, Bool.false_eq_true, if_false]
  split <;> simp_all

/-- three timers, two with the same deadline; cancel one, wake at the common deadline -/
example :
    let s0 : World := ⟨10, Wheel.new⟩
    let s := run s0 [.insert 15, .insert 12, .insert 15, .insert 7, .updateWaker ⟨15, 0⟩ 3,
      .cancel ⟨12, 1⟩, .advance 5, .wake]
    WF s.wheel ∧ s.now = 15 ∧ keys s.wheel.entries = [] ∧
      outs s0 [.insert 15, .insert 12, .insert 15, .insert 7, .updateWaker ⟨15, 0⟩ 3,
        .cancel ⟨12, 1⟩, .advance 5, .wake] =
      [.ins (.some ⟨15, 0⟩), .ins (.some ⟨12, 1⟩), .ins (.some ⟨15, 2⟩), .ins .none, .unit, .unit,
        .unit, .fired [(⟨15, 0⟩, some 3), (⟨15, 2⟩, none)]] := by
  refine ⟨?_, by decide, by decide, by decide⟩
  exact wheel_wf_preserved _ _ WF.new (by decide)

example : (⟨12, 0⟩ : Key) ∉ keys (run ⟨10, ⟨1, [(⟨12, 0⟩, none)]⟩⟩
    ([.insert 20, .advance 3] ++ Op.wake :: [.insert 30])).wheel.entries := by
  apply always_fires
  · simp [u64Max]
  · decide
  · decide

/-- a timeout whose inner future becomes ready at the third poll, the sleep not yet expired -/
example :
    (Timeout.drive ⟨0, ⟨1, [(⟨50, 0⟩, none)]⟩⟩ ⟨some ⟨50, 0⟩⟩ 7
      [([.advance 10, .wake], false), ([.advance 10, .wake], false), ([.advance 10, .wake], true)]).2 = .ok := by
  decide

/-- … and one that elapses: inner pending, the wake at 50 expires the key -/
example :
    (Timeout.drive ⟨0, ⟨1, [(⟨50, 0⟩, none)]⟩⟩ ⟨some ⟨50, 0⟩⟩ 7
      [([.advance 10, .wake], false), ([.advance 40, .wake], false), ([.advance 10, .wake], true)]) =
      (⟨50, ⟨1, []⟩⟩, .elapsed) := by
  decide

/-- the missed ticks 120, 140, 160 are skipped -/
example : (Interval.mk true 100 20).tickDeadline 171 = .deadline 180 := by decide

/-- first tick cancelled twice before `start`, then delivered; a periodic tick cancelled; all aligned -/
example :
    let iv : Interval := ⟨false, 100, 20⟩
    let calls : List (Nat × TickEv) :=
      [(10, .cancel), (50, .cancel), (60, .complete), (105, .cancel), (131, .complete), (140, .complete)]
    iv.ValidCalls 0 calls ∧ (iv.runTicks calls).2 = [100, 140, 160] := by
  refine ⟨?_, by decide⟩
  simp [Interval.ValidCalls, tickBegin_first, tickBegin_periodic, tickEnd_first, tickEnd_periodic,
    Interval.tickDeadline, instMax]

end Compio.Props.C09
