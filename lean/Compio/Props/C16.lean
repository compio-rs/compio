/-
C16 — QUIC streams and datagrams: ordered, exactly-once, never stranded  (PARTIAL: quinn-proto is the protocol).

What is proved here is compio-quic's OWN logic, over the tables regenerated from the sources
(`Compio.Gen.QuicWakers`) and the executable model `Compio.Model.QuicWakers` which the driver `c16d` runs:
decision tables (closed by computation, they break when the source changes); the waker state machine, for ALL
states / ALL operation sequences; the chunk loops, for ALL chunk sizes and ALL flow-control answer schedules.
Last section: the endpoint level (`Compio.Gen.QuicEndpoint`, `Compio.Model.QuicEndpoint`): `Endpoint::close` itself
wakes every `wait_incoming()` waiter, and on a closed endpoint, after any history, nobody is parked and every
registered connection has been told to close.

NOT proved (assumption A-E2, tied by the loopback harness only): that quinn-proto delivers stream bytes in order
exactly once under loss/flow control and emits the events of `unblocks`.
The one-task-per-slot discipline is violated by `Connection::accepted_0rtt` (F160); `Connection::closed` can cancel
the worker (F161) or panic (F162): see `Compio.Cex.C16`; the theorems below carry the guards explicitly
(`allAdmissible`, `worker = .running`).
-/
import Compio.Lemmas.QuicWakers
import Compio.Lemmas.QuicLoops
import Compio.Lemmas.QuicEndpoint

namespace Compio.Props.C16
open Compio Compio.QuicWakers Compio.Gen.QuicWakers

/-- every table in which some future stores its waker is drained (woken) by `ConnectionState::terminate` -/
theorem every_registration_table_is_drained_by_terminate :
    ∀ r : Reg, registersIn r ∈ terminateDrains :=
  fun r => terminateDrains_complete (registersIn r)

/-- … in fact `terminate` drains every waker field of `ConnectionState` -/
theorem terminate_drains_every_table : ∀ t : Tbl, t ∈ terminateDrains := terminateDrains_complete

/-- `terminate` stores the error before it wakes anybody, so a woken task that polls again sees it -/
theorem terminate_stores_the_error_first :
    terminateSetsErrorFirst = true ∧ terminateBody.head? = some .setError := by decide

theorem every_registration_checks_the_stored_error : ∀ r : Reg, regChecksError r = true :=
  all_sites_check_error

/-- close = terminate(LocallyClosed), also when it comes from `Endpoint::close` through the worker -/
theorem close_is_terminate : closeIsTerminateLocallyClosed = true ∧ tryStateReturnsStoredError = true := by decide

/-- `unblocks` is the hand-written reading of quinn-proto's event documentation; the event → action map is
    regenerated -/
theorem every_event_wakes_the_tables_it_can_unblock : ∀ (ev : Ev) (r : Reg), unblocks ev r = true →
    (Gen.QuicWakers.onEvent ev).any (actionWakes r) = true :=
  event_table_complete

/-- `Stopped` wakes both the `stopped()` waiter and the blocked writer of that stream;
    `Finished` wakes the `stopped()` waiter -/
theorem stopped_wakes_stopped_and_writable :
    Action.wake .stopped .key ∈ Gen.QuicWakers.onEvent .stopped ∧
    Action.wake .writable .key ∈ Gen.QuicWakers.onEvent .stopped ∧
    Action.wake .stopped .key ∈ Gen.QuicWakers.onEvent .finished := by decide

/-- the public futures named in the property statement and the table their waker goes to -/
theorem public_futures_register_where_expected :
    [("Connection::open_uni_wait", Reg.connectionPollOpenStream),
     ("Connection::open_bi_wait", Reg.connectionPollOpenStream),
     ("Connection::accept_uni", Reg.connectionPollAcceptStream),
     ("Connection::accept_bi", Reg.connectionPollAcceptStream),
     ("Connection::recv_datagram", Reg.connectionPollRecvDatagram),
     ("Connection::send_datagram_wait", Reg.connectionTrySendDatagram),
     ("Connection::accepted_0rtt", Reg.connectionAccepted0rtt),
     ("RecvStream::read", Reg.recvStreamExecutePollRead),
     ("RecvStream::read_chunk", Reg.recvStreamExecutePollRead),
     ("RecvStream::read_chunks", Reg.recvStreamExecutePollRead),
     ("RecvStream::read_to_end", Reg.recvStreamExecutePollRead),
     ("RecvStream::received_reset", Reg.recvStreamReceivedReset),
     ("SendStream::write", Reg.sendStreamExecutePollWrite),
     ("SendStream::write_chunks", Reg.sendStreamExecutePollWrite),
     ("SendStream::write_all_chunks", Reg.sendStreamExecutePollWrite),
     ("SendStream::stopped", Reg.sendStreamStopped),
     ("Connecting::poll", Reg.connectingPoll),
     ("Connecting::handshake_data", Reg.connectingHandshakeData)].all (fun p => apiOf.contains p) = true ∧
    registersIn .connectionPollOpenStream = .streamAvailable ∧
    registersIn .connectionPollAcceptStream = .streamOpened ∧
    registersIn .connectionPollRecvDatagram = .datagramReceived ∧
    registersIn .connectionTrySendDatagram = .datagramsUnblocked ∧
    registersIn .recvStreamExecutePollRead = .readable ∧
    registersIn .recvStreamReceivedReset = .readable ∧
    registersIn .sendStreamExecutePollWrite = .writable ∧
    registersIn .sendStreamStopped = .stopped ∧
    registersIn .connectingPoll = .onConnected ∧
    registersIn .connectionAccepted0rtt = .onConnected ∧
    registersIn .connectingHandshakeData = .onHandshakeData := by
  refine ⟨?_, by decide⟩
  -- `decide` proves this too, but evaluates every `contains` by comparing `String`s, several times dearer to check;
  -- here `constructor` finds the position of each name in `apiOf` and only the positions found are checked.
  simp only [List.all_cons, List.all_nil, Bool.and_eq_true, List.contains_iff_mem, and_true]
  repeat' constructor

/-- the `Drop` implementations only remove the dropped stream's OWN entries -/
theorem drop_cleans_only_stream_tables : ∀ p ∈ dropCleans, kind p.2 = .map := by decide

/-- `stopped` and `writable` belong to `SendStream`, `readable` to `RecvStream`; the two halves of a bidirectional
    stream share one `StreamId`, so a `RecvStream::drop` touching `stopped` would discard the waker of a task parked
    in `send.stopped()` -/
theorem drop_only_cleans_tables_of_the_dropped_half :
    dropCleans.all (fun p => Reg.all.any (fun r => Reg.owner r == p.1 && registersIn r == p.2)) = true ∧
    dropCleans.all (fun p => Reg.all.all (fun r => registersIn r != p.2 || Reg.owner r == p.1)) = true :=
  ⟨by decide, drop_tables_exclusive_table⟩

theorem dropping_a_half_keeps_the_other_halfs_waiters (s : St) (send : Bool) (id : Nat) (r : Reg) (e : Entry)
    (he : e ∈ s.tabs (registersIn r)) (ho : Reg.owner r ≠ (if send then "SendStream" else "RecvStream")) :
    e ∈ (s.dropStream (if send then "SendStream" else "RecvStream") id).tabs (registersIn r) :=
  dropStream_keeps he fun h => absurd h ho

/-- non-vacuity: a task parked in `stopped()` on bi stream 4, the `RecvStream` half of stream 4 dropped by another
    task (admissible!), then close: the parked task is woken -/
example :
    let ops := [Op.poll .sendStreamStopped 4 1, .poll .recvStreamExecutePollRead 4 2, .cancel .recvStreamExecutePollRead 4 2,
                .dropStream false 4]
    allAdmissible World.init ops = true ∧ ((World.init.run ops).step .close).1.st.woken = [1] := by decide

/-- `ConnectionState::terminate(e)`: every waker is woken exactly as many times as it was registered (`tabCount`,
    over all tables), and any poll of any future afterwards returns `Err(e)` without registering again -/
theorem after_terminate (s : St) (e : Err) :
    (∀ t, (s.terminate e).tabs t = []) ∧
    (s.terminate e).error = some e ∧
    (∀ w, (s.terminate e).woken.count w = s.woken.count w + tabCount s w) ∧
    (∀ r k w, (s.terminate e).pollBlocked r k w = (s.terminate e, .err e)) :=
  ⟨terminate_tabs s e, terminate_error s e, terminate_count s e,
   fun r k w => pollBlocked_of_error (terminate_error s e) r k w⟩

theorem terminate_wakes_every_registered_waker (s : St) (e : Err) (t : Tbl) (x : Entry) (hx : x ∈ s.tabs t) :
    x.2 ∈ newlyWoken s (s.terminate e) := terminate_wakes hx

example : (((St.init.register .recvStreamExecutePollRead 4 7).register .connectionPollRecvDatagram 0 8).terminate
    .locallyClosed).woken = [8, 7] := by decide

/-- in every world reached by operations that respect the one-task-per-slot discipline (`allAdmissible`), every
    future that returned `Pending` and whose task has not been woken since (`owed`) is still registered in its table —
    so it is woken by the next matching event (`next_matching_event_wakes_the_waiter`) or by `terminate`
    (`close_completes_every_pending_future`) -/
theorem no_waiter_is_ever_lost (ops : List Op) (h : allAdmissible World.init ops = true) :
    ∀ x ∈ (World.init.run ops).owed, x.entry ∈ (World.init.run ops).st.tabs x.tbl :=
  inv_run ops World.init inv_init h

theorem obligations_end_by_wake_or_cancel (W : World) (op : Op) (x : Waiter) (hx : x ∈ W.owed)
    (hgone : x ∉ (W.step op).1.owed) :
    op = .cancel x.r x.key x.w ∨ x.w ∈ newlyWoken W.st (W.step op).1.st := by
  cases did_step W op with
  | wakes _ howed =>
    exact Or.inr (Classical.byContradiction fun hw => hgone (howed ▸ mem_discharge.mpr ⟨hx, hw⟩))
  | @cancelled r key w _ howed =>
    -- only the cancelled future itself is struck
    refine Or.inl (Classical.byContradiction fun hne => hgone (howed ▸ List.mem_filter.mpr ⟨hx, ?_⟩))
    exact bne_iff_ne.mpr fun h => hne (h ▸ rfl)
  | dropped _ howed => exact absurd (howed ▸ hx) hgone
  | @parked r key w _ _ howed =>
    refine absurd ?_ hgone
    rw [howed, List.mem_append, List.mem_filter, List.mem_singleton]
    by_cases hxe : x = ⟨r, key, w⟩
    · exact Or.inr hxe
    · exact Or.inl ⟨hx, bne_iff_ne.mpr hxe⟩

theorem next_matching_event_wakes_the_waiter (W : World) (hi : Inv W) (hrun : W.worker = .running)
    (x : Waiter) (hx : x ∈ W.owed) (ev : Ev) (key : Nat) (zr : Bool) (e : Err)
    (hu : unblocks ev x.r = true) (hk : regKey x.r ≠ .none → x.entry.1 = key) :
    x.w ∈ newlyWoken W.st (W.step (.event ev key zr e)).1.st ∧ x ∉ (W.step (.event ev key zr e)).1.owed := by
  have hw : x.w ∈ newlyWoken W.st (W.st.onEvent ev key zr e) :=
    onEvent_wakes (r := x.r) (k := x.key) hu (hi x hx) hk
  simp only [World.step, hrun, if_true]
  refine ⟨hw, ?_⟩
  simp only [World.setSt]
  rw [mem_discharge]
  exact fun h => h.2 hw

/-- `Connection::close`, in any world satisfying the invariant: nobody is owed a wake-up any more, every task that
    was owed one has been woken, and whatever future is polled (again) returns `Err(LocallyClosed)` -/
theorem close_completes_every_pending_future (W : World) (hi : Inv W) :
    let W' := (W.step .close).1
    W'.owed = [] ∧ (∀ x ∈ W.owed, x.w ∈ newlyWoken W.st W'.st) ∧ (∀ t, W'.st.tabs t = []) ∧
      ∀ r k w, (W'.step (.poll r k w)).2 = .err .locallyClosed :=
  terminate_discharges W hi .locallyClosed

theorem close_completes_every_pending_future_reachable (ops : List Op)
    (h : allAdmissible World.init ops = true) :
    let W := World.init.run ops
    let W' := (W.step .close).1
    W'.owed = [] ∧ (∀ x ∈ W.owed, x.w ∈ newlyWoken W.st W'.st) ∧
      ∀ r k w, (W'.step (.poll r k w)).2 = .err .locallyClosed := by
  have := close_completes_every_pending_future (World.init.run ops) (inv_run ops World.init inv_init h)
  exact ⟨this.1, this.2.1, this.2.2.2⟩

/-- the same when the close comes from the peer / a timeout (`ConnectionLost { reason }`) or from
    `Endpoint::close`, provided the worker is alive (guard violated by F161) -/
theorem connection_lost_completes_every_pending_future (W : World) (hi : Inv W) (hrun : W.worker = .running)
    (e : Err) (key : Nat) (zr : Bool) :
    let W' := (W.step (.event .connectionLost key zr e)).1
    W'.owed = [] ∧ (∀ x ∈ W.owed, x.w ∈ newlyWoken W.st W'.st) ∧
      ∀ r k w, (W'.step (.poll r k w)).2 = .err e := by
  have := terminate_discharges W hi e
  have hev : W.st.onEvent .connectionLost key zr e = W.st.terminate e := by
    simp only [St.onEvent, connectionLost_is_terminate, List.foldl, St.applyAction]
  rw [World.step, if_pos hrun, hev]
  exact ⟨this.1, this.2.1, this.2.2.2⟩

theorem endpoint_close_completes_every_pending_future (W : World) (hi : Inv W) (hrun : W.worker = .running) :
    let W' := (W.step .endpointClose).1
    W'.owed = [] ∧ (∀ x ∈ W.owed, x.w ∈ newlyWoken W.st W'.st) ∧
      ∀ r k w, (W'.step (.poll r k w)).2 = .err .locallyClosed := by
  have := terminate_discharges W hi .locallyClosed
  rw [World.step, if_pos hrun]
  exact ⟨this.1, this.2.1, this.2.2.2⟩

example :
    let ops := [Op.poll .recvStreamExecutePollRead 4 1, .poll .connectionPollRecvDatagram 0 2,
                .poll .connectionPollOpenStream 1 3, .event .writable 4 false .reset]
    allAdmissible World.init ops = true ∧ (World.init.run ops).owed.length = 3 ∧
      ((World.init.run ops).step .close).1.st.woken = [2, 3, 1] := by decide

/-- `CompatSendStream::write_all`, and the `AsyncWriteExt::write_all` loop over `SendStream::write`, whatever
    quinn-proto answers -/
theorem write_all_in_order (buf : Bytes) (count : Nat) (sched : List WAns) (hc : count ≤ buf.length) :
    let (r, acc, c') := writeAll buf count sched
    acc = (buf.drop count).take (c' - count) ∧ count ≤ c' ∧ c' ≤ buf.length ∧
      (r = .ready () → acc = buf.drop count) :=
  writeAll_spec buf sched count hc

/-- a schedule with enough non-zero limits lets `write_all` finish: every accepted answer makes progress -/
theorem write_all_completes (buf : Bytes) (n : Nat) (hn : 0 < n) :
    (writeAll buf 0 (List.replicate (buf.length + 1) (.limit n))).1 = .ready () :=
  writeAll_completes buf 0 _
    (fun a ha => ⟨n - 1, by rw [(List.mem_replicate.mp ha).2, Nat.sub_add_cancel hn]⟩)
    (by rw [List.length_replicate]; exact Nat.lt_succ_self _)

/-- `SendStream::write_all_chunks`, for every chunking and every answer schedule; `rest` is the caller's chunk array
    afterwards -/
theorem write_all_chunks_in_order (bufs : List Bytes) (sched : List WAns) :
    let (r, acc, rest) := writeAllChunks bufs 0 sched
    acc ++ rest.flatten = bufs.flatten ∧ (r = .ready () → acc = bufs.flatten) := by
  obtain ⟨h1, h2⟩ := writeAllChunks_spec sched bufs 0 (by simp)
  generalize writeAllChunks bufs 0 sched = W at *
  obtain ⟨r, acc, rest⟩ := W
  simp only at h1 h2 ⊢
  refine ⟨h1, fun hr => ?_⟩
  rw [h2 hr, List.append_nil] at h1; exact h1

/-- the reader: for every interleaving of deliveries, `finish` and polls with arbitrary buffer sizes, what the
    polls returned (in order) followed by what is still buffered is exactly what was delivered: nothing lost,
    nothing duplicated, nothing reordered; a poll never returns 0 bytes before end-of-stream -/
theorem reads_are_in_order_exactly_once (steps : List RStep) :
    let r := Reader.init.run steps
    r.got ++ r.src.segs.flatten = deliveredBefore steps ∧ r.errs = 0 := by
  obtain ⟨h1, h2, _⟩ := run_spec steps Reader.init rinv_init
  exact ⟨h2.trans (List.nil_append _), h1.errs⟩

/-- end-of-stream is reported only after `finish`, only when every delivered byte has been returned — and then
    for ever (`all_data_read`) -/
theorem eos_exactly_after_finish (steps : List RStep) (h : 0 < (Reader.init.run steps).eos) :
    RStep.finish ∈ steps ∧ (Reader.init.run steps).got = deliveredBefore steps ∧
      ∀ cap, 0 < cap → ((Reader.init.run steps).step (.read cap)).eos = (Reader.init.run steps).eos + 1 ∧
        ((Reader.init.run steps).step (.read cap)).got = (Reader.init.run steps).got := by
  obtain ⟨h1, h2, h3⟩ := run_spec steps Reader.init rinv_init
  have hadr := h1.eos h
  obtain ⟨hsegs, hfin⟩ := h1.adr hadr
  refine ⟨(h3 hfin).resolve_left nofun, ?_, fun cap hcap =>
    apply_eos _ (pollRead_eos (Nat.ne_of_gt hcap) h1.src h1.rsReset (Or.inl hadr))⟩
  rw [hsegs] at h2
  simpa [Reader.init, Reader.got] using h2

theorem eos_is_reported (steps : List RStep) (cap : Nat) (hcap : 0 < cap)
    (hfin : (Reader.init.run steps).src.fin = true) (hempty : (Reader.init.run steps).src.segs = []) :
    ((Reader.init.run steps).step (.read cap)).eos = (Reader.init.run steps).eos + 1 :=
  have h1 := (run_spec steps Reader.init rinv_init).1
  (apply_eos _ (pollRead_eos (Nat.ne_of_gt hcap) h1.src h1.rsReset (Or.inr ⟨hempty, hfin⟩))).1

/-- `RecvStream::read_to_end` reads the rest of the stream UNORDERED and reassembles it from `(offset, bytes)` chunks
    placed relative to the LOWEST offset seen; `parts` is a chunking of the remainder of the stream from the current
    read position `off` (bytes `0..off` were returned by earlier `read` / `read_chunk` / `read_chunks` calls),
    `chunks` an arrival order of those pieces -/
theorem read_to_end_assembles_the_remainder_in_any_arrival_order (parts : List Bytes) (off : Nat)
    (chunks : List (Nat × Bytes)) (hperm : chunks.Perm (withOffsets off parts))
    (hoff : off + parts.flatten.length < 2 ^ 64 - 1) :
    assemble chunks = parts.flatten :=
  assemble_any_order parts off chunks hperm hoff

example : assemble [(7, [4, 5]), (9, [6]), (5, [2, 3])] = [2, 3, 4, 5, 6] := by decide

example :
    let r := Reader.init.run [.deliver [1, 2, 3], .read 2, .deliver [4], .read 8, .read 8, .finish, .read 8, .read 1]
    r.got = [1, 2, 3, 4] ∧ r.eos = 2 ∧ r.pendings = 1 := by decide

example : (writeAllChunks [[1, 2], [], [3, 4, 5]] 0 [.limit 1, .blocked, .limit 3, .limit 9]) =
    (.ready (), [1, 2, 3, 4, 5], [[], [], []]) := by
  simp [writeAllChunks, popChunks]

section Endpoint
open Compio.QuicEndpoint Compio.Gen.QuicEndpoint

theorem endpoint_close_drains_every_table : ∀ t : ETbl, t ∈ closeDrains := by
  intro t; cases t <;> decide

/-- every table a `wait_incoming()` future registers in is drained by `Endpoint::close` ITSELF — not by the worker
    loop, which only iterates when a datagram or an endpoint event arrives (an endpoint without live connection
    gets neither) -/
theorem every_endpoint_registration_table_is_drained_by_close :
    ∀ r : EReg, eRegistersIn r ∈ closeDrains :=
  fun r => endpoint_close_drains_every_table (eRegistersIn r)

/-- the registration site answers `None` without registering once the endpoint is closed, and a new connection
    attempt is only queued while it is open -/
theorem endpoint_registration_checks_closed :
    (∀ r : EReg, eRegChecksClosed r = true) ∧ newConnectionQueuedOnlyWhenOpen = true ∧
      ("Endpoint::wait_incoming", EReg.endpointStatePollIncoming) ∈ eApiOf := by
  refine ⟨fun r => by cases r <;> rfl, by decide, by repeat constructor⟩

/-- `Endpoint::close` on an open endpoint, in ANY state (no connection, drained connections, live connections —
    the model has no access to them); a (re-)poll of `wait_incoming()` yields `None` -/
theorem endpoint_close_releases_every_waiter (e : Ep) (h : e.closed = false) :
    (∀ t, e.close.tabs t = []) ∧ (∀ w t, w ∈ e.tabs t → w ∈ e.close.woken) ∧
      ∀ w, e.close.pollIncoming .endpointStatePollIncoming w = (e.close, .none) :=
  ⟨(close_open e h).tabs, (close_open e h).woken, fun w => poll_after_close _ (close_sets_closed e) w⟩

/-- for every history: once the endpoint is closed nobody is parked in `incoming_wakers`, whether or not the worker
    loop ever runs again -/
theorem closed_endpoint_has_no_parked_waiter (ops : List EOp) (h : (Ep.init.run ops).closed = true) :
    ∀ t, (Ep.init.run ops).tabs t = [] :=
  (einv_run ops Ep.init einv_init).tabs h

/-- `EndpointState::new_connection` — the one place where `connect` AND `Incoming::accept` register a connection —
    hands a connection created after `Endpoint::close` was requested the `ConnectionEvent::Close` the others got:
    it is born closed -/
theorem connection_created_on_closed_endpoint_is_born_closed :
    newConnectionBornClosedWhenClosed = true := born_closed

/-- for every history (in particular `wait_incoming → close → accept`): on a closed endpoint EVERY registered
    connection has been told to close — those alive at `close()` by `close()`, later ones at birth -/
theorem closed_endpoint_has_told_every_connection (ops : List EOp) (h : (Ep.init.run ops).closed = true) :
    (Ep.init.run ops).untold = 0 :=
  (einv_run ops Ep.init einv_init).untold h

example : (Ep.init.run [.datagram true, .poll 1, .close, .newConn]).told = 1 ∧
    (Ep.init.run [.newConn, .newConn, .close, .newConn]).told = 3 := by decide

example : (Ep.init.run [.poll 1, .poll 2, .datagram true, .poll 3, .close]).woken = [1, 2] ∧
    (Ep.init.run [.poll 1, .poll 2, .datagram true]).tabs .incomingWakers = [2] := by decide

end Endpoint

end Compio.Props.C16
