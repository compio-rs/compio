/-
C12 — the limit report of `fill_read_buf` is genuine: for every state of the read side, the
refill is refused with OutOfMemory only when the UNREAD bytes (`Buffer::buffer()`, the slice after the
consumed prefix) have reached `max_buffer_size`; consumed-but-not-yet-compacted bytes never count.
And for every state of the write side, a `flush_write_buf` with nothing buffered still performs the inner `flush()`
(`sync_empty_flush_reaches_inner_flush`).
-/
import Compio.Lemmas.SyncStream

namespace Compio.Props.C12Limit
open Compio Compio.SyncStream

/-- **A refill is refused only at the limit.** In every state (any buffer contents, position, capacity,
configuration), `fill_read_buf` answers `OutOfMemory` without touching the inner stream only if the unread
bytes alone have reached the limit. -/
theorem sync_limit_report_genuine (r : RSide) (h : r.fillStart.2 = some (.err .oom)) :
    r.max ≤ r.buf.avail.length := by
  unfold RSide.fillStart at h
  split at h
  · simp at h
  · split at h
    · simp at h
    · simp only at h
      split at h
      · rename_i hle
        rw [Buf.compactTo_length] at hle
        exact hle
      · simp at h

/-- and conversely: below the limit the refill goes to the inner stream (eof not latched, buffer present). -/
theorem sync_refill_below_limit (r : RSide) (he : r.eof = false) (hl : r.buf.lent = false)
    (h : r.buf.avail.length < r.max) : r.fillStart.2 = none := by
  unfold RSide.fillStart
  simp [he, hl, Buf.compactTo_length, Nat.not_le.mpr h]

/-- **A flush with nothing buffered still reaches the inner `flush()`.** For every write-side state with the
buffer present and no unsent bytes (e.g. after a flush whose inner `flush()` failed: the adapter buffer is already
drained), a new `flush_write_buf` performs exactly one inner call, and it is the inner stream's `flush()`
(`f` ok / `fP` Pending / `fE` error) — there is no path that reports success without it. -/
theorem sync_empty_flush_reaches_inner_flush (w : WSide) (snap : List Nat)
    (hl : w.buf.lent = false) (he : w.buf.avail.isEmpty = true) :
    ∃ io, (w.flushBegin snap).1.log = w.log ++ [io] ∧ (io = .f ∨ io = .fP ∨ io = .fE) ∧
      (∀ n, (w.flushBegin snap).2.2 = some (.ok n) → io = .f) := by
  unfold WSide.flushBegin
  simp only [hl, he, if_true, Bool.false_eq_true, if_false]
  unfold WSide.afterFlushTo WSide.flushTail
  split <;> simp

end Compio.Props.C12Limit
