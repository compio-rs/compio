/-
C15 — TLS and WebSocket layers preserve the stream over any transport behaviour.

The theorems are about the functions the driver `c15d` executes (`TlsSys.run`, `TlsShim.pollHandshake`,
`TlsShim.sslDoHandshake`, `WsShim.pollNext`, ...). The TLS / WebSocket engines are third-party and enter as the
abstract record / frame layers of `Model/TlsShim.lean` and `Model/WsShim.lean` (assumption A-E1); the
transport is the scheduled duplex of `Model/TlsNet.lean`: any per-call transfer limit `lim ≥ 1`, any numbers
`dr`/`dw`/`dfh`/`df` of consecutive `Pending`s before a read / write / flush is performed (a fair schedule),
buffering or not.

Defects are witnessed in `Cex/C15.lean`. What keeps the theorems clear of them: F150 (close over a delayed flush) the
guard `flushDelay = 0` of `tls_close_spec`; F151 the back-end (the two-party theorems are about `Sys.init sc false`,
native-tls on both sides); the latent `Done` arm `HasSC` (a client cell after a server cell: neither engine can finish
inside its first call). `astream = false` restricts the transport to the plain duplex.

§6 - §8: the shim functions of the hand model (`bioRead` / `bioWrite` / `bioFlush`, `withContext`, the `Mid` arm of
`pollHandshake`, `WsShim.pollFlush` / `pollNext`) are the code regenerated from the Rust sources (`Gen/TlsCompat.lean`,
`Gen/WsCompat.lean`); the flag logic of the regenerated `OpensslInner` over all histories of calls.
-/
import Compio.Lemmas.TlsSys
import Compio.Lemmas.TlsApp
import Compio.Lemmas.WsShim
import Compio.Gen.TlsCompat
import Compio.Gen.WsCompat

namespace Compio.Props.C15
open Compio.TlsNet Compio.TlsShim Compio.TlsSys

/-! ### 1. one call of the engine's handshake function through the shim -/

/-- **Specification of `SSL_do_handshake` over `AllowStd`/`OpensslInner`**, for every transport schedule and
every tape. From a state satisfying the shim invariant (`Good`: context pointer set, `¬written → nothing
unflushed`, cells in flight aligned with the two tapes) the call
  * never fails and never trips `assert!(!self.context.is_null())`,
  * ends in a state satisfying the invariant again,
  * returns `Ok` only with the tape and the post-handshake cells used up,
  * returns `WouldBlock` only with the wake-up arranged: the transport woke the caller's waker itself
    (`own`), or the waker is registered (`rwait`) on an *empty* pipe while *nothing of ours is unflushed* and
    it is the peer's turn,
  * and pays for every step out of the progress measure `S0`. -/
theorem engine_call_spec (sc : Sched) (p : Peer) (b' : Nat) (fuel : Nat) (o : Ossl) (v : View)
    (g : Good sc p b' o v) (hfuel : o.tape.length + o.post < fuel) :
    HsPost sc p b' o v (sslDoHandshake sc fuel o v).1 (sslDoHandshake sc fuel o v).2.1
      (sslDoHandshake sc fuel o v).2.2 :=
  doHs_spec sc p b' fuel o v g hfuel

/-- **waiting for the peer ⇒ nothing unflushed** (the reason a buffering transport cannot deadlock the
handshake): whenever the engine call blocks on an empty pipe, the endpoint's transport buffer is empty, the
pipe towards us is empty, our waker is registered there, and the next cell on the tape is the peer's. -/
theorem blocked_read_nothing_unflushed (sc : Sched) (p : Peer) (b' : Nat) (fuel : Nat) (o : Ossl) (v : View)
    (g : Good sc p b' o v) (hfuel : o.tape.length + o.post < fuel) {o' : Ossl} {v' : View}
    (h : sslDoHandshake sc fuel o v = (o', v', .wouldBlock .reg)) :
    v'.tp.wbuf.toList = [] ∧ v'.rx.q.toList = [] ∧ v'.rx.rwait = true ∧ ∃ t, o'.tape = o.me.other :: t := by
  have hs := doHs_spec sc p b' fuel o v g hfuel
  rw [h] at hs
  obtain ⟨_, _, h3, h4, h5, t, h6⟩ := hs.res
  exact ⟨h5, h3, h4, t, h6⟩

/-- the engine call never reports an error or a failed context assertion, whatever the schedule -/
theorem engine_call_no_failure (sc : Sched) (p : Peer) (b' : Nat) (fuel : Nat) (o : Ossl) (v : View)
    (g : Good sc p b' o v) (hfuel : o.tape.length + o.post < fuel) :
    (sslDoHandshake sc fuel o v).2.2 ≠ .err ∧ (sslDoHandshake sc fuel o v).2.2 ≠ .panic := by
  have hs := (doHs_spec sc p b' fuel o v g hfuel).res
  constructor <;> intro h <;> rw [h] at hs <;> exact hs

/-! ### 2. one poll of the `handshake` async fn -/

/-- **Specification of one poll of `handshake(f, stream)`** (`StartedHandshakeFuture`, `MidHandshake`,
`finish_handshake`, the post-handshake flush), in any of its states; see `PollPost`. In state `start` the
engine must not be able to finish inside the first call (`hnd`) - `handshake_completes` discharges this for
every handshake with a client flight after a server flight. -/
theorem handshake_poll_spec {sc : Sched} {p : Peer} {b' : Nat} {fut : HsFut} {o : Ossl} {v : View}
    (hr : Rest sc p b' fut o v) (hfuel : o.tape.length + o.post < sc.fuel) (hne : fut ≠ .done)
    (hnd : fut = .start → (sslDoHandshake sc sc.fuel { o with ctx := true } v).2.2 ≠ .ok ()) :
    PollPost sc p b' fut o v (pollHandshake sc fut o v).1 (pollHandshake sc fut o v).2.1
      (pollHandshake sc fut o v).2.2.1 (pollHandshake sc fut o v).2.2.2 :=
  pollHandshake_spec hr hfuel hne hnd

/-- **no busy loop, no lost wake-up**: every `Pending` the handshake future returns to its caller comes with
the caller's wake-up arranged by the transport: either the transport has woken the waker during this very
poll, or the waker is stored in the (empty) pipe the future is waiting on. The context pointer is cleared
again (`Guard`), and the future never fails. -/
theorem pending_has_wakeup {sc : Sched} {p : Peer} {b' : Nat} {fut : HsFut} {o : Ossl} {v : View}
    (hr : Rest sc p b' fut o v) (hfuel : o.tape.length + o.post < sc.fuel) (hne : fut ≠ .done)
    (hnd : fut = .start → (sslDoHandshake sc sc.fuel { o with ctx := true } v).2.2 ≠ .ok ())
    {fut' : HsFut} {o' : Ossl} {v' : View} {r : PollR Unit} (h : pollHandshake sc fut o v = (fut', o', v', r)) :
    o'.ctx = false ∧ r ≠ .err ∧ r ≠ .panic ∧
    (∀ pd, r = .pending pd → v'.own = true ∨ (v'.rx.rwait = true ∧ v'.rx.q.toList = [])) := by
  have hs := pollHandshake_spec hr hfuel hne hnd
  rw [h] at hs
  obtain ⟨hrest, _, _, _, _, _, hres⟩ := hs
  refine ⟨hrest.ctx, ?_, ?_, ?_⟩
  · intro he; rw [he] at hres; exact hres
  · intro he; rw [he] at hres; exact hres
  · intro pd hp
    rw [hp] at hres
    cases pd with
    | self => exact Or.inl hres.1
    | reg => exact Or.inr ⟨hres.2.2.2.2.1, hres.2.2.2.1⟩

/-! ### 3. the two-party handshake -/

/-- the invariant of the two-party system is kept by every pass of the executor, which also lowers the progress
measure `Sys.phi` (it holds initially: `init_inv`) -/
theorem invariant_step {y : Sys} (h : Inv y) (hr : y.runnable = true) : Inv (round y) ∧ (round y).phi < y.phi :=
  round_step h hr

/-- **no deadlock**: in every state of the invariant that is not finished, some task has its wake flag set
(two endpoints can never both wait for the peer) -/
theorem no_deadlock {y : Sys} (h : Inv y) (hnd : y.allDone = false) : y.runnable = true :=
  runnable_of_inv h hnd

/-- **The handshake completes, with an explicit bound, for every fair transport schedule** - in particular
over a buffering transport. For every per-call limit `lim ≥ 1`, all delays `dr dw dfh df`, buffering or not,
every handshake tape with a client flight after a server flight (`HasSC`) and any number of post-handshake
cells: the executor of the harness, started on the two `handshake` futures, finishes within
`hsBound sc tape post = O((dr+dw+dfh+df+1) * (|tape| + post))` passes with both futures resolved `Ok`, no
panic (context assertion), never stuck, never out of polls. -/
theorem handshake_completes (sc : Sched) (tape : List Side) (post : Nat) (hlim : 1 ≤ sc.lim)
    (hdir : sc.astream = false) (hwf : HasSC tape) (hfuel : tape.length + post + 2 < sc.fuel) :
    (run (hsBound sc tape post) (Sys.init sc false tape post [] [])).2 = .done ∧
    (run (hsBound sc tape post) (Sys.init sc false tape post [] [])).1.c.res = [.ok 0] ∧
    (run (hsBound sc tape post) (Sys.init sc false tape post [] [])).1.s.res = [.ok 0] ∧
    (run (hsBound sc tape post) (Sys.init sc false tape post [] [])).1.panicked = false := by
  obtain ⟨hdone, oc, os, htc, hts, _, _, _, _, hnp⟩ :=
    handshake_final sc tape post hlim hdir hwf hfuel _ (Nat.le_refl _)
  exact ⟨hdone, htc.res, hts.res, hnp⟩

/-- **when `connect` / `accept` return, every handshake byte this side produced has been handed to the
transport AND flushed - for both roles.** In the final state of `handshake_completes`, for the client
(`TlsConnector::connect`) and for the server (`TlsAcceptor::accept`) alike: the handshake future is `done`, the
engine has no handshake or post-handshake cell left to write, and the endpoint's transport buffer is empty.
The tape is arbitrary (`HasSC`): in a TLS 1.3 shaped handshake the *client* writes the last message (its
Finished, written while `OpensslInner::poll_flush` is still a no-op and followed by no read), in a TLS 1.2
shaped one the *server* does - the post-handshake flush of the shared `handshake()` driver is what empties the
buffer in either case (seed C15-4a removed it for the client). -/
theorem handshake_returns_flushed_both_roles (sc : Sched) (tape : List Side) (post : Nat) (hlim : 1 ≤ sc.lim)
    (hdir : sc.astream = false) (hwf : HasSC tape) (hfuel : tape.length + post + 2 < sc.fuel) :
    let y := (run (hsBound sc tape post) (Sys.init sc false tape post [] [])).1
    (∃ oc, y.c.s = .ossl .done oc ∧ oc.me = .client ∧ oc.tape = [] ∧ oc.post = 0 ∧ y.tpC.wbuf.toList = []) ∧
    (∃ os, y.s.s = .ossl .done os ∧ os.me = .server ∧ os.tape = [] ∧ os.post = 0 ∧ y.tpS.wbuf.toList = []) := by
  obtain ⟨_, oc, os, htc, hts, hmc, hms, hpc, hps, _⟩ :=
    handshake_final sc tape post hlim hdir hwf hfuel _ (Nat.le_refl _)
  exact ⟨⟨oc, htc.s, hmc, hpc.1, hpc.2.1, hpc.2.2⟩, ⟨os, hts.s, hms, hps.1, hps.2.1, hps.2.2⟩⟩

/-- the per-poll form, with the role explicit: whichever role the endpoint plays, the poll in which
`handshake()` resolves leaves nothing of the handshake in the engine and nothing in the transport buffer -/
theorem handshake_ready_flushed_role (role : Side) {sc : Sched} {p : Peer} {b' : Nat} {fut : HsFut} {o : Ossl}
    {v : View} (_hrole : o.me = role) (hr : Rest sc p b' fut o v) (hfuel : o.tape.length + o.post < sc.fuel)
    (hne : fut ≠ .done)
    (hnd : fut = .start → (sslDoHandshake sc sc.fuel { o with ctx := true } v).2.2 ≠ .ok ())
    {fut' : HsFut} {o' : Ossl} {v' : View} (h : pollHandshake sc fut o v = (fut', o', v', .ready ())) :
    o'.me = role ∧ fut' = .done ∧ o'.tape = [] ∧ o'.post = 0 ∧ v'.tp.wbuf.toList = [] := by
  have hs := pollHandshake_spec hr hfuel hne hnd
  rw [h] at hs
  obtain rfl : fut' = .done := hs.res.1
  exact ⟨hs.me.trans _hrole, rfl, hs.rest.phase⟩

/-- more fuel for the executor changes nothing (the bound is sufficient, not tuned) -/
theorem handshake_completes_any_fuel (sc : Sched) (tape : List Side) (post : Nat) (hlim : 1 ≤ sc.lim)
    (hdir : sc.astream = false) (hwf : HasSC tape) (hfuel : tape.length + post + 2 < sc.fuel)
    (n : Nat) (hn : hsBound sc tape post ≤ n) :
    (run n (Sys.init sc false tape post [] [])).2 = .done := by
  exact (handshake_final sc tape post hlim hdir hwf hfuel n hn).1

/-- the budget of the engine loop is irrelevant: any two values above the number of cells still to be
processed give the same result (and by `engine_call_no_failure` it is never the out-of-fuel error) -/
theorem engine_call_fuel_irrelevant (sc : Sched) (f1 f2 : Nat) (o : Ossl) (v : View)
    (h1 : o.tape.length + o.post < f1) (h2 : o.tape.length + o.post < f2) :
    sslDoHandshake sc f1 o v = sslDoHandshake sc f2 o v :=
  sslDoHandshake_fuel_indep sc f1 f2 o v h1 h2

/-! ### 3b. the established stream (native-tls back-end) -/

/-- **`poll_write`**: the accepted plaintext becomes one record which reaches the transport in order and
exactly once - across any number of `Pending`s (the rest of the record is kept, a retry continues it);
`Ready(n)` only when the whole record has been handed over; `Pending` has the transport's wake-up; never an
error or a failed context assertion; the context pointer is cleared again. -/
theorem tls_write_spec (sc : Sched) (o : Ossl) (v : View) (buf : List UInt8) (ha : App sc v)
    (hcl : o.close = .none) (hfuel : o.out.length < sc.fuel ∧ recordMax + 22 < sc.fuel) (hbuf : buf ≠ []) :
    let r := TlsShim.pollWrite sc o v buf
    App sc r.2.1 ∧ r.1.ctx = false ∧ r.1.close = .none ∧ r.2.1.rx = v.rx ∧
    committed r.1 r.2.1 = committed o v ++ (if o.out = [] then record (buf.take recordMax) else []) ∧
    (match r.2.2 with
      | .ready n => r.1.out = [] ∧ n = (if o.out = [] then (buf.take recordMax).length else o.outPlain)
      | .pending p => p = .self ∧ r.2.1.own = true
      | .err => False
      | .panic => False) := by
  intro r
  have hchunk : (buf.take recordMax).isEmpty = false := by
    cases buf with
    | nil => exact absurd rfl hbuf
    | cons _ _ => rfl
  -- `sslWrite` starts `pushOut` from the pending record `X`, a new one if there was none
  let X := o.out ++ (if o.out = [] then record (buf.take recordMax) else [])
  let P := if o.out = [] then (buf.take recordMax).length else o.outPlain
  have hO : (if o.out.isEmpty then
        { o with ctx := true, out := record (buf.take recordMax), outPlain := (buf.take recordMax).length }
      else { o with ctx := true }) = { o with ctx := true, out := X, outPlain := P } := by
    by_cases he : o.out = [] <;> simp only [he, X, P, List.isEmpty_iff, reduceIte, List.nil_append, List.append_nil]
  have hlen : X.length < sc.fuel := by
    by_cases he : o.out = []
    · simp only [X, he, reduceIte, List.nil_append, length_record, List.length_take]
      exact Nat.lt_of_le_of_lt (Nat.add_le_add_right (Nat.min_le_left ..) 22) hfuel.2
    · simpa only [X, he, reduceIte, List.append_nil] using hfuel.1
  obtain ⟨sent, rest, w, v', _, hsent, hcat, hres⟩ :=
    pushOut_spec sc sc.fuel { o with ctx := true, out := X, outPlain := P } v ha rfl hlen
  have hcom : v'.txs ++ rest = committed o v ++ (if o.out = [] then record (buf.take recordMax) else []) :=
    hcat.trans (List.append_assoc ..).symm
  have hcl' : (o.close != .none) = false := by rw [hcl]; rfl
  rcases hres with ⟨heq, rfl⟩ | ⟨heq, hown⟩ <;>
    simp only [r, pollWrite, withContext, sslWrite, hcl', hchunk, Bool.false_eq_true, reduceIte, hO, heq]
  · exact ⟨hsent.app, trivial, hcl, hsent.rx, hcom, trivial, rfl⟩
  · exact ⟨hsent.app, trivial, hcl, hsent.rx, hcom, trivial, hown⟩

/-- **`poll_read`**: the call consumes a prefix of the incoming cells and returns exactly their plaintext, in
order; `Ok(0)` only for a close_notify; a `Pending` has consumed no plaintext and has its wake-up arranged
(own waker woken, or registered on the empty pipe). -/
theorem tls_read_spec (sc : Sched) (o : Ossl) (v : View) (n : Nat) (hn : n ≠ 0) (hh : o.handshaken = true)
    (hrc : o.rcvdClose = false) :
    let r := TlsShim.pollRead sc o v n
    r.1.ctx = false ∧ r.2.1.tx = v.tx ∧ r.2.1.tp.wbuf = v.tp.wbuf ∧
    ∃ C, v.rxs = C ++ r.2.1.rxs ∧
      (match r.2.2 with
        | .ready bs => plainOf C = (bs, r.1.rcvdClose) ∧ bs.length ≤ n ∧ (bs = [] → r.1.rcvdClose = true)
        | .pending p => plainOf C = ([], false) ∧ (p = .self → r.2.1.own = true) ∧
            (p = .reg → r.2.1.rx.rwait = true ∧ r.2.1.rxs = [])
        | .err => True
        | .panic => False) := by
  intro r
  obtain ⟨htx, hw, C, hrx, hC⟩ := sslRead_spec sc n hn sc.fuel { o with ctx := true } v rfl hh hrc
  -- an equation for `r`, so that `withContext` is unfolded once and not at each occurrence of `r`
  have hr : r = withContext o v (sslRead sc n sc.fuel) := rfl
  clear_value r
  unfold withContext at hr
  generalize sslRead sc n sc.fuel { o with ctx := true } v = res at *
  obtain ⟨o2, v2, r2⟩ := res
  cases r2 <;> subst hr
  · exact ⟨rfl, htx, hw, C, hrx, hC⟩
  · exact ⟨rfl, htx, hw, C, hrx, hC.1, hC.2.2⟩
  · exact ⟨rfl, htx, hw, C, hrx, trivial⟩
  · exact hC.elim

/-- **in order, exactly once**: whatever sequence of records the writer has committed (`tls_write_spec`), the
reader's view of the cells (`tls_read_spec`, over the FIFO pipe) is the concatenation of their plaintexts, then
that of what follows - e.g. `([], true)` for the close_notify record. -/
theorem tls_plaintext_in_order (ps : List (List UInt8)) (rest : List Cell) :
    plainOf ((ps.map record).flatten ++ rest) = (ps.flatten ++ (plainOf rest).1, (plainOf rest).2) :=
  plainOf_records ps rest

theorem tls_close_notify_plain : plainOf alertRecord = ([], true) := plainOf_alertRecord

/-- **`poll_close`**: `Ready` means the close_notify record has been handed to the transport after everything
written before; it has *left the endpoint* whenever the flush issued by the engine is not delayed
(`flushDelay = 0`, or a non-buffering transport) - the guard that separates finding F150: with a delayed
flush the engine ignores the `Pending` and `poll_close` neither retries nor closes the transport
(`Cex.C15.f150_alert_stranded`). A `Pending` (partial write of the record) keeps the rest and has its wake-up.
`hfuel`: `24` is the length of `alertRecord`. -/
theorem tls_close_spec (sc : Sched) (o : Ossl) (v : View) (ha : App sc v) (hout : o.out = [])
    (hcl : o.close = .none) (hhs : o.handshaken = true) (hfuel : 24 < sc.fuel) :
    let r := TlsShim.pollClose sc o v
    App sc r.2.1 ∧ r.1.ctx = false ∧ r.2.1.tx.closed = false ∧
    (match r.2.2 with
      | .ready () => r.1.close = .sent ∧ r.1.out = [] ∧ r.2.1.txs = v.txs ++ alertRecord ∧
          (flushDelay sc v.tp = 0 → r.2.1.tp.wbuf.toList = [] ∧ r.2.1.tx.q.toList = v.txs ++ alertRecord)
      | .pending p => p = .self ∧ r.2.1.own = true ∧ r.1.close = .queued ∧
          committed r.1 r.2.1 = v.txs ++ alertRecord
      | .err => False
      | .panic => False) := by
  intro r
  obtain ⟨sent, rest, w, v2, _, hs, hcat, hres⟩ := pushOut_spec sc sc.fuel
    { o with ctx := true, out := o.out ++ alertRecord, close := .queued } v ha rfl (by rw [hout]; exact hfuel)
  have hcat : v2.txs ++ rest = v.txs ++ alertRecord := by rw [hcat, hout]; rfl
  rcases hres with ⟨heq, rfl⟩ | ⟨heq, hown⟩
  · -- the flush whose result is ignored
    obtain ⟨v3, r3, hb, hs3, hw3⟩ := bioFlush_app
      (o := { o with ctx := true, out := [], written := w, close := .sent }) hs.app rfl hhs
    have htxs : v3.txs = v.txs ++ alertRecord := by rw [hs3.txs, List.append_nil, ← hcat, List.append_nil]
    have hfd : flushDelay sc v2.tp = flushDelay sc v.tp := by rw [flushDelay, flushDelay, hs.hsd]
    simp only [r, pollClose, withContext, sslShutdown, hcl, reduceCtorEq, reduceIte, heq, hb]
    refine ⟨hs3.app, trivial, hs3.app.open_tx, trivial, trivial, htxs, fun h0 => ?_⟩
    have hw := hw3 (hfd.trans h0)
    rw [View.txs, hw, List.append_nil] at htxs
    exact ⟨hw, htxs⟩
  · simp only [r, pollClose, withContext, sslShutdown, hcl, reduceCtorEq, reduceIte, heq]
    exact ⟨hs.app, trivial, hs.app.open_tx, trivial, hown, trivial, hcat⟩

/-! ### 4. compio-ws: flush before yield, flush order, nothing lost -/

section Ws
open Compio.WsShim

/-- **`Sink::poll_flush` of compio-ws** (protocol flush, then transport flush): `Ready` means that nothing is
pending at any level - no queued reply, empty write buffer, empty stream buffer - and that everything,
including a queued pong / close reply, has reached the peer's pipe in order. -/
theorem ws_flush_ready {sc : WSched} {w w' : Ws} {v v' : WView} (hn : NoBuf sc v)
    (h : WsShim.pollFlush sc w v = (w', v', .ready ())) :
    w'.e.additional = none ∧ w'.e.out = [] ∧ v'.tbuf = [] ∧
    v'.tx = v.tx ++ v.tbuf ++ w.e.out ++ addList w.e := by
  obtain ⟨_, h1, _, _, h5, h6, h7⟩ := pollFlush_spec hn h
  exact ⟨h1, h6, h7, by simpa [WView.wire, h6, h7] using h5⟩

/-- a `Pending` flush has the transport's wake-up and loses / reorders nothing -/
theorem ws_flush_pending {sc : WSched} {w w' : Ws} {v v' : WView} {p : Pend} (hn : NoBuf sc v)
    (h : WsShim.pollFlush sc w v = (w', v', .pending p)) :
    p = .self ∧ v'.wire ++ w'.e.out ++ addList w'.e = v.wire ++ w.e.out ++ addList w.e := by
  obtain ⟨_, h1, _, _, h5, h6⟩ := pollFlush_spec hn h
  exact ⟨h6, by rw [h5]; simp [addList, h1]⟩

/-- **flush before yielding an item** (`Stream::poll_next`): when `poll_next` hands an item to the caller,
  * the item is either the parked one or the head of the incoming frames, consumed exactly once,
  * the reply that reading it queued (pong for a ping, close reply for a close) has already reached the
    peer's pipe, after everything written before,
  * and nothing is left pending (`next_item`, reply queue, write buffer, stream buffer all empty). -/
theorem ws_next_ready {sc : WSched} {w w' : Ws} {v v' : WView} {item : Frame} (hn : NoBuf sc v)
    (h : pollNext sc w v = (w', v', .ready item)) :
    w'.nextItem = none ∧ w'.e.additional = none ∧ w'.e.out = [] ∧ v'.tbuf = [] ∧
    ((w.nextItem = some item ∧ v'.rx = v.rx ∧ v'.tx = v.tx ++ v.tbuf ++ w.e.out ++ addList w.e) ∨
     (w.nextItem = none ∧ v.rx = item :: v'.rx ∧
       (w.e.additional = none → v'.tx = v.tx ++ v.tbuf ++ w.e.out ++ replyOf w.e item))) := by
  cases hni : w.nextItem with
  | some it =>
    obtain ⟨g1, g4, g5, rfl, g0, g2, g3⟩ := pollNext_parked hn hni h
    exact ⟨g0, g1, g2, g3, Or.inl ⟨rfl, g4, by simpa [WView.wire, g2, g3] using g5⟩⟩
  | none =>
    rcases pollNext_empty sc v hni with ⟨_, heq⟩ | ⟨f, rest, e', hrx, hout, hadd, heq⟩
    · rw [heq] at h; cases h
    · rw [heq] at h
      obtain ⟨g1, g4, g5, rfl, g0, g2, g3⟩ := pollNext_parked (v := { v with rx := rest }) hn rfl h
      refine ⟨g0, g1, g2, g3, Or.inr ⟨rfl, by rw [hrx, g4], fun ha => ?_⟩⟩
      simpa [WView.wire, g2, g3, hout, hadd ha] using g5

/-- **a `Pending` `poll_next` keeps the item**: an item that has been taken from the protocol layer stays
parked in `next_item` until the flushes are through - it is neither lost nor read twice; a `Pending` because
nothing has arrived registers the waker and parks nothing. -/
theorem ws_next_pending {sc : WSched} {w w' : Ws} {v v' : WView} {p : Pend} (hn : NoBuf sc v)
    (h : pollNext sc w v = (w', v', .pending p)) :
    (p = .reg ∧ w.nextItem = none ∧ v.rx = [] ∧ w'.nextItem = none ∧ v'.rwait = true) ∨
    (p = .self ∧ ((∃ it, w.nextItem = some it ∧ w'.nextItem = some it ∧ v'.rx = v.rx) ∨
                  (∃ it, w.nextItem = none ∧ v.rx = it :: v'.rx ∧ w'.nextItem = some it))) := by
  cases hni : w.nextItem with
  | some it =>
    obtain ⟨_, g4, _, g1, g3⟩ := pollNext_parked hn hni h
    exact Or.inr ⟨g1, Or.inl ⟨it, rfl, g3, g4⟩⟩
  | none =>
    rcases pollNext_empty sc v hni with ⟨hrx, heq⟩ | ⟨f, rest, e', hrx, _, _, heq⟩
    · rw [heq] at h; cases h
      exact Or.inl ⟨rfl, rfl, hrx, hni, rfl⟩
    · rw [heq] at h
      obtain ⟨_, g4, _, g1, g3⟩ := pollNext_parked (v := { v with rx := rest }) hn rfl h
      exact Or.inr ⟨g1, Or.inr ⟨f, rfl, by rw [hrx, g4], g3⟩⟩

/-- `send` from a clean state: `Ready` means the frame is in the peer's pipe, after everything before it -/
theorem ws_send_ready {sc : WSched} {w w' : Ws} {v v' : WView} {f : Frame} {q : Bool} (hn : NoBuf sc v)
    (hr : w.e.ready = true) (h : pollSend sc w v f false = (w', v', q, .ready ())) :
    v'.tx = v.tx ++ v.tbuf ++ w.e.out ++ [f] ++ addList w.e ∧ w'.e.out = [] ∧ v'.tbuf = [] := by
  unfold pollSend at h
  simp only [Bool.false_eq_true, if_false, hr, if_true] at h
  cases hf : WsShim.pollFlush sc { w with e := engWrite w.e f } v with
  | mk w1 x =>
    obtain ⟨v1, r1⟩ := x
    rw [hf] at h
    simp only [Prod.mk.injEq] at h
    obtain ⟨h1, h2, _, h4⟩ := h; subst h1; subst h2; subst h4
    obtain ⟨_, g2, g3, g5⟩ := ws_flush_ready hn hf
    exact ⟨by simpa [engWrite, addList] using g5, g2, g3⟩

end Ws

/-! ### 5. non-vacuity -/

/-- a TLS-1.3 shaped tape satisfies the well-formedness hypothesis -/
example : HasSC [.client, .client, .server, .server, .server, .client] :=
  ⟨[.client, .client], [.server, .server, .client], rfl, by simp⟩

/-- the hypotheses of `handshake_completes` are satisfiable with a buffering transport, a 1-byte transfer
limit and every call delayed -/
example : (run (hsBound ⟨1, true, false, 2, 1, 3, 1, 100⟩ [.client, .server, .client] 2)
    (Sys.init ⟨1, true, false, 2, 1, 3, 1, 100⟩ false [.client, .server, .client] 2 [] [])).2 = .done :=
  (handshake_completes ⟨1, true, false, 2, 1, 3, 1, 100⟩ [.client, .server, .client] 2 (by decide) rfl
    ⟨[.client], [.client], rfl, by simp⟩ (by decide)).1

/-- reading a ping over a buffering stream whose writes pend once: the first poll parks the ping and
returns `Pending`; when the ping is yielded by the second poll its pong is in the peer's pipe -/
example :
    let sc : WsShim.WSched := ⟨true, 1, 0⟩
    let v0 : WsShim.WView := ⟨[], 0, 0, [], [⟨.ping, [1, 2]⟩], false⟩
    let r1 := WsShim.pollNext sc WsShim.Ws.new v0
    let r2 := WsShim.pollNext sc r1.1 r1.2.1
    (match r1.2.2 with | .pending .self => true | _ => false) = true ∧ r1.1.nextItem = some ⟨.ping, [1, 2]⟩ ∧
    (match r2.2.2 with | .ready f => f == ⟨.ping, [1, 2]⟩ | _ => false) = true ∧
    r2.2.1.tx = [⟨.pong, [1, 2]⟩] := by decide +kernel

/-- client writes last (TLS 1.3 shape) and server writes last (TLS 1.2 shape), buffering transport with every
call delayed: both runs end with both transport buffers empty -/
example :
    let sc : Sched := ⟨2, true, false, 1, 1, 2, 1, 100⟩
    let y13 := (run 400 (Sys.init sc false [.client, .server, .server, .client] 1 [] [])).1
    let y12 := (run 400 (Sys.init sc false [.client, .server, .client, .client, .server] 0 [] [])).1
    y13.c.res = [.ok 0] ∧ y13.s.res = [.ok 0] ∧ y13.tpC.wbuf.toList = [] ∧ y13.tpS.wbuf.toList = [] ∧
    y12.c.res = [.ok 0] ∧ y12.s.res = [.ok 0] ∧ y12.tpC.wbuf.toList = [] ∧ y12.tpS.wbuf.toList = [] := by decide +kernel


/-! ### 6. the shim as regenerated from the source (`Gen/TlsCompat.lean`, extractor target `TlsCompat`)

`Compio.Gen.TlsCompat` is produced by `/verif/extract` from `compio-tls/src/compat/common.rs` and
`compat/native.rs` on every check: the `OpensslInner` flag logic as Lean functions over an arbitrary inner
stream, the two `with_context` result maps, the dispatch tables, the statement lists of `handshake()`. The
theorems below say that the hand model of `Model/TlsShim.lean` (the functions the driver executes and every
theorem above is about) *is* that generated code, instantiated with the model transport - for all states and
all inputs. A source edit that changes one of these constructs changes the generated definitions and breaks
one of these proofs whether or not a generated case samples it. -/

namespace GenTie
open Compio.Gen

def toP {α : Type} : IoR α → TlsCompat.P Pend α
  | .pending p => .pending p
  | .ready a => .ready a
  | .err => .err

def toPv {α : Type} (r : View × IoR α) : View × TlsCompat.P Pend α := (r.1, toP r.2)

def ofStd {α : Type} : TlsCompat.Std Pend α → BioR α
  | .ok a => .ok a
  | .wouldBlock p => .wouldBlock p
  | .err => .err
  | .panic => .panic

def toStd {α : Type} : BioR α → TlsCompat.Std Pend α
  | .ok a => .ok a
  | .wouldBlock p => .wouldBlock p
  | .err => .err
  | .panic => .panic

def ofOuter {α : Type} : TlsCompat.Outer Pend α → PollR α
  | .pending p => .pending p
  | .ready a => .ready a
  | .err => .err
  | .panic => .panic

/-- the `OpensslInner` flags inside the model state -/
def flagsOf (o : Ossl) : TlsCompat.Flags := ⟨o.written, o.handshaken⟩

def setFlags (o : Ossl) (f : TlsCompat.Flags) : Ossl := { o with written := f.written, handshaken := f.handshaken }

theorem setFlags_flagsOf (o : Ossl) : setFlags o (flagsOf o) = o := by cases o; rfl

/-- `AllowStd::write` assembled from the generated pieces over the model transport -/
def genBioWrite (sc : Sched) (o : Ossl) (v : View) (cs : List Cell) : Ossl × View × BioR Nat :=
  match TlsCompat.withContext o.ctx (flagsOf o, v) (fun _ =>
      match TlsCompat.pollWrite (fun v => toPv (ioWrite sc v cs)) (flagsOf o) v with
      | (f, v, r) => ((f, v), r)) with
  | ((f, v), r) => (setFlags o f, v, ofStd r)

/-- `AllowStd::flush` assembled from the generated pieces -/
def genBioFlush (sc : Sched) (o : Ossl) (v : View) : Ossl × View × BioR Unit :=
  match TlsCompat.withContext o.ctx (flagsOf o, v) (fun _ =>
      match TlsCompat.pollFlush (fun v => toPv (ioFlush sc v)) (flagsOf o) v with
      | (f, v, r) => ((f, v), r)) with
  | ((f, v), r) => (setFlags o f, v, ofStd r)

/-- `AllowStd::read` assembled from the generated pieces; `none` = the generated `loop` ran out of fuel -/
def genBioRead (sc : Sched) (fuel : Nat) (o : Ossl) (v : View) (n : Nat) : Option (Ossl × View × BioR (List Cell)) :=
  match TlsCompat.pollRead (fun v => toPv (ioFlush sc v)) (fun v => toPv (ioRead sc v n)) fuel (flagsOf o) v with
  | (_, _, none) => none
  | (f, v', some r) =>
    match TlsCompat.withContext o.ctx (flagsOf o, v) (fun _ => ((f, v'), r)) with
    | ((f, v), r) => some (setFlags o f, v, ofStd r)

end GenTie

section
attribute [local simp] GenTie.toP Compio.Gen.TlsCompat.stdOf GenTie.ofStd GenTie.setFlags GenTie.flagsOf

open GenTie Compio.Gen in
/-- **the hand model's `AllowStd::write` is the regenerated code**: context assertion first, then
`OpensslInner::poll_write` (delegate; `written := true` exactly on `Ready(Ok)`), `Pending → WouldBlock`. -/
theorem gen_bioWrite (sc : Sched) (o : Ossl) (v : View) (cs : List Cell) :
    bioWrite sc o v cs = genBioWrite sc o v cs := by
  unfold bioWrite genBioWrite TlsCompat.withContext TlsCompat.pollWrite toPv
  rcases h : ioWrite sc v cs with ⟨v', r⟩
  rcases o with ⟨me, tape, post, out, op, cl, rc, w, hs, ctx⟩
  cases ctx with
  | false => simp
  | true => cases r <;> simp [h]

open GenTie Compio.Gen in
/-- **`AllowStd::flush` / `OpensslInner::poll_flush`**: a no-op `Ready(Ok)` while not handshaken, the inner flush
afterwards - as regenerated. -/
theorem gen_bioFlush (sc : Sched) (o : Ossl) (v : View) :
    bioFlush sc o v = genBioFlush sc o v := by
  unfold bioFlush genBioFlush TlsCompat.withContext TlsCompat.pollFlush toPv
  rcases h : ioFlush sc v with ⟨v', r⟩
  rcases o with ⟨me, tape, post, out, op, cl, rc, w, hs, ctx⟩
  cases ctx with
  | false => simp
  | true =>
    cases hs with
    | false => simp
    | true => cases r <;> simp [h]

open Compio.Gen in
/-- the regenerated `poll_read` loop unrolled: a performed flush clears `written`, so the second iteration is the
inner read -/
theorem gen_pollRead_unroll {σ ε α : Type} (flush : σ → σ × TlsCompat.P ε Unit) (read : σ → σ × TlsCompat.P ε α)
    (n : Nat) (f : TlsCompat.Flags) (s : σ) :
    TlsCompat.pollRead flush read (n + 2) f s =
      if !f.handshaken && f.written then
        match flush s with
        | (s, .pending p) => (f, s, some (.pending p))
        | (s, .ready ()) => ({ f with written := false }, (read s).1, some (read s).2)
        | (s, .err) => (f, s, some .err)
      else (f, (read s).1, some (read s).2) := by
  rw [TlsCompat.pollRead]
  split
  · rcases flush s with ⟨s', r⟩
    cases r <;> simp [TlsCompat.pollRead]
  · rfl

open GenTie Compio.Gen in
/-- **`AllowStd::read` / `OpensslInner::poll_read`**: the regenerated `loop` (guard `!handshaken && written`,
flush first, `written := false` on `Ready(Ok)`, break on `Pending` / `Err`, else the inner read) needs two
iterations at most and then is the hand model's `bioRead`, for every state and every transport behaviour. -/
theorem gen_bioRead (sc : Sched) (fuel : Nat) (o : Ossl) (v : View) (n : Nat) :
    genBioRead sc (fuel + 2) o v n = some (bioRead sc o v n) := by
  unfold genBioRead bioRead TlsCompat.withContext toPv
  rw [gen_pollRead_unroll]
  rcases o with ⟨me, tape, post, out, op, cl, rc, w, hs, ctx⟩
  cases hc : (!hs && w)
  · rcases hr : ioRead sc v n with ⟨vr, rr⟩
    cases ctx <;> cases rr <;> simp [hc, hr]
  · rcases hf : ioFlush sc v with ⟨vf, rf⟩
    cases rf with
    | ready u =>
      rcases hr : ioRead sc vf n with ⟨vr, rr⟩
      cases ctx <;> cases rr <;> simp [hc, hr]
    | pending p => cases ctx <;> simp [hc]
    | err => cases ctx <;> simp [hc]

end

open Compio.Gen in
/-- the regenerated `poll_read` loop terminates within two iterations over **any** inner stream (whatever its
`poll_flush` / `poll_read` do): more fuel never changes the result and the result is never "out of fuel". -/
theorem gen_pollRead_two_iterations {σ ε α : Type} (flush : σ → σ × TlsCompat.P ε Unit)
    (read : σ → σ × TlsCompat.P ε α) (n : Nat) (f : TlsCompat.Flags) (s : σ) :
    TlsCompat.pollRead flush read (n + 2) f s = TlsCompat.pollRead flush read 2 f s ∧
    (TlsCompat.pollRead flush read 2 f s).2.2 ≠ none := by
  rw [gen_pollRead_unroll, gen_pollRead_unroll flush read 0]
  refine ⟨rfl, ?_⟩
  split
  · rcases flush s with ⟨s', r⟩
    cases r <;> simp
  · simp

open GenTie Compio.Gen in
/-- **`native::TlsStream::with_context`** (set the context, run the engine, the `Guard` clears the context, map the
result) is the regenerated result map `pollOf`: `Ok → Ready`, `WouldBlock → Pending`, other errors `Ready(Err)`. -/
theorem gen_withContext {α : Type} (o : Ossl) (v : View) (f : Ossl → View → Ossl × View × BioR α) :
    withContext o v f =
      (match f { o with ctx := true } v with
       | (o', v', r) => ({ o' with ctx := false }, v', ofOuter (TlsCompat.pollOf (toStd r)))) := by
  unfold withContext
  rcases h : f { o with ctx := true } v with ⟨o', v', r⟩
  cases r <;> simp [toStd, TlsCompat.pollOf, ofOuter]

open Compio.Gen in
/-- the dispatch tables of the source as the model has them: which inner poll each std call makes, which engine
call each `poll_*` of `native::TlsStream` makes (`pollRead = sslRead`, `pollWrite = sslWrite`,
`pollFlush = bioFlush`, `pollClose = sslShutdown`), the error kind standing for `Pending`, the initial flags
(`Ossl.new`), and that `connect` / `accept` are both nothing but `handshake()`. -/
theorem gen_dispatch_tables :
    TlsCompat.stdRead = .pollRead ∧ TlsCompat.stdWrite = .pollWrite ∧ TlsCompat.stdFlush = .pollFlush ∧
    TlsCompat.tlsPollRead = .read ∧ TlsCompat.tlsPollWrite = .write ∧ TlsCompat.tlsPollFlush = .flush ∧
    TlsCompat.tlsPollClose = .shutdown ∧ TlsCompat.pendingKind = "WouldBlock" ∧
    TlsCompat.pollCloseDelegates = true ∧ TlsCompat.bothRolesShareHandshake = true ∧
    (∀ (me : Side) (tape : List Side) (post : Nat), GenTie.flagsOf (Ossl.new me tape post) = TlsCompat.new) := by
  refine ⟨rfl, rfl, rfl, rfl, rfl, rfl, rfl, by decide, rfl, rfl, ?_⟩
  intro me tape post; rfl

open Compio.Gen in
/-- **`handshake()` as regenerated**: the `Done` arm returns the stream with no further step (the latent defect of
`Cex.C15.done_path_unflushed`), the `Mid` arm is `MidHandshake.await`, `finish_handshake()`, `flush().await`, in this
order, for the connector and the acceptor alike; the two poll functions have the arms the model has
(`HsFut.start`: `Ok → done`, `WouldBlock → mid`; `HsFut.mid`: `Ok → finish + flush`, `WouldBlock → Pending`). -/
theorem gen_handshake_steps :
    TlsCompat.handshakeDoneSteps = [] ∧
    TlsCompat.handshakeMidSteps = [.midHandshake, .finishHandshake, .flush] ∧
    TlsCompat.startedArms = [.okDone, .wouldBlockMid, .failure] ∧
    TlsCompat.midArms = [.okDone, .wouldBlockPending, .failure] := by decide

open GenTie Compio.Gen in
/-- the `Mid` arm on the model, with the regenerated `finish_handshake`: when the resumed engine call returns `Ok`,
the poll of `handshake()` is the poll of the flush of the stream whose flags are `finishHandshake` of the engine's. -/
theorem gen_handshake_mid_ok (sc : Sched) (o o1 : Ossl) (v v1 : View)
    (h : sslDoHandshake sc sc.fuel { o with ctx := true } v = (o1, v1, .ok ())) :
    pollHandshake sc .mid o v =
      (match pollFlush sc (setFlags { o1 with ctx := false } (TlsCompat.finishHandshake (flagsOf o1))) v1 with
       | (o, v, .ready ()) => (.done, o, v, .ready ())
       | (o, v, .pending p) => (.flush, o, v, .pending p)
       | (o, v, .err) => (.failed, o, v, .err)
       | (o, v, .panic) => (.failed, o, v, .panic)) := by
  have e : setFlags { o1 with ctx := false } (TlsCompat.finishHandshake (flagsOf o1))
      = { o1 with ctx := false, handshaken := true } := by
    cases o1; rfl
  rw [e]
  simp only [pollHandshake, h]
  rfl

/-- non-vacuity: the regenerated read loop does flush first, clears `written`, and then reads (second iteration) -/
example :
    (Compio.Gen.TlsCompat.pollRead (σ := Nat) (ε := Unit) (α := Nat)
      (fun s => (s + 1, .ready ())) (fun s => (s, .ready s)) 2 ⟨true, false⟩ 0).1 = ⟨false, false⟩ := by decide

example : (GenTie.genBioWrite ⟨4, false, false, 0, 0, 0, 0, 10⟩
    { Ossl.new .client [] 0 with ctx := true } ⟨Tp.new, Pipe.empty, Pipe.empty, false, false⟩ [Cell.hs]).1.written = true := by
  decide


/-! ### 7. all histories of calls through the regenerated `OpensslInner`, over ANY inner stream

The mechanism "during the handshake a read first flushes what was written" as a statement about every sequence
of std-style calls (`read` / `write` / `flush` through `AllowStd`, `finish_handshake`) on the *generated*
`pollRead` / `pollWrite` / `pollFlush`, the inner stream being an adversary that answers every poll with an
arbitrary `Pending` / `Ready(Ok)` / `Err`. Ghost state: `dirty` = the inner stream accepted a write since its last
`Ready` flush; `bad` = `inner.poll_read` was called during the handshake while `dirty` (the endpoint would wait for
the peer with its own flight still unflushed: the deadlock of a buffering transport). -/

namespace GenHist
open Compio.Gen

/-- an answer of the adversarial inner stream -/
abbrev R := TlsCompat.P Unit Unit

/-- one call through the regenerated `OpensslInner`, with the answers the inner stream gives if it is reached -/
inductive Op where
  /-- `AllowStd::read`; `rf` / `rr` = what the inner `poll_flush` / `poll_read` answer if they are called -/
  | read (rf rr : R)
  | write (r : R)
  | flush (r : R)
  | finish

/-- the flags of `OpensslInner` and the two ghost bits of the section heading -/
structure St where
  f : TlsCompat.Flags
  dirty : Bool
  bad : Bool

def isReady : R → Bool
  | .ready _ => true
  | _ => false

/-- the generated poll functions over an inner stream whose state is the ghost bits: a `Ready` write sets `dirty`, a
`Ready` flush clears it, a read while handshaking and `dirty` sets `bad` -/
def step (s : St) : Op → St
  | .write r =>
    match TlsCompat.pollWrite (fun d : Bool => (d || isReady r, r)) s.f s.dirty with
    | (f, d, _) => { s with f := f, dirty := d }
  | .flush r =>
    match TlsCompat.pollFlush (fun d : Bool => (d && !isReady r, r)) s.f s.dirty with
    | (f, d, _) => { s with f := f, dirty := d }
  | .read rf rr =>
    match TlsCompat.pollRead (fun x : Bool × Bool => ((x.1 && !isReady rf, x.2), rf))
        (fun x : Bool × Bool => ((x.1, x.2 || (x.1 && !s.f.handshaken)), rr)) 2 s.f (s.dirty, s.bad) with
    | (f, (d, b), _) => { f := f, dirty := d, bad := b }
  | .finish => { s with f := TlsCompat.finishHandshake s.f }

def run (s : St) (l : List Op) : St := l.foldl step s

def init : St := ⟨TlsCompat.new, false, false⟩

/-- never read with unflushed handshake data so far, and while handshaking `dirty → written` -/
def Inv (s : St) : Prop := s.bad = false ∧ (s.f.handshaken = false → s.dirty = true → s.f.written = true)

theorem step_inv (s : St) (op : Op) (h : Inv s) : Inv (step s op) := by
  rcases s with ⟨⟨w, hs⟩, d, b⟩
  obtain ⟨hb, hd⟩ := h
  simp only at hb hd
  subst hb
  cases op with
  | read rf rr =>
    simp only [step, gen_pollRead_unroll _ _ 0]
    cases hc : (!hs && w)
    · -- no flush: then not (handshaking and dirty), so the read is harmless
      cases hs with
      | true => exact ⟨by simp, nofun⟩
      | false =>
        obtain rfl : w = false := by simpa using hc
        obtain rfl : d = false := by simpa using hd
        exact ⟨rfl, nofun⟩
    · -- handshaking and `written`: after a `Ready` flush nothing is dirty
      simp only [Bool.and_eq_true, Bool.not_eq_true'] at hc
      obtain ⟨rfl, rfl⟩ := hc
      cases rf <;> simp [Inv, isReady]
  | write r =>
    -- a `Ready` write sets `written`; otherwise nothing changes
    cases r with
    | ready u => exact ⟨rfl, fun _ _ => rfl⟩
    | pending p => exact ⟨rfl, by simpa [step, TlsCompat.pollWrite, isReady] using hd⟩
    | err => exact ⟨rfl, by simpa [step, TlsCompat.pollWrite, isReady] using hd⟩
  | flush r =>
    -- a no-op while handshaking
    cases hs with
    | false => exact ⟨rfl, hd⟩
    | true => cases r <;> exact ⟨rfl, nofun⟩
  | finish => exact ⟨rfl, nofun⟩

theorem run_inv (l : List Op) : ∀ s : St, Inv s → Inv (run s l) := by
  induction l with
  | nil => intro s h; exact h
  | cons op l ih => intro s h; exact ih _ (step_inv s op h)

end GenHist

/-- **all histories**: whatever sequence of reads, writes, flushes and `finish_handshake` goes through the regenerated
`OpensslInner`, and whatever the inner stream answers (any `Pending` / `Ready` / `Err` pattern), the inner
`poll_read` is never reached during the handshake with a written-but-unflushed flight. -/
theorem gen_history_read_only_after_flush (l : List GenHist.Op) : (GenHist.run GenHist.init l).bad = false :=
  (GenHist.run_inv l GenHist.init ⟨rfl, by intro _ h; cases h⟩).1

/-- … and after `finish_handshake` the flag logic is transparent for ever: a flush is always the inner flush
(`handshaken` is never reset by any call). -/
theorem gen_history_handshaken_stable (l : List GenHist.Op) (s : GenHist.St) (h : s.f.handshaken = true) :
    (GenHist.run s l).f.handshaken = true := by
  induction l generalizing s with
  | nil => exact h
  | cons op l ih =>
    apply ih
    rcases s with ⟨⟨w, hs⟩, d, b⟩
    simp only at h
    subst h
    -- once handshaken, no call looks at `written`, and none resets `handshaken`
    cases op with
    | read rf rr => simp [GenHist.step, gen_pollRead_unroll _ _ 0]
    | write r => cases r <;> rfl
    | flush r => rfl
    | finish => rfl

/-- non-vacuity: a write accepted, then a read: the flush is performed first (`dirty` cleared), the read reached -/
example : (GenHist.run GenHist.init [.write (.ready ()), .read (.ready ()) (.pending ())]).dirty = false ∧
    (GenHist.run GenHist.init [.write (.ready ()), .read (.pending ()) (.ready ())]).dirty = true := by decide


/-! ### 8. compio-ws: `poll_flush` / `poll_next` as regenerated (`Gen/WsCompat.lean`, extractor target `WsCompat`)

The statement lists of `Sink::poll_flush` and of the two branches of the `Stream::poll_next` loop are regenerated
from `compio-ws/src/lib.rs`; `GenWs.exec` gives them their meaning on the model (`ready!(..)?` = return `Pending`
at once) and the hand model's `WsShim.pollFlush` / `pollNext` - the functions of `ws_flush_*` / `ws_next_*` - are
proved to be exactly that, for every state. -/

namespace GenWs
open Compio.Gen Compio.WsShim

/-- how the execution of a statement list ends -/
inductive Out where
  | pending (p : Pend)
  /-- the function returned `Ready` (`none`: `Ok(())`, `some f`: the item) -/
  | ret (item : Option Frame)
  /-- end of the loop body: the loop repeats -/
  | fall
  /-- `expect("next_item should be Some")` failed -/
  | panic

/-- meaning of a statement list; `it` = the local `item` -/
def exec (sc : WSched) : List WsCompat.Stmt → Ws → WView → Option Frame → Ws × WView × Out
  | [], w, v, _ => (w, v, .fall)
  | .protoFlush :: k, w, v, it =>
    match engFlush sc w.e v with
    | (e, v, .pending p) => ({ w with e }, v, .pending p)
    | (e, v, .ready ()) => exec sc k { w with e } v it
  | .transportFlush :: k, w, v, it =>
    match sFlush sc v with
    | (v, .pending p) => (w, v, .pending p)
    | (v, .ready ()) => exec sc k w v it
  | .readyOk :: _, w, v, _ => (w, v, .ret none)
  | .takeAndYield :: _, w, v, _ =>
    match w.nextItem with
    | some i => ({ w with nextItem := none }, v, .ret (some i))
    | none => (w, v, .panic)
  | .pollProtocol :: k, w, v, _ =>
    match engRead w.e v with
    | (e, v, .pending p) => ({ w with e }, v, .pending p)
    | (e, v, .ready i) => exec sc k { w with e } v (some i)
  | .park :: k, w, v, it => exec sc k { w with nextItem := it } v it

def flushOut : Ws × WView × Out → Option (Ws × WView × R Unit)
  | (w, v, .pending p) => some (w, v, .pending p)
  | (w, v, .ret none) => some (w, v, .ready ())
  | _ => none

def nextOut : Ws × WView × Out → Option (Ws × WView × R Frame)
  | (w, v, .pending p) => some (w, v, .pending p)
  | (w, v, .ret (some i)) => some (w, v, .ready i)
  | _ => none

/-- the `poll_next` loop: at most two iterations are ever needed (second one only after parking an item) -/
def genPollNext (sc : WSched) (w : Ws) (v : WView) : Option (Ws × WView × R Frame) :=
  if w.nextItem.isSome then nextOut (exec sc WsCompat.pollNextParked w v none)
  else
    match exec sc WsCompat.pollNextEmpty w v none with
    | (w, v, .fall) => if w.nextItem.isSome then nextOut (exec sc WsCompat.pollNextParked w v none) else none
    | r => nextOut r

end GenWs

open Compio.Gen in
/-- the regenerated statement order: protocol flush, transport flush, and only then `Ready` / `take()`-and-yield;
without a parked item: poll the protocol stream, park the item. (Seed C15-2a - `take()` before the flushes - and
the removal of the flushes change these lists.) -/
theorem gen_ws_order :
    WsCompat.pollFlush = [.protoFlush, .transportFlush, .readyOk] ∧
    WsCompat.pollNextParked = [.protoFlush, .transportFlush, .takeAndYield] ∧
    WsCompat.pollNextEmpty = [.pollProtocol, .park] ∧ WsCompat.sinkRestDelegates = true := by decide

open GenWs Compio.Gen Compio.WsShim in
/-- **`WsShim.pollFlush` is the regenerated `Sink::poll_flush`**, for every state and schedule. -/
theorem gen_ws_pollFlush (sc : WSched) (w : Ws) (v : WView) :
    flushOut (exec sc WsCompat.pollFlush w v none) = some (Compio.WsShim.pollFlush sc w v) := by
  simp only [WsCompat.pollFlush, exec, Compio.WsShim.pollFlush]
  rcases h : engFlush sc w.e v with ⟨e, v', r⟩
  cases r with
  | pending p => rfl
  | ready a =>
    cases a
    simp only []
    rcases h2 : sFlush sc v' with ⟨v'', r2⟩
    cases r2 with
    | pending p => rfl
    | ready a => cases a; rfl

open GenWs Compio.Gen Compio.WsShim in
/-- **`WsShim.pollNext` is the regenerated `Stream::poll_next` loop** (parked item: flush, flush, take and yield;
otherwise poll, park, repeat), for every state and schedule; the loop never needs a third iteration and the
`expect` never fails. -/
theorem gen_ws_pollNext (sc : WSched) (w : Ws) (v : WView) :
    genPollNext sc w v = some (Compio.WsShim.pollNext sc w v) := by
  -- with an item parked; without one, the second iteration of the loop is this case
  have parked : ∀ (e : Eng) (item : Frame) (v : WView),
      nextOut (exec sc WsCompat.pollNextParked ⟨e, some item⟩ v none) =
        some (Compio.WsShim.pollNext sc ⟨e, some item⟩ v) := by
    intro e item v
    simp only [WsCompat.pollNextParked, exec, Compio.WsShim.pollNext, Compio.WsShim.pollFlush]
    rcases engFlush sc e v with ⟨e', v', r⟩
    cases r with
    | pending p => rfl
    | ready a =>
      cases a
      simp only []
      rcases sFlush sc v' with ⟨v'', r2⟩
      cases r2 with
      | pending p => rfl
      | ready a => cases a; rfl
  rcases w with ⟨e0, ni⟩
  cases ni with
  | some item => exact parked e0 item v
  | none =>
    simp only [genPollNext, WsCompat.pollNextEmpty, exec, Compio.WsShim.pollNext, Option.isSome]
    rcases engRead e0 v with ⟨e1, v1, r1⟩
    cases r1 with
    | pending p => rfl
    | ready item => exact parked e1 item v1

end Compio.Props.C15
