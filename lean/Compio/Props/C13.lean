/-
C13 — framing and ancillary codecs (compio-io/src/framed, compio-io/src/ancillary): round-trip and
hostile-input safety. All statements are unbounded: every frame list, payload, fragmentation, framer
parameter, byte string.
-/
import Compio.Lemmas.Frame
import Compio.Lemmas.Cmsg
import Compio.Lemmas.CmsgRoundtrip
import Compio.Lemmas.CmsgRefuse

namespace Compio.Props.C13
open Compio Compio.Frame

/-- what `stream_roundtrip` asks of a framer (`enc` = `Framer::enclose`, `ext` = `Framer::extract`) on the
payloads satisfying `wf` -/
structure FramerOK (enc : Bytes → Bytes) (ext : Bytes → Extract) (wf : Bytes → Prop)
    (pre suf : Bytes → Nat) : Prop where
  complete : ∀ p rest, wf p → ext (enc p ++ rest) = .frame (pre p) p.length (suf p)
  layout : ∀ p, wf p → (enc p).length = pre p + p.length + suf p ∧ ((enc p).drop (pre p)).take p.length = p
  incomplete : ∀ p b, wf p → b <+: enc p → b.length < (enc p).length → ext b = .none
  empty : ext [] = .none

/-- well-formed payload for `LengthDelimited`: the length fits the field (and `usize`) -/
def ldWf (f : LD) (p : Bytes) : Prop := p.length < 256 ^ f.lfl ∧ f.lfl + p.length < usizeLimit

/-- well-formed payload for a delimiter `d`: the first occurrence of `d` in `p ++ d` is the appended one -/
def anyWf (d : Bytes) (p : Bytes) : Prop := findSub d (p ++ d) = some p.length

theorem ld_framer_ok (f : LD) (hl : 1 ≤ f.lfl) :
    FramerOK f.enclose f.extract (ldWf f) (fun _ => f.lfl) (fun _ => 0) where
  complete p rest h := by
    rw [LD.extract_of_field f _ p.length (by simp [LD.enclose]) (by simp [LD.enclose]) h.1 h.2,
      if_neg (by simp [LD.enclose])]
  layout p _ := by simp [LD.enclose]
  incomplete p b h hb hlt := by
    rw [LD.length_enclose] at hlt
    by_cases hs : b.length < f.lfl
    · unfold LD.extract; rw [if_pos hs]
    · obtain ⟨t, ht⟩ := hb
      have hfield : (b ++ t).take f.lfl = encodeLen f.lfl f.be p.length := by simp [ht, LD.enclose]
      rw [List.take_append_of_le_length (by omega)] at hfield
      rw [LD.extract_of_field f b p.length (by omega) hfield h.1 h.2, if_pos hlt]
  empty := by
    unfold LD.extract
    rw [if_pos (by simp; omega)]

theorem any_framer_ok (d : Bytes) (hd : d ≠ []) :
    FramerOK (anyEnclose d) (anyExtract d) (anyWf d) (fun _ => 0) (fun _ => d.length) where
  complete p rest h := by
    rw [anyExtract_eq _ _ hd, anyEnclose, findSub_append_right d _ rest _ h]
  layout p _ := by simp [anyEnclose]
  incomplete p b h hb hl := by
    rw [anyExtract_eq _ _ hd]
    cases hf : findSub d b with
    | none => rfl
    | some q =>
      -- an occurrence inside a strict prefix of `p ++ d` would be an earlier occurrence in `p ++ d`
      obtain ⟨t, ht⟩ := hb
      have hq := findSub_append_right d b t q hf
      rw [ht, anyEnclose, show findSub d (p ++ d) = _ from h] at hq
      have := findSub_bound d b q hf
      simp [anyEnclose] at hq hl
      omega
  empty := rfl

theorem pollNext_whole {enc ext wf pre suf} (ok : FramerOK enc ext wf pre suf) (p : Bytes) (hp : wf p)
    (tail rest buf : Bytes) (eof : Bool) (frags : List Frag)
    (hcat : buf ++ rest = enc p ++ tail) (hge : (enc p).length ≤ buf.length) :
    ∃ buf', pollNext ext ⟨buf, eof⟩ frags = (.item p, ⟨buf', eof⟩, frags) ∧ buf' ++ rest = tail := by
  obtain ⟨hlen, hpay⟩ := ok.layout p hp
  obtain ⟨r, rfl⟩ : enc p <+: buf :=
    List.prefix_of_prefix_length_le ⟨tail, hcat.symm⟩ (List.prefix_append _ _) hge
  refine ⟨r, ?_, List.append_cancel_left (by rwa [List.append_assoc] at hcat)⟩
  rw [pollNext_frame ext _ _ _ _ _ (ok.complete p r hp) (by rw [List.length_append, hlen]; omega)]
  have h1 : ((enc p ++ r).drop (pre p)).take p.length = p := by
    rw [List.drop_append_of_le_length (by omega),
      List.take_append_of_le_length (by rw [List.length_drop]; omega)]
    exact hpay
  have h2 : (enc p ++ r).drop (pre p + p.length + suf p) = r := by rw [← hlen, List.drop_left]
  rw [h1, h2]

theorem pollNext_delivers {enc ext wf pre suf} (ok : FramerOK enc ext wf pre suf)
    (p : Bytes) (hp : wf p) (tail : Bytes) :
    ∀ (frags : List Bytes) (buf : Bytes), (∀ f ∈ frags, f ≠ []) →
      buf ++ frags.flatten = enc p ++ tail →
      ∃ (frags' : List Bytes) (buf' : Bytes),
        pollNext ext ⟨buf, false⟩ (frags.map Frag.data)
          = (.item p, ⟨buf', false⟩, frags'.map Frag.data)
        ∧ buf' ++ frags'.flatten = tail ∧ (∀ f ∈ frags', f ≠ []) := by
  intro frags
  induction frags with
  | nil =>
    intro buf hne hcat
    have hge : (enc p).length ≤ buf.length := by
      have := congrArg List.length hcat
      simp at this; omega
    obtain ⟨buf', h1, h2⟩ := pollNext_whole ok p hp tail _ buf false _ hcat hge
    exact ⟨[], buf', h1, h2, hne⟩
  | cons f fs ih =>
    intro buf hne hcat
    by_cases hlt : buf.length < (enc p).length
    · -- the buffer is a strict prefix of the encoding: extract says "incomplete", one more read
      have hpre : buf <+: enc p :=
        List.prefix_of_prefix_length_le ⟨(f :: fs).flatten, hcat⟩ (List.prefix_append _ _) (by omega)
      obtain ⟨frags', buf', h, h2, h3⟩ := ih (buf ++ f) (fun g hg => hne g (by simp [hg]))
        (by simpa [List.append_assoc] using hcat)
      refine ⟨frags', buf', ?_, h2, h3⟩
      rw [List.map_cons, pollNext_none_data ext ⟨buf, false⟩ f _ (ok.incomplete p buf hp hpre hlt)
        (hne f (by simp))]
      exact h
    · obtain ⟨buf', h1, h2⟩ := pollNext_whole ok p hp tail _ buf false _ hcat (by omega)
      exact ⟨f :: fs, buf', h1, h2, hne⟩

/-- C13, framing clause (`poll_next` of framed/read.rs over any framer satisfying `FramerOK`): however
the encoded stream is cut into non-empty reads, the loop yields exactly the payloads, in order, then
end-of-stream — nothing merged, split or dropped. `buf` is what is already buffered, which makes the
statement its own induction hypothesis. -/
theorem stream_roundtrip {enc ext wf pre suf} (ok : FramerOK enc ext wf pre suf)
    (ps : List Bytes) (hwf : ∀ p ∈ ps, wf p) :
    ∀ (frags : List Bytes) (buf : Bytes), (∀ f ∈ frags, f ≠ []) →
      buf ++ frags.flatten = encodeAll enc ps →
      ∀ fuel, ps.length + 1 ≤ fuel →
        runAll ext fuel ⟨buf, false⟩ (frags.map Frag.data) = ps.map Out.item ++ [Out.done] := by
  induction ps with
  | nil =>
    intro frags buf hne hcat fuel hfuel
    obtain ⟨rfl, hf⟩ := List.append_eq_nil_iff.mp hcat
    obtain rfl : frags = [] := List.eq_nil_iff_forall_not_mem.mpr fun f hm =>
      hne f hm (List.flatten_eq_nil_iff.mp hf f hm)
    obtain ⟨n, rfl⟩ : ∃ n, fuel = n + 1 := ⟨fuel - 1, by simp at hfuel; omega⟩
    simp only [runAll, pollNext_none_nil ext ⟨[], false⟩ ok.empty, List.map_nil, List.nil_append]
  | cons p ps ih =>
    intro frags buf hne hcat fuel hfuel
    obtain ⟨n, rfl⟩ : ∃ n, fuel = n + 1 := ⟨fuel - 1, by simp at hfuel; omega⟩
    obtain ⟨frags', buf', h, h2, h3⟩ :=
      pollNext_delivers ok p (hwf p (by simp)) (encodeAll enc ps) frags buf hne hcat
    have := ih (fun q hq => hwf q (by simp [hq])) frags' buf' h3 h2 n (Nat.le_of_succ_le_succ hfuel)
    simp only [runAll, h, this, List.map_cons, List.cons_append]

/-- instance for `LengthDelimited` (a length field of at least one byte, either endianness) -/
theorem length_delimited_roundtrip (f : LD) (hl : 1 ≤ f.lfl) (ps : List Bytes)
    (hwf : ∀ p ∈ ps, ldWf f p) (frags : List Bytes) (hne : ∀ g ∈ frags, g ≠ [])
    (hcat : frags.flatten = encodeAll f.enclose ps) :
    runAll f.extract (ps.length + 1) RState.init (frags.map Frag.data)
      = ps.map Out.item ++ [Out.done] :=
  stream_roundtrip (ld_framer_ok f hl) ps hwf frags [] hne (by simpa using hcat) _ (Nat.le_refl _)

/-- instance for `AnyDelimited` / `CharDelimited` (any non-empty delimiter) -/
theorem any_delimited_roundtrip (d : Bytes) (hd : d ≠ []) (ps : List Bytes)
    (hwf : ∀ p ∈ ps, anyWf d p) (frags : List Bytes) (hne : ∀ g ∈ frags, g ≠ [])
    (hcat : frags.flatten = encodeAll (anyEnclose d) ps) :
    runAll (anyExtract d) (ps.length + 1) RState.init (frags.map Frag.data)
      = ps.map Out.item ++ [Out.done] :=
  stream_roundtrip (any_framer_ok d hd) ps hwf frags [] hne (by simpa using hcat) _ (Nat.le_refl _)

/-- the well-formedness predicate of delimiters is satisfiable whenever the payload avoids every
byte of the delimiter (what the harness generator does) -/
theorem anyWf_of_disjoint (d p : Bytes) (hd : d ≠ []) (h : ∀ x ∈ p, x ∉ d) : anyWf d p :=
  findSub_of_disjoint d p hd h

/-- what the read loop needs of `extract` on arbitrary bytes: no panic, frames inside the buffer (so
`Frame::slice` and `advance` stay in range) and non-empty (each item consumes a byte: `fuelFor` decreases) -/
structure Bounded (ext : Bytes → Extract) : Prop where
  no_panic : ∀ b, ext b ≠ .panic
  in_range : ∀ b p l s, ext b = .frame p l s → p + l + s ≤ b.length ∧ 0 < p + l + s

theorem Bounded.of_cases {ext : Bytes → Extract}
    (h : ∀ b, ext b = .none ∨ ext b = .err ∨
      ∃ p l s, ext b = .frame p l s ∧ p + l + s ≤ b.length ∧ 0 < p + l + s) : Bounded ext where
  no_panic b := by rcases h b with h | h | ⟨_, _, _, h, _⟩ <;> simp [h]
  in_range b p l s hx := by
    rcases h b with h | h | ⟨_, _, _, h, hr⟩ <;> rw [h] at hx <;> cases hx
    exact hr

theorem ld_bounded (f : LD) (hl : 1 ≤ f.lfl) : Bounded f.extract :=
  .of_cases fun b => (LD.extract_cases f b).imp_right <| .imp_right
    fun ⟨n, h, hn⟩ => ⟨_, _, _, h, by omega, by omega⟩

theorem any_bounded (d : Bytes) (hd : d ≠ []) : Bounded (anyExtract d) :=
  .of_cases fun b => by
    rw [anyExtract_eq d b hd]
    cases hf : findSub d b with
    | none => exact .inl rfl
    | some pos =>
      have := findSub_bound d b pos hf
      have := List.length_pos_iff.mpr hd
      exact .inr (.inr ⟨_, _, _, rfl, by omega, by omega⟩)

theorem noop_bounded (m : Nat) (hm : 0 < m) : Bounded (noopExtract m) :=
  .of_cases fun b => by
    unfold noopExtract
    cases b with
    | nil => exact .inl rfl
    | cons x r =>
      refine .inr (.inr ⟨_, _, _, rfl, ?_⟩)
      simp only [List.length_cons]
      split <;> omega

theorem pollNext_bounded {ext} (hb : Bounded ext) (st : RState) (frags : List Frag) :
    (pollNext ext st frags).1 ≠ .panic ∧
    (∀ b, (pollNext ext st frags).1 = .item b →
      fuelFor (pollNext ext st frags).2.1 (pollNext ext st frags).2.2 < fuelFor st frags) := by
  -- the cases are the branches of `pollNext` in the order of its definition: `extract` answers 1 `panic`, 2 `err`,
  -- 3 a frame beyond the buffer, 4 a frame; it answers `none` and 5 the script is at its end, 6 the read fails,
  -- 7 a zero read after end of file, 8 the first zero read, 9 a read that brought bytes (8, 9 poll on)
  fun_induction pollNext ext st frags with
  | case1 st frags h => exact absurd h (hb.no_panic _)
  | case2 | case5 | case6 | case7 => exact ⟨nofun, nofun⟩
  | case3 st frags p l s h hlt => have := hb.in_range _ p l s h; omega
  | case4 st frags p l s h hlt =>
    have := hb.in_range _ p l s h
    simp only [fuelFor, List.length_drop]
    exact ⟨by simp, fun _ _ => by omega⟩
  | case8 st h bs rest he heof ih =>
    obtain rfl : bs = [] := by simpa using he
    simpa [fuelFor] using ih
  | case9 st h bs rest he ih =>
    simp only [fuelFor, List.length_append, List.map_cons, List.sum_cons] at ih ⊢
    exact ⟨ih.1, fun b hb => by have := ih.2 b hb; omega⟩

/-- **No endless loop**: for every input the stream ends (`done`, `err`) within `fuelFor` polls —
the poll budget is never what stops it. -/
theorem runAll_ends {ext} (hb : Bounded ext) :
    ∀ (n : Nat) (st : RState) (frags : List Frag), fuelFor st frags ≤ n →
      ∃ (items : List Bytes) (o : Out),
        runAll ext n st frags = items.map Out.item ++ [o] ∧ (o = .done ∨ o = .err) := by
  intro n
  induction n with
  | zero => intro st frags h; simp [fuelFor] at h
  | succ n ih =>
    intro st frags h
    obtain ⟨hp, hm⟩ := pollNext_bounded hb st frags
    unfold runAll
    generalize pollNext ext st frags = r at hm hp
    obtain ⟨o, st', frags'⟩ := r
    cases o with
    | item b =>
      have hlt := hm b rfl
      obtain ⟨items, o', h1, h2⟩ := ih st' frags' (by simp at hlt; omega)
      exact ⟨b :: items, o', by simp [h1], h2⟩
    | err => exact ⟨[], .err, by simp, Or.inr rfl⟩
    | done => exact ⟨[], .done, by simp, Or.inl rfl⟩
    | panic => simp at hp

section Cmsg
open Compio.Cmsg

/-- every header the iterator dereferences lies inside the buffer, for arbitrary bytes -/
theorem cmsg_iter_in_bounds (buf : Bytes) (fuel : Nat) :
    ∀ x ∈ iterFrom buf fuel (firsthdr buf.length), x.1 + hdr ≤ buf.length :=
  Cmsg.iterFrom_in_bounds buf fuel _ (by unfold firsthdr; split <;> simp_all)

/-- the iterator terminates on arbitrary bytes: `iterFuel` steps are always enough -/
theorem cmsg_iter_terminates (buf : Bytes) (fuel : Nat) (h : iterFuel buf ≤ fuel) :
    iterFrom buf fuel (firsthdr buf.length) = iterFrom buf (iterFuel buf) (firsthdr buf.length) :=
  Cmsg.iterFrom_stable buf fuel h

/-- a decoded value only ever covers payload bytes of its own message (repair of F7b) -/
theorem cmsg_decode_within_message (buf : Bytes) (off n : Nat) (bs : Bytes)
    (h : decodeData buf off n = .ok bs) : cmsgLen n ≤ (readHeader buf off).len ∨ n = 0 := by
  simp only [decodeData] at h
  split at h
  · simp at h
  · rename_i hlt
    simp [cmsgLen] at hlt ⊢
    omega

/-- C13, ancillary round trip, for every capacity and every list of well-formed messages: what the
builder hands to the kernel is the accepted messages laid out one after the other; the iterator yields
their (level, type, length) in order; decoding each yields its payload. -/
theorem cmsg_builder_iter_roundtrip (cap : Nat) (b : Builder) (hnew : Builder.new cap = .ok b)
    (msgs : List Msg) (hwf : ∀ m ∈ msgs, m.wf) :
    let acc := accepted msgs (b.pushAll msgs).2
    (b.pushAll msgs).1.finish = flat acc ∧
    (acc ≠ [] → iter (b.pushAll msgs).1.finish = .msgs (hdrsFrom 0 acc)) ∧
    decodeAll (b.pushAll msgs).1.finish 0 acc = acc.map (fun m => Decoded.ok m.2.2) := by
  intro acc
  have hinv := pushAll_inv msgs b [] (binv_new cap b hnew) hwf
  simp only [List.nil_append] at hinv
  have hfin := finish_eq _ _ hinv
  have hacc : ∀ m ∈ acc, m.wf := fun m hm => hwf m (accepted_subset msgs _ m hm)
  refine ⟨hfin, ?_, ?_⟩
  · intro hne
    rw [hfin]
    exact iter_flat acc hacc hne
  · rw [hfin]
    simpa using decodeAll_flat acc [] hacc

/-- a list whose total `CMSG_SPACE` fits the buffer is accepted completely ("any list that fits") -/
theorem cmsg_all_that_fit_are_accepted (cap : Nat) (b : Builder) (hnew : Builder.new cap = .ok b)
    (msgs : List Msg) (hwf : ∀ m ∈ msgs, m.wf) (hfit : (flat msgs).length ≤ cap) :
    accepted msgs (b.pushAll msgs).2 = msgs := by
  have hb := binv_new cap b hnew
  obtain rfl := new_ok cap b hnew
  exact pushAll_all_ok msgs _ [] hb hwf (by simpa [flat] using hfit)

/-- a push whose `AncillaryData::encode` fails leaves the builder exactly as it was (cursor, length,
bytes) and is never reported as accepted — whatever the builder state -/
theorem cmsg_refused_push_is_noop (b : Builder) (l t d : Bytes) :
    (b.pushR true l t d).1 = b ∧ (b.pushR true l t d).2 ≠ .ok :=
  pushR_true b l t d

/-- with an encoder that does not fail, `pushR` is `push` (the function of the theorems above) -/
theorem cmsg_pushR_willing_eq_push (b : Builder) (l t d : Bytes) :
    (b.pushR false l t d).1 = (b.push l t d).1 ∧
    ((b.pushR false l t d).2 = .ok ↔ (b.push l t d).2 = .ok) := by
  rw [pushR_false]
  cases (b.push l t d).2 <;> simp

/-- the round trip of `cmsg_builder_iter_roundtrip` with encoders that work or fail in an arbitrary
pattern: a refused message leaves no trace in the finished buffer and does not displace a later one -/
theorem cmsg_builder_refusing_roundtrip (cap : Nat) (b : Builder) (hnew : Builder.new cap = .ok b)
    (its : List Item) (hwf : ∀ it ∈ its, it.2.wf) :
    let acc := acceptedR its (b.pushAllR its).2
    (b.pushAllR its).1.finish = flat acc ∧
    (acc ≠ [] → iter (b.pushAllR its).1.finish = .msgs (hdrsFrom 0 acc)) ∧
    decodeAll (b.pushAllR its).1.finish 0 acc = acc.map (fun m => Decoded.ok m.2.2) := by
  rw [(pushAllR_eq_pushAll_willing its b).1, (pushAllR_eq_pushAll_willing its b).2]
  exact cmsg_builder_iter_roundtrip cap b hnew (willing its) (wf_of_mem_willing its hwf)

/-- "any list that fits": when the messages whose encoder works fit the buffer together, exactly
they are accepted — a refused push does not use up a slot -/
theorem cmsg_willing_that_fit_are_accepted (cap : Nat) (b : Builder) (hnew : Builder.new cap = .ok b)
    (its : List Item) (hwf : ∀ it ∈ its, it.2.wf) (hfit : (flat (willing its)).length ≤ cap) :
    acceptedR its (b.pushAllR its).2 = willing its := by
  rw [(pushAllR_eq_pushAll_willing its b).2]
  exact cmsg_all_that_fit_are_accepted cap b hnew (willing its) (wf_of_mem_willing its hwf) hfit

end Cmsg

/-- non-vacuity: a refused push between two accepted ones in a 64-byte buffer -/
example : (match Compio.Cmsg.Builder.new 64 with
    | .ok b => (b.pushAllR [(false, [1,0,0,0], [10,0,0,0], [7]), (true, [2,0,0,0], [20,0,0,0], [8]),
                            (false, [3,0,0,0], [30,0,0,0], [9])]).2
    | .panic => []) = [.ok, .refused, .ok] := by decide

example : ldWf ⟨2, true⟩ [1, 2, 3] := by unfold ldWf usizeLimit; simp
example : anyWf [10] [97, 98] := by unfold anyWf; decide
example : runAll (LD.extract ⟨1, false⟩) 3 RState.init
    ([[2, 97], [98, 0]].map Frag.data) = [.item [97, 98], .item [], .done] := by decide
example : (LD.extract ⟨8, true⟩ [255, 255, 255, 255, 255, 255, 255, 255, 1]) = .err := by decide
example : Compio.Cmsg.Msg.wf ([1, 0, 0, 0], [2, 0, 0, 0], [7, 9]) := by
  unfold Compio.Cmsg.Msg.wf Compio.Cmsg.cmsgLen Compio.Cmsg.hdr; simp

end Compio.Props.C13
