/-
C11 — I/O helpers are invariant under chunking and transient errors.

Property theorems only (helper lemmas live in Compio/Lemmas). Every statement is unbounded:
all payloads, all scripts (chunk sizes, positions of `Interrupted`/errors/EOF), all reader
compositions (`Take`, `BufReader`, in-memory readers, nested in any order), all capacities, all
pre-existing destination contents. They are about the very functions the model driver
(lean/Drivers/C11.lean) executes.

Vocabulary (Lemmas/IoLoops.lean):
  `r.rest`    the bytes a reader composition still has to deliver, in order (buffered bytes first,
              `Take` limits applied)
  `r.WF`      every `BufReader` buffer inside satisfies `begin ≤ len ≤ cap` (`Buffer.WF`, Lemmas/Buffer.lean; true
              initially, kept)
  `r.Live`    the reader never answers `Ok(0)` to a call offering room while bytes are left:
              honest script (only positive transfers and `Interrupted`, enough entries), in-memory
              sources, `Take`, and `BufReader` **with capacity > 0**  (the F12 guard)
  `w.sink`    what a writer holds: bytes at the inner writer followed by bytes in the `BufWriter`
  `w.Good`    FIFO writer, or `BufWriter` over a FIFO writer that never answers `Interrupted`
              (the F17 guard)
  `overlay d p x`  (Model/Buffer.lean) `d` with `x` laid over it from position `p` (runs past the end if needed)
-/
import Compio.Lemmas.IoLoops
import Compio.Lemmas.MemIo

namespace Compio.Props.C11
open Compio Compio.Io

/-- **read_exact, every reader composition, every script.** The destination is its old content with
a prefix `t` of the reader's remaining stream laid over its start (nothing lost, duplicated,
reordered or misplaced; content beyond `t` preserved, see `overlay_preserves_outside`); the reader
has been consumed by exactly those `t` bytes; the result is `Ok` iff the buffer was filled,
otherwise `UnexpectedEof` or the script's own error. Never a panic, never out of fuel. -/
theorem read_exact_correct (fuel : Nat) (r : Rd) (b : VBuf) (hw : r.WF) (hf : b.cap + r.entries < fuel) :
    ∃ (t : Nat) (res : Res Unit) (r' : Rd),
      readExact fuel r b = (res, r', ⟨overlay b.data 0 (r.rest.take t), b.cap⟩) ∧
      t ≤ r.rest.length ∧ t ≤ b.cap ∧ r'.rest = r.rest.drop t ∧ r'.WF ∧
      ((res = .ok () ∧ t = b.cap) ∨
        (res = .err .unexpectedEof ∧ t < b.cap ∧ (r.Live → t = r.rest.length)) ∨
        (∃ k, res = .err (.other k) ∧ k ∈ r.errs ∧ t < b.cap ∧ ¬ r.Live)) :=
  -- the loop invariant at the start: nothing handed out yet
  readExactLoop_spec r b.data b.cap fuel [] r (.refl hw) (Nat.zero_le _) hf

/-- what "laid over" means byte by byte: positions before `p` and from `p + |x|` on keep the old
content, positions `p + i` hold `x[i]` -/
theorem overlay_preserves_outside (d : Bytes) (p : Nat) (x : Bytes) (h : p ≤ d.length) :
    (∀ i, i < p → (overlay d p x)[i]? = d[i]?) ∧
    (∀ i, p + x.length ≤ i → (overlay d p x)[i]? = d[i]?) ∧
    (∀ i, i < x.length → (overlay d p x)[p + i]? = x[i]?) :=
  ⟨fun i hi => overlay_getElem?_lt d p x i h hi, fun i hi => overlay_getElem?_ge d p x i h hi,
    fun i hi => overlay_getElem?_mid d p x i h hi⟩

/-- **read_exact from a live reader is decided by the amount of data alone**: `Ok` exactly when the
reader has at least `cap` bytes left, and then the destination starts with precisely the first `cap`
bytes; otherwise `UnexpectedEof` after everything that was left has been delivered. -/
theorem read_exact_live (fuel : Nat) (r : Rd) (b : VBuf) (hw : r.WF) (hl : r.Live)
    (hf : b.cap + r.entries < fuel) :
    (b.cap ≤ r.rest.length →
      ∃ r', readExact fuel r b = (.ok (), r', ⟨overlay b.data 0 (r.rest.take b.cap), b.cap⟩) ∧
        r'.rest = r.rest.drop b.cap) ∧
    (r.rest.length < b.cap →
      ∃ r', readExact fuel r b = (.err .unexpectedEof, r', ⟨overlay b.data 0 r.rest, b.cap⟩) ∧
        r'.rest = []) := by
  obtain ⟨t, res, r', h1, h2, h3, h4, h5, h6⟩ := read_exact_correct fuel r b hw hf
  rcases h6 with ⟨rfl, rfl⟩ | ⟨rfl, hlt, c⟩ | ⟨k, _, _, _, d⟩
  · exact ⟨fun _ => ⟨r', h1, h4⟩, fun hc => absurd hc (Nat.not_lt_of_le h2)⟩
  · cases c hl
    rw [List.take_length] at h1
    exact ⟨fun hc => absurd hlt (Nat.not_lt_of_le hc), fun _ => ⟨r', h1, by rw [h4, List.drop_length]⟩⟩
  · exact absurd hl d

/-- **a successful read_exact is determined by the remaining stream alone**, for every reader
composition: the destination starts with its first `cap` bytes and the reader keeps the rest. -/
theorem read_exact_ok (fuel : Nat) (r : Rd) (b : VBuf) (hw : r.WF) (hf : b.cap + r.entries < fuel)
    (hok : (readExact fuel r b).1 = .ok ()) :
    (readExact fuel r b).2.2 = ⟨overlay b.data 0 (r.rest.take b.cap), b.cap⟩ ∧
    (readExact fuel r b).2.1.rest = r.rest.drop b.cap := by
  obtain ⟨t, res, r', e, _, _, g, _, c⟩ := read_exact_correct fuel r b hw hf
  rw [e] at hok ⊢
  rcases c with ⟨_, rfl⟩ | ⟨a, _⟩ | ⟨k, a, _⟩
  · exact ⟨rfl, g⟩
  · cases hok.symm.trans a
  · cases hok.symm.trans a

/-- **chunking independence**: two scripts over the same stream that both let `read_exact` succeed
produce the same destination and leave the same remaining stream — whatever the chunk sizes and
wherever the interruptions were. -/
theorem read_exact_chunking_independent (f1 f2 : Nat) (s : Bytes) (sc1 sc2 : List Outcome) (b : VBuf)
    (h1 : b.cap + sc1.length < f1) (h2 : b.cap + sc2.length < f2)
    (ok1 : (readExact f1 (.script s sc1) b).1 = .ok ()) (ok2 : (readExact f2 (.script s sc2) b).1 = .ok ()) :
    (readExact f1 (.script s sc1) b).2.2 = (readExact f2 (.script s sc2) b).2.2 ∧
    (readExact f1 (.script s sc1) b).2.1.rest = (readExact f2 (.script s sc2) b).2.1.rest := by
  obtain ⟨a1, a2⟩ := read_exact_ok f1 (.script s sc1) b trivial h1 ok1
  obtain ⟨b1, b2⟩ := read_exact_ok f2 (.script s sc2) b trivial h2 ok2
  exact ⟨a1.trans b1.symm, a2.trans b2.symm⟩

/-- **`Interrupted` entries are transparent for read_exact**: removing them from the script changes
neither the result, nor the destination, nor the remaining stream (only the interruptions still
waiting in the script are gone). -/
theorem read_exact_interrupted_transparent (f1 f2 : Nat) (s : Bytes) (sc : List Outcome) (b : VBuf)
    (h1 : b.cap + sc.length < f1) (h2 : b.cap + (stripIntr sc).length < f2) :
    readExact f2 (.script s (stripIntr sc)) b =
      ((readExact f1 (.script s sc) b).1, (readExact f1 (.script s sc) b).2.1.strip,
        (readExact f1 (.script s sc) b).2.2) :=
  readExactLoop_strip f1 f2 sc s b b.cap 0 (by omega) (by omega)

/-- **read_to_end, every reader composition, every script.** A prefix `t` of the reader's remaining
stream is appended after the existing content (which is preserved); the reader is consumed by
exactly `t` bytes; the result is `Ok(t)` or the script's own error. Never a panic. -/
theorem read_to_end_correct (fuel : Nat) (r : Rd) (b : VBuf) (hw : r.WF) (hb : b.data.length ≤ b.cap)
    (hf : r.rest.length + r.entries < fuel) :
    ∃ (t : Nat) (res : Res Nat) (r' : Rd) (cap' : Nat),
      readToEnd fuel r b = (res, r', ⟨b.data ++ r.rest.take t, cap'⟩) ∧
      t ≤ r.rest.length ∧ b.data.length + t ≤ cap' ∧ r'.rest = r.rest.drop t ∧ r'.WF ∧
      ((res = .ok t ∧ (r.Live → t = r.rest.length)) ∨
        (∃ k, res = .err (.other k) ∧ k ∈ r.errs ∧ ¬ r.Live)) :=
  readToEndLoop_spec r b.data fuel [] r b (.refl hw) (List.append_nil _).symm hb hf

/-- **read_to_end from a live reader delivers everything** — in particular through any stack of
`Take`s and `BufReader`s of non-zero capacity: no silent truncation. -/
theorem read_to_end_complete (fuel : Nat) (r : Rd) (b : VBuf) (hw : r.WF) (hl : r.Live)
    (hb : b.data.length ≤ b.cap) (hf : r.rest.length + r.entries < fuel) :
    ∃ (r' : Rd) (cap' : Nat),
      readToEnd fuel r b = (.ok r.rest.length, r', ⟨b.data ++ r.rest, cap'⟩) ∧ r'.rest = [] := by
  obtain ⟨t, res, r', cap', h1, h2, h3, h4, h5, h6⟩ := read_to_end_correct fuel r b hw hb hf
  rcases h6 with ⟨rfl, c⟩ | ⟨k, _, _, d⟩
  · cases c hl
    rw [List.take_length] at h1
    exact ⟨r', cap', h1, by rw [h4, List.drop_length]⟩
  · exact absurd hl d

/-- a `BufReader` of capacity `cap > 0` around a live reader is live: the completeness theorems
apply to it. For `cap = 0` this is false: `Cex.C11.f12_bufreader_cap0_counterexample`. -/
theorem bufreader_live (inner : Rd) (cap : Nat) (hc : 0 < cap) (hl : inner.Live) (hw : inner.WF) :
    (Rd.buf inner (Buffer.withCapacity cap)).Live ∧ (Rd.buf inner (Buffer.withCapacity cap)).WF ∧
    (Rd.buf inner (Buffer.withCapacity cap)).rest = inner.rest :=
  ⟨⟨hc, hl⟩, ⟨hw, Buffer.withCapacity_wf cap⟩, by simp [Rd.rest, Buffer.pending, Buffer.withCapacity]⟩

/-- `Take` hands out at most `limit` bytes: exactly the first `limit` bytes of what is below -/
theorem take_rest (inner : Rd) (limit : Nat) :
    (Rd.take inner limit).rest = inner.rest.take limit ∧ (Rd.take inner limit).rest.length ≤ limit ∧
    (inner.Live → (Rd.take inner limit).Live) ∧ (inner.WF → (Rd.take inner limit).WF) :=
  ⟨rfl, by simp [Rd.rest, List.length_take]; omega, fun h => h, fun h => h⟩

/-- **`Interrupted` entries are transparent for read_to_end** -/
theorem read_to_end_interrupted_transparent (f1 f2 : Nat) (s : Bytes) (sc : List Outcome) (b : VBuf)
    (h1 : s.length + sc.length < f1) (h2 : s.length + (stripIntr sc).length < f2) :
    readToEnd f2 (.script s (stripIntr sc)) b =
      ((readToEnd f1 (.script s sc) b).1, (readToEnd f1 (.script s sc) b).2.1.strip,
        (readToEnd f1 (.script s sc) b).2.2) :=
  readToEndLoop_strip f1 f2 sc s b b.data.length 0 h1 h2

/-- **one `read` on any reader composition** (this is `Take::read`, `BufReader::read`, `Cursor::read`,
`&[u8]::read` and their nestings): the bytes returned are the next bytes of the remaining stream,
at most what was offered; an error consumes nothing; there is no panic (the `assert!` in `Take` and
the assertions of `Buffer::advance` never fire). -/
theorem read_one_call (r : Rd) (off : Nat) (hw : r.WF) :
    (∃ bs r', r.read off = (.ok bs, r') ∧ bs = r.rest.take bs.length ∧ bs.length ≤ off ∧
        r'.rest = r.rest.drop bs.length ∧ r'.WF) ∨
    (∃ r', r.read off = (.err .interrupted, r') ∧ r'.rest = r.rest ∧ r'.WF) ∨
    (∃ k r', r.read off = (.err (.other k), r') ∧ r'.rest = r.rest ∧ r'.WF ∧ k ∈ r.errs) := by
  have hp := r.read_post off hw
  generalize r.read off = out at hp
  cases hp with
  | ok bs r' hb ha _ _ => exact .inl ⟨bs, r', rfl, ha.take_eq.symm, hb, ha.drop_eq, ha.wf⟩
  | intr r' ha _ _ => exact .inr (.inl ⟨r', rfl, ha.drop_eq, ha.wf⟩)
  | other k r' ha hk _ => exact .inr (.inr ⟨k, r', rfl, ha.drop_eq, ha.wf, hk⟩)

/-- **append**: the bytes of one read land after the existing content -/
theorem append_correct (r : Rd) (b : VBuf) (hw : r.WF) :
    (∃ bs r', append r b = (.ok bs.length, r', ⟨b.data ++ bs, b.cap⟩) ∧ bs = r.rest.take bs.length ∧
        bs.length ≤ b.cap - b.data.length ∧ r'.rest = r.rest.drop bs.length) ∨
    (∃ e r', append r b = (.err e, r', b) ∧ r'.rest = r.rest) := by
  have hp := r.read_post (b.cap - b.data.length) hw
  unfold append
  generalize r.read (b.cap - b.data.length) = out at hp
  cases hp with
  | ok bs r' hb ha _ _ =>
    exact .inl ⟨bs, r', by simp [VBuf.place, overlay_at_end], ha.take_eq.symm, hb, ha.drop_eq⟩
  | intr r' ha _ _ => exact .inr ⟨_, r', rfl, ha.drop_eq⟩
  | other k r' ha _ _ => exact .inr ⟨_, r', rfl, ha.drop_eq⟩

/-- **write_all on a good writer, every script.** The writer ends up holding what it held before
followed by a prefix `t` of the data (nothing lost, duplicated or reordered); `Ok` only when
`t` is everything; otherwise `WriteZero` or the inner writer's own error, which a `BufWriter` can report
with everything already buffered (`t = data.length`). Never a panic.
For a `BufWriter` over a writer that answers `Interrupted` the statement is false
(`Cex.C11.f17_bufwriter_duplicates_counterexample`). -/
theorem write_all_correct (fuel : Nat) (w : Wr) (data : Bytes) (hg : w.Good)
    (hf : data.length + w.entries < fuel) :
    ∃ (t : Nat) (res : Res Unit) (w' : Wr),
      writeAll fuel w data = (res, w') ∧ t ≤ data.length ∧ w'.sink = w.sink ++ data.take t ∧ w'.Good ∧
      ((res = .ok () ∧ t = data.length) ∨ res = .err .writeZero ∨ (∃ k, res = .err (.other k))) :=
  (writeAll_spec fuel w data hg hf).weaken

/-- **`Interrupted` entries are transparent for write_all** on a scripted writer -/
theorem write_all_interrupted_transparent (f1 f2 : Nat) (sc : List Outcome) (got : Bytes) (fl sh : Nat)
    (data : Bytes) (h1 : data.length + sc.length < f1) (h2 : data.length + (stripIntr sc).length < f2) :
    writeAll f2 (.base (.script got (stripIntr sc) fl sh)) data =
      ((writeAll f1 (.base (.script got sc fl sh)) data).1,
        (writeAll f1 (.base (.script got sc fl sh)) data).2.strip) :=
  writeAllLoop_strip f1 f2 sc got fl sh data 0 (by omega) (by omega)

/-- **one `write` on a good writer** (`BufWriter::write` included): `Ok(n)` takes exactly the first
`n` bytes; `Interrupted` takes nothing; after any other error the writer holds a prefix of the data
(possibly non-empty for a `BufWriter`: bytes already buffered when its flush failed). -/
theorem write_one_call (w : Wr) (data : Bytes) (hg : w.Good) : WrPost w data (w.write data) :=
  (w.write_out data hg).post

/-- **`flush_to` keeps the unsent tail**: for *every* inner script, a flush moves a prefix `t` of the
pending bytes to the inner writer, in order, and the buffer keeps exactly the rest; `Ok` iff nothing
is left; the errors are `WriteZero` and the inner writer's own. -/
theorem flush_to_keeps_tail (w : BaseWr) (b : Buffer) (hf : w.Fifo) (hw : b.WF) :
    ∃ t, (flushTo w b).2.1.sink = w.sink ++ b.pending.take t ∧
      (flushTo w b).2.2.pending = b.pending.drop t ∧ (flushTo w b).2.2.WF ∧ (flushTo w b).2.1.Fifo ∧
      (((flushTo w b).1 = .ok t ∧ t = b.pending.length) ∨
        ((flushTo w b).1 = .err .writeZero ∧ t < b.pending.length) ∨
        ((flushTo w b).1 = .err .interrupted ∧ t < b.pending.length) ∨
        (∃ k, (flushTo w b).1 = .err (.other k) ∧ k ∈ w.errs ∧ t < b.pending.length)) := by
  obtain ⟨y, hp, hs, hw', _, hl, hres⟩ := flushTo_spec w b hf hw
  have hlen := congrArg List.length hp
  rw [List.length_append] at hlen
  refine ⟨y.length, by rw [hs, hp, List.take_left], by rw [hp, List.drop_left], hw', hl.fifo, ?_⟩
  rcases hres with ⟨a, he⟩ | ⟨e, a, hne, he⟩
  · exact .inl ⟨a, by rw [hlen, he]; rfl⟩
  · have hlt : y.length < b.pending.length := by
      have := List.length_pos_iff.mpr hne
      omega
    rcases he with rfl | ⟨rfl, _⟩ | ⟨k, rfl, hk⟩
    · exact .inr (.inl ⟨a, hlt⟩)
    · exact .inr (.inr (.inl ⟨a, hlt⟩))
    · exact .inr (.inr (.inr ⟨k, a, hk, hlt⟩))

/-- **a retry sends exactly the rest**: whatever happened in a first (failed or not) flush, a
following successful flush leaves the inner writer with everything, once, in order. -/
theorem flush_retry_sends_the_rest (w : BaseWr) (b : Buffer) (hf : w.Fifo) (hw : b.WF)
    (hok : ∃ n, (flushTo (flushTo w b).2.1 (flushTo w b).2.2).1 = .ok n) :
    (flushTo (flushTo w b).2.1 (flushTo w b).2.2).2.1.sink = w.sink ++ b.pending ∧
    (flushTo (flushTo w b).2.1 (flushTo w b).2.2).2.2.pending = [] := by
  obtain ⟨y, hp, hs, hw1, _, hl1, _⟩ := flushTo_spec w b hf hw
  obtain ⟨y', hp', hs', _, _, _, hres⟩ := flushTo_spec _ _ hl1.fifo hw1
  obtain ⟨n, hn⟩ := hok
  rcases hres with ⟨_, he⟩ | ⟨e, a, _⟩
  · exact ⟨by rw [hs', hs, hp, hp', he, List.append_nil, List.append_assoc], he⟩
  · cases hn.symm.trans a

/-- **flush / shutdown on a good writer**: nothing lost or reordered; after `Ok` nothing is buffered -/
theorem flush_correct (w : Wr) (hg : w.Good) : CtlPost w w.flush ∧ CtlPost w w.shutdown :=
  ⟨Wr.flush_post w hg, Wr.shutdown_post w hg⟩

/-- **copy_with_size from any reader composition into a good writer.** The writer receives a prefix
`tw` of what the reader had, in order; the reader handed out `tr ≥ tw` bytes (the difference is the
chunk in flight when an error stopped the copy); `Ok(n)` means `n = tr = tw` and nothing is left in
a `BufWriter`; from a live reader with a non-empty copy buffer (`0 < size`, the F18 guard) `Ok`
means everything was copied. Never a panic. -/
theorem copy_correct (fuel : Nat) (r : Rd) (w : Wr) (size : Nat) (hw : r.WF) (hg : w.Good)
    (hf : r.rest.length + r.entries + w.entries < fuel) :
    ∃ (tr tw : Nat) (res : Res Nat) (r' : Rd) (w' : Wr),
      copy fuel r w size = (res, r', w') ∧ tw ≤ tr ∧ tr ≤ r.rest.length ∧
      r'.rest = r.rest.drop tr ∧ w'.sink = w.sink ++ r.rest.take tw ∧ r'.WF ∧ w'.Good ∧
      ((res = .ok tr ∧ tw = tr ∧ w'.Flushed ∧ (r.Live → 0 < size → tr = r.rest.length)) ∨
        res = .err .writeZero ∨ (∃ k, res = .err (.other k))) :=
  copyLoop_spec r w size fuel [] r w (.refl hw) hg (List.append_nil _).symm hf

/-- `advance` consumes from the front (or panics when asked for more than there is: `none`),
`reset` empties, `compact_to` moves the unread bytes to the front and keeps exactly them -/
theorem buffer_ops (b : Buffer) (hw : b.WF) :
    (∀ n, n ≤ b.pending.length → ∃ b', b.advance n = some b' ∧ b'.pending = b.pending.drop n ∧ b'.WF) ∧
    (∀ n, b.pending.length < n → b.advance n = none) ∧
    (b.reset.pending = [] ∧ b.reset.WF ∧ b.reset.cap = b.cap) ∧
    (∀ c m, (b.compactTo c m).pending = b.pending ∧ (b.compactTo c m).begin = 0 ∧ (b.compactTo c m).WF) := by
  refine ⟨?_, ?_, ⟨by simp, Buffer.reset_wf b, rfl⟩, ?_⟩
  · intro n hn
    obtain ⟨b', h, hp, hw', _⟩ := b.advance_some n hw hn
    exact ⟨b', h, hp, hw'⟩
  · exact b.advance_none
  · exact fun c m => b.compactTo_spec c m hw

/-- `need_flush` is `len > cap * 2 / 3`; a `BufWriter` of capacity 0 never flushes and never takes a
byte (`write` answers `Ok(0)`, `write_all` `WriteZero`: an honest error, not a finding) -/
theorem bufwriter_cap0_takes_nothing (w : BaseWr) (data : Bytes) :
    bufWrite w (Buffer.withCapacity 0) data = (.ok 0, w, Buffer.withCapacity 0) := by
  simp [bufWrite, flushIfNeeded, Buffer.needFlush, Buffer.withCapacity, Buffer.push]

/-- `[u8]` / `[u8; N]` / `Vec<u8>` `read_at`: for **every** position (beyond the end, beyond `usize`):
the bytes from `pos` on, clamped to the room; never a panic (the model function is total and has no
panic outcome; `read_vectored_at` is `memReadVectored` of the same clamped tail, F3 repaired). -/
theorem read_at_ref (src : Bytes) (pos off : Nat) :
    readAt src pos off = (src.drop pos).take off ∧
    (src.length ≤ pos → readAt src pos off = []) ∧
    (∀ vs, readVectoredAt src pos vs = memReadVectored (src.drop pos) vs) :=
  ⟨readAt_eq src pos off, fun h => by rw [readAt_eq, List.drop_of_length_le h]; simp,
    fun vs => by unfold readVectoredAt; rw [← List.drop_eq_drop_min]⟩

/-- `Vec<u8>::write_at`: under the exact guard `pos + |data| ≤ isize::MAX` the call succeeds, returns
`|data|` and the vector is the zero-extended old content with the data laid over it at `pos`; beyond
the guard the reservation panics ("capacity overflow") — never anything else. -/
theorem vec_write_at_ref (v : Bytes) (pos : Nat) (bs : Bytes) :
    (pos + bs.length ≤ isizeMax → vecWriteAt v pos bs = .ok (bs.length, writeRef v pos bs)) ∧
    (vecWriteAt v pos bs = .panic ∨ vecWriteAt v pos bs = .ok (bs.length, writeRef v pos bs)) :=
  ⟨vecWriteAt_ref v pos bs, (vecWriteAt_cases v pos bs).symm.imp_left (·.1)⟩

/-- `Vec<u8>::write_vectored_at` (F4 repaired) equals one `write_at` of the concatenation -/
theorem vec_write_vectored_at_ref (v : Bytes) (pos : Nat) (bufs : List Bytes) (hv : v.length ≤ isizeMax)
    (hg : pos + bufs.flatten.length ≤ isizeMax) :
    vecWriteVectoredAt v pos bufs = .ok (bufs.flatten.length, writeRef v pos bufs.flatten) :=
  vecWriteVectoredAt_ref v pos bufs hv hg

/-- `Vec<u8>::write` / `write_vectored` (F4 repaired): append, for every vector length and data length
(under the allocation guard), also when the vector is longer than the data -/
theorem vec_write_ref (v : Bytes) (bufs : List Bytes) (hg : v.length + bufs.flatten.length ≤ isizeMax) :
    vecWriteVectored v bufs = .ok (bufs.flatten.length, v ++ bufs.flatten) ∧
    (∀ bs, vecWrite v bs = (bs.length, v ++ bs)) :=
  ⟨vecWriteVectored_ref v bufs hg, fun _ => rfl⟩

/-- `[u8]::write_at` / `[u8; N]::write_at`: for **every** position the slice keeps its length, the
data that fits is laid over it at the clamped position, nothing else changes; never a panic -/
theorem slice_write_at_ref (a : Bytes) (pos : Nat) (bs : Bytes) :
    (sliceWriteAt a pos bs).1 = min bs.length (a.length - min pos a.length) ∧
    (sliceWriteAt a pos bs).2 = overlay a (min pos a.length) (bs.take (sliceWriteAt a pos bs).1) ∧
    (sliceWriteAt a pos bs).2.length = a.length :=
  sliceWriteAt_ref a pos bs

/-- `Cursor<Vec<u8>>` / `Cursor<[u8; N]>` as readers: `read` is `read_at` at the position, which then
advances by what was read (an instance of `read_one_call`: `rest = data.drop pos`) -/
theorem cursor_read (d : Bytes) (pos off : Nat) :
    (Rd.cursor d pos).read off = (.ok ((d.drop pos).take off), .cursor d (pos + ((d.drop pos).take off).length)) := by
  simp [Rd.read, readAt_eq]

/-- **write_vectored_all on a scripted good writer** is `write_all` of the concatenation: the
default `write_vectored` (first non-empty view of `buf.slice(needle)`) and `BufWriter::write_vectored`
take the bytes in order across member boundaries, empty members included. -/
theorem write_vectored_all_correct (fuel : Nat) (w : Wr) (bufs : List Bytes) (hg : w.Good) (hs : w.Scripted)
    (hf : bufs.flatten.length + w.entries < fuel) :
    ∃ (t : Nat) (res : Res Unit) (w' : Wr),
      writeVectoredAll fuel w bufs = (res, w') ∧ t ≤ bufs.flatten.length ∧
      w'.sink = w.sink ++ bufs.flatten.take t ∧ w'.Good ∧
      ((res = .ok () ∧ t = bufs.flatten.length) ∨ res = .err .writeZero ∨ (∃ k, res = .err (.other k))) :=
  (writeVectoredAll_spec fuel w bufs hg hs hf).weaken

/-- **in-memory vectored read into fresh buffers**: the source is cut by capacities, in order; every
member records exactly its chunk; the concatenation of the members is the prefix that fits.
(For buffers whose initialised part is not a prefix of the capacities the statement is false:
`Cex.C11.f19_vectored_read_lost_counterexample`.) -/
theorem mem_read_vectored_fresh (src : Bytes) (caps : List Nat) :
    memReadVectored src (VS.plain (fresh caps)) =
      (.ok (min src.length (sumNat caps)), VS.plain (filled caps src)) ∧
    ((filled caps src).map MBuf.data).flatten = src.take (sumNat caps) :=
  ⟨memReadVectored_fresh src caps, filled_flatten caps src⟩

/-- **read_vectored_exact into fresh buffers through the default `read_vectored` loop** (scripted
stream or a `Take` of one; `VectoredBufIter`, `slice_mut`, `VectoredSlice::set_len` modelled
literally): the buffers end up holding a prefix `t` of the stream cut by capacities, in order, across
member boundaries and zero-capacity members; the reader is consumed by exactly `t`; `Ok` iff the
total capacity was filled, else `UnexpectedEof` / the script's error. Never a panic. -/
theorem read_vectored_exact_correct (fuel : Nat) (r : Rd) (caps : List Nat) (hw : r.WF) (hu : r.UsesDefault)
    (hf : sumNat caps + r.entries < fuel) :
    ∃ (t : Nat) (res : Res Unit) (r' : Rd),
      readVectoredExact fuel r (fresh caps) = (res, r', filled caps (r.rest.take t)) ∧
      ((filled caps (r.rest.take t)).map MBuf.data).flatten = r.rest.take t ∧
      t ≤ r.rest.length ∧ t ≤ sumNat caps ∧ r'.rest = r.rest.drop t ∧ r'.WF ∧
      ((res = .ok () ∧ t = sumNat caps) ∨
        (res = .err .unexpectedEof ∧ t < sumNat caps ∧ (r.Live → t = r.rest.length)) ∨
        (∃ k, res = .err (.other k) ∧ k ∈ r.errs ∧ t < sumNat caps ∧ ¬ r.Live)) := by
  obtain ⟨t, res, r', h1, h2, h3, h4⟩ :=
    readVectoredExactLoop_spec r caps fuel [] r (.refl hw) hu (Nat.zero_le _) hf
  refine ⟨t, res, r', ?_, ?_, h2, h3, h4⟩
  · rw [readVectoredExact, viewCaps_fresh, ← filled_nil]
    exact h1
  · rw [filled_flatten, List.take_take, Nat.min_eq_right h3]

/-- **read_exact_at / read_to_end_at on `[u8]` / `Vec<u8>`**, every position (also beyond the end):
the loops are the cursor loops, so the destination gets exactly the bytes from `pos` on. -/
theorem read_exact_at_correct (src : Bytes) (b : VBuf) (pos : Nat) :
    (b.cap ≤ (src.drop pos).length →
      readExactAt src b pos = (.ok (), ⟨overlay b.data 0 ((src.drop pos).take b.cap), b.cap⟩)) ∧
    ((src.drop pos).length < b.cap →
      readExactAt src b pos = (.err .unexpectedEof, ⟨overlay b.data 0 (src.drop pos), b.cap⟩)) := by
  unfold readExactAt
  rw [readExactAtLoop_eq_cursor, Nat.add_zero]
  have h := read_exact_live (b.cap + 1) (.cursor src pos) b trivial trivial (Nat.lt_succ_self _)
  exact ⟨fun hc => by obtain ⟨r', e, _⟩ := h.1 hc; exact congrArg (fun o => (o.1, o.2.2)) e,
    fun hc => by obtain ⟨r', e, _⟩ := h.2 hc; exact congrArg (fun o => (o.1, o.2.2)) e⟩

theorem read_to_end_at_correct (src : Bytes) (b : VBuf) (pos : Nat) (hb : b.data.length ≤ b.cap) :
    ∃ cap', readToEndAt src b pos = (.ok (src.drop pos).length, ⟨b.data ++ src.drop pos, cap'⟩) := by
  unfold readToEndAt
  rw [readToEndAtLoop_eq_cursor, Nat.add_zero]
  obtain ⟨r', cap', e, _⟩ := read_to_end_complete (src.length + 2) (.cursor src pos) b trivial trivial hb
    (by simp [Rd.rest, Rd.entries, List.length_drop]; omega)
  exact ⟨cap', congrArg (fun o => (o.1, o.2.2)) e⟩

/-- `write_all_at` on a `Vec<u8>`: one `write_at` takes everything (under the allocation guard) -/
theorem write_all_at_vec (v : Bytes) (pos : Nat) (data : Bytes) (hne : data ≠ [])
    (hg : pos + data.length ≤ isizeMax) :
    writeAllAt (.vec v) pos data = (.ok (), .vec (writeRef v pos data)) := by
  have hl : 0 < data.length := List.length_pos_iff.mpr hne
  rw [writeAllAt, writeAllAtLoop, if_pos hl]
  simp only [AtDst.writeAt, Nat.add_zero, List.drop_zero, vecWriteAt_ref v pos data hg]
  rw [if_neg (Nat.ne_of_gt hl), Nat.zero_add]
  -- the second round finds nothing left
  obtain ⟨n, hn⟩ : ∃ n, data.length = n + 1 := ⟨data.length - 1, by omega⟩
  rw [hn, writeAllAtLoop, if_neg (by omega)]

/-- **read_to_string, every reader composition, every script**: `t` bytes of the stream arrive
(exactly as for `read_to_end`); the answer is decided by the UTF-8 validity of *old content ++ those
bytes* alone — `Ok(t)` with the text, or `InvalidData` with a fresh empty `String`; after an I/O error
the text read so far is handed back if it is UTF-8 and the `String` is cleared otherwise. -/
theorem read_to_string_correct (fuel : Nat) (r : Rd) (b : VBuf) (hw : r.WF) (hb : b.data.length ≤ b.cap)
    (hf : r.rest.length + r.entries < fuel) :
    ∃ (t : Nat) (r' : Rd) (cap' : Nat), t ≤ r.rest.length ∧ r'.rest = r.rest.drop t ∧
      ((validUtf8 (b.data ++ r.rest.take t) = true ∧ (r.Live → t = r.rest.length) ∧
          readToString fuel r b = (.ok t, r', ⟨b.data ++ r.rest.take t, cap'⟩)) ∨
        (validUtf8 (b.data ++ r.rest.take t) = false ∧ (r.Live → t = r.rest.length) ∧
          readToString fuel r b = (.invalidData, r', ⟨[], 0⟩)) ∨
        (∃ k, k ∈ r.errs ∧ ¬ r.Live ∧
          readToString fuel r b =
            (.err (.other k), r',
              ⟨if validUtf8 (b.data ++ r.rest.take t) then b.data ++ r.rest.take t else [], cap'⟩))) := by
  obtain ⟨t, res, r', cap', h1, h2, _, h4, _, h6⟩ := read_to_end_correct fuel r b hw hb hf
  refine ⟨t, r', cap', h2, h4, ?_⟩
  unfold readToString
  rw [h1]
  rcases h6 with ⟨rfl, c⟩ | ⟨k, rfl, c, d⟩
  · cases hv : validUtf8 (b.data ++ r.rest.take t)
    · exact .inr (.inl ⟨rfl, c, by simp [afterReadToString, hv]⟩)
    · exact .inl ⟨rfl, c, by simp [afterReadToString, hv]⟩
  · exact .inr (.inr ⟨k, c, d, by cases hv : validUtf8 (b.data ++ r.rest.take t) <;> simp [afterReadToString, hv]⟩)

/-- **from a live reader the answer depends only on the text as a whole** -/
theorem read_to_string_complete (fuel : Nat) (r : Rd) (b : VBuf) (hw : r.WF) (hl : r.Live)
    (hb : b.data.length ≤ b.cap) (hf : r.rest.length + r.entries < fuel) :
    (readToString fuel r b).1 =
      (if validUtf8 (b.data ++ r.rest) then .ok r.rest.length else .invalidData) ∧
    (readToString fuel r b).2.2.data = (if validUtf8 (b.data ++ r.rest) then b.data ++ r.rest else []) ∧
    (readToString fuel r b).2.1.rest = [] := by
  obtain ⟨r', cap', h1, h2⟩ := read_to_end_complete fuel r b hw hl hb hf
  unfold readToString
  rw [h1]
  cases hv : validUtf8 (b.data ++ r.rest) <;> simp [afterReadToString, hv, h2]

/-- **read_to_string does not depend on the chunking**: two honest scripts over the same stream —
whatever their chunk sizes, wherever a multi-byte character is cut, wherever the interruptions are —
give the same result and the same text. -/
theorem read_to_string_chunking_independent (f1 f2 : Nat) (s : Bytes) (sc1 sc2 : List Outcome) (b : VBuf)
    (hb : b.data.length ≤ b.cap) (l1 : (Rd.script s sc1).Live) (l2 : (Rd.script s sc2).Live)
    (h1 : s.length + sc1.length < f1) (h2 : s.length + sc2.length < f2) :
    (readToString f1 (.script s sc1) b).1 = (readToString f2 (.script s sc2) b).1 ∧
    (readToString f1 (.script s sc1) b).2.2.data = (readToString f2 (.script s sc2) b).2.2.data := by
  obtain ⟨a1, a2, _⟩ := read_to_string_complete f1 (.script s sc1) b trivial l1 hb h1
  obtain ⟨b1, b2, _⟩ := read_to_string_complete f2 (.script s sc2) b trivial l2 hb h2
  simp only [Rd.rest] at a1 a2 b1 b2
  exact ⟨a1.trans b1.symm, a2.trans b2.symm⟩

/-- **`Interrupted` entries are transparent for read_to_string** -/
theorem read_to_string_interrupted_transparent (f1 f2 : Nat) (s : Bytes) (sc : List Outcome) (b : VBuf)
    (h1 : s.length + sc.length < f1) (h2 : s.length + (stripIntr sc).length < f2) :
    readToString f2 (.script s (stripIntr sc)) b =
      ((readToString f1 (.script s sc) b).1, (readToString f1 (.script s sc) b).2.1.strip,
        (readToString f1 (.script s sc) b).2.2) := by
  unfold readToString
  rw [read_to_end_interrupted_transparent f1 f2 s sc b h1 h2]

/-- **read_to_string_at on `[u8]` / `Vec<u8>`**, every position: decided by the text from `pos` on -/
theorem read_to_string_at_correct (src : Bytes) (b : VBuf) (pos : Nat) (hb : b.data.length ≤ b.cap) :
    (readToStringAt src b pos).1 =
      (if validUtf8 (b.data ++ src.drop pos) then .ok (src.drop pos).length else .invalidData) ∧
    (readToStringAt src b pos).2.data =
      (if validUtf8 (b.data ++ src.drop pos) then b.data ++ src.drop pos else []) := by
  obtain ⟨cap', h⟩ := read_to_end_at_correct src b pos hb
  unfold readToStringAt
  rw [h]
  cases hv : validUtf8 (b.data ++ src.drop pos) <;> simp [afterReadToString, hv]

/-- the validator on the code-point boundaries and the classic malformed forms -/
example :
    validUtf8 [0x61, 0xC3, 0xA9, 0xE2, 0x82, 0xAC, 0xF0, 0x9F, 0x98, 0x80, 0xF4, 0x8F, 0xBF, 0xBF, 0xED, 0x9F, 0xBF] = true ∧
    validUtf8 [0xC0, 0x80] = false ∧ validUtf8 [0xE0, 0x9F, 0xBF] = false ∧ validUtf8 [0xED, 0xA0, 0x80] = false ∧
    validUtf8 [0xF4, 0x90, 0x80, 0x80] = false ∧ validUtf8 [0xF0, 0x8F, 0xBF, 0xBF] = false ∧
    validUtf8 [0xE2, 0x82] = false ∧ validUtf8 [0x80] = false ∧ validUtf8 [0xC3, 0x41] = false := by decide +kernel

/-- "€" cut after its first and after its second byte, with an interruption in between -/
example :
    readToString 20 (.script [0xE2, 0x82, 0xAC] [.ok 1, .intr, .ok 1, .ok 1, .ok 1]) ⟨[0x78], 1⟩ =
      (.ok 3, .script [] [], ⟨[0x78, 0xE2, 0x82, 0xAC], 33⟩) := by decide +kernel

/-- a live, well-formed, three-layer composition: `Take(7)` over `BufReader(3)` over an honest script -/
example :
    let r := Rd.take (.buf (.script [1, 2, 3, 4, 5, 6, 7, 8, 9] (List.replicate 12 (.ok 2))) (Buffer.withCapacity 3)) 7
    r.WF ∧ r.Live ∧ r.rest = [1, 2, 3, 4, 5, 6, 7] := by
  refine ⟨⟨trivial, Buffer.withCapacity_wf 3⟩, ⟨by decide, ?_, by decide⟩, by decide⟩
  intro o ho
  simp [List.replicate] at ho
  exact Or.inr ⟨2, by omega, ho⟩

/-- ... and `read_to_end` through it delivers exactly the seven bytes, after existing content -/
example :
    (readToEnd 60 (Rd.take (.buf (.script [1, 2, 3, 4, 5, 6, 7, 8, 9] (List.replicate 12 (.ok 2)))
      (Buffer.withCapacity 3)) 7) ⟨[0xF0], 1⟩).1 = .ok 7 ∧
    (readToEnd 60 (Rd.take (.buf (.script [1, 2, 3, 4, 5, 6, 7, 8, 9] (List.replicate 12 (.ok 2)))
      (Buffer.withCapacity 3)) 7) ⟨[0xF0], 1⟩).2.2.data = [0xF0, 1, 2, 3, 4, 5, 6, 7] := by decide +kernel

/-- a script with an interruption, a short read and an error: `read_exact` stops at the error with
the two bytes delivered so far in place and the old tail preserved -/
example :
    readExact 20 (.script [1, 2, 3, 4] [.intr, .ok 2, .err 3, .ok 2]) ⟨[9, 9, 9, 9], 4⟩ =
      (.err (.other 3), .script [3, 4] [.ok 2], ⟨[1, 2, 9, 9], 4⟩) := by decide +kernel

/-- a good `BufWriter` (inner writer without `Interrupted`) taking data in short writes -/
example :
    (Wr.buf (.script [] [.ok 1, .ok 2, .eof, .ok 9] 0 0) (Buffer.withCapacity 4)).Good := by
  refine ⟨trivial, Buffer.withCapacity_wf 4, ?_⟩
  simp [BaseWr.NoIntr]

end Compio.Props.C11
