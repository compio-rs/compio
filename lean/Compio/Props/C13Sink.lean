/-
C13, write side: the `Sink` state machine of `Framed` (Model/Sink.lean, compio-io/src/framed/write.rs).
`stream_integrity`: for every script of sink calls, what the writer has seen plus the frame in flight is
what `start_send` accepted, in order. `flush_ready_delivers` / `close_ready_delivers`: a `Ready` from
`poll_flush` / `poll_close` means the writer's `flush` / `shutdown` ran after the last byte was written
(F130: false of the code as found, see Cex/C13.lean). `flush_pending_decreases` / `close_pending_decreases`:
polling again and again reaches `Ready` within a bound that depends only on the delays. Panics: `poll_flush` only
while closing, `poll_close` never, `start_send` exactly when the sink is busy (`flush_no_panic_unless_closing`,
`close_no_panic`, `send_panics_iff_busy`, `ready_then_send_ok`); a refused item leaves no trace
(`refused_item_leaves_no_trace`).
-/
import Compio.Model.Sink
namespace Compio.Sink
def Inv (s : S) : Prop := s.sent = s.io.delivered ++ s.io.buffered ++ inflight s.st
def Delivered (s : S) : Prop := s.io.delivered = s.sent ∧ s.io.buffered = []

theorem inv_init : Inv ({} : S) := rfl

theorem pollSink_inv (s : S) (d0 : Nat) (h : Inv s) : Inv (pollSink s d0).1 := by
  fun_cases pollSink s d0 <;> simp_all [Inv, inflight, Io.write, Io.flush, Io.shutdown]

theorem pollSink_res (s : S) (d0 : Nat) :
    ((pollSink s d0).2 = .ready ∧ (pollSink s d0).1.st = .idle) ∨ (pollSink s d0).2 = .pending := by
  fun_cases pollSink s d0 <;> simp_all

theorem pollSink_ready_idle (s : S) (d0 : Nat) (h : (pollSink s d0).2 = .ready) :
    (pollSink s d0).1.st = .idle := by
  rcases pollSink_res s d0 with h' | h'
  · exact h'.2
  · rw [h] at h'; cases h'

theorem pollSink_no_panic (s : S) (d0 : Nat) : (pollSink s d0).2 ≠ .panic := by
  rcases pollSink_res s d0 with h | h <;> simp [h]

theorem inv_restate (s : S) (st' : St) (h : Inv s) (h1 : inflight s.st = []) (h2 : inflight st' = []) :
    Inv { s with st := st' } := by simp_all [Inv]

theorem thenStart_cases (s : S) (d0 : Nat) (st' : St) :
    ((pollSink s d0).2 = .ready ∧ thenStart s d0 st' = pollSink { (pollSink s d0).1 with st := st' } d0) ∨
    ((pollSink s d0).2 ≠ .ready ∧ thenStart s d0 st' = pollSink s d0) := by
  unfold thenStart
  rcases pollSink s d0 with ⟨s', r⟩
  cases r <;> simp

theorem thenStart_idle (s : S) (d0 : Nat) (st' : St) (h : s.st = .idle ∨ s.st = .configuring) :
    thenStart s d0 st' = pollSink { s with st := st' } d0 := by
  rcases h with h | h <;> simp only [thenStart, pollSink, h]

theorem pollFlush_eq (s : S) (d0 : Nat) : pollFlush s d0 =
    match s.st with
    | .closing _ => (s, .panic)
    | .flushing _ => pollSink s d0
    | _ => thenStart s d0 (.flushing none) := by
  cases hs : s.st with
  | configuring => simp only [pollFlush, hs, thenStart_idle s d0 _ (.inr hs)]
  | idle => simp only [pollFlush, hs, thenStart_idle s d0 _ (.inl hs)]
  | writing _ _ | flushing _ | closing _ => simp only [pollFlush, hs]

theorem pollClose_eq (s : S) (d0 : Nat) : pollClose s d0 =
    match s.st with
    | .closing _ => pollSink s d0
    | _ => thenStart s d0 (.closing none) := by
  cases hs : s.st with
  | configuring => simp only [pollClose, hs, thenStart_idle s d0 _ (.inr hs)]
  | idle => simp only [pollClose, hs, thenStart_idle s d0 _ (.inl hs)]
  | writing _ _ | flushing _ | closing _ => simp only [pollClose, hs]

theorem thenStart_inv (s : S) (d0 : Nat) (st' : St) (h : Inv s) (h2 : inflight st' = []) :
    Inv (thenStart s d0 st').1 := by
  have h1 := pollSink_inv s d0 h
  rcases thenStart_cases s d0 st' with ⟨hr, e⟩ | ⟨_, e⟩ <;> rw [e]
  · exact pollSink_inv _ d0 (inv_restate _ st' h1 (by rw [pollSink_ready_idle s d0 hr]; rfl) h2)
  · exact h1

/-- a `start_send` whose encoder fails changes neither what the writer has seen or will see nor the
accepted stream, whatever the codec had already put into the write buffer -/
theorem refused_item_leaves_no_trace (s : S) :
    (startSendFail s).1.io = s.io ∧ (startSendFail s).1.sent = s.sent ∧
      inflight (startSendFail s).1.st = inflight s.st := by
  unfold startSendFail; split <;> simp_all [inflight]

theorem step_inv (s : S) (c : Call) (h : Inv s) : Inv (step s c).1 := by
  cases c with
  | ready d =>
    simp only [step, pollReady]
    split
    · exact h
    · exact pollSink_inv s d h
  | send f =>
    unfold Inv at *
    simp only [step, startSend]
    split
    · simp_all [inflight]
    · simp_all [inflight]
    · exact h
  | sendFail =>
    obtain ⟨h1, h2, h3⟩ := refused_item_leaves_no_trace s
    unfold Inv
    rw [step, h1, h2, h3]
    exact h
  | flush d =>
    simp only [step, pollFlush_eq]
    split
    · exact h
    · exact pollSink_inv s d h
    · exact thenStart_inv s d _ h rfl
  | close d =>
    simp only [step, pollClose_eq]
    split
    · exact pollSink_inv s d h
    · exact thenStart_inv s d _ h rfl

theorem run_inv (s : S) (cs : List Call) (h : Inv s) : Inv (run step s cs).1 := by
  induction cs generalizing s with
  | nil => exact h
  | cons c cs ih =>
    simp only [run]
    have h1 := step_inv s c h
    rcases hp : step s c with ⟨s', r⟩
    rw [hp] at h1
    have := ih s' h1
    cases r <;> simp_all

theorem stream_integrity (cs : List Call) :
    let s := (run step {} cs).1
    s.io.delivered ++ s.io.buffered ++ inflight s.st = s.sent :=
  (run_inv {} cs inv_init).symm

theorem pollSink_ready_delivers (s : S) (d0 : Nat) (h : Inv s)
    (hs : (∃ d, s.st = .flushing d) ∨ ∃ d, s.st = .closing d) (hr : (pollSink s d0).2 = .ready) :
    Delivered (pollSink s d0).1 := by
  have hi : inflight s.st = [] := by rcases hs with ⟨d, hs⟩ | ⟨d, hs⟩ <;> rw [hs] <;> rfl
  unfold pollSink at *
  rcases hs with ⟨d, hs⟩ | ⟨d, hs⟩ <;> simp only [hs] at hr ⊢ <;> split at hr <;>
    simp_all [Inv, Delivered, Io.flush, Io.shutdown]

theorem thenStart_ready_delivers (s : S) (d0 : Nat) (st' : St) (h : Inv s)
    (hst : st' = .flushing none ∨ st' = .closing none) (hr : (thenStart s d0 st').2 = .ready) :
    Delivered (thenStart s d0 st').1 := by
  rcases thenStart_cases s d0 st' with ⟨hp, e⟩ | ⟨hp, e⟩ <;> rw [e] at hr ⊢
  · refine pollSink_ready_delivers _ d0 ?_ (by rcases hst with rfl | rfl <;> simp) hr
    exact inv_restate _ st' (pollSink_inv s d0 h) (by rw [pollSink_ready_idle s d0 hp]; rfl)
      (by rcases hst with rfl | rfl <;> rfl)
  · exact absurd hr hp

theorem flush_ready_delivers (s : S) (d0 : Nat) (h : Inv s)
    (hr : (pollFlush s d0).2 = .ready) : Delivered (pollFlush s d0).1 := by
  rw [pollFlush_eq] at hr ⊢
  split at hr
  · cases hr
  · rename_i d hs
    exact pollSink_ready_delivers s d0 h (.inl ⟨d, hs⟩) hr
  · exact thenStart_ready_delivers s d0 _ h (.inl rfl) hr

theorem pollSink_shutdowns (s : S) (d0 : Nat) (h : ∀ d, s.st ≠ .closing d) :
    (pollSink s d0).1.io.shutdowns = s.io.shutdowns := by
  fun_cases pollSink s d0 <;> simp_all [Io.write, Io.flush]

theorem pollSink_closing_shutdowns (s : S) (d0 : Nat) (d : Delay) (hs : s.st = .closing d)
    (hr : (pollSink s d0).2 = .ready) : (pollSink s d0).1.io.shutdowns = s.io.shutdowns + 1 := by
  unfold pollSink at *
  simp only [hs] at hr ⊢
  split at hr <;> simp_all [Io.shutdown]

theorem close_ready_delivers (s : S) (d0 : Nat) (h : Inv s)
    (hr : (pollClose s d0).2 = .ready) :
    Delivered (pollClose s d0).1 ∧ (pollClose s d0).1.io.shutdowns = s.io.shutdowns + 1 := by
  rw [pollClose_eq] at hr ⊢
  split at hr
  · rename_i d hs
    exact ⟨pollSink_ready_delivers s d0 h (.inr ⟨d, hs⟩) hr, pollSink_closing_shutdowns s d0 d hs hr⟩
  · rename_i hs
    refine ⟨thenStart_ready_delivers s d0 _ h (.inr rfl) hr, ?_⟩
    -- the wait leaves the count alone, the shutdown future started after it adds one
    rcases thenStart_cases s d0 (.closing none) with ⟨hp, e⟩ | ⟨hp, e⟩ <;> rw [e] at hr ⊢
    · rw [pollSink_closing_shutdowns _ d0 none rfl hr]
      exact congrArg (· + 1) (pollSink_shutdowns s d0 (fun d hd => hs d hd))
    · exact absurd hr hp

theorem flush_ready_delivers_reachable (cs : List Call) (d0 : Nat)
    (hr : (pollFlush (run step {} cs).1 d0).2 = .ready) :
    Delivered (pollFlush (run step {} cs).1 d0).1 :=
  flush_ready_delivers _ d0 (run_inv {} cs inv_init) hr

theorem close_ready_delivers_reachable (cs : List Call) (d0 : Nat)
    (hr : (pollClose (run step {} cs).1 d0).2 = .ready) :
    Delivered (pollClose (run step {} cs).1 d0).1 :=
  (close_ready_delivers _ d0 (run_inv {} cs inv_init) hr).1

/-- polls that may still answer `Pending` before the inner future `st` completes, for a caller offering `d0` -/
def futBudget (st : St) (d0 : Nat) : Nat :=
  match st with
  | .writing data d => if data = [] then 0 else d.getD d0
  | .flushing d => d.getD d0
  | .closing d => d.getD d0
  | _ => 0

def flushBudget (s : S) (d0 : Nat) : Nat :=
  match s.st with
  | .writing _ _ => futBudget s.st d0 + d0 + 1
  | .flushing _ => futBudget s.st d0
  | _ => d0

def closeBudget (s : S) (d0 : Nat) : Nat :=
  match s.st with
  | .writing _ _ | .flushing _ => futBudget s.st d0 + d0 + 1
  | .closing _ => futBudget s.st d0
  | _ => d0

theorem pollDelay_some (d : Delay) (d0 n : Nat) (h : pollDelay d d0 = some n) : d.getD d0 = n + 1 := by
  unfold pollDelay at h; split at h <;> simp_all

/-- while closing the budget of `poll_flush` does not move (`poll_flush` panics there anyway): hence the
hypothesis of the second half -/
theorem pollSink_pending (s : S) (d0 : Nat) (hr : (pollSink s d0).2 = .pending) :
    closeBudget (pollSink s d0).1 d0 < closeBudget s d0 ∧
    ((∀ d, s.st ≠ .closing d) → flushBudget (pollSink s d0).1 d0 < flushBudget s d0) := by
  revert hr
  -- the cases are the branches of `pollSink` in the order of its definition; only 5, 7 and 9, the `some n` answer of
  -- `pollDelay` for a `writing`, `flushing` and `closing` future, say `Pending`
  fun_cases pollSink s d0 with
  | case1 | case2 | case3 | case4 | case6 | case8 => nofun
  | case5 _ _ hs _ n hp | case7 _ hs n hp | case9 _ hs n hp =>
    intro _
    have := pollDelay_some _ _ _ hp
    simp [closeBudget, flushBudget, futBudget, *]

theorem le_flushBudget (s : S) (d0 : Nat) (h : ∀ d, s.st ≠ .flushing d) : d0 ≤ flushBudget s d0 := by
  unfold flushBudget
  split
  · omega
  · exact absurd ‹_› (h _)
  · omega

theorem le_closeBudget (s : S) (d0 : Nat) (h : ∀ d, s.st ≠ .closing d) : d0 ≤ closeBudget s d0 := by
  unfold closeBudget
  split
  · omega
  · omega
  · exact absurd ‹_› (h _)
  · omega

/-- **`poll_flush` terminates**: a `Pending` answer strictly decreases the budget, so a caller that
    keeps polling (offering `d0` each time) gets `Ready` after at most `flushBudget s d0` `Pending`s. -/
theorem flush_pending_decreases (s : S) (d0 : Nat) (hr : (pollFlush s d0).2 = .pending) :
    flushBudget (pollFlush s d0).1 d0 < flushBudget s d0 := by
  rw [pollFlush_eq] at hr ⊢
  split at hr
  · cases hr
  · rename_i d hs
    exact (pollSink_pending s d0 hr).2 (fun d' h => by rw [hs] at h; cases h)
  · rename_i hc hf
    rcases thenStart_cases s d0 (.flushing none) with ⟨_, e⟩ | ⟨_, e⟩ <;> rw [e] at hr ⊢
    · -- the flush future has just been started: its budget is `d0`
      exact Nat.lt_of_lt_of_le ((pollSink_pending _ d0 hr).2 nofun) (le_flushBudget s d0 hf)
    · exact (pollSink_pending s d0 hr).2 hc

/-- **`poll_close` terminates** -/
theorem close_pending_decreases (s : S) (d0 : Nat) (hr : (pollClose s d0).2 = .pending) :
    closeBudget (pollClose s d0).1 d0 < closeBudget s d0 := by
  rw [pollClose_eq] at hr ⊢
  split at hr
  · exact (pollSink_pending s d0 hr).1
  · rename_i hc
    rcases thenStart_cases s d0 (.closing none) with ⟨_, e⟩ | ⟨_, e⟩ <;> rw [e] at hr ⊢
    · exact Nat.lt_of_lt_of_le (pollSink_pending _ d0 hr).1 (le_closeBudget s d0 hc)
    · exact (pollSink_pending s d0 hr).1

theorem thenStart_no_panic (s : S) (d0 : Nat) (st' : St) : (thenStart s d0 st').2 ≠ .panic := by
  rcases thenStart_cases s d0 st' with ⟨_, e⟩ | ⟨_, e⟩ <;> rw [e] <;> exact pollSink_no_panic _ d0

/-- `poll_flush` panics only in the documented case (the sink is closing) -/
theorem flush_no_panic_unless_closing (s : S) (d0 : Nat) (h : ∀ d, s.st ≠ .closing d) :
    (pollFlush s d0).2 ≠ .panic := by
  rw [pollFlush_eq]
  split
  · exact absurd ‹_› (h _)
  · exact pollSink_no_panic s d0
  · exact thenStart_no_panic s d0 _

theorem close_no_panic (s : S) (d0 : Nat) : (pollClose s d0).2 ≠ .panic := by
  rw [pollClose_eq]
  split
  · exact pollSink_no_panic s d0
  · exact thenStart_no_panic s d0 _

/-- `start_send` panics exactly when the sink is busy (the documented misuse: no `poll_ready` first) -/
theorem send_panics_iff_busy (s : S) (f : Bytes) :
    (startSend s f).2 = .panic ↔ s.st ≠ .idle ∧ s.st ≠ .configuring := by
  unfold startSend; split <;> simp_all

theorem ready_then_send_ok (s : S) (d0 : Nat) (f : Bytes) (h : (pollReady s d0).2 = .ready) :
    (startSend (pollReady s d0).1 f).2 = .ready := by
  unfold pollReady at *
  split at h
  · rename_i hs; simp [startSend, hs]
  · have := pollSink_ready_idle s d0 h
    simp [startSend, this]

example :
    let r := run step {} [.send [1, 2], .flush 1, .flush 1, .flush 1, .send [3], .close 0]
    r.2 = [.ready, .pending, .pending, .ready, .ready, .ready] ∧
      r.1.io.delivered = [1, 2, 3] ∧ r.1.io.flushes = 1 ∧ r.1.io.shutdowns = 1 := by decide

end Compio.Sink
