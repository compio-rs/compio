/-
C14 — socket transports deliver exactly what was sent: the part compio wrote.

The result mapping of every receive flavour (Model/SockMap.lean), `io_uring_recvmsg_out` parsing
(Model/RecvMsgOut.lean), the multishot stream adapters and `Incoming` (Model/MultiStream.lean); the tie of these
models to the regenerated `Gen/SockRecv.lean` (`gen_*`); histories of receive calls on one socket
(`stream_history_exact`, `dgram_history_exact`).

TCP / UDP / Unix sockets themselves are the kernel's: they enter as the bytes `w` the kernel wrote
and the completion values; the differential harness covers that part (partial).
-/
import Compio.Lemmas.SockMap
import Compio.Lemmas.RecvMsgOut
import Compio.Lemmas.MultiStream
import Compio.Gen.SockRecv

namespace Compio.C14

open Compio Compio.Sock

/-- `recv` into one buffer of any shape (`Vec`, fixed array, pool buffer) -/
theorem recv_single_exact (b : Buf) (w : Bytes) (hwf : b.WF') (hw : w.length ≤ b.cap) :
    ∃ b', mapRecv w.length (b.write w) = .ok (w.length, b') ∧
      b'.vis.take w.length = w ∧ b'.len = max b.len w.length ∧ b'.cap = b.cap ∧
      b'.vis.drop w.length = b.vis.drop w.length := by
  obtain ⟨b', e, h⟩ := advanceTo_write_shows b w hwf hw
  exact ⟨b', by simp [mapRecv, e, Res.bind], h⟩

/-- `recv` into a fresh `Vec::with_capacity(cap)` -/
theorem recv_single_fresh (cap : Nat) (w : Bytes) (hw : w.length ≤ cap) :
    ∃ b', mapRecv w.length ((Buf.vecOf [] cap).write w) = .ok (w.length, b') ∧ b'.vis = w := by
  have hwf : (Buf.vecOf [] cap).WF' := by simp [Buf.WF', Buf.WF, Buf.vecOf]
  refine ⟨⟨.vec, w, w.length, cap⟩, ?_, by simp [Buf.vis]⟩
  rw [mapRecv, advanceTo_write _ w hwf hw]
  simp [Res.bind, Buf.write, Buf.vecOf]

theorem recv_fresh_reads {α : Type} (cap : Nat) (w : Bytes) (hw : w.length ≤ cap) (x : α) :
    ((mapRecv w.length ((Buf.vecOf [] cap).write w)).bind fun r => .ok (r.2.vis.take r.1, x)) = .ok (w, x) := by
  obtain ⟨b', e, hv⟩ := recv_single_fresh cap w hw
  simp [e, Res.bind, hv]

/-- vectored receive (`recv_vectored`, `recv_from_vectored`, `recv_msg*`); `hg` as in `advanceVecTo_scatter` (F141) -/
theorem recv_vectored_exact (bs : List Buf) (w : Bytes) (hwf : ∀ b ∈ bs, b.WF')
    (hw : w.length ≤ totalCap bs)
    (hg : w.length > totalLen bs ∨ covers bs w.length = true) :
    ∃ bs', mapRecvVectored w.length (scatter bs w) = .ok (w.length, bs') ∧
      seen bs' w.length = w ∧ bs'.map (·.cap) = bs.map (·.cap) := by
  obtain ⟨bs', e, h⟩ := advanceVecTo_scatter bs w hwf hw hg
  exact ⟨bs', by simp [mapRecvVectored, e, Res.bind], h⟩

/-- the usual receive shapes satisfy the guard: fresh vectors (`len = 0`) … -/
theorem guard_fresh (bs : List Buf) (n : Nat) (h : ∀ b ∈ bs, b.len = 0) :
    n > totalLen bs ∨ covers bs n = true := by
  have ht : totalLen bs = 0 := by
    induction bs with
    | nil => rfl
    | cons b r ih => simp [totalLen, h b (by simp), ih (fun x hx => h x (by simp [hx]))]
  by_cases hn : n = 0
  · right; subst hn; cases bs <;> simp [covers]
  · left; omega

/-- … and full members (arrays, zero-filled vectors used as arrays: `len = cap`) -/
theorem guard_full (bs : List Buf) (n : Nat) (h : ∀ b ∈ bs, b.len = b.cap) :
    covers bs n = true := by
  induction bs generalizing n with
  | nil => rfl
  | cons b r ih =>
    by_cases hn : n = 0
    · simp [covers, hn]
    · simp [covers, hn, h b (by simp), ih _ (fun x hx => h x (by simp [hx]))]
      omega

/-- `recv_msg*` of a datagram longer than the room offered: cut to the capacity, never beyond.  Trusted is
the kernel's part of the contract (`kDgram`: the prefix is written, `MSG_TRUNC` = 0x20 reported). -/
theorem dgram_cut (bs : List Buf) (ctl : Buf) (d name : Bytes) (nameLen : Nat) (hwf : ∀ b ∈ bs, b.WF')
    (hg : (kDgram d (totalCap bs)).1.length > totalLen bs
      ∨ covers bs (kDgram d (totalCap bs)).1.length = true) :
    let w := (kDgram d (totalCap bs)).1
    let tr := (kDgram d (totalCap bs)).2
    let c : Comp := ⟨w.length, nameLen, name, 0, if tr then 0x20 else 0⟩
    ∃ bs' ctl', mapRecvMsg c (scatter bs w) ctl = .ok ((w.length, 0, intoAddr c, c.flags), (bs', ctl')) ∧
      w.length = min d.length (totalCap bs) ∧ w.length ≤ totalCap bs ∧
      seen bs' w.length = d.take (totalCap bs) ∧
      (c.flags = 0x20 ↔ totalCap bs < d.length) ∧ ctl' = ctl := by
  intro w tr c
  have hw : w.length ≤ totalCap bs := by simp [w, kDgram]; omega
  obtain ⟨bs', e, s, _⟩ := advanceVecTo_scatter bs w hwf hw hg
  refine ⟨bs', ctl, ?_, ?_, hw, s, ?_, rfl⟩
  · simp [mapRecvMsg, c, e, Res.bind, advanceTo]
  · simp [w, kDgram]; omega
  · simp only [c, tr, kDgram]
    by_cases h : totalCap bs < d.length <;> simp [h]

/-- `recv_from`: bytes as for `recv`, the source address is handed through -/
theorem recv_from_exact (b : Buf) (w : Bytes) (c : Comp) (hwf : b.WF') (hw : w.length ≤ b.cap)
    (hn : c.n = w.length) :
    ∃ b', mapRecvFrom c (b.write w) = .ok ((w.length, intoAddr c), b') ∧
      b'.vis.take w.length = w ∧ b'.len = max b.len w.length ∧ b'.cap = b.cap := by
  obtain ⟨b', e, h1, h2, h3, _⟩ := advanceTo_write_shows b w hwf hw
  exact ⟨b', by simp [mapRecvFrom, hn, e, Res.bind], h1, h2, h3⟩

/-- `recv_msg*`: payload as in `recv_vectored_exact`, the control buffer as the buffer of a `recv` of
`msg_controllen` bytes; address and `msg_flags` are handed through, so `MSG_TRUNC` / `MSG_CTRUNC` reach the caller -/
theorem recv_msg_exact (bs : List Buf) (ctl : Buf) (w cw : Bytes) (c : Comp)
    (hwf : ∀ b ∈ bs, b.WF') (hcwf : ctl.WF') (hw : w.length ≤ totalCap bs) (hcw : cw.length ≤ ctl.cap)
    (hg : w.length > totalLen bs ∨ covers bs w.length = true)
    (hn : c.n = w.length) (hc : c.ctlLen = cw.length) :
    ∃ bs' ctl', mapRecvMsg c (scatter bs w) (ctl.write cw)
        = .ok ((w.length, cw.length, intoAddr c, c.flags), (bs', ctl')) ∧
      seen bs' w.length = w ∧ ctl'.vis.take cw.length = cw ∧ ctl'.len = max ctl.len cw.length := by
  obtain ⟨bs', e, s, _⟩ := advanceVecTo_scatter bs w hwf hw hg
  obtain ⟨ctl', ec, c1, c2, _⟩ := advanceTo_write_shows ctl cw hcwf hcw
  exact ⟨bs', ctl', by simp [mapRecvMsg, hn, hc, e, ec, Res.bind], s, c1, c2⟩

/-- `h` holds unless the caller passes `MSG_TRUNC` as a receive flag, which compio-net never does
(what happens then: `Cex.unclamped_trunc_counterexample`) -/
theorem compLen_exact (op : ROp) (drv : Drv) (ret cap : Nat) (h : ret ≤ cap) :
    compLen op drv ret cap = ret := by
  unfold compLen; split <;> omega

theorem compLen_clamped (op : ROp) (drv : Drv) (ret cap : Nat) (h : clamps op drv = true) :
    compLen op drv ret cap ≤ cap := by
  unfold compLen; rw [if_pos h]; omega

theorem pool_write_advance (cap : Nat) (w : Bytes) (hw : w.length ≤ cap) :
    advanceTo ((Buf.poolOf cap).write w) w.length = .ok ⟨.pool, w, w.length, cap⟩ := by
  have hwf : (Buf.poolOf cap).WF' := by simp [Buf.WF', Buf.WF, Buf.poolOf]
  rw [advanceTo_write _ w hwf hw]
  simp [Buf.poolOf, Buf.write]

/-- `recv_managed`; `Managed.none` is its `Ok(None)` -/
theorem managed_exact (cap : Nat) (w : Bytes) (hw : w.length ≤ cap) :
    takeBuffer w.length (some ((Buf.poolOf cap).write w)) =
      if w.length = 0 then Managed.none else Managed.some ⟨.pool, w, w.length, cap⟩ := by
  unfold takeBuffer
  by_cases h : w.length = 0
  · simp [h]
  · simp [h, pool_write_advance cap w hw]

/-- `recv_msg_managed` -/
theorem managed_msg_exact (cap : Nat) (w cw : Bytes) (ctl : Buf) (c : Comp) (hw : w.length ≤ cap)
    (hcwf : ctl.WF') (hcw : cw.length ≤ ctl.cap) (hn : c.n = w.length) (hc : c.ctlLen = cw.length)
    (hne : w.length ≠ 0) :
    takeBufferMsg c (some ((Buf.poolOf cap).write w)) (ctl.write cw) =
      .some (⟨.pool, w, w.length, cap⟩, { ctl.write cw with len := max ctl.len cw.length }, intoAddr c, c.flags) := by
  unfold takeBufferMsg
  rw [hn, managed_exact cap w hw, if_neg hne]
  simp only
  rw [hc, advanceTo_write ctl cw hcwf hcw]

theorem intoAddr_spec (c : Comp) :
    intoAddr c = if c.nameLen = 0 then none else some (c.name.take c.nameLen) := by
  unfold intoAddr; by_cases h : c.nameLen = 0 <;> simp [h]

/-- polling path of the multishot datagram receives (every build since the F140 repair): the fallback
op records the result, so `data()` is exactly what was received -/
theorem fallbackMulti_ok (cap : Nat) (w : Bytes) (hw : w.length ≤ cap) :
    ((FallbackMulti.mk ((Buf.poolOf cap).write w) 0).setResult w.length).takeBuffer
      = .ok ⟨.pool, w, w.length, cap⟩ := by
  simp [FallbackMulti.setResult, FallbackMulti.takeBuffer, pool_write_advance cap w hw]

section RecvMsgOut
open Compio.RecvMsgOut

def InBounds (buf s : Bytes) : Prop := ∃ off, s = (buf.drop off).take s.length ∧ off + s.length ≤ buf.length

/-- a buffer laid out as the kernel's contract says (`layout`) -/
theorem recvmsg_out_roundtrip (name ctl payload : Bytes) (flags clen : Nat)
    (hn : name.length ≤ NLEN) (hc : ctl.length ≤ clen) (hcl : clen < 2 ^ 32)
    (hp : payload.length < 2 ^ 32) (hf : flags < 2 ^ 32) :
    ∃ p, RecvMsgOut.new (layout name ctl payload flags clen) clen = .ok p ∧
      p.data = .ok payload ∧ p.ancillary = .ok ctl ∧
      p.addr = .ok (if name.length = 0 then none else some name) ∧ p.flags = flags := by
  have hh := readHdr_layout name ctl payload flags clen hn hc hcl hp hf
  have hl := layout_length name ctl payload flags clen hn hc
  refine ⟨⟨layout name ctl payload flags clen, clen⟩, ?_, ?_, ?_, ?_, ?_⟩
  · have h1 : ¬ (HDR + NLEN + clen + payload.length < HDR) := by omega
    have h2 : ¬ (HDR + NLEN + clen + payload.length ≥ USIZE) := by unfold USIZE HDR NLEN; omega
    simp [RecvMsgOut.new, hh, hl, h1, h2]
  · simp only [Parsed.data, hl]
    rw [if_neg (by omega), layout_payload _ _ _ _ _ hn hc]
  · simp only [Parsed.ancillary, hh, hl]
    rw [if_neg (by omega), layout_ctl _ _ _ _ _ hn]
  · simp only [Parsed.addr, hh]
    split
    · rfl
    · rw [if_neg (by omega), layout_name]
  · simp only [Parsed.flags, hh]

/-- arbitrary buffer contents: what the two `assert!`s of `new` establish -/
theorem new_ok_bounds (buf : Bytes) (clen : Nat) (p : Parsed) (h : RecvMsgOut.new buf clen = .ok p) :
    p.buf = buf ∧ p.clen = clen ∧ HDR + NLEN + clen + (readHdr buf).payloadlen ≤ buf.length := by
  unfold RecvMsgOut.new at h
  split at h
  · cases h
  · simp only at h
    split at h
    · cases h
    · split at h
      · cases h
      · cases h; refine ⟨rfl, rfl, ?_⟩; omega

/-- arbitrary header: `data()` never panics after `new`.  `≤`, not `=`: the code does *not* cut the tail
behind the control area to `payloadlen`. -/
theorem data_in_bounds (buf : Bytes) (clen : Nat) (p : Parsed) (h : RecvMsgOut.new buf clen = .ok p) :
    ∃ d, p.data = .ok d ∧ d = buf.drop (HDR + NLEN + clen) ∧ InBounds buf d ∧
      (readHdr buf).payloadlen ≤ d.length := by
  obtain ⟨hb, hc, hlen⟩ := new_ok_bounds buf clen p h
  refine ⟨buf.drop (HDR + NLEN + clen), ?_, rfl, ⟨HDR + NLEN + clen, ?_, ?_⟩, ?_⟩
  · unfold Parsed.data
    simp only [hb, hc]
    have : ¬ (HDR + NLEN + clen > buf.length) := by omega
    rw [if_neg this]
  · exact (List.take_of_length_le (by simp)).symm
  · simp; omega
  · simp; omega

/-- arbitrary header: `ancillary()` either panics (slice index check) or returns an in-bounds slice -/
theorem ancillary_in_bounds (buf : Bytes) (clen : Nat) (p : Parsed) (h : RecvMsgOut.new buf clen = .ok p) :
    (p.ancillary = .panic ∧ HDR + NLEN + (readHdr buf).controllen > buf.length) ∨
    (∃ a, p.ancillary = .ok a ∧ a.length = (readHdr buf).controllen ∧
      a = (buf.drop (HDR + NLEN)).take a.length ∧ HDR + NLEN + a.length ≤ buf.length) := by
  obtain ⟨hb, _, _⟩ := new_ok_bounds buf clen p h
  unfold Parsed.ancillary
  simp only [hb]
  by_cases hgt : HDR + NLEN + (readHdr buf).controllen > buf.length
  · left; rw [if_pos hgt]; exact ⟨rfl, hgt⟩
  · right
    rw [if_neg hgt]
    have hl : ((buf.drop (HDR + NLEN)).take (readHdr buf).controllen).length = (readHdr buf).controllen := by
      simp; omega
    exact ⟨_, rfl, hl, by rw [hl], by rw [hl]; omega⟩

/-- `hk` is what the kernel guarantees; then the slice stays inside the control area `[16 + NLEN, 16 + NLEN + clen)` -/
theorem ancillary_no_panic (buf : Bytes) (clen : Nat) (p : Parsed) (h : RecvMsgOut.new buf clen = .ok p)
    (hk : (readHdr buf).controllen ≤ clen) : ∃ a, p.ancillary = .ok a ∧ a.length ≤ clen := by
  obtain ⟨_, _, hlen⟩ := new_ok_bounds buf clen p h
  rcases ancillary_in_bounds buf clen p h with ⟨_, hgt⟩ | ⟨a, e, l, _, _⟩
  · omega
  · exact ⟨a, e, by omega⟩

/-- arbitrary header: `addr()` is memory-safe when `namelen ≤ NLEN` (the kernel never reports more than the
registered name area's worth of a real address); otherwise: `Cex.namelen_unchecked_counterexample`. -/
theorem addr_in_bounds (buf : Bytes) (clen : Nat) (p : Parsed) (h : RecvMsgOut.new buf clen = .ok p)
    (hk : (readHdr buf).namelen ≤ NLEN) :
    ∃ a, p.addr = .ok a ∧ (∀ x, a = some x → x.length = (readHdr buf).namelen ∧
      x = (buf.drop HDR).take x.length ∧ HDR + x.length ≤ buf.length) := by
  obtain ⟨hb, _, hlen⟩ := new_ok_bounds buf clen p h
  have hl : ((buf.drop HDR).take (readHdr buf).namelen).length = (readHdr buf).namelen := by
    simp only [List.length_take, List.length_drop]; omega
  unfold Parsed.addr
  simp only [hb]
  split
  · exact ⟨none, rfl, fun x hx => by cases hx⟩
  · rw [if_neg (by omega)]
    refine ⟨_, rfl, ?_⟩
    rintro x ⟨⟩
    rw [hl]
    exact ⟨rfl, rfl, by omega⟩

example : ∃ p, RecvMsgOut.new (layout [2, 0, 0x1f, 0x90] [] [0x68, 0x69] 0 0) 0 = .ok p ∧
    p.data = .ok [0x68, 0x69] ∧ p.addr = .ok (some [2, 0, 0x1f, 0x90]) :=
  recvmsg_out_roundtrip [2, 0, 0x1f, 0x90] [] [0x68, 0x69] 0 0 (by decide) (by decide) (by decide)
    (by decide) (by decide) |>.imp fun _ h => ⟨h.1, h.2.1, h.2.2.2.1⟩

end RecvMsgOut

section MultiStream
open Compio.MultiStream

/-- `SubmitMulti`, every schedule of kernel completions (`arrive`) and consumer polls: nothing is lost,
duplicated or reordered (`cut script`: the completion script up to its terminal CQE). -/
theorem sm_exactly_once_in_order (script : List Cqe) (evs : List Ev) :
    somes ((SM.new script).run evs).1 ++ ((SM.new script).run evs).2.remaining = cut script :=
  run_conserves (SM.new script) evs

theorem sm_prefix (script : List Cqe) (evs : List Ev) :
    somes ((SM.new script).run evs).1 <+: cut script :=
  ⟨_, sm_exactly_once_in_order script evs⟩

/-- `Ready(None)` (the stream is finished) is never reported while a completion is outstanding -/
theorem sm_none_means_done (script : List Cqe) (evs : List Ev)
    (h : none ∈ ((SM.new script).run evs).1) : somes ((SM.new script).run evs).1 = cut script :=
  run_none_only_when_done (SM.new script) evs h

/-- bounded progress once the terminal completion was posted -/
theorem sm_drains (s : SM) (hst : s.st ≠ .finished) (c : Cqe) (ht : s.term = some c) :
    (s.run (List.replicate (s.queue.length + 1) .poll)).1 = (s.queue ++ [c]).map some ∧
      (s.run (List.replicate (s.queue.length + 1) .poll)).2.st = .finished := by
  generalize hq : s.queue = q
  induction q generalizing s with
  | nil => simp [SM.run, poll_eq s hst, SM.pollSubmitted, hq, ht]
  | cons x q ih =>
    have := ih { s with st := .submitted, queue := q } (by simp) ht rfl
    simpa [SM.run, poll_eq s hst, SM.pollSubmitted, hq, List.replicate_succ] using this

/-- the bridge to the await form: with completions filed the way the driver files them (`SM.WF`, an
invariant of `arrive`), `inner.is_terminated()` after a returned completion holds exactly when that
completion carried no `IORING_CQE_F_MORE` — `Managed.next` branches on `c.more` for this reason. -/
theorem sm_terminated_iff_no_more (s s' : SM) (c : Cqe) (h : s.WF) (hst : s.st ≠ .finished)
    (hp : s.poll = (.ready (some c), s')) : (s'.st = .finished ↔ c.more = false) ∧ s'.WF := by
  rw [poll_eq s hst, SM.pollSubmitted] at hp
  split at hp
  · next x q hq =>
    -- a queued completion: it has `F_MORE`, the stream stays submitted
    cases hp
    have hm : ∀ y ∈ c :: q, y.more = true := hq ▸ h.1
    exact ⟨by simp [hm c], fun y hy => hm y (by simp [hy]), h.2⟩
  · next hq0 =>
    split at hp
    · next y hy =>
      -- the final result: no `F_MORE`, the stream finishes with nothing queued
      cases hp
      exact ⟨by simp [h.2 c hy], by simp [SM.WF, show s.queue = [] from hq0]⟩
    · cases hp

theorem sm_wf_invariant (script : List Cqe) : (SM.new script).WF ∧ ∀ s : SM, s.WF → s.arrive.WF := by
  refine ⟨by simp [SM.WF, SM.new], fun s h => ?_⟩
  unfold SM.arrive
  split
  · next c rest hst hterm hfut =>
    cases hm : c.more
    · exact ⟨h.1, by simp [hm]⟩
    · exact ⟨fun x hx => (List.mem_append.mp hx).elim (h.1 x) (by simp +contextual [hm]), h.2⟩
  · exact h

/-- `SubmitMultiStream::poll_next` with a submission live; a terminal completion takes the op -/
theorem stream_one_token_per_completion (s : Stream) (c : Cqe) (rest : List Cqe)
    (h : s.op = some ⟨some (c :: rest)⟩) :
    s.next = (tokOf s.fl c, { s with op := some ⟨if c.more then some rest else none⟩ }) :=
  next_live s c rest h

/-- after a terminal completion (whatever it was: data, error, `ENOBUFS`) the next poll of an
un-cancelled stream submits the operation again -/
theorem stream_resubmits (s : Stream) (c : Cqe) (r : List Cqe) (rest : List Sub)
    (h : s.op = some ⟨none⟩) (hc : s.cancelled = false) (hs : s.subs = .op (c :: r) :: rest) :
    s.next = (tokOf s.fl c,
      { s with op := some ⟨if c.more then some r else none⟩, subs := rest, nsub := s.nsub + 1 }) :=
  next_resubmit s c r rest (Or.inr h) hc hs

/-- end of stream: a terminal completion with 0 bytes (or without a buffer) is `Ready(None)` for the
byte flavour (`recv_multi` / `read_multi`) -/
theorem stream_eof_token (c : Cqe) (hm : c.more = false) (n : Nat) (hr : c.res = .ok n)
    (h0 : n = 0 ∨ c.buf = none) : tokOf .bytes c = .end_ := by
  unfold tokOf
  rw [hm, hr]
  rcases h0 with rfl | h0
  · cases c.buf <;> simp [itemOrEnd]
  · simp [h0]

theorem stream_item_token (fl : Fl) (c : Cqe) (b : Bytes) (n : Nat) (hr : c.res = .ok n)
    (hb : c.buf = some b) (hne : (b.take n) ≠ []) : tokOf fl c = .item (b.take n) := by
  have : ¬ (fl = Fl.bytes ∧ (b.take n).isEmpty = true) := by
    intro ⟨_, h⟩; exact hne (List.isEmpty_iff.mp h)
  unfold tokOf itemOrEnd
  cases hm : c.more <;> simp only [hr, hb, if_neg this] <;> simp

theorem stream_err_token (fl : Fl) (c : Cqe) (e : Err) (hr : c.res = .err e)
    (hb : c.more = false ∨ c.buf ≠ none) : tokOf fl c = .err e := by
  unfold tokOf
  rcases hb with hb | hb
  · simp [hb, hr]
  · cases hbuf : c.buf with
    | none => exact absurd hbuf hb
    | some b => cases c.more <;> simp [hr]

/-- cancel: once the token fired and no submission is in flight the stream ends, submits nothing, and
stays ended -/
theorem stream_cancel_ends (s : Stream) (h : s.Idle) :
    (s.cancel.next).1 = .end_ ∧ (s.cancel.next).2.nsub = s.nsub ∧
      ((s.cancel.next).2.next).1 = .end_ ∧ ((s.cancel.next).2.next).2.nsub = s.nsub := by
  simp only [next_cancelled s.cancel h rfl, next_cancelled { s.cancel with op := none } (Or.inl rfl) rfl]
  trivial

/-- cancel does not drop what the running operation already holds: the token is only consulted between
submissions, so bytes already taken from the socket reach the reader -/
theorem stream_cancel_keeps_queued (s : Stream) (c : Cqe) (rest : List Cqe)
    (h : s.op = some ⟨some (c :: rest)⟩) :
    s.cancel.next = (tokOf s.fl c, { s.cancel with op := some ⟨if c.more then some rest else none⟩ }) :=
  next_live s.cancel c rest h

/-- … all of them, in order; then `None`, without re-submitting -/
theorem stream_cancel_drains_then_ends (s : Stream) (script : List Cqe) (hc : complete script = true)
    (h : s.op = some ⟨some script⟩) :
    (Stream.take script.length s.cancel).1 = script.map (tokOf s.fl) ∧
      ((Stream.take script.length s.cancel).2.next).1 = .end_ ∧
      ((Stream.take script.length s.cancel).2.next).2.nsub = s.nsub := by
  simp only [take_live s.cancel script hc h, next_cancelled _ (idle_after s.cancel) rfl]
  trivial

theorem stream_factory_error (s : Stream) (k : Nat) (rest : List Sub) (h : s.Idle)
    (hc : s.cancelled = false) (hs : s.subs = .fail k :: rest) :
    s.next = (.err (.factory k), { s with op := none, subs := rest }) := by
  rw [next_idle s h]
  simp [Stream.idleStep, hc, hs]

/-- `SubmitMultiStream`, every script of complete submissions (`more … more terminal`), polled once per
completion: the token of every completion, in order, each exactly once; one submission per script. -/
theorem stream_exactly_once_in_order (fl : Fl) (subs : List Sub) (hs : allComplete subs = true) :
    (Stream.take (scriptsOf subs).length (Stream.new fl subs)).1 = (scriptsOf subs).map (tokOf fl) ∧
    (Stream.take (scriptsOf subs).length (Stream.new fl subs)).2.nsub = subs.length ∧
    (Stream.take (scriptsOf subs).length (Stream.new fl subs)).2.subs = [] := by
  obtain ⟨a, b, c, _⟩ := take_all (Stream.new fl subs) subs (Or.inl rfl) rfl rfl hs
  exact ⟨a, by simpa [Stream.new] using b, c⟩

/-- the model's loop bound is never hit: `next` does not return `fuel` -/
theorem stream_next_total (s : Stream) (h : s.Idle ∨ ∃ l, s.op = some ⟨some l⟩) : s.next.1 ≠ .fuel := by
  rcases h with h | ⟨l, h⟩
  · rw [next_idle s h]
    unfold Stream.idleStep
    repeat' split
    all_goals simp [liveStep_ne_fuel]
  · rw [next_of_live s l h]
    exact liveStep_ne_fuel s l

/-- `Incoming`: the descriptors handed to the caller are exactly the `conn` tokens, in order -/
theorem incoming_yields_tokens (subs : List (List ACqe)) (n : Nat) :
    (Inc.take n (Inc.new subs)).2.yielded = conns (Inc.take n (Inc.new subs)).1 :=
  (inc_take_ledger n (Inc.new subs)).2.2

/-- `Incoming`, every script, any number of polls, then drop: every descriptor the kernel handed to a
submitted accept operation was either yielded to the caller or closed by compio — exactly once each,
in kernel order; connections of submissions never made stay in the listen backlog. -/
theorem incoming_exactly_once_or_closed (subs : List (List ACqe)) (n : Nat) :
    let s := (Inc.take n (Inc.new subs)).2
    s.drop.yielded ++ s.drop.closed ++ backlog s.drop.subs = backlog subs ∧
      s.closed = [] := by
  intro s
  obtain ⟨hacc, hcl, -⟩ := inc_take_ledger n (Inc.new subs)
  have hcl' : s.closed = [] := hcl
  refine ⟨?_, hcl'⟩
  -- the ledger of the fresh stream is the whole backlog; dropping closes exactly what is owed
  rw [show backlog subs = s.yielded ++ s.owed ++ backlog s.subs from hacc.symm]
  unfold Inc.drop Inc.owed
  cases hop : s.op <;> simp [hcl']

/-- terminal completion WITH a value: when the kernel ends a multishot accept with a final *successful*
completion (descriptor, no `F_MORE` — it does so when the completion queue is full), that connection is
yielded like any other (`Accept::set_result` stored it, `Incoming` takes the finished op), and the next
poll submits a new accept -/
theorem incoming_terminal_success (s : Inc) (id : Nat) (rest : List ACqe) (sc : List ACqe) (subs : List (List ACqe))
    (h : s.op = .live (⟨.fd id, false⟩ :: rest)) (hs : s.subs = sc :: subs) :
    s.next = (.conn id, { s with op := .none, yielded := s.yielded ++ [id] }) ∧
      (s.next.2.next).2.nsub = s.nsub + 1 ∧ (s.next.2.next).2.subs = subs := by
  have e : s.next = (.conn id, { s with op := .none, yielded := s.yielded ++ [id] }) := by
    simp [inc_next_eq, h, Inc.liveStep, atokOf, fdOf, afterOp]
  rw [e]
  refine ⟨rfl, ?_⟩
  simp only [inc_next_eq, Inc.submit, hs]
  cases sc <;> exact ⟨rfl, rfl⟩

/-- a connection is never handed out twice: distinct descriptors stay distinct across `yielded` and
`closed` -/
theorem incoming_no_duplicates (subs : List (List ACqe)) (n : Nat) (hd : (backlog subs).Nodup) :
    let s := (Inc.take n (Inc.new subs)).2
    (s.drop.yielded ++ s.drop.closed).Nodup := by
  intro s
  have := (incoming_exactly_once_or_closed subs n).1
  rw [← this] at hd
  exact (List.nodup_append.mp hd).1

example : (Stream.take 4 (Stream.new .bytes
    [.op [⟨.ok 2, true, some [1, 2, 3]⟩, ⟨.err .busy, false, none⟩], .op [⟨.ok 1, true, some [9]⟩, ⟨.ok 0, false, none⟩]])).1
    = [.item [1, 2], .err .busy, .item [9], .end_] := by decide

/-- `incoming_exactly_once_or_closed` on a script with terminal-success entries (completion queue of 4:
every 4th connection ends its submission successfully) -/
example :
    let subs : List (List ACqe) :=
      [[⟨.fd 0, true⟩, ⟨.fd 1, true⟩, ⟨.fd 2, true⟩, ⟨.fd 3, false⟩],
       [⟨.fd 4, true⟩, ⟨.fd 5, true⟩, ⟨.fd 6, true⟩, ⟨.fd 7, false⟩], [⟨.fd 8, true⟩, ⟨.fd 9, true⟩]]
    (Inc.take 9 (Inc.new subs)).1 = (List.range 9).map ATok.conn ∧
      (Inc.take 9 (Inc.new subs)).2.nsub = 3 ∧
      (Inc.take 9 (Inc.new subs)).2.drop.closed = [9] := by decide

example : (Inc.take 3 (Inc.new [[⟨.fd 7, true⟩, ⟨.fd 8, true⟩, ⟨.fd 9, true⟩, ⟨.fd 10, true⟩]])).2.drop.closed = [10] := by
  decide

end MultiStream

/-! ## tie to the sources: theorems over the regenerated `Gen/SockRecv.lean`

`Gen/SockRecv.lean` is rewritten from /repo by the extractor target `SockRecv` at every check
(compio-driver `op/managed/iour.rs`: `io_uring_recvmsg_out`, `NLEN`, `RecvMsgMultiResultImpl::{new,data,addr,
ancillary,flags}`; `op/socket/unix.rs`: the value each polling receive `call()` returns; compio-net
`socket/mod.rs`: the tail of `recv*`).  The theorems say: the hand model the driver executes IS what the source
says — a change of an offset expression, a dropped term, a swapped field, a removed / added clamp, another
advance function breaks one of these proofs without any test case having to sample it. -/

section GenTie
open Compio.RecvMsgOut
open Compio.Gen.SockRecv (Tail)

def genHdr (buf : Bytes) : Gen.SockRecv.Hdr :=
  { namelen := leU32 buf Gen.SockRecv.off_namelen, controllen := leU32 buf Gen.SockRecv.off_controllen,
    payloadlen := leU32 buf Gen.SockRecv.off_payloadlen, flags := leU32 buf Gen.SockRecv.off_flags }

/-- `readHdr` reads every field at the offset the `#[repr(C)]` struct in the source gives it. -/
theorem gen_header_fields (buf : Bytes) :
    (readHdr buf).namelen = (genHdr buf).namelen ∧ (readHdr buf).controllen = (genHdr buf).controllen ∧
    (readHdr buf).payloadlen = (genHdr buf).payloadlen ∧ (readHdr buf).flags = (genHdr buf).flags ∧
    HDR = Gen.SockRecv.HDR ∧ NLEN = Gen.SockRecv.NLEN :=
  ⟨rfl, rfl, rfl, rfl, rfl, rfl⟩

/-- the model's `new` = the two asserts of the source with the source's `total_len` sum (all buffers, all `clen`). -/
theorem gen_new_eq (buf : Bytes) (clen : Nat) :
    RecvMsgOut.new buf clen =
      if buf.length < Gen.SockRecv.newMinLen then .panic
      else if Gen.SockRecv.newTotal clen (genHdr buf) ≥ USIZE then .panic
      else if buf.length < Gen.SockRecv.newTotal clen (genHdr buf) then .panic
      else .ok ⟨buf, clen⟩ := rfl

/-- the model's `data()` slices at the source's offset expression. -/
theorem gen_data_eq (p : Parsed) :
    p.data = if Gen.SockRecv.dataOff p.clen (genHdr p.buf) > p.buf.length then .panic
             else .ok (p.buf.drop (Gen.SockRecv.dataOff p.clen (genHdr p.buf))) := rfl

/-- the model's `ancillary()` is the source's range `[ancStart .. ancEnd]`. -/
theorem gen_ancillary_eq (p : Parsed) :
    p.ancillary = if Gen.SockRecv.ancEnd p.clen (genHdr p.buf) > p.buf.length then .panic
      else .ok ((p.buf.drop (Gen.SockRecv.ancStart p.clen (genHdr p.buf))).take
            (Gen.SockRecv.ancEnd p.clen (genHdr p.buf) - Gen.SockRecv.ancStart p.clen (genHdr p.buf))) := by
  have h : Gen.SockRecv.ancEnd p.clen (genHdr p.buf) - Gen.SockRecv.ancStart p.clen (genHdr p.buf)
      = (readHdr p.buf).controllen := by
    show (Gen.SockRecv.HDR + Gen.SockRecv.NLEN) + (genHdr p.buf).controllen - (Gen.SockRecv.HDR + Gen.SockRecv.NLEN) = _
    rw [Nat.add_sub_cancel_left]; rfl
  rw [h]; rfl

/-- the model's `addr()`: `None` test, source offset, copy length and destination size as in the source. -/
theorem gen_addr_eq (p : Parsed) :
    p.addr = if Gen.SockRecv.addrIsNone (genHdr p.buf) = true then .ok none
      else if Gen.SockRecv.addrCopyLen (genHdr p.buf) > Gen.SockRecv.NLEN then .ub
      else .ok (some ((p.buf.drop (Gen.SockRecv.addrOff p.clen (genHdr p.buf))).take
            (Gen.SockRecv.addrCopyLen (genHdr p.buf)))) := by
  -- the source's `namelen == 0` is the model's test; the rest is the same expression
  simp only [Gen.SockRecv.addrIsNone, beq_iff_eq]
  rfl

/-- the model's `flags()` returns the field the source returns. -/
theorem gen_flags_eq (p : Parsed) : p.flags = Gen.SockRecv.flagsOf (genHdr p.buf) := rfl

/-- Stated over the generated offsets alone: the areas the accessors address are laid out back to back exactly as
the kernel writes them — header, name area of `NLEN`, control area of the registered `clen`, payload — and `new`'s
bound is the end of the payload.  (Dropping or adding a term in any offset expression of the source breaks this.) -/
theorem gen_layout_consistent (clen : Nat) (h : Gen.SockRecv.Hdr) :
    Gen.SockRecv.newMinLen = 16 ∧
    Gen.SockRecv.addrOff clen h = 16 ∧
    Gen.SockRecv.ancStart clen h = Gen.SockRecv.addrOff clen h + 128 ∧
    Gen.SockRecv.ancEnd clen h = Gen.SockRecv.ancStart clen h + h.controllen ∧
    Gen.SockRecv.dataOff clen h = Gen.SockRecv.ancStart clen h + clen ∧
    Gen.SockRecv.newTotal clen h = Gen.SockRecv.dataOff clen h + h.payloadlen :=
  ⟨rfl, rfl, rfl, rfl, rfl, rfl⟩

/-- `recvmsg_out_roundtrip` read through the generated offsets and header fields instead of the model's accessors -/
theorem gen_layout_roundtrip (name ctl payload : Bytes) (flags clen : Nat)
    (hn : name.length ≤ NLEN) (hc : ctl.length ≤ clen) (hcl : clen < 2 ^ 32)
    (hp : payload.length < 2 ^ 32) (hf : flags < 2 ^ 32) :
    let buf := layout name ctl payload flags clen
    let h := genHdr buf
    buf.drop (Gen.SockRecv.dataOff clen h) = payload ∧
    (buf.drop (Gen.SockRecv.ancStart clen h)).take (Gen.SockRecv.ancEnd clen h - Gen.SockRecv.ancStart clen h) = ctl ∧
    (name.length ≠ 0 → Gen.SockRecv.addrIsNone h = false ∧
      (buf.drop (Gen.SockRecv.addrOff clen h)).take (Gen.SockRecv.addrCopyLen h) = name) ∧
    Gen.SockRecv.flagsOf h = flags := by
  intro buf h
  -- the generated header and offsets unfold to `readHdr buf`, `HDR`, `NLEN` (`gen_header_fields`), hence the `show`s
  have hh : readHdr buf = ⟨name.length, ctl.length, payload.length, flags⟩ :=
    readHdr_layout name ctl payload flags clen hn hc hcl hp hf
  refine ⟨layout_payload name ctl payload flags clen hn hc, ?_, fun hne => ⟨?_, ?_⟩, ?_⟩
  · show (buf.drop (HDR + NLEN)).take (HDR + NLEN + (readHdr buf).controllen - (HDR + NLEN)) = ctl
    rw [Nat.add_sub_cancel_left, hh]
    exact layout_ctl name ctl payload flags clen hn
  · show ((readHdr buf).namelen == 0) = false
    rw [hh]
    simpa using hne
  · show (buf.drop HDR).take (readHdr buf).namelen = name
    rw [hh]
    exact layout_name name ctl payload flags clen
  · show (readHdr buf).flags = flags
    rw [hh]

example : (layout [2, 0, 0x1f, 0x90] [] [0x68, 0x69] 0 0).drop
    (Gen.SockRecv.dataOff 0 (genHdr (layout [2, 0, 0x1f, 0x90] [] [0x68, 0x69] 0 0))) = [0x68, 0x69] :=
  (gen_layout_roundtrip [2, 0, 0x1f, 0x90] [] [0x68, 0x69] 0 0 (by decide) (by decide) (by decide)
    (by decide) (by decide)).1

/-- the clamp table of the model (`clamps`, used by `compLen` and by the driver's predictions) is the table read
from the `call()` bodies in `op/socket/unix.rs`; io_uring cannot clamp (`OpCode::set_result` gets `&io::Result`). -/
theorem gen_clamps_poll :
    clamps .recv .poll = Gen.SockRecv.pollClampsRecv ∧
    clamps .recvVectored .poll = Gen.SockRecv.pollClampsRecvVectored ∧
    clamps .recvFrom .poll = Gen.SockRecv.pollClampsRecvFrom ∧
    clamps .recvFromVectored .poll = Gen.SockRecv.pollClampsRecvFromVectored ∧
    clamps .recvMsg .poll = Gen.SockRecv.pollClampsRecvMsg ∧
    ∀ op, clamps op .uring = false :=
  ⟨rfl, rfl, rfl, rfl, rfl, fun op => by cases op <;> rfl⟩

/-- single-buffer tail of `Socket::recv*` as described by the generated `Tail` -/
def applyTail1 (t : Tail) (c : Comp) (b : Buf) : Res ((Nat × Option Bytes) × Buf) :=
  (advanceTo b c.n).bind fun b' => .ok ((c.n, if t.addr then intoAddr c else none), b')

def applyTailV (t : Tail) (c : Comp) (bs : List Buf) : Res ((Nat × Option Bytes) × List Buf) :=
  (advanceVecTo bs c.n).bind fun bs' => .ok ((c.n, if t.addr then intoAddr c else none), bs')

/-- `recv` / `recv_from`: the source builds `Recv` / `RecvFrom`, advances with `map_advanced` (`vec = false`),
applies `map_addr` only for `recv_from`; the model's mapping functions are exactly that. -/
theorem gen_tail_single :
    Gen.SockRecv.recv = ⟨"Recv", false, false⟩ ∧ Gen.SockRecv.recvFrom.op = "RecvFrom" ∧
    Gen.SockRecv.recvFrom.vec = false ∧
    (∀ n b, mapRecv n b = (applyTail1 Gen.SockRecv.recv ⟨n, 0, [], 0, 0⟩ b).bind fun r => .ok (r.1.1, r.2)) ∧
    (∀ c b, mapRecvFrom c b = applyTail1 Gen.SockRecv.recvFrom c b) := by
  refine ⟨rfl, rfl, rfl, ?_, fun _ _ => rfl⟩
  intro n b
  simp only [mapRecv, applyTail1]
  cases advanceTo b n <;> rfl

/-- `recv_vectored` / `recv_from_vectored` / `recv_msg_vectored` (and `recv_msg` = its one-member case): ops,
`map_vec_advanced`, `map_addr` as in the source. -/
theorem gen_tail_vectored :
    Gen.SockRecv.recvVectored = ⟨"RecvVectored", false, true⟩ ∧
    Gen.SockRecv.recvFromVectored.op = "RecvFromVectored" ∧ Gen.SockRecv.recvFromVectored.vec = true ∧
    Gen.SockRecv.recvMsgVectored.op = "RecvMsg" ∧ Gen.SockRecv.recvMsgVectored.vec = true ∧
    Gen.SockRecv.recvMsgIsOneMemberVectored = true ∧
    (∀ n bs, mapRecvVectored n bs =
      (applyTailV Gen.SockRecv.recvVectored ⟨n, 0, [], 0, 0⟩ bs).bind fun r => .ok (r.1.1, r.2)) ∧
    (∀ c bs, mapRecvFromVectored c bs = applyTailV Gen.SockRecv.recvFromVectored c bs) ∧
    (∀ c bs ctl, mapRecvMsg c bs ctl =
      (applyTailV Gen.SockRecv.recvMsgVectored c bs).bind fun r =>
        (advanceTo ctl c.ctlLen).bind fun ctl' => .ok ((c.n, c.ctlLen, r.1.2, c.flags), (r.2, ctl'))) := by
  refine ⟨rfl, rfl, rfl, rfl, rfl, rfl, ?_, fun _ _ => rfl, ?_⟩
  · intro n bs
    simp only [mapRecvVectored, applyTailV]
    cases advanceVecTo bs n <;> rfl
  · intro c bs ctl
    simp only [mapRecvMsg, applyTailV]
    cases advanceVecTo bs c.n <;> rfl

end GenTie

/-- one receive call on a stream socket, by buffer shape (fresh buffers) -/
inductive RecvOp where
  | one (cap : Nat)            -- `recv` / read half / `recv_from` into `Vec::with_capacity(cap)`
  | vec (caps : List Nat)      -- `recv_vectored` / `recv_msg*` into fresh vectors of these capacities
  deriving Repr

def freshBufs (caps : List Nat) : List Buf := caps.map (Buf.vecOf [])

def room : RecvOp → Nat
  | .one cap => cap
  | .vec caps => totalCap (freshBufs caps)

/-- one call: the kernel moves a prefix of the queue `q` into the buffer(s) (`kStream`, `write`/`scatter`), the
completion goes through `mapRecv` / `mapRecvVectored`; result = (what the caller reads, what stays queued) -/
def recvStep (q : Bytes) : RecvOp → Res (Bytes × Bytes)
  | .one cap =>
    (mapRecv (kStream q cap).1.length ((Buf.vecOf [] cap).write (kStream q cap).1)).bind fun r =>
      .ok (r.2.vis.take r.1, (kStream q cap).2)
  | .vec caps =>
    (mapRecvVectored (kStream q (totalCap (freshBufs caps))).1.length
        (scatter (freshBufs caps) (kStream q (totalCap (freshBufs caps))).1)).bind fun r =>
      .ok (seen r.2 r.1, (kStream q (totalCap (freshBufs caps))).2)

def recvAll : Bytes → List RecvOp → Res (Bytes × Bytes)
  | q, [] => .ok ([], q)
  | q, op :: r => (recvStep q op).bind fun s => (recvAll s.2 r).bind fun t => .ok (s.1 ++ t.1, t.2)

def totalRoom : List RecvOp → Nat
  | [] => 0
  | op :: r => room op + totalRoom r

theorem recvStep_exact (q : Bytes) (op : RecvOp) :
    recvStep q op = .ok (q.take (room op), q.drop (room op)) := by
  cases op with
  | one cap => exact recv_fresh_reads cap (q.take cap) (List.length_take_le ..) _
  | vec caps =>
    have hf : ∀ b ∈ freshBufs caps, b.WF' ∧ b.len = 0 := by
      intro b hb
      obtain ⟨c, _, rfl⟩ := List.mem_map.mp hb
      simp [Buf.WF', Buf.WF, Buf.vecOf]
    obtain ⟨bs', e, hs, _⟩ := recv_vectored_exact (freshBufs caps) (q.take (room (.vec caps)))
      (fun b hb => (hf b hb).1) (List.length_take_le ..) (guard_fresh _ _ fun b hb => (hf b hb).2)
    simp only [room] at e hs
    simp only [recvStep, kStream, room, e, Res.bind, hs]

theorem recvAll_eq (q : Bytes) (ops : List RecvOp) :
    recvAll q ops = .ok (q.take (totalRoom ops), q.drop (totalRoom ops)) := by
  induction ops generalizing q with
  | nil => simp [recvAll, totalRoom]
  | cons op r ih =>
    simp [recvAll, recvStep_exact, ih, Res.bind, totalRoom, List.take_add, List.drop_drop]

/-- Whatever sequence of receive calls (single-buffer or vectored, any capacities, also 0) is made on a stream
socket whose queue holds `q`: no call fails, nothing is lost, duplicated or reordered. -/
theorem stream_history_exact (q : Bytes) (ops : List RecvOp) :
    ∃ got rest, recvAll q ops = .ok (got, rest) ∧ got ++ rest = q ∧
      got.length = min (totalRoom ops) q.length :=
  ⟨_, _, recvAll_eq q ops, List.take_append_drop .., List.length_take⟩

theorem stream_history_complete (q : Bytes) (ops : List RecvOp) (h : q.length ≤ totalRoom ops) :
    recvAll q ops = .ok (q, []) := by
  rw [recvAll_eq, List.take_of_length_le h, List.drop_of_length_le h]

example : recvAll [1, 2, 3, 4, 5, 6, 7] [.one 2, .vec [1, 0, 3], .one 0, .one 8] = .ok ([1, 2, 3, 4, 5, 6, 7], []) :=
  stream_history_complete _ _ (by decide)

/-- one datagram receive into a fresh `Vec::with_capacity(cap)`: (what the caller reads, `MSG_TRUNC`) -/
def dgramStep (d : Bytes) (cap : Nat) : Res (Bytes × Bool) :=
  (mapRecv (kDgram d cap).1.length ((Buf.vecOf [] cap).write (kDgram d cap).1)).bind fun r =>
    .ok (r.2.vis.take r.1, (kDgram d cap).2)

/-- a history of datagram receives on a socket whose queue holds `ds` (a receive on an empty queue waits: the
history ends there); result = (items in order, datagrams still queued) -/
def dgramAll : List Bytes → List Nat → Res (List (Bytes × Bool) × List Bytes)
  | ds, [] => .ok ([], ds)
  | [], _ :: _ => .ok ([], [])
  | d :: ds, c :: cs => (dgramStep d c).bind fun x => (dgramAll ds cs).bind fun t => .ok (x :: t.1, t.2)

theorem dgramStep_exact (d : Bytes) (cap : Nat) :
    dgramStep d cap = .ok (d.take cap, decide (cap < d.length)) :=
  recv_fresh_reads cap (d.take cap) (List.length_take_le ..) _

/-- Every history of datagram receives: the k-th receive returns the k-th queued datagram, cut to the buffer's
capacity and flagged truncated iff it did not fit; the datagrams not yet received stay queued. -/
theorem dgram_history_exact (ds : List Bytes) (caps : List Nat) :
    dgramAll ds caps = .ok ((List.zip ds caps).map (fun x => (x.1.take x.2, decide (x.2 < x.1.length))),
      ds.drop caps.length) := by
  induction ds generalizing caps with
  | nil => cases caps <;> simp [dgramAll]
  | cons d ds ih =>
    cases caps with
    | nil => simp [dgramAll]
    | cons c cs => simp [dgramAll, dgramStep_exact, ih cs, Res.bind]

theorem dgram_history_within_capacity (ds : List Bytes) (caps : List Nat) :
    ∃ items rest, dgramAll ds caps = .ok (items, rest) ∧ items.length = min ds.length caps.length ∧
      ∀ k (hk : k < items.length), ∃ c, caps[k]? = some c ∧ (items[k]).1.length ≤ c := by
  refine ⟨_, _, dgram_history_exact ds caps, by simp only [List.length_map, List.length_zip], ?_⟩
  intro k hk
  simp only [List.length_map, List.length_zip] at hk
  refine ⟨caps[k], List.getElem?_eq_getElem (by omega), ?_⟩
  simp only [List.getElem_map, List.getElem_zip, List.length_take]
  exact Nat.min_le_left ..

example : dgramAll [[1, 2, 3], [], [4, 5]] [2, 4] = .ok ([([1, 2], true), ([], false)], [[4, 5]]) := by
  rw [dgram_history_exact]; rfl

example : ∃ b', mapRecv 3 ((Buf.vecOf [9, 9, 9, 9, 9] 8).write [1, 2, 3]) = .ok (3, b') ∧
    b'.vis = [1, 2, 3, 9, 9] := ⟨_, rfl, rfl⟩

example : ∃ bs', mapRecvVectored 5 (scatter [Buf.vecOf [] 2, Buf.arrOf [0xee, 0xee], Buf.vecOf [] 4] [1, 2, 3, 4, 5])
      = .ok (5, bs') ∧ bs'.map (·.vis) = [[1, 2], [3, 4], [5]] := ⟨_, rfl, rfl⟩

example : (kDgram [1, 2, 3, 4, 5] 3) = ([1, 2, 3], true) := rfl

end Compio.C14
