/-
C19 — actors: serial FIFO handling, ordered lifecycle, unique names, group routing.
Property theorems only (helper lemmas live in Compio/Lemmas). The mailbox/lifecycle theorems quantify over
*every schedule*: every list of atomic actions `evs` of sender threads, stoppers and the actor task that the
transition system of Model/Actor.lean admits, any capacity, named or not, any results of hooks and handlers.
The routing theorems quantify over every member vector, cursor and status assignment.
-/
import Compio.Lemmas.GroupSeq
import Compio.Lemmas.ActorProgress
import Compio.Lemmas.Registry
import Compio.Lemmas.History
import Compio.Gen.MembershipDrop

namespace Compio.Props.C19
open Compio Compio.Actor

/-- everything below is about states reached by some schedule from a fresh mailbox + dispatched closure -/
def Reached (cap : Nat) (named : Bool) (s : St) : Prop := ∃ evs, run (St.init cap named) evs = some s

theorem Reached.inv {cap named s} (h : Reached cap named s) : Inv cap s :=
  let ⟨_, hr⟩ := h
  inv_run hr

theorem handled_prefix_of_accepted {cap named s} (h : Reached cap named s) : s.handled <+: s.accepted :=
  h.inv.m.accepted ▸ List.prefix_append _ _

theorem accepted_is_handled_plus_queued {cap named s} (h : Reached cap named s) :
    s.accepted = s.handled ++ s.queue.map (·.id) :=
  h.inv.m.accepted

theorem handled_at_most_once {cap named s} (h : Reached cap named s) (hid : s.accepted.Nodup) :
    s.handled.Nodup :=
  List.Nodup.sublist (handled_prefix_of_accepted h).sublist hid

theorem queue_bounded {cap named s} (h : Reached cap named s) : s.queue.length ≤ cap :=
  h.inv.capacity ▸ h.inv.m.bounded

/-- The observable log is a word of the lifecycle automaton (`lifeStep`): hooks in the documented order,
handlers only between `post_start` and `pre_stop`, never two handlers open at once. -/
theorem log_follows_lifecycle {cap named s} (h : Reached cap named s) :
    ∃ l, lifeRun .fresh s.log = some l ∧ agree l s.pc = true :=
  h.inv.l

theorem handlers_never_overlap {cap named s} (h : Reached cap named s) (pre post : List Obs) (m : Nat)
    (hl : s.log = pre ++ .hs m :: post) : post = [] ∨ ∃ ok post', post = .he m ok :: post' := by
  obtain ⟨l, hrun, _⟩ := log_follows_lifecycle h
  rw [hl] at hrun
  exact handler_bracketed _ _ pre post m hrun

theorem handled_is_logged {cap named s} (h : Reached cap named s) : s.handled = hsIds s.log :=
  h.inv.m.logged

theorem recv_takes_oldest (s : St) (it : Item) (q : List Item)
    (h1 : s.pc = .atRecv) (h2 : s.stopSlot = false) (h3 : s.queue = it :: q) :
    ∃ s', run s [.pollStop, .pollMsg] = some s' ∧ s'.pc = .handling it false ∧ s'.queue = q := by
  obtain ⟨s', a, b, c, _⟩ := recv_takes_head s it q h1 h2 h3
  exact ⟨s', a, b, c⟩

/-- `select_biased!`: a pending stop request wins over anything queued; those messages are never handled. -/
theorem recv_stop_first (s : St) (h1 : s.pc = .atRecv) (h2 : s.stopSlot = true) :
    ∃ s', step s .pollStop = some s' ∧ s'.pc = .finBegin .stopped ∧ s'.queue = s.queue ∧ s'.handled = s.handled :=
  recv_prefers_stop s h1 h2

/-- All accepted messages are handled unless a stop or a failure comes first: with no stop request pending and
handlers that neither fail nor stop the actor, the task's own continuation empties the queue in order. -/
theorem all_accepted_handled_unless_stopped (sc : Script) (s : St) (n : Nat)
    (h1 : s.pc = .atRecv) (h2 : s.stopSlot = false)
    (hq : ∀ it ∈ s.queue, sc.handlerOk it = true ∧ sc.stopsSelf it = false) :
    let s' := settle sc (3 * s.queue.length + n) s
    s'.pc = .atRecv ∧ s'.queue = [] ∧ s'.handled = s.handled ++ s.queue.map (·.id) :=
  settle_drains sc s.queue s n h1 h2 rfl hq

theorem actor_task_never_stuck {cap named s} (sc : Script) (h : Reached cap named s) :
    (run s (nextEvents sc s)).isSome = true :=
  nextEvents_enabled sc s h.inv.r

/-- The driver's scheduler `settle` is fuel-independent: with `settleFuel` rounds the task always ends blocked
(idle at `recv` or finished), and extra fuel changes nothing. -/
theorem settle_ends_blocked_and_fuel_independent {cap named s} (sc : Script) (h : Reached cap named s) (k : Nat) :
    nextEvents sc (settle sc (settleFuel s) s) = [] ∧
    settle sc (settleFuel s + k) s = settle sc (settleFuel s) s := by
  obtain ⟨t, ht, hk⟩ := settle_limit sc _ s h.inv.r (measure_le_fuel s)
  rw [hk k, show settle sc (settleFuel s) s = t from hk 0]
  exact ⟨ht, rfl⟩

/-- An actor reports `Stopped` only if a stop request was consumed (or its spawn future had been dropped). -/
theorem stopped_has_a_reason {cap named s} (h : Reached cap named s) (hp : s.pc = .exited .stopped) :
    s.stopConsumed = true ∨ s.detached = true :=
  h.inv.x (by simp [hp, Pc.exit?])

theorem closed_after_exit {cap named s} (h : Reached cap named s) (e : Exit) (hp : s.pc = .exited e)
    (it : Item) (r : SendRes) (s' : St) (hs : sendNow s it = some (r, s')) : r = .closed := by
  have hc : s.isClosed = true := by simp [St.isClosed, h.inv.r.rx, hp, Pc.rxDropped]
  have := sendNow_result s it r s' hs
  simpa [hc] using this

/-- From `begin_stop` on -- in particular while `pre_stop` and `post_stop` run -- the mailbox rejects new
messages. -/
theorem closed_during_stop_hooks {cap named s} (h : Reached cap named s)
    (hp : s.pc.afterBeginStop = true) : s.isClosed = true := by
  simp [St.isClosed, h.inv.r.stopping hp]

/-- A `stop()` on a mailbox whose flag is already set reports `false` and changes nothing observable
(`swap(true)` on `true`), whatever the phase. -/
theorem stop_idempotent_when_stopping {s : St} (hst : s.stopping = true) {b : Bool} {s' : St}
    (hs : stopNow s = some (b, s')) : b = false ∧ s' = s := by
  unfold stopNow at hs
  rw [if_pos hst] at hs
  unfold step at hs
  by_cases hc : s.chanAlive = true
  · simp [hc, hst] at hs
    exact ⟨hs.1, hs.2.symm⟩
  · simp [hc] at hs

/-- `Mailbox::stop` is idempotent in every lifecycle phase after `begin_stop`: for every event history, once the
actor is in its stop phase (stop token consumed and `pre_stop` running however long, or `finish` entered after a
handler / `post_start` failure while the receiver is still alive, or later) a `stop()` call reports `false` --
no second caller is told that it requested the stop, and a failing actor never claims a graceful stop request.
(Seed C19-5a: `try_send` first, flag afterwards, return the `try_send` result.) -/
theorem stop_refused_in_stop_phase {cap named s} (h : Reached cap named s)
    (hp : s.pc.afterBeginStop = true) {b : Bool} {s' : St} (hs : stopNow s = some (b, s')) : b = false :=
  (stop_idempotent_when_stopping (h.inv.r.stopping hp) hs).1

/-- After any completed `stop()` the flag is set, so (with `stop_idempotent_when_stopping`) the next
uninterrupted `stop()` reports `false`. -/
theorem stop_sets_flag {s : St} {b : Bool} {s' : St} (hs : stopNow s = some (b, s')) : s'.stopping = true := by
  by_cases hst : s.stopping = true
  · rw [(stop_idempotent_when_stopping hst hs).2]; exact hst
  · unfold stopNow at hs
    rw [if_neg hst] at hs
    unfold step at hs
    by_cases hc : s.chanAlive = true
    · simp [hc, hst] at hs
      obtain ⟨_, h2⟩ := hs
      rw [← h2]
    · simp [hc] at hs

/-- After the exit every hook ran exactly once in the order pre_start, post_start, pre_stop, post_stop
(whatever failed on the way); the only other complete path is the dropped spawn future, which skips
`post_start`. A failed `pre_start` runs nothing else. -/
theorem hooks_exactly_once_in_order {cap named s} (h : Reached cap named s) :
    (∀ e, s.pc = .exited e →
      hookNames s.log = [.preStart, .postStart, .preStop, .postStop] ∨
      hookNames s.log = [.preStart, .preStop, .postStop]) ∧
    (s.pc = .startFailed → hookNames s.log = [.preStart]) := by
  rw [h.inv.h.hooks]
  exact ⟨fun e hp => by rw [hp]; cases s.detached <;> simp [hooksAt], fun hp => by rw [hp]; rfl⟩

/-- The short path is taken only when the spawn future was dropped before start-up was reported. -/
theorem post_start_skipped_only_when_detached {cap named s} (h : Reached cap named s) (e : Exit)
    (hp : s.pc = .exited e) (hd : s.detached = false) :
    hookNames s.log = [.preStart, .postStart, .preStop, .postStop] := by
  rw [h.inv.h.hooks, hp, hd]; rfl

/-- Every call ever issued is in exactly one place: answered, queued, about to be pushed, or being handled. -/
theorem calls_accounted {cap named s} (h : Reached cap named s) :
    s.issued = s.resolved.length + (if s.chanAlive then callCount s.queue else 0)
      + callCount s.inflight + inHand s.pc :=
  h.inv.ca

/-- A reply is the reply of the handler of that very call; `NoReply` means that handler returned without
answering (reply sender dropped ⇒ the receiver errors) or the whole channel was destroyed. -/
theorem reply_comes_from_the_handler {cap named s} (h : Reached cap named s) :
    (∀ c v, (c, Res.reply v) ∈ s.resolved → c ∈ s.handled) ∧
    (∀ c, (c, Res.noReply) ∈ s.resolved → c ∈ s.handled ∨ s.chanAlive = false) :=
  ⟨h.inv.re.reply, h.inv.re.noReply⟩

theorem unanswered_call_errors (s : St) (it : Item) (ok : Bool) (hp : s.pc = .handling it false)
    (hc : it.call = true) :
    ∃ s', step s (.handlerEnd ok) = some s' ∧ (it.id, Res.noReply) ∈ s'.resolved := by
  simp [step, hp, St.obs, hc]

theorem call_after_exit_is_closed {cap named s} (h : Reached cap named s) (e : Exit) (hp : s.pc = .exited e)
    (it : Item) (r : SendRes) (s' : St) (hs : sendNow s it = some (r, s')) : r = .closed :=
  closed_after_exit h e hp it r s' hs

/-- PARTIAL (finding F14): *once the actor is gone every call is over* holds only when no call envelope was
still queued at the exit. Full statement the code violates (see `Cex.C19.call_stranded_counterexample`):
`s.pc = .exited e → s.inflight = [] → s.issued = s.resolved.length`. -/
theorem calls_over_after_exit_partial {cap named s} (h : Reached cap named s) (e : Exit)
    (hp : s.pc = .exited e) (hin : s.inflight = []) (hq : callCount s.queue = 0) :
    s.issued = s.resolved.length := by
  simpa [hp, hin, hq, inHand] using calls_accounted h

theorem pending_after_exit_are_stranded {cap named s} (h : Reached cap named s) (e : Exit)
    (hp : s.pc = .exited e) (hin : s.inflight = []) (hc : s.chanAlive = true) :
    s.issued = s.resolved.length + callCount s.queue := by
  simpa [hp, hin, hc, inHand] using calls_accounted h

/-- Once the last handle is gone too (the channel is destroyed), every call ever issued has its answer: the
envelopes still queued are dropped with the channel and their callers get `NoReply`. So a call can hang only
while somebody keeps a `Mailbox`/`Broker` of the dead actor (F14: the caller of `Mailbox::call` does). -/
theorem calls_all_answered_once_channel_destroyed {cap named s} (h : Reached cap named s)
    (hc : s.chanAlive = false) : s.issued = s.resolved.length := by
  have hca := calls_accounted h
  obtain ⟨ht, hin, _⟩ := h.inv.r.chan hc
  have hh : inHand s.pc = 0 := by
    cases hpc : s.pc <;> simp [hpc, Pc.terminal] at ht <;> simp [inHand]
  simpa [hc, hin, hh] using hca

theorem channel_destruction_answers_queued_calls (s s' : St) (hs : step s .dropSenders = some s') :
    s'.resolved = s.resolved ++ dropCalls s.queue ∧ s'.chanAlive = false ∧ s'.pc = s.pc := by
  cases step_sound hs with
  | env h => cases h; exact ⟨rfl, rfl, rfl⟩
  | task h => cases h

theorem exit_is_final (s s' : St) (e : Exit) (ev : Ev) (hp : s.pc = .exited e) (hs : step s ev = some s') :
    s'.pc = .exited e ∧ s'.log = s.log ∧ s'.tok = s.tok ∧ s'.notified = s.notified := by
  have f := ((step_sound hs).env_of_terminal (by rw [hp]; rfl)).same
  exact ⟨f.pc.trans hp, f.log, f.tok, f.notified⟩

/-- What an actor tells its supervisor, for every schedule: `started` exactly once iff `post_start` succeeded,
then -- once the task is over and it ran attached -- exactly one of `terminated` / `failed` matching its
`ActorExit`; nothing else, nothing twice, in that order. -/
theorem supervision_notifications {cap named s} (h : Reached cap named s) :
    s.notified = (if startedOk s.log then [0] else []) ++ exitNotes s.pc s.detached :=
  h.inv.n.shape

/-- When the supervisor is told about the exit, the actor's name has already been released: a restart under
the same name issued by the supervisor cannot be refused because of the old instance. -/
theorem exit_notice_after_name_release {cap named s} (h : Reached cap named s)
    (hn : 1 ∈ s.notified ∨ 2 ∈ s.notified) : s.tok = .unnamed ∨ s.tok = .dropped := by
  have hex : ∃ e, s.pc = .exited e := by
    rw [supervision_notifications h] at hn
    rcases hn with hn | hn <;> rcases List.mem_append.mp hn with hn | hn <;>
      first | exact (mem_exitNotes hn).2 | (split at hn <;> simp at hn)
  obtain ⟨e, hp⟩ := hex
  simpa [InvK, hp, tokAt] using h.inv.k

theorem started_notice_iff_post_start_ok {cap named s} (h : Reached cap named s) :
    (0 ∈ s.notified ↔ startedOk s.log = true) ∧ (s.detached = true → s.notified = []) := by
  have hs := supervision_notifications h
  constructor
  · rw [hs]
    -- the exit notification is 1 or 2
    have hx : 0 ∉ exitNotes s.pc s.detached := fun hm => by have := (mem_exitNotes hm).1; omega
    cases startedOk s.log <;> simp [hx]
  · intro hd
    rw [hs, h.inv.h.detached_not_started hd, hd]
    cases s.pc <;> rfl

/-- The registration token follows the task: reserved (invisible) until `pre_start` succeeded, active while the
actor lives, released on every terminal path -- failed start and exit alike. -/
theorem registration_follows_lifecycle {cap named s} (h : Reached cap named s) :
    (s.pc = .init → s.tok = .unnamed ∨ s.tok = .reserved) ∧
    (s.pc.terminal = true → s.tok = .unnamed ∨ s.tok = .dropped) ∧
    (s.tok = .active → s.pc ≠ .init ∧ s.pc.terminal = false) := by
  have hk : s.tok = .unnamed ∨ s.tok = tokAt s.pc := h.inv.k
  refine ⟨?_, ?_, ?_⟩
  · intro hp; simpa [hp, tokAt] using hk
  · intro hp
    cases hpc : s.pc <;> simp [hpc, Pc.terminal] at hp <;> simpa [hpc, tokAt] using hk
  · intro ht
    cases hpc : s.pc <;> simp_all [tokAt, Pc.terminal]

/-- Failed start: the registration is released *before* the failure is sent to the spawner
(`reg.take()` precedes `started_tx.send(Err(error))` in `Cluster::start`), so whenever the spawner can observe
`SpawnError::Start` the name is already free -- whatever still happens afterwards (dropping the failed actor
value, the receiver, returning from the task). -/
theorem name_free_when_start_failure_observed {cap named s} (h : Reached cap named s)
    (hrep : s.startReported = true) :
    (s.tok = .unnamed ∨ s.tok = .dropped) ∧ (s.pc = .failReturn ∨ s.pc = .startFailed) := by
  have hpc := Pc.afterReport_iff.mp (h.inv.n.reported ▸ hrep)
  refine ⟨?_, hpc⟩
  rcases hpc with hpc | hpc <;> simpa [InvK, hpc, tokAt] using h.inv.k

theorem start_failure_reported_after_release (s s' : St) (hs : step s .reportFailure = some s') :
    s.pc = .failReport ∧ s'.startReported = true := by
  cases step_sound hs with
  | env h => cases h
  | task h => cases h with | reportFailure hp => exact ⟨hp, rfl⟩

/-- Registry: for every sequence of reserve / activate / drop that ownership allows, the map is the image of
the live registrations, no two of which share a name or an owner; `activate` never hits its `expect`. -/
theorem registry_invariant (evs : List Registry.REv) (s : Registry.RSt)
    (h : Registry.RSt.run {} evs = some s) : Registry.Inv s :=
  Registry.inv_run {} s evs Registry.inv_init h

theorem at_most_one_actor_per_name (evs : List Registry.REv) (s : Registry.RSt)
    (h : Registry.RSt.run {} evs = some s) (t u : Registry.Token)
    (ht : t ∈ s.live) (hu : u ∈ s.live) (hn : t.name = u.name) : t = u :=
  inj_of_nodup_map (·.name) s.live (registry_invariant evs s h).names t ht u hu hn

/-- `lookup` answers an actor exactly when that actor holds the name and its start-up succeeded. -/
theorem lookup_iff_activated (evs : List Registry.REv) (s : Registry.RSt)
    (h : Registry.RSt.run {} evs = some s) (n : Registry.Name) (a : Nat) :
    Registry.get s.map n = some a ↔ ∃ t ∈ s.live, t.name = n ∧ t.owner = a ∧ t.active = true := by
  have hi := registry_invariant evs s h
  rw [hi.image]
  exact Registry.get_image s.live hi.names n a

theorem name_free_after_drop (evs : List Registry.REv) (s s' : Registry.RSt)
    (h : Registry.RSt.run {} evs = some s) (a : Nat) (t : Registry.Token)
    (ht : s.tokenOf a = some t) (hd : s.step (.drop a) = some s') :
    Registry.get s'.map t.name = none ∧ (Registry.reserve s'.map t.name).isSome = true := by
  have hi' : Registry.Inv s' := Registry.inv_step s _ s' (registry_invariant evs s h) hd
  have hi := registry_invariant evs s h
  simp only [Registry.RSt.step, ht] at hd
  cases hd
  obtain ⟨htm, hta⟩ := Registry.tokenOf_mem s a t ht
  have hno : Registry.Map.has (Registry.release s.map t.name) t.name = false := by
    simp [Registry.Map.has, Registry.release]
  constructor
  · simp only [Registry.get]
    have : (Registry.release s.map t.name).find? (fun e => e.1 == t.name) = none := by
      simp [Registry.release]
    simp [this]
  · simp [Registry.reserve, hno]

section Group
open Compio.Group
variable {α : Type}

/-- `send` computes exactly the reference: first accepting member in scan order, evicting the closed members
met on the way, cursor advanced by one. -/
theorem send_characterised (status : α → Status) (c : Nat) (ms : List α) (hne : ms ≠ []) :
    send status c ms =
      (specOutcome status (scanOrder c ms), specMembers status c ms, (c + 1) % usizeMod) := by
  rw [send_eq_spec, if_neg hne]

/-- `send` terminates (it is a structural recursion on the loop's own attempt counter) and never indexes the
member vector out of range, for every vector, cursor and status assignment. -/
theorem send_never_panics (status : α → Status) (c : Nat) (ms : List α) :
    (send status c ms).1 ≠ .panic := by
  rw [send_eq_spec]
  simp only [specOutcome]
  split <;> (try split) <;> simp

theorem send_delivers_to_first_available (status : α → Status) (c : Nat) (ms : List α)
    (m : α) (hm : m ∈ ms) (hok : status m = .ok) :
    ∃ m', (send status c ms).1 = .delivered m' ∧ (scanOrder c ms).find? (isOk status) = some m' ∧
      status m' = .ok := by
  rw [send_eq_spec]
  have hmem : m ∈ scanOrder c ms := (mem_scanOrder c ms m).mpr hm
  cases hf : (scanOrder c ms).find? (isOk status) with
  | none =>
    have := List.find?_eq_none.mp hf m hmem
    simp [isOk, hok] at this
  | some m' =>
    refine ⟨m', by simp [specOutcome, hf], rfl, ?_⟩
    have := List.find?_some hf
    simpa [isOk] using this

theorem send_hands_back (status : α → Status) (c : Nat) (ms : List α)
    (hno : ∀ m ∈ ms, status m ≠ .ok) :
    (send status c ms).1 = (if ms.any (isFull status) then .full else .closed) := by
  rw [send_eq_spec]
  have hf : (scanOrder c ms).find? (isOk status) = none := by
    apply List.find?_eq_none.mpr
    intro m hm
    have := hno m ((mem_scanOrder c ms m).mp hm)
    simp [isOk, this]
  simp [specOutcome, hf, (scanOrder_perm c ms).any_eq]

/-- eviction in positional form: no assumption on ids -/
theorem send_evicts_closed_members_met (status : α → Status) (c : Nat) (ms : List α) (hne : ms ≠ []) :
    (send status c ms).2.1 = specMembers status c ms := by
  rw [send_characterised status c ms hne]

theorem send_only_removes_closed (status : α → Status) (c : Nat) (ms : List α) :
    (send status c ms).2.1.Sublist ms ∧
    ∀ m ∈ ms, status m ≠ .closed → m ∈ (send status c ms).2.1 := by
  refine ⟨send_members_sublist status c ms, fun m hm hnc => ?_⟩
  rw [send_eq_spec]
  simp only [specMembers]
  rw [← List.take_append_drop (c % ms.length) ms] at hm
  rcases List.mem_append.mp hm with h | h
  · apply List.mem_append_left
    split
    · exact mem_evictSeg status _ m h hnc
    · exact h
  · exact List.mem_append_right _ (mem_evictSeg status _ m h hnc)

theorem send_cursor (status : α → Status) (c : Nat) (ms : List α) :
    (send status c ms).2.2 = if ms = [] then c else (c + 1) % usizeMod := by
  rw [send_eq_spec]

/-- Round-robin fairness: with a stable membership (nobody closed), every member that accepts is chosen by one
of any `|members|` consecutive sends (cursor `c`, `c+1`, …; no `usize` wrap in between). -/
theorem round_robin_fair (status : α → Status) (c : Nat) (ms : List α) (i : Nat) (hi : i < ms.length)
    (hok : status ms[i] = .ok) :
    ∃ k, k < ms.length ∧ (send status (c + k) ms).1 = .delivered ms[i] := by
  have hlen : 0 < ms.length := by omega
  -- the send whose cursor points at `i`
  refine ⟨(i + ms.length - c % ms.length) % ms.length, Nat.mod_lt _ hlen, ?_⟩
  have hmod : (c + (i + ms.length - c % ms.length) % ms.length) % ms.length = i := by
    have h1 : c % ms.length < ms.length := Nat.mod_lt _ hlen
    have e1 : (c + (i + ms.length - c % ms.length) % ms.length) % ms.length
        = (c % ms.length + (i + ms.length - c % ms.length)) % ms.length := by
      rw [Nat.add_mod c _ ms.length, Nat.mod_mod]
      conv => rhs; rw [Nat.add_mod, Nat.mod_mod]
    have : c % ms.length + (i + ms.length - c % ms.length) = i + ms.length := by omega
    rw [e1, this, Nat.add_mod_right, Nat.mod_eq_of_lt hi]
  rw [send_eq_spec]
  simp only [specOutcome, scanOrder, hmod]
  have hd : ms.drop i = ms[i] :: ms.drop (i + 1) := by
    rw [List.drop_eq_getElem_cons hi]
  have : List.find? (isOk status) (ms.drop i ++ ms.take i) = some ms[i] := by
    rw [List.find?_append, hd, List.find?_cons]; simp [isOk, hok]
  rw [this]

/-- With nobody closed the membership and the scan are stable, so the `k`-th of consecutive sends really runs
with cursor `c + k`. -/
theorem send_stable_without_closed (status : α → Status) (c : Nat) (ms : List α)
    (hnc : ∀ m ∈ ms, status m ≠ .closed) (hw : c + 1 < usizeMod) :
    (send status c ms).2 = (ms, if ms = [] then c else c + 1) := by
  rw [send_eq_spec]
  simp only [specMembers]
  rw [evictSeg_eq_self status _ fun m hm => hnc m (List.mem_of_mem_take hm),
    evictSeg_eq_self status _ fun m hm => hnc m (List.mem_of_mem_drop hm)]
  simp [Nat.mod_eq_of_lt hw]

/-- Every `send` is routed according to the membership at its own critical section: first accepting member of
that membership in scan order, else `Full`/`Closed`. (`join`, `Membership::drop` and `send` hold the group mutex
for their whole body, so any concurrent history is a sequence of `GEv`; the membership used lies between the
invocation and the response of the call.) -/
theorem group_send_uses_current_membership (g : GState) (st : Nat → Status) (hne : g.members ≠ []) :
    (g.stepEv (.send st)).2 = some (specOutcome st (scanOrder g.cursor g.members)) ∧
    (g.stepEv (.send st)).1.members = specMembers st g.cursor g.members := by
  simp [GState.stepEv, GState.send, send_characterised st g.cursor g.members hne]

theorem group_send_not_lost_while_available (g : GState) (st : Nat → Status) (m : Nat)
    (hm : m ∈ g.members) (hok : st m = .ok) :
    ∃ m', (g.stepEv (.send st)).2 = some (.delivered m') ∧ m' ∈ g.members ∧ st m' = .ok := by
  obtain ⟨m', h1, _, h3⟩ := send_delivers_to_first_available st g.cursor g.members m hm hok
  refine ⟨m', by simp [GState.stepEv, GState.send, h1], send_delivered_mem st g.cursor g.members m' h1, h3⟩

/-- No message goes to a member that left before the send: for every history `pre ++ [leave id] ++ post` of
joins, leaves and sends (any statuses), no send in `post` delivers to `id`; ids are never reused
(fewer than 2^64 joins). -/
theorem group_no_delivery_to_departed_member (pre post : List GEv) (id : Nat)
    (hw : pre.length + 1 + post.length < usizeMod) (hid : id < (GState.runEv {} pre).1.nextId) :
    Outcome.delivered id ∉ (((GState.runEv {} pre).1.leave id).runEv post).2 := by
  have h0 := runEv_inv pre {} ginv_init (by simp; omega)
  have hdep := leave_departs (GState.runEv {} pre).1 id h0.1 hid
  apply runEv_departed post _ id hdep
  rw [(leave_shrinks _ id).2]
  have := h0.2.2
  simp at this
  omega

theorem group_member_ids_unique (es : List GEv) (hw : es.length < usizeMod) :
    (GState.runEv {} es).1.members.Nodup :=
  (runEv_inv es {} ginv_init (by simp; omega)).1.nodup

end Group

theorem model_life_accepted {cap named s} (h : Reached cap named s) :
    History.lifeOk .unknown s.log = true ∧
    (∀ e, s.pc = .exited e → History.lifeOk .exited s.log = true) ∧
    (s.pc = .startFailed → History.lifeOk .startFailed s.log = true) := by
  obtain ⟨l, hrun, hag⟩ := log_follows_lifecycle h
  refine ⟨by simp [History.lifeOk, hrun], ?_, ?_⟩
  · intro e hp
    rw [hp] at hag
    obtain rfl := of_decide_eq_true hag
    simp [History.lifeOk, hrun]
  · intro hp
    rw [hp] at hag
    obtain rfl := of_decide_eq_true hag
    simp [History.lifeOk, hrun]

/-- any model run passes the FIFO acceptor for every way of attributing the accepted messages to sender
threads (each thread's list a subsequence of the acceptance order); with an empty queue it passes the
`complete` variant. -/
theorem model_fifo_accepted {cap named s} (h : Reached cap named s) (senders : List (List Nat))
    (hid : s.accepted.Nodup)
    (hsub : ∀ acc ∈ senders, acc.Sublist s.accepted)
    (hcov : ∀ m ∈ s.accepted, ∃ acc ∈ senders, m ∈ acc) :
    History.fifoOk false s.handled senders = true ∧
    (s.queue = [] → History.fifoOk true s.handled senders = true) := by
  have hpre := handled_prefix_of_accepted h
  have hnd := handled_at_most_once h hid
  have hq := accepted_is_handled_plus_queued h
  have common : ∀ complete : Bool, (complete = true → s.queue = []) →
      History.fifoOk complete s.handled senders = true := by
    intro complete hc
    unfold History.fifoOk
    simp only [Bool.and_eq_true, List.all_eq_true, List.any_eq_true]
    refine ⟨⟨(History.nodup_iff _).mpr hnd, ?_⟩, ?_⟩
    · intro m hm
      obtain ⟨acc, ha, hma⟩ := hcov m (hpre.subset hm)
      exact ⟨acc, ha, by simpa using hma⟩
    · intro acc ha
      have hf : s.accepted.filter acc.contains = acc :=
        History.filter_contains_of_sublist (hsub acc ha) hid
      have hp : s.handled.filter acc.contains <+: acc := by
        have := List.IsPrefix.filter acc.contains hpre
        rwa [hf] at this
      refine ⟨(History.isPrefix_iff _ _).mpr hp, ?_⟩
      cases hcomp : complete with
      | false => simp
      | true =>
        have hqe := hc hcomp
        rw [hqe] at hq
        simp only [List.map_nil, List.append_nil] at hq
        rw [← hq, hf]
        simp
  exact ⟨common false (by simp), fun hq => common true (fun _ => hq)⟩

/-! ## non-vacuity: the hypotheses above are met by non-trivial schedules -/

/-- a capacity-2 named actor: two sends race with a stop; one message handled, one stranded, exit `Stopped` -/
def demoSchedule : List Ev :=
  [ .preStart true, .signalStarted, .postStart true,
    .sendCheck ⟨1, false, 0⟩, .sendPush ⟨1, false, 0⟩,
    .sendCheck ⟨2, true, 4⟩, .pollStop, .sendPush ⟨2, true, 4⟩, .pollMsg,
    .stopSwap, .stopPush, .handlerEnd true, .pollStop,
    .beginStop, .preStop true, .dropRx, .postStop true, .release, .notifyExit ]

example : ∃ s, run (St.init 2 true) demoSchedule = some s ∧
    s.pc = .exited .stopped ∧ s.handled = [1] ∧ s.accepted = [1, 2] ∧ s.tok = .dropped ∧
    hookNames s.log = [.preStart, .postStart, .preStop, .postStop] := by
  refine ⟨_, rfl, ?_⟩
  decide

example : Reached 2 true ((run (St.init 2 true) demoSchedule).get (by decide)) := ⟨demoSchedule, by simp⟩

/-- `all_accepted_handled_unless_stopped` applies to a real state: three queued messages get handled in order -/
example :
    let s : St := { St.init 3 false with pc := .atRecv, queue := [⟨5, false, 0⟩, ⟨6, true, 4⟩, ⟨7, false, 0⟩] }
    (settle {} (settleFuel s) s).handled = [5, 6, 7] := by decide

/-- routing: members `[10,11,12,13]`, cursor 6 → start at index 2; 12 full, 13 closed, 10 ok ⇒ 10 gets it,
13 is evicted, 12 stays -/
example :
    Group.send (fun m => if m = 12 then .full else if m = 13 then .closed else .ok) 6 [10, 11, 12, 13]
      = (.delivered 10, [10, 11, 12], 7) := by decide

example :
    Group.send (fun m => if m = 11 then Group.Status.full else .closed) 1 [10, 11, 12]
      = (.full, [11], 2) := by decide

/-- registry: reserve, lookup hidden, activate, visible, second reserve refused, drop, free again -/
example :
    let evs : List Registry.REv := [.reserve 1 "a", .reserve 2 "a", .activate 1]
    ∃ s, Registry.RSt.run {} evs = some s ∧ Registry.get s.map "a" = some 1 ∧ s.live.length = 1 := by
  refine ⟨_, rfl, ?_⟩
  decide

/-- Atomicity of a leave, over the definitions GENERATED from `impl Drop for Membership` (extractor target
`MembershipDrop`): the body takes the group lock exactly once and both the lookup (`position`) and the `remove`
go through that one guard, so a leave is ONE critical section -- the premise under which `GEv.leave` is a single
event of the sequential group histories of `group_no_delivery_to_departed_member`,
`group_send_uses_current_membership`, `group_member_ids_unique`. (Seed C19-5b: lookup and remove in two critical
sections -> this obligation fails.) -/
theorem membership_drop_is_one_critical_section :
    Compio.Gen.membershipDropLocks = 1 ∧ Compio.Gen.membershipDropLookupRemoveSameGuard = true := by
  decide

end Compio.Props.C19
