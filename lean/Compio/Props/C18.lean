/-
C18: the dispatcher starts every accepted task exactly once.

Theorems about the transition system of Model/Dispatcher.lean (`step?`, `run?`: the very functions the driver
`c18d` fires, both for its canonical schedule and for the trace acceptor), for every number of workers, both
modes, every number of dispatching threads (the thread id of an event is arbitrary) and every interleaving
(`∀ evs : List Event`, hidden in `Reachable nw conc s := ∃ evs, run? (init nw conc) evs = some s`).

Reading guide (fields of `St`, the first four ghosts): `accepted` = tasks whose `dispatch`/`dispatch_blocking` returned `Ok`;
`started t` = number of calls of the closure of `t`; `startedOn t` = the workers it was called on;
`ended t` = number of times its body ended; `chan t` = what the `oneshot::Receiver` of `t` sees;
`joined` = result of `join` once it has returned.

After the theorems about reachable states: the tie to the driver (what the canonical scheduler prints and what the trace
acceptor accepts are runs of `run?`), concrete schedules as examples, and the `gen_*` theorems, which say that the step
functions do what the tables regenerated from the Rust source (`Gen/DispatcherLoop.lean`) say.
-/
import Compio.Lemmas.Dispatcher
import Compio.Lemmas.DispatcherProgress
import Compio.Lemmas.DispatcherTrace
import Compio.Lemmas.DispatcherGen

namespace Compio.Dispatcher

/-- a task sent with `dispatch` (not `dispatch_blocking`) -/
def St.onWorkers (s : St) (t : Nat) : Prop := s.stat t ≠ .pooled ∧ s.stat t ≠ .poolDone

/-- The closure of a task is called at most once -- on every schedule, with any number of workers and
dispatching threads. -/
theorem started_le_one {nw : Nat} {conc : Bool} {s : St} (h : Reachable nw conc s) (t : Nat) :
    s.started t ≤ 1 := by
  rw [h.tinv.started_eq]; cases s.stat t <;> simp [startedOf]
  rename_i o; cases o <;> simp

/-- Only accepted tasks are ever started (a closure handed back in `DispatchError` never runs). -/
theorem started_accepted {nw : Nat} {conc : Bool} {s : St} (h : Reachable nw conc s) (t : Nat)
    (hs : 0 < s.started t) : t ∈ s.accepted ∧ t ∉ s.rejected := by
  have hne : s.stat t ≠ .absent := fun he => by rw [h.tinv.started_eq, he] at hs; exact Nat.lt_irrefl 0 hs
  exact ⟨(h.tinv.mem_accepted t).mpr hne, fun hr => hne (h.tinv.absent_of_rejected hr)⟩

/-- A task sent with `dispatch` is started on exactly as many workers as it was started: on exactly one
worker when it was started, on none before. -/
theorem started_on_one_worker {nw : Nat} {conc : Bool} {s : St} (h : Reachable nw conc s) (t : Nat)
    (hw : s.onWorkers t) : (s.startedOn t).length = s.started t := by
  rw [h.tinv.started_eq, h.tinv.startedOn_eq]
  cases hst : s.stat t <;> simp [startedOf, startedOnOf]
  · rename_i o; cases o <;> simp
  · exact hw.2 hst

/-- Blocking closures run on the pool, never on a worker runtime. -/
theorem blocking_not_on_worker {nw : Nat} {conc : Bool} {s : St} (h : Reachable nw conc s) (t : Nat)
    (hb : ¬ s.onWorkers t) : s.startedOn t = [] := by
  rw [h.tinv.startedOn_eq]
  by_cases h1 : s.stat t = .pooled
  · rw [h1]; rfl
  · by_cases h2 : s.stat t = .poolDone
    · rw [h2]; rfl
    · exact (hb ⟨h1, h2⟩).elim

/-- Completeness: an accepted task that has not been started is still waiting to be (in the queue, spawned
but not polled yet, or in the blocking pool) -- or it was dropped, and then `join` had been called or a worker
thread had panicked. -/
theorem accepted_started_or_waiting {nw : Nat} {conc : Bool} {s : St} (h : Reachable nw conc s) (t : Nat)
    (ha : t ∈ s.accepted) :
    s.started t = 1 ∨ t ∈ s.queue ∨ (∃ w, s.stat t = .spawned w ∧ w < s.nw ∧ (s.main w).gone = false) ∨
      s.stat t = .pooled ∨
      (s.stat t = .dropped none ∧ (s.sender = false ∨ ∃ w, w < s.nw ∧ (s.main w).failed)) := by
  have h1 := h.tinv.started_eq t
  cases hst : s.stat t with
  | absent => exact ((h.tinv.mem_accepted t).mp ha hst).elim
  | queued => exact .inr (.inl ((h.inv.t.q.mem t).mpr hst))
  | spawned w => exact .inr (.inr (.inl ⟨w, rfl, h.inv.w.alive t w (active_spawned hst)⟩))
  | running w k => left; rw [h1, hst]; rfl
  | done w => left; rw [h1, hst]; rfl
  | dropped o =>
    cases o with
    | none => exact .inr (.inr (.inr (.inr ⟨rfl, h.inv.j.anydrop t none hst⟩)))
    | some w => left; rw [h1, hst]; rfl
  | pooled => exact .inr (.inr (.inr (.inl rfl)))
  | poolDone => left; rw [h1, hst]; rfl

/-- "`= 1` for every accepted task once the queue is drained (before workers exit)": while the dispatcher
is alive and no worker thread has panicked, every accepted task that is neither queued nor waiting for its
first poll has been started exactly once. -/
theorem started_eq_one_when_settled {nw : Nat} {conc : Bool} {s : St} (h : Reachable nw conc s)
    (hsend : s.sender = true) (hnf : ∀ w, w < s.nw → ¬ (s.main w).failed) (t : Nat)
    (ha : t ∈ s.accepted) (hq : t ∉ s.queue) (hsp : ∀ w, s.stat t ≠ .spawned w) (hp : s.stat t ≠ .pooled) :
    s.started t = 1 := by
  rcases accepted_started_or_waiting h t ha with h1 | h1 | ⟨w, h1, _⟩ | h1 | ⟨_, h1 | ⟨w, hw, hf⟩⟩
  · exact h1
  · exact (hq h1).elim
  · exact (hsp w h1).elim
  · exact (hp h1).elim
  · rw [hsend] at h1; cases h1
  · exact (hnf w hw hf).elim

/-- A value in the channel of `t` is the value of `t`'s own body, which ended exactly once and sent exactly
once. -/
theorem value_is_own_result {nw : Nat} {conc : Bool} {s : St} (h : Reachable nw conc s) (t v : Nat)
    (hv : s.chan t = .value v) : (s.body t).out = .ok v ∧ s.ended t = 1 ∧ s.sent t = 1 := by
  have h5 := h.tinv.chanOk t
  cases hst : s.stat t <;> simp [hst, chanOk, hv] at h5
  all_goals
    cases ho : (s.body t).out <;> simp [ho] at h5
    subst h5
    exact ⟨rfl, by rw [h.tinv.ended_eq, hst]; rfl, by rw [h.tinv.sent_eq, hst]; exact sentOf_ok rfl ho⟩

/-- When a task runs to completion its result reaches its own receiver (unless the caller dropped the
receiver). -/
theorem completed_result_delivered {nw : Nat} {conc : Bool} {s : St} (h : Reachable nw conc s) (t v : Nat)
    (hd : (s.stat t).isDone = true) (ho : (s.body t).out = .ok v) :
    s.chan t = .value v ∨ s.chan t = .closed := by
  have := h.done_chan t hd
  rw [ho] at this; exact this.symm

/-- A task whose body panicked is reported as cancelled (the panic is contained in the task). -/
theorem panicked_task_cancelled {nw : Nat} {conc : Bool} {s : St} (h : Reachable nw conc s) (t : Nat)
    (hd : (s.stat t).isDone = true) (ho : (s.body t).out = .panic) :
    s.chan t = .cancelled ∨ s.chan t = .closed := by
  have := h.done_chan t hd
  rw [ho] at this; exact this.symm

/-- A receiver is cancelled only when the task object was dropped unfinished or its body panicked: never
after the body returned. -/
theorem cancelled_not_completed {nw : Nat} {conc : Bool} {s : St} (h : Reachable nw conc s) (t v : Nat)
    (hc : s.chan t = .cancelled) (ho : (s.body t).out = .ok v) : (s.stat t).isDone = false := by
  cases hd : (s.stat t).isDone
  · rfl
  · have := h.done_chan t hd
    rw [ho, hc] at this
    rcases this with h5 | h5 <;> cases h5

/-- `join` returns only after all worker threads have finished. -/
theorem join_after_all_workers {nw : Nat} {conc : Bool} {s : St} (h : Reachable nw conc s)
    (r : Option Nat) (hj : s.joined = some r) : ∀ w, w < s.nw → (s.main w).gone = true :=
  fun _ hw => gone_of_allGone (h.inv.j.joined r hj).2.1 hw

/-- ... over both paths of `join`: the closure that joins the threads runs on the blocking pool, or -- when the
pool refuses it because its thread limit is reached -- on a fresh thread; `join` never returns without one of
them having joined every worker. -/
theorem join_both_paths_wait_for_workers {nw : Nat} {conc : Bool} {s : St} (h : Reachable nw conc s)
    (r : Option Nat) (hj : s.joined = some r) :
    (s.joiner = some true ∨ s.joiner = some false) ∧ ∀ w, w < s.nw → (s.main w).gone = true := by
  refine ⟨?_, join_after_all_workers h r hj⟩
  have := h.inv.g.ninv r hj
  cases hn : s.joiner with
  | none => rw [hn] at this; cases this
  | some b => cases b <;> simp

/-- A saturated pool cannot block `join`: once the sender is dropped the fallback thread can always take the
joiner closure. -/
theorem join_fallback_always_possible (s : St) (hsend : s.sender = false) (hn : s.joiner = none) :
    (step? s .joinFallbackThread).isSome = true := by
  simp [step?, joinHand?, hsend, hn]

/-- If the dispatcher is joined first, the receiver observes cancellation instead of hanging: once `join`
has returned, no receiver of a task sent with `dispatch` is pending (the sender half was dropped together
with the task object, or the result was sent). -/
theorem no_receiver_pending_after_join {nw : Nat} {conc : Bool} {s : St} (h : Reachable nw conc s)
    (r : Option Nat) (hj : s.joined = some r) (t : Nat) (hw : s.onWorkers t) : s.chan t ≠ .pending := by
  intro hp
  obtain ⟨hsend, hall, _⟩ := h.inv.j.joined r hj
  obtain ⟨hnq, hna⟩ := h.settled_of_allGone hsend hall t
  have h5 := h.tinv.chanOk t
  rw [hp] at h5
  cases hst : s.stat t with
  | absent => rw [hst] at h5; cases h5
  | queued => exact hnq hst
  | spawned w => exact hna w (active_spawned hst)
  | running w k => exact hna w (active_running hst)
  | done w => simp [hst, chanOk] at h5; cases ho : (s.body t).out <;> simp [ho] at h5
  | dropped o => simp [hst, chanOk] at h5
  | pooled => exact hw.1 hst
  | poolDone => exact hw.2 hst

/-- A worker panic is re-raised by `join`: it returns `Ok` only if every worker thread finished normally,
and otherwise resumes the panic of the first panicked worker in thread order. -/
theorem join_reraises_worker_panic {nw : Nat} {conc : Bool} {s : St} (h : Reachable nw conc s)
    (r : Option Nat) (hj : s.joined = some r) :
    (r = none → ∀ w, w < s.nw → s.main w = .exited) ∧
    (∀ p, r = some p → ∃ w, w < s.nw ∧ s.main w = .dead p ∧ ∀ w', w' < w → s.main w' = .exited) := by
  obtain ⟨_, hall, hr⟩ := h.inv.j.joined r hj
  have hex : ∀ w, w < s.nw → (∀ q, s.main w ≠ .dead q) → s.main w = .exited := by
    intro w hw hnd
    have := gone_of_allGone hall hw
    cases hm : s.main w with
    | exited => rfl
    | dead q => exact (hnd q hm).elim
    | _ => rw [hm] at this; cases this
  constructor
  · intro hn w hw
    exact hex w hw (firstDead_none (by rw [← hr, hn]) w hw)
  · intro p hp
    obtain ⟨w, hw, hd, hlt⟩ := firstDead_some (s := s) (p := p) (by rw [← hr, hp])
    exact ⟨w, hw, hd, fun w' hw' => hex w' (by omega) (hlt w' hw')⟩

/-- ... and a panicked worker thread makes `join` panic. -/
theorem worker_panic_makes_join_panic {nw : Nat} {conc : Bool} {s : St} (h : Reachable nw conc s)
    (r : Option Nat) (hj : s.joined = some r) (w p : Nat) (hw : w < s.nw) (hd : s.main w = .dead p) :
    r ≠ none := by
  intro hn
  have := (join_reraises_worker_panic h r hj).1 hn w hw
  rw [hd] at this; cases this

/-- Sequential mode: a worker never has two tasks between spawn and completion. -/
theorem sequential_no_overlap {nw : Nat} {s : St} (h : Reachable nw false s) (t t' w : Nat)
    (h1 : s.active t w) (h2 : s.active t' w) : t = t' :=
  h.inv.w.uniq h.nw_conc.2 t t' w h1 h2

/-- Sequential mode: the worker loop does not receive the next task while one is in its executor. -/
theorem sequential_busy_worker_not_receiving {nw : Nat} {s : St} (h : Reachable nw false s) (t w : Nat)
    (h1 : s.active t w) : s.main w ≠ .idle :=
  fun hi => h.inv.w.idle_not_active h.nw_conc.2 hi t h1

/-- Sequential mode: when `join` returns `Ok`, every task accepted by `dispatch` has been started once, has
finished, and its result (or the cancellation caused by its own panic) is at its receiver. -/
theorem sequential_all_finished_at_join {nw : Nat} {s : St} (h : Reachable nw false s)
    (hj : s.joined = some none) (t : Nat) (ha : t ∈ s.accepted) (hw : s.onWorkers t) :
    s.started t = 1 ∧ s.ended t = 1 ∧ (∃ w, w < s.nw ∧ s.startedOn t = [w]) ∧
      (∀ v, (s.body t).out = .ok v → s.chan t = .value v ∨ s.chan t = .closed) := by
  obtain ⟨hsend, hall, _⟩ := h.inv.j.joined none hj
  have hexit := (join_reraises_worker_panic h none hj).1 rfl
  obtain ⟨hnq, hna⟩ := h.settled_of_allGone hsend hall t
  cases hst : s.stat t with
  | absent => exact ((h.tinv.mem_accepted t).mp ha hst).elim
  | queued => exact (hnq hst).elim
  | spawned w => exact (hna w (active_spawned hst)).elim
  | running w k => exact (hna w (active_running hst)).elim
  | done w =>
    -- the worker it ran on is one of the dispatcher's workers
    exact ⟨by rw [h.tinv.started_eq, hst]; rfl, by rw [h.tinv.ended_eq, hst]; rfl,
      ⟨w, h.inv.x t w (by rw [hst]; rfl), by rw [h.tinv.startedOn_eq, hst]; rfl⟩,
      fun v hv => completed_result_delivered h t v (by rw [hst]; rfl) hv⟩
  | dropped o =>
    obtain ⟨w, hw, hf⟩ := h.inv.j.seqdrop h.nw_conc.2 t o hst
    rw [hexit w hw] at hf; exact hf.elim
  | pooled => exact (hw.1 hst).elim
  | poolDone => exact (hw.2 hst).elim

/-- "The receiver resolves" as bounded progress.  From any reachable state in which `join` has been called:
(1) until `join` returns, some event is enabled (no deadlock) -- in sequential mode provided no task body hangs
forever, because `join` then really waits for it; (2) every continuation of the schedule has at most `rank s`
events besides wake-ups of task wakers, which do no work and may come in any number (no infinite run, explicit
bound); (3) when `join` has returned, no receiver of a dispatched task is
pending.  So after at most `rank s` further events of any maximal schedule every receiver has resolved, to
the value or to cancellation. -/
theorem receiver_resolves_bounded {nw : Nat} {conc : Bool} {s : St} (h : Reachable nw conc s)
    (hsend : s.sender = false) :
    (s.joined = none → (s.conc = false → ∀ t, (s.body t).out ≠ .never) →
        ∃ e, e.external = false ∧ (step? s e).isSome = true) ∧
    (∀ evs s', run? s evs = some s' → (workEvents evs).length ≤ rank s) ∧
    (∀ r, s.joined = some r → ∀ t, s.onWorkers t → s.chan t ≠ .pending) := by
  refine ⟨fun hj ht => join_never_stuck h.inv hsend hj ht, ?_, fun r hj t => no_receiver_pending_after_join h r hj t⟩
  intro evs s' hr
  have := internal_run_bounded h.inv (run_after_join_internal hsend hr) hr
  omega

/-- Before `join`, too, work that is already in the system takes a bounded number of events: any schedule
segment without new `dispatch` calls is at most `rank s` long. -/
theorem internal_events_bounded {nw : Nat} {conc : Bool} {s s' : St} (h : Reachable nw conc s)
    (evs : List Event) (hint : ∀ e, e ∈ evs → e.external = false) (hr : run? s evs = some s') :
    (workEvents evs).length ≤ rank s := by
  have := internal_run_bounded h.inv hint hr
  omega

/-- A dispatched task may be woken from any thread at any time -- also between two events of its own poll --
and any number of times: `remoteWake t` is enabled in every state of an accepted task. -/
theorem remote_wake_always_possible (s : St) (t : Nat) (h : s.stat t ≠ .absent) :
    (step? s (.remoteWake t)).isSome = true := by
  simp [step?, remoteWake?, h]

/-- A wake-up changes nothing but the pending-wake flag: it can neither start a task a second time nor
resolve or cancel a receiver. -/
theorem remote_wake_only_marks {s s' : St} {t : Nat} (hs : step? s (.remoteWake t) = some s') (t' : Nat) :
    s'.stat t' = s.stat t' ∧ s'.chan t' = s.chan t' ∧ s'.started t' = s.started t' ∧ s'.main = s.main ∧
      s'.woken t = true := by
  cases remoteWake?_some hs
  exact ⟨rfl, rfl, rfl, rfl, by simp⟩

/-- A pending wake is never lost: only a poll of the task itself consumes it. -/
theorem wake_not_lost {s s' : St} {e : Event} (hs : step? s e = some s') (t : Nat) (hw : s.woken t = true) :
    s'.woken t = true ∨ ∃ w, e = .poll w t := by
  rcases (step?_frame hs).woken t with h1 | rfl | ⟨w, rfl⟩
  · exact .inl (h1.trans hw)
  · cases remoteWake?_some hs
    exact .inl (upd_same ..)
  · exact .inr ⟨w, rfl⟩

/-- A task with a pending wake is polled again: as long as it lives in the executor of a worker that still
runs, its poll is enabled (whatever was woken, by whom, and when -- also during the previous poll); the only
exception is a body that has nothing left to do but hang for ever.  Together with `wake_not_lost` and the
variant (`internal_events_bounded`): the wake stays pending until that poll happens, and only boundedly many
other events can come first.  If the worker thread is panicking instead, `reap` is enabled and the receiver is
cancelled. -/
theorem woken_task_polled_again {nw : Nat} {conc : Bool} {s : St} (h : Reachable nw conc s) (t w : Nat)
    (ha : s.active t w) (hnever : ¬ (s.stat t = .running w 0 ∧ (s.body t).out = .never)) :
    ((s.main w).canPoll = true → (step? s (.poll w t)).isSome = true) ∧
    ((s.main w).canPoll = false → (step? s (.reap w)).isSome = true) := by
  obtain ⟨hw, hg⟩ := h.inv.w.alive t w ha
  refine ⟨fun hc => poll_enabled hw hc ha hnever, fun hc => ?_⟩
  cases hm : s.main w <;> simp [hm, Main.canPoll, Main.gone] at hc hg
  simp [step?, reap?, hm, hw]

/-- Any number of remote wakes -- of any tasks, in any states of their scheduling, before or after `join` was
called -- leaves the exit path of every worker exactly as enabled as it was: leaving the loop, the teardown
(`executor.clear()`), the unwinding of a panicked worker and the return of `join`. -/
theorem exit_path_independent_of_wakes {s s' : St} (ts : List Nat)
    (h : run? s (ts.map .remoteWake) = some s') (w : Nat) :
    (step? s' (.exitLoop w)).isSome = (step? s (.exitLoop w)).isSome ∧
    (step? s' (.teardown w)).isSome = (step? s (.teardown w)).isSome ∧
    (step? s' (.reap w)).isSome = (step? s (.reap w)).isSome ∧
    (step? s' .joinReturn).isSome = (step? s .joinReturn).isSome := by
  obtain ⟨h1, h2, h3, h4, _, _, h7, h8⟩ := wakes_change_nothing_else ts h
  refine ⟨?_, ?_, ?_, ?_⟩
  · simp only [step?, exitLoop?, h1, h2, h3, h4]; split <;> simp
  · simp only [step?, teardown?, h1, h2]; split <;> simp
  · simp only [step?, reap?, h1, h2]; cases s.main w <;> simp <;> split <;> simp
  · have hall : allGone s' = allGone s := by simp [allGone, h1, h2]
    simp only [step?, joinReturn?, h4, h7, h8, hall]
    cases (!s.sender && s.joiner.isSome && s.joined.isNone && allGone s) <;> simp

/-- A worker that has left its loop can always drop its runtime -- whatever is still in its executor: parked
tasks, tasks that were woken (any number of times) and tasks that are runnable and would go on yielding for
ever.  `block_on` does not wait for them. -/
theorem teardown_always_possible (s : St) (w : Nat) (hw : w < s.nw) (hd : s.main w = .draining) :
    (step? s (.teardown w)).isSome = true := by
  simp [step?, teardown?, hw, hd]

/-- ... and the teardown resolves the receiver of every task that was still in that executor: the task
object is dropped with its `callback`, the receiver reports `Canceled` (unless the caller had dropped it). -/
theorem teardown_cancels_unfinished {nw : Nat} {conc : Bool} {s s' : St} (h : Reachable nw conc s) (w : Nat)
    (hs : step? s (.teardown w) = some s') (t : Nat) (ha : s.active t w) :
    s'.chan t = .cancelled ∨ s'.chan t = .closed := by
  cases teardown?_some hs
  have hc : (clearExec { s with main := upd s.main w .exited } w).chan t = (s.chan t).cancel := if_pos ha
  rw [hc]; exact cancel_of_pending (h.chan_of_active ha)

/-- Whatever the canonical scheduler of `c18d` prints (unless it printed `model-stuck`) is read off a
reachable state. -/
theorem driver_schedule_reachable {nw : Nat} {conc : Bool} {d : Sched} (h : d.Valid nw conc)
    (hb : d.bad = false) : Reachable nw conc d.s := h.reachable hb

/-- `accept` of the trace acceptor certifies a schedule of the model for the recorded history. -/
theorem accept_certifies_schedule {nw : Nat} {conc : Bool} {h : List Obs} (ha : accepts nw conc h = true) :
    ∃ s, Reachable nw conc s ∧ run? (init nw conc) (witness nw conc h) = some s := by
  obtain ⟨s, hs⟩ := accepts_sound ha
  exact ⟨s, ⟨_, hs⟩, hs⟩

/-! ### non-vacuity: concrete schedules -/

/-- two workers, concurrent mode: task 1 (one suspension, returns 7) and task 2 (panics) on different
workers; join after both ended -/
def exA : List Event :=
  [.dispatch 0 1 ⟨1, .ok 7⟩, .dispatch 1 2 ⟨0, .panic⟩, .recv 0 1, .recv 1 2, .poll 0 1, .poll 1 2, .poll 1 2,
   .poll 0 1, .poll 0 1, .joinStart, .joinPool, .exitLoop 0, .exitLoop 1, .teardown 0, .teardown 1, .joinReturn]

example : (run? (init 2 true) exA).map (fun s => (s.joined, s.chan 1, s.chan 2)) =
    some (some none, .value 7, .cancelled) := by decide
example : (run? (init 2 true) exA).map (fun s => (s.started 1, s.startedOn 1, s.started 2, s.ended 2)) =
    some (1, [0], 1, 1) := by decide

/-- one worker, sequential mode: the worker thread panics (payload 9) while it awaits task 1; task 2 stays in
the queue until `join` frees the channel; a later dispatch (task 3) is refused; `join` resumes the panic -/
def exB : List Event :=
  [.dispatch 0 1 ⟨0, .never⟩, .dispatch 0 2 ⟨0, .ok 5⟩, .recv 0 1, .poll 0 1, .die 0 9, .reap 0,
   .dispatch 0 3 ⟨0, .ok 1⟩, .joinStart, .joinFallbackThread, .joinReturn]

example : (run? (init 1 false) exB).map (fun s => (s.joined, s.chan 1, s.chan 2)) =
    some (some (some 9), .cancelled, .cancelled) := by decide
example : (run? (init 1 false) exB).map (fun s => (s.started 2, s.accepted, s.rejected)) =
    some (0, [1, 2], [3]) := by decide

/-- the hypotheses of `sequential_all_finished_at_join` are satisfiable: sequential mode, two tasks on one
worker, `join` returns `Ok` -/
def exC : List Event :=
  [.dispatch 0 1 ⟨0, .ok 3⟩, .dispatch 1 2 ⟨1, .ok 4⟩, .joinStart, .recv 0 1, .poll 0 1, .poll 0 1, .recv 0 2,
   .poll 0 2, .poll 0 2, .poll 0 2, .joinFallbackThread, .exitLoop 0, .teardown 0, .joinReturn]

example : (run? (init 1 false) exC).map (fun s => (s.joined, s.chan 1, s.chan 2, s.startedOn 2)) =
    some (some none, .value 3, .value 4, [0]) := by decide

/-- sequential mode: a second `recv` while the worker awaits a task is not a schedule -/
example : run? (init 1 false) [.dispatch 0 1 ⟨0, .ok 3⟩, .dispatch 0 2 ⟨0, .ok 4⟩, .recv 0 1, .recv 0 2] = none := by
  decide

/-- the same item cannot be received twice (MPMC exactly-once) -/
example : run? (init 2 true) [.dispatch 0 1 ⟨0, .ok 3⟩, .recv 0 1, .recv 1 1] = none := by decide

/-- `join` cannot return while a worker is still running -/
example : run? (init 1 true) [.joinStart, .joinPool, .joinReturn] = none := by decide
example : run? (init 1 true) [.joinStart, .joinFallbackThread, .joinReturn] = none := by decide

/-- `join` cannot return before the joiner closure was handed to the pool or to the fallback thread -/
example : run? (init 1 true) [.joinStart, .exitLoop 0, .teardown 0, .joinReturn] = none := by decide

/-- the trace acceptor on small histories: a clean run is accepted; a task started twice is not, nor is a second start
on a sequential worker whose task has not ended -/
example : accepts 2 true [.intent 1 ⟨1, .ok 7⟩ false, .acc 1, .start 0 1, .fin 1, .got 1 7, .joinCall false,
    .joinRet none, .alive 0] = true := by decide
example : accepts 2 true [.intent 1 ⟨1, .ok 7⟩ false, .acc 1, .start 0 1, .start 1 1] = false := by decide
example : accepts 2 false [.intent 1 ⟨0, .ok 7⟩ false, .intent 2 ⟨0, .ok 8⟩ false, .acc 1, .acc 2, .start 0 1,
    .start 0 2] = false := by decide

/-! ### the control structure regenerated from the Rust source (`Gen/DispatcherLoop.lean`)

The extractor target `DispatcherLoop` re-reads `Dispatcher::new_impl` (worker loop), `dispatch`, `join`,
`Concrete::spawn` / `run`, `Runtime::block_on_at` (exit and unwind paths) and `Runtime::drop` on every check; the
theorems below say that the step functions of the hand model -- the ones all theorems above are about and the
driver executes -- do exactly what the generated tables say, for every state.  A source change that alters one of
the constructs changes the generated literal and breaks the corresponding obligation here (or is not recognised
by the extractor, which fails closed). -/

open Compio.Gen.DispatcherLoop in
/-- Worker loop: after `recv_async()` has yielded task `t`, the task object is in w's executor and the loop future
does what the source's `if concurrent { .. } else { .. }` says -- `task.detach()`: stays in `recv_async()`;
`task.await.ok()`: suspended on exactly this task. -/
theorem gen_worker_loop_after_spawn {s s' : St} {w t : Nat} (h : step? s (.recv w t) = some s') :
    s'.main = loopAfter s.main w t (afterSpawn s.conc) ∧ s'.stat t = .spawned w := by
  cases recv?_some h
  cases hc : s.conc <;> simp [afterSpawn, loopAfter, upd]

open Compio.Gen.DispatcherLoop in
/-- sequential mode really is the `await` arm, concurrent mode really is the `detach` arm (non-vacuity of the tie:
the two modes of the model are the two arms of the source) -/
theorem gen_modes_are_the_two_arms : afterSpawn false = .awaitTask ∧ afterSpawn true = .detach ∧
    defaultConcurrent = true := by decide

open Compio.Gen.DispatcherLoop in
/-- `dispatch`: the two arms of `match self.sender.send(..)` -- `Ok(rx)`: accepted, receiver pending, nothing
handed back; `Err(DispatchError(func))`: closure handed back, nothing accepted, no task object exists.  flume's
`send` succeeds iff a `Receiver` clone is alive. -/
theorem gen_dispatch_arms {s s' : St} {d t : Nat} {b : Body} (h : step? s (.dispatch d t b) = some s') :
    match dispatchArm (anyRx s) with
    | .okReceiver => s'.accepted = s.accepted ++ [t] ∧ s'.rejected = s.rejected ∧ s'.chan t = .pending ∧
        s'.stat t = .queued
    | .errClosureBack => s'.rejected = s.rejected ++ [t] ∧ s'.accepted = s.accepted ∧ s'.stat t = s.stat t ∧
        s'.chan t = s.chan t := by
  cases dispatch?_some (d := d) h with
  | accept _ _ _ _ _ _ hr => simp [dispatchArm, hr, upd]
  | reject _ _ _ _ _ _ hr => simp [dispatchArm, hr]

open Compio.Gen.DispatcherLoop in
/-- The last poll of a dispatched task does to its receiver what the statements of the spawned future say:
`let res = func().await; callback.send(res).ok();` -- value sent once when the body returns, `callback` dropped
(cancellation) when it panics. -/
theorem gen_task_body_effect {s s' : St} {w t : Nat} (hst : s.stat t = .running w 0)
    (h : step? s (.poll w t) = some s') :
    bodyEffect taskBody (s.body t).out none (s.chan t) (s.sent t) = some (s'.chan t, s'.sent t) := by
  cases poll?_some h with
  | start _ _ _ _ h1 | resume _ _ _ _ _ h1 => rw [hst] at h1; cases h1
  | finishOk _ _ v _ _ _ ho => simp [taskBody, bodyEffect, ho, upd, Chan.cancel_send]
  | finishPanic _ _ _ _ _ ho => simp [taskBody, bodyEffect, ho, upd]

open Compio.Gen.DispatcherLoop in
/-- the same for `dispatch_blocking` closures (`Concrete::run` on a pool thread) -/
theorem gen_blocking_body_effect {s s' : St} {t : Nat} (h : step? s (.runBlocking t) = some s') :
    bodyEffect blockingBody (s.body t).out none (s.chan t) (s.sent t) = some (s'.chan t, s'.sent t) := by
  cases runBlocking?_some h with
  | blockingOk _ v _ ho => simp [blockingBody, bodyEffect, ho, upd, Chan.cancel_send]
  | blockingPanic _ _ ho => simp [blockingBody, bodyEffect, ho, upd]

open Compio.Gen.DispatcherLoop in
/-- The statements of `Dispatcher::join`, read as model events in source order, are `joinStart`, the hand-over of
the joiner (pool, or -- refused -- the fallback thread: never an early return), `joinReturn`. -/
theorem gen_join_program : joinProgram false = some [.joinStart, .joinPool, .joinReturn] ∧
    joinProgram true = some [.joinStart, .joinFallbackThread, .joinReturn] := by decide

/-- **All histories**: in every schedule the model accepts, from a fresh dispatcher, the join events occur in the
order of the statements of the source's `join` -- `drop(self.sender)` first, then the hand-over of the joiner
closure, `joinReturn` last, each at most once: the join events of the schedule are a prefix of the generated
program (for the pool's answer that schedule saw). -/
theorem join_events_follow_source_order {nw : Nat} {conc : Bool} {evs : List Event} {s : St}
    (h : run? (init nw conc) evs = some s) :
    ∃ refused prog, joinProgram refused = some prog ∧ evs.filter Event.isJoin <+: prog := by
  have hp := joinPhase_run (JGood.init nw conc) h
  have h0 : joinPhase (init nw conc) = [] := by simp [joinPhase, Compio.Dispatcher.init]
  rw [h0, List.nil_append] at hp
  rw [← hp]
  unfold joinPhase
  split
  · exact ⟨false, _, gen_join_program.1, List.nil_prefix⟩
  · split
    · exact ⟨false, _, gen_join_program.1, by simp [List.prefix_iff_eq_append]⟩
    · rename_i b _
      cases b
      · refine ⟨true, _, gen_join_program.2, ?_⟩
        cases s.joined.isSome <;> simp [handEvent, List.prefix_iff_eq_append]
      · refine ⟨false, _, gen_join_program.1, ?_⟩
        cases s.joined.isSome <;> simp [handEvent, List.prefix_iff_eq_append]

open Compio.Gen.DispatcherLoop in
/-- A pool that refuses the joiner closure cannot stop `join`: whatever the pool answers, the event the source
prescribes for that answer is enabled once the sender is dropped. -/
theorem gen_join_refused_never_blocks (s : St) (hsend : s.sender = false) (hn : s.joiner = none) (refused : Bool) :
    ∃ evs : List Event, joinStmtEvents refused .handJoiner = some evs ∧ evs.length = 1 ∧
      ∀ e ∈ evs, (step? s e).isSome = true := by
  cases refused
  · exact ⟨[.joinPool], by decide, rfl, by simp [step?, joinHand?, hsend, hn]⟩
  · exact ⟨[.joinFallbackThread], by decide, rfl, by simp [step?, joinHand?, hsend, hn]⟩

open Compio.Gen.DispatcherLoop in
/-- `join`'s result is what the source's `for res in results { res.unwrap_or_else(|e| resume_unwind(e)) } Ok(())`
gives for the results the joiner collected (`thread.join()` of every worker, in thread order), and the joiner
sends them only after it has joined every thread. -/
theorem gen_join_result {s s' : St} (h : step? s .joinReturn = some s') :
    s'.joined = joinResult joinBody (firstDead s) ∧ joinerWaits joinerBody = true ∧ allGone s = true := by
  cases joinReturn?_some h with | joinReturn _ _ _ hg =>
  refine ⟨?_, by decide, hg⟩
  cases firstDead s <;> simp [joinBody, joinResult]

open Compio.Gen.DispatcherLoop in
/-- `block_on_at` leaves after one tick once the worker loop has ended (no draining loop): a worker in `draining`
can always drop its runtime, whatever is still runnable in its executor; and both ways out of `block_on_at`
(return + `Runtime::drop`, unwinding) clear the executor, which is what `teardown` / `reap` do. -/
theorem gen_block_on_exit_bounded_and_clears :
    exitBounded blockOnReady = true ∧ blockOnUnwind.contains .clearExecutor = true ∧
    runtimeDrop.contains .clearExecutor = true ∧
    (∀ (s : St) (w : Nat), w < s.nw → s.main w = .draining →
      step? s (.teardown w) = some (clearExec { s with main := upd s.main w .exited } w)) ∧
    (∀ (s : St) (w p : Nat), w < s.nw → s.main w = .dying p →
      step? s (.reap w) = some (gc (clearExec { s with main := upd s.main w (.dead p) } w))) := by
  refine ⟨by decide, by decide, by decide, ?_, ?_⟩
  · intro s w hw hd; simp [step?, teardown?, hw, hd]
  · intro s w p hw hd; simp [step?, reap?, hw, hd]

/-- non-vacuity: a schedule with the three join events of the fallback path, interleaved with worker events, and its
filtered join events -/
example : (run? (init 1 true) [.joinStart, .exitLoop 0, .joinFallbackThread, .teardown 0, .joinReturn]).isSome = true ∧
    [Event.joinStart, .exitLoop 0, .joinFallbackThread, .teardown 0, .joinReturn].filter Event.isJoin =
      [.joinStart, .joinFallbackThread, .joinReturn] := by decide
/-- the order is enforced: handing the joiner over before `drop(self.sender)` is not a schedule -/
example : run? (init 1 true) [.joinPool] = none := by decide

/-- the readings of the generated statements on concrete inputs -/
example : bodyEffect Compio.Gen.DispatcherLoop.taskBody (.ok 7) none .pending 0 = some (.value 7, 1) := by decide
example : bodyEffect Compio.Gen.DispatcherLoop.taskBody .panic none .pending 0 = some (.cancelled, 0) := by decide
example : joinResult Compio.Gen.DispatcherLoop.joinBody (some 3) = some (some 3) ∧
    joinResult Compio.Gen.DispatcherLoop.joinBody none = some none := by decide

end Compio.Dispatcher
