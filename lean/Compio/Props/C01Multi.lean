/-
C01, operations waiting on SEVERAL descriptors (polling driver: `Splice` = `wait_for_many([readable(in), writable(out)])`).

`Proactor::cancel` tells the caller that the operation is his no longer (the key is consumed, the cancellation is
reported through the completed channel). For that to be true the polling driver must forget the key on EVERY descriptor
the operation was registered on: a key left in one interest queue keeps the operation, its buffers and the descriptors it
owns alive, and the poller keeps its address as user data.

The theorems are about `Compio.MultiFd.step`, the function the model driver `c01d` runs on the `mfd` cases of the
harness, instantiated with the loop shape the extractor reads from `poll::Driver::cancel`
(`Gen.pollCancelLoopLeavesEarly`). A loop that can leave early flips that constant and breaks
`gen_loop_shape` / `cancel_removes_key_from_every_queue`; the witness for such a loop is `Compio.Cex.C01`
(`early_break_leaves_key_registered`).
-/
import Compio.Lemmas.MultiFd

namespace Compio.Props.C01Multi

open Compio Compio.MultiFd Compio.PollQueues

/-- what the extractor read from `poll::Driver::{cancel, cancel_one, remove_one}` and `FdQueue::remove`: one
`cancel_one(key.clone(), fd)` per descriptor, no way out of the loop before the last descriptor, `remove_one` and
`retain(!= key)` on both queues underneath (proved by `rfl`: a changed shape breaks the build) -/
theorem gen_loop_shape :
    Gen.pollCancelCallsCancelOnePerFd = true ∧ Gen.pollCancelLoopLeavesEarly = false ∧
    Gen.pollCancelOneCallsRemoveOne = true ∧ Gen.pollRemoveOneRemovesFromQueue = true ∧
    Gen.fdQueueRemoveFiltersBothQueues = true := ⟨rfl, rfl, rfl, rfl, rfl⟩

/-- registry level, every registry, every key, every descriptor list: the extracted loop takes the key out of both
interest queues of each descriptor it is given … -/
theorem cancel_loop_removes_key_on_each_descriptor (reg : Reg) (key : Nat) (fds : List Nat) (fd : Nat) (h : fd ∈ fds) :
    key ∉ (cancelFds Gen.pollCancelLoopLeavesEarly reg key fds fd).rq ∧
    key ∉ (cancelFds Gen.pollCancelLoopLeavesEarly reg key fds fd).wq := by
  have := cancelFds_removes_all key fd fds reg h
  unfold On at this
  exact ⟨fun h1 => this (Or.inl h1), fun h2 => this (Or.inr h2)⟩

/-- … leaves every other descriptor alone … -/
theorem cancel_loop_leaves_other_descriptors (reg : Reg) (key : Nat) (fds : List Nat) (fd : Nat) (h : fd ∉ fds) :
    cancelFds Gen.pollCancelLoopLeavesEarly reg key fds fd = reg fd :=
  cancelFds_other _ key fd fds reg h

/-- … and every other key where it is -/
theorem cancel_loop_keeps_other_keys (reg : Reg) (key k : Nat) (fds : List Nat) (fd : Nat) (hk : k ≠ key)
    (h : On reg k fd) : On (cancelFds Gen.pollCancelLoopLeavesEarly reg key fds) k fd :=
  cancelFds_keeps_others _ key k fd hk fds reg h

/-- `push` registers the key on every descriptor of the operation -/
theorem push_registers_on_every_descriptor (reg : Reg) (key : Nat) (fds : List (Nat × Dir)) (fd : Nat)
    (h : fd ∈ fds.map (·.1)) : On (pushFds reg key fds) key fd :=
  pushFds_on key fds reg fd h

/-- for every run: a key sits only in queues of descriptors its own operation waits on -/
theorem registered_only_on_own_descriptors {d : Drv} {es : List Event} {s : State}
    (hr : run Gen.pollCancelLoopLeavesEarly (init d) es = some s) (id fd : Nat) (h : On s.reg id fd) :
    ∃ o : MOp, s.ops[id]? = some o ∧ fd ∈ o.fdList :=
  run_own es (init d) s (own_init d) hr id fd h

/-- **After `Proactor::cancel` reached the polling driver the key is in NO interest queue of ANY descriptor** — for every
reachable state (every history of pushes, cancels, drops, pops, polls of any number of operations on shared or
distinct descriptors), every operation with any number of descriptors. -/
theorem cancel_removes_key_from_every_queue {d : Drv} {es : List Event} {s s' : State} {id : Nat} {o : MOp}
    (hr : run Gen.pollCancelLoopLeavesEarly (init d) es = some s) (hd : s.drv = .poll)
    (ho : s.ops[id]? = some o) (hc : o.cancelled = false) (hn : ¬ (o.rc = 1 ∧ o.result.isSome))
    (hs : step Gen.pollCancelLoopLeavesEarly s (.cancel id) = some s') :
    ∀ fd, id ∉ (s'.reg fd).rq ∧ id ∉ (s'.reg fd).wq := by
  have hown := run_own es (init d) s (own_init d) hr
  obtain ⟨o', ho', hreg⟩ := step_cancel_reg hs
  obtain rfl : o = o' := Option.some.inj (ho.symm.trans ho')
  -- wherever the key sits, it is a descriptor of the operation
  have mine : ∀ fd, On s.reg id fd → fd ∈ o.fdList := fun fd h => by
    obtain ⟨o', ho', hfd⟩ := hown id fd h
    obtain rfl : o = o' := Option.some.inj (ho.symm.trans ho')
    exact hfd
  have key : ∀ fd, ¬ On s'.reg id fd := by
    intro fd h
    rcases hreg with ⟨hr, he⟩ | hr <;> rw [hr] at h
    · have := mine fd h
      simp [MOp.fdList, List.isEmpty_iff.mp (he hd hc hn)] at this
    · exact cancelFds_removes_all id fd o.fdList s.reg (mine fd (on_cancelFds_sub h)) h
  exact fun fd => ⟨fun h1 => key fd (Or.inl h1), fun h2 => key fd (Or.inr h2)⟩

/-- the other operations keep every registration they had -/
theorem cancel_keeps_other_operations {s s' : State} {id k fd : Nat} (hk : k ≠ id)
    (hs : step Gen.pollCancelLoopLeavesEarly s (.cancel id) = some s') (h : On s.reg k fd) : On s'.reg k fd := by
  obtain ⟨o, _, ⟨hr, _⟩ | hr⟩ := step_cancel_reg hs <;> rw [hr]
  · exact h
  · exact cancelFds_keeps_others _ id k fd hk _ _ h

/-! ### non-vacuity: the statements on concrete runs (two- and three-descriptor operations, shared descriptors) -/

/-- a splice parked on descriptors 0 and 1, cancelled, polled: registered nowhere, released exactly once -/
example :
    (run Gen.pollCancelLoopLeavesEarly (init .poll) [.push [(0, .rd), (1, .wr)], .cancel 0, .poll]).map
      (fun s => (s.reg 0, s.reg 1, s.ops.map fun o => (o.rc, o.freed, o.returned, o.uaf, o.result)))
    = some (⟨[], []⟩, ⟨[], []⟩, [(0, 1, 0, false, some 125)]) := by rfl

/-- between the cancel and the poll the entry of the completed channel is the only holder -/
example :
    (run Gen.pollCancelLoopLeavesEarly (init .poll) [.push [(0, .rd), (1, .wr)], .cancel 0]).map
      (fun s => (s.reg 0, s.reg 1, s.ops.map fun o => (o.rc, o.chan, o.user, o.freed)))
    = some (⟨[], []⟩, ⟨[], []⟩, [(1, 1, 0, 0)]) := by rfl

/-- two operations on the same two descriptors, three descriptors for a third: cancelling the first leaves the others -/
example :
    (run Gen.pollCancelLoopLeavesEarly (init .poll)
        [.push [(0, .rd), (1, .wr)], .push [(0, .rd), (1, .wr)], .push [(0, .rd), (1, .wr), (2, .rd)], .cancel 0, .poll]).map
      (fun s => (s.reg 0, s.reg 1, s.reg 2, s.ops.map fun o => (o.rc, o.freed)))
    = some (⟨[1, 2], []⟩, ⟨[], [1, 2]⟩, ⟨[2], []⟩, [(0, 1), (3, 0), (4, 0)]) := by rfl

/-- the hypotheses of `cancel_removes_key_from_every_queue` are satisfiable on a non-trivial state -/
example : ∃ (s s' : State) (o : MOp),
    run Gen.pollCancelLoopLeavesEarly (init .poll) [.push [(0, .rd), (1, .wr)], .push [(0, .rd), (1, .wr)]] = some s ∧
    s.drv = .poll ∧ s.ops[1]? = some o ∧ o.cancelled = false ∧ ¬ (o.rc = 1 ∧ o.result.isSome) ∧
    step Gen.pollCancelLoopLeavesEarly s (.cancel 1) = some s' ∧ s'.reg 1 = ⟨[], [0]⟩ :=
  ⟨_, _, _, rfl, rfl, rfl, rfl, by decide, rfl, rfl⟩

/-- driver drop releases a parked multi-descriptor operation once the caller lets go -/
example :
    (run Gen.pollCancelLoopLeavesEarly (init .poll) [.push [(0, .rd), (1, .wr)], .pdrop, .drop 0]).map
      (fun s => s.ops.map fun o => (o.rc, o.freed, o.uaf))
    = some [(0, 1, false)] := by rfl

end Compio.Props.C01Multi
