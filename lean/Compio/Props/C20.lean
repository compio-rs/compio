/-
C20 — child processes: complete stdio and the real exit status.

The theorems of namespace `Compio.ChildIo` are about `step` / `run` / `runCanon` / `denS`, the functions the
driver `c20d` executes; those of namespace `Compio.ChildCmd` at the end of the file are about the reusable
`Command` builder (`runSeq`, over the generated table `Compio.Gen.CommandShape`) and about `read_managed`
(`readManaged`, `mRun`, `mLoop`), see `Model/ChildCmd.lean`. A *schedule* is any `List Ev` accepted by `run`; a
schedule is *maximal* (what a fair scheduler produces) when it ends in a state where no step is possible (`Stuck`). `mu` bounds the length
of every schedule, so there are no infinite ones: "every fair schedule terminates with X" is
"every maximal schedule ends in a state with X".

`s0 = init script payload stdinNull`, `w0 = s0.wleft` (the payload the writer holds, `[]` for `Stdio::null()`).
-/
import Compio.Lemmas.ChildIo
import Compio.Model.SharedFd
import Compio.Model.ChildCmd

namespace Compio.ChildIo

/-- Every schedule is finite: its length is bounded by the measure of the initial state
(4 per payload byte, 2 per byte the child emits, one per statement and control step). -/
theorem schedule_bounded {c : Cfg} {script : List CAct} {payload : Bytes} {b : Bool} {es : List Ev} {s : St}
    (h : run c (init script payload b) es = some s) : es.length ≤ mu (init script payload b) := by
  have := run_mu h; omega

/-- Every schedule can be extended to a maximal one (the canonical scheduler does it). -/
theorem schedule_extends {c : Cfg} {script : List CAct} {payload : Bytes} {b : Bool} {es : List Ev} {s : St}
    (h : run c (init script payload b) es = some s) :
    ∃ es' s', run c (init script payload b) (es ++ es') = some s' ∧ Stuck c s' := by
  have hi := inv_reach h
  obtain ⟨es', h'⟩ := runCanon_run c (mu s) s
  exact ⟨es', _, by rw [run_append h]; exact h', runCanon_stuck hi (Nat.le_refl _)⟩

/-- The common form of `concurrent_complete`, `fits_complete`, `held_streams_complete`, `small_payload_complete` and
`wait_closes_stdin_first`: the writer waits for nothing, and for each output stream either its reader waits for
nothing and no `write` keeps the runtime thread waiting (`NoWait`: io_uring, or a payload that fits into the stdin
pipe), or what the child writes to it fits into the pipe. -/
theorem maximal_complete {c : Cfg} {script : List CAct} {payload : Bytes} {b : Bool} {es : List Ev} {s : St}
    (hp : c.Pos) (hw : wfScript script = true) (hW : ∀ x, c.plan.deps .W x = false)
    (ho : ((∀ x, c.plan.deps .Ro x = false) ∧ NoWait c (init script payload b).wleft) ∨
      (denS script (init script payload b).wleft).out.length ≤ c.capOut)
    (he : ((∀ x, c.plan.deps .Re x = false) ∧ NoWait c (init script payload b).wleft) ∨
      (denS script (init script payload b).wleft).err.length ≤ c.capErr)
    (hr : run c (init script payload b) es = some s) (hs : Stuck c s) :
    s.completed = true ∧ Outcome (denS script (init script payload b).wleft) s := by
  have hi := inv_reach hr
  have hd := den_reach hr
  have hc := stuck_completed_streams hp hi (wf_run (s := init script payload b) hw hr) hW
    (ho.imp_right (hd ▸ ·)) (he.imp_right (hd ▸ ·)) hs
  exact ⟨hc, completed_den hr hc⟩

/-- MAIN. Reader(s) and writer run concurrently (no activity of W, Ro, Re waits for another one; `wait`
may come at any point, e.g. plans `conc`, `drainWait`), operations do not occupy the runtime thread
(io_uring), any pipe capacities ≥ 1, any chunk sizes ≥ 1, any payload, any child program:
every maximal schedule ends with all four activities done, the parent has read exactly what the child
wrote on stdout and on stderr (in order), and these bytes, the bytes the child consumed and the exit
status are the schedule-independent denotation of the child program on the payload. -/
theorem concurrent_complete {c : Cfg} {script : List CAct} {payload : Bytes} {b : Bool} {es : List Ev} {s : St}
    (hp : c.Pos) (hw : wfScript script = true) (hnb : c.blocking = false)
    (hW : ∀ x, c.plan.deps .W x = false) (hRo : ∀ x, c.plan.deps .Ro x = false)
    (hRe : ∀ x, c.plan.deps .Re x = false)
    (hr : run c (init script payload b) es = some s) (hs : Stuck c s) :
    s.completed = true ∧ s.rout = s.cout ∧ s.rerr = s.cerr ∧
    s.rout = (denS script (init script payload b).wleft).out ∧
    s.rerr = (denS script (init script payload b).wleft).err ∧
    s.got = (denS script (init script payload b).wleft).got ∧
    s.sunk = (denS script (init script payload b).wleft).sunk ∧
    s.wt = .done (denS script (init script payload b).wleft).st :=
  have ⟨hc, o⟩ := maximal_complete hp hw hW (Or.inl ⟨hRo, Or.inl hnb⟩) (Or.inl ⟨hRe, Or.inl hnb⟩) hr hs
  ⟨hc, o.outAll, o.errAll, o.rout, o.rerr, o.got, o.sunk, o.wt⟩

/-- What the child read is, in order, what the parent wrote: at every moment
`child-read ++ in-the-pipe = accepted-by-the-pipe` and `accepted ++ not-yet-written = payload`. -/
theorem child_reads_what_parent_wrote {c : Cfg} {script : List CAct} {payload : Bytes} {b : Bool} {es : List Ev}
    {s : St} (hr : run c (init script payload b) es = some s) :
    s.got ++ s.pin = s.wsent ∧ s.wsent ++ s.wleft = (init script payload b).wleft :=
  ⟨(inv_reach hr).gotpin, (inv_reach hr).sent⟩

/-- …and at every moment `parent-read ++ in-the-pipe = child-written`, for stdout and stderr. -/
theorem parent_reads_what_child_wrote {c : Cfg} {script : List CAct} {payload : Bytes} {b : Bool} {es : List Ev}
    {s : St} (hr : run c (init script payload b) es = some s) :
    s.rout ++ s.pout = s.cout ∧ s.rerr ++ s.perr = s.cerr :=
  ⟨(inv_reach hr).outs, (inv_reach hr).errs⟩

/-- A child that consumes its whole input (`cat`, `wc`, …) has received exactly the payload when the run is
finished, and the writer loop ended with `Ok`. -/
theorem child_read_all {c : Cfg} {script : List CAct} {payload : Bytes} {b : Bool} {es : List Ev} {s : St}
    (hr : run c (init script payload b) es = some s) (hc : s.completed = true)
    (hall : (denS script (init script payload b).wleft).got = (init script payload b).wleft) :
    s.got = (init script payload b).wleft ∧ s.wepipe = false := by
  have hi := inv_reach hr
  have h3 := (completed_den hr hc).got
  refine ⟨by rw [h3, hall], ?_⟩
  cases he : s.wepipe with
  | false => rfl
  | true =>
    have := epipe_short hi he
    rw [h3, hall] at this
    omega

/-- The writer loop ends with `BrokenPipe` only if the child stopped reading before the end of the payload;
it ends with `Ok` only if all but at most one pipe capacity of the payload was read by the child.
(Between the two bounds the result depends on the schedule: the driver prints `racy`.) -/
theorem writer_result {c : Cfg} {script : List CAct} {payload : Bytes} {b : Bool} {es : List Ev} {s : St}
    (hr : run c (init script payload b) es = some s) :
    (s.wepipe = true → s.got.length < (init script payload b).wleft.length) ∧
    (s.wleft = [] → (init script payload b).wleft.length ≤ s.got.length + c.capIn) :=
  ⟨epipe_short (inv_reach hr), ok_long (inv_reach hr)⟩

/-- All finished runs of one scenario agree on everything observable, whatever the schedule, the chunk
sizes and the pipe capacities were. -/
theorem schedule_independent {c c' : Cfg} {script : List CAct} {payload : Bytes} {b : Bool} {es es' : List Ev}
    {s s' : St} (hr : run c (init script payload b) es = some s) (hc : s.completed = true)
    (hr' : run c' (init script payload b) es' = some s') (hc' : s'.completed = true) :
    s.rout = s'.rout ∧ s.rerr = s'.rerr ∧ s.got = s'.got ∧ s.sunk = s'.sunk ∧ s.wt = s'.wt := by
  have o := completed_den hr hc
  have o' := completed_den hr' hc'
  exact ⟨by rw [o.rout, o'.rout], by rw [o.rerr, o'.rerr], by rw [o.got, o'.got], by rw [o.sunk, o'.sunk],
    by rw [o.wt, o'.wt]⟩

/-- If everything the child will ever write fits into the pipes, it never blocks in a write: then the
readers may wait for whatever they like (`wait` first and drain afterwards — plan `waitDrain` —, or
write everything first — plan `seq`), and a `write` may occupy the runtime thread (polling driver).
Only the writer must be free to run. In particular: reading after the child has exited still returns
all buffered bytes. -/
theorem fits_complete {c : Cfg} {script : List CAct} {payload : Bytes} {b : Bool} {es : List Ev} {s : St}
    (hp : c.Pos) (hw : wfScript script = true) (hW : ∀ x, c.plan.deps .W x = false)
    (ho : (denS script (init script payload b).wleft).out.length ≤ c.capOut)
    (he : (denS script (init script payload b).wleft).err.length ≤ c.capErr)
    (hr : run c (init script payload b) es = some s) (hs : Stuck c s) :
    s.completed = true ∧
    s.rout = (denS script (init script payload b).wleft).out ∧
    s.rerr = (denS script (init script payload b).wleft).err ∧
    s.wt = .done (denS script (init script payload b).wleft).st :=
  have ⟨hc, o⟩ := maximal_complete hp hw hW (Or.inr ho) (Or.inr he) hr hs
  ⟨hc, o.rout, o.rerr, o.wt⟩

/-- A reader sees end of file only when the child is gone and every byte it wrote has been read:
nothing that is buffered in the pipe at exit is lost. -/
theorem eof_after_all_bytes {c : Cfg} {script : List CAct} {payload : Bytes} {b : Bool} {es : List Ev} {s : St}
    (hr : run c (init script payload b) es = some s) :
    (s.routDone = true → s.status.isSome = true ∧ s.rout = s.cout) ∧
    (s.rerrDone = true → s.status.isSome = true ∧ s.rerr = s.cerr) :=
  ⟨(inv_reach hr).rout_eof, (inv_reach hr).rerr_eof⟩

/-- A payload that fits into the stdin pipe never makes a `write` wait: with free readers every maximal
schedule finishes on either driver. -/
theorem small_payload_complete {c : Cfg} {script : List CAct} {payload : Bytes} {b : Bool} {es : List Ev} {s : St}
    (hp : c.Pos) (hw : wfScript script = true) (hpl : (init script payload b).wleft.length ≤ c.capIn)
    (hW : ∀ x, c.plan.deps .W x = false) (hRo : ∀ x, c.plan.deps .Ro x = false)
    (hRe : ∀ x, c.plan.deps .Re x = false)
    (hr : run c (init script payload b) es = some s) (hs : Stuck c s) : s.completed = true :=
  (maximal_complete hp hw hW (Or.inl ⟨hRo, Or.inr hpl⟩) (Or.inl ⟨hRe, Or.inr hpl⟩) hr hs).1

/-- The loop configuration: an echoing child (`copy none blk out`, then statements without io), the parent
writes everything — or, on the polling driver, sits in a `write` — before it reads.
(i) If the payload fits into the two pipes (`≤ capIn + capOut`) every maximal schedule finishes. -/
theorem echo_fits_complete {c : Cfg} {blk : Nat} {tail : List CAct} {payload : Bytes} {es : List Ev} {s : St}
    (hp : c.Pos) (hblk : 0 < blk) (hq : quiet tail = true) (hwt : wfScript tail = true)
    (hpl : payload.length ≤ c.capIn + c.capOut)
    (hW : ∀ x, c.plan.deps .W x = false) (hRo : ∀ x, c.plan.deps .Ro x = true → x = .W)
    (hr : run c (init (.copy none blk .out :: tail) payload false) es = some s) (hs : Stuck c s) :
    s.completed = true ∧ s.rout = payload ++ (denS tail []).out := by
  have hi := inv_reach hr
  have hc := catInv_run (catInv_init blk tail hq payload false) hr
  have hwf := wf_run (s := init (.copy none blk .out :: tail) payload false)
    (by simp [init, wfScript, hblk, hwt]) hr
  have hdone := stuck_completed_cat hp hi hc hwf (by simpa [init] using hpl) hW hRo hs
  refine ⟨hdone, ?_⟩
  rw [(completed_den hr hdone).rout]
  simp [init, denS, limTake, limDrop, Den.read, Den.emit]

/-- (ii) If the payload exceeds both pipes and the child's buffer (`> capIn + blk + capOut`) and the
reader waits for the writer (plan `seq`), NO schedule finishes: every maximal schedule is a deadlock
(parent blocked writing, child blocked writing). This is the order of operations, not a compio defect:
both directions must be active at once. (Between the two bounds it depends on how much the child happens
to hold in its buffer — see the two example schedules below.) -/
theorem seq_deadlock {c : Cfg} {blk : Nat} {tail : List CAct} {payload : Bytes} {es : List Ev} {s : St}
    (hq : quiet tail = true) (hbig : c.capIn + blk + c.capOut < payload.length)
    (hseq : c.plan.deps .Ro .W = true)
    (hr : run c (init (.copy none blk .out :: tail) payload false) es = some s) :
    s.completed = false ∧ s.wclosed = false ∧ s.rout = [] ∧ s.status = none :=
  unread_run (A := fun _ => True) (p := payload) hbig
    (fun _ _ hk _ => noread_seq hseq hk.open_) (fun _ _ _ _ _ => trivial) (inv_init c _ payload false)
    (catInv_init blk tail hq payload false) ⟨rfl, rfl, tail, rfl⟩ rfl trivial hr

/-- `Child::wait(self)` / `wait_with_output(self)` with `stdin` still inside the `Child` (plan `held`, the
code since the repair of F201: stdin is dropped before the wait starts): for every child program — in
particular one that reads stdin to end of file —, every capacity and chunk size and BOTH drivers, every
maximal schedule finishes, the wait returns the status the program denotes on the empty input and the
readers have everything the child wrote. (Before the repair: `F201_counterexample`, Cex/C20.lean.) -/
theorem wait_closes_stdin_first {c : Cfg} {script : List CAct} {es : List Ev} {s : St}
    (hp : c.Pos) (hw : wfScript script = true) (hplan : c.plan = .held)
    (hr : run c (init script [] false) es = some s) (hs : Stuck c s) :
    s.completed = true ∧ s.wt = .done (denS script []).st ∧
    s.rout = (denS script []).out ∧ s.rerr = (denS script []).err := by
  have ⟨hc, o⟩ := maximal_complete hp hw (by intro x; rw [hplan]; cases x <;> rfl)
    (Or.inl ⟨by intro x; rw [hplan]; cases x <;> rfl, Or.inr (Nat.zero_le _)⟩)
    (Or.inl ⟨by intro x; rw [hplan]; cases x <;> rfl, Or.inr (Nat.zero_le _)⟩) hr hs
  exact ⟨hc, o.wt, o.rout, o.rerr⟩

/-- The parent's read end of stdout / stderr is never released while the child lives — in every reachable
state of every plan a reader is done (= the handle is closed or dropped) only after the child has exited.
So the child never observes EPIPE / SIGPIPE on a pipe that the parent configured as piped. -/
theorem reader_end_outlives_child {c : Cfg} {script : List CAct} {payload : Bytes} {b : Bool} {es : List Ev} {s : St}
    (hr : run c (init script payload b) es = some s) (ha : s.status = none) :
    s.routDone = false ∧ s.rerrDone = false :=
  ((inv_reach hr).alive ha).2

/-- A handle left inside the `Child` (`child.wait()` / `Command::status()` with stdout and/or stderr piped but
not taken: plans `outHeld`, `errHeld`, `allHeld`, and `waitDrain`) lives exactly as long as the wait: it is
released only when the wait has completed (with the child's status), never before. -/
theorem held_handle_released_after_wait {c : Cfg} {script : List CAct} {payload : Bytes} {b : Bool} {es : List Ev}
    {s : St} (hr : run c (init script payload b) es = some s) :
    (c.plan.deps .Ro .Wt = true → s.routDone = true → ∃ st, s.wt = .done st ∧ s.status = some st) ∧
    (c.plan.deps .Re .Wt = true → s.rerrDone = true → ∃ st, s.wt = .done st ∧ s.status = some st) := by
  have hi := inv_reach hr
  obtain ⟨h1, h2⟩ := heldAfterWait_run (heldAfterWait_init c script payload b) hr
  exact ⟨fun a b => hi.wt_done (h1 a b), fun a b => hi.wt_done (h2 a b)⟩

/-- `wait` / `status` with handles left inside the `Child` returns the real status: io_uring, any plan in
which the writer is free, and for each output stream either its reader runs concurrently or what the child
writes to it fits into the pipe (the documented limit of an unread pipe, the same as in std): every
maximal schedule finishes with the status the program denotes, and the streams that are read are complete. -/
theorem held_streams_complete {c : Cfg} {script : List CAct} {payload : Bytes} {b : Bool} {es : List Ev} {s : St}
    (hp : c.Pos) (hw : wfScript script = true) (hnb : c.blocking = false) (hW : ∀ x, c.plan.deps .W x = false)
    (ho : (∀ x, c.plan.deps .Ro x = false) ∨ (denS script (init script payload b).wleft).out.length ≤ c.capOut)
    (he : (∀ x, c.plan.deps .Re x = false) ∨ (denS script (init script payload b).wleft).err.length ≤ c.capErr)
    (hr : run c (init script payload b) es = some s) (hs : Stuck c s) :
    s.completed = true ∧ s.wt = .done (denS script (init script payload b).wleft).st ∧
    s.rout = (denS script (init script payload b).wleft).out ∧
    s.rerr = (denS script (init script payload b).wleft).err :=
  have ⟨hc, o⟩ :=
    maximal_complete hp hw hW (ho.imp_left (⟨·, Or.inl hnb⟩)) (he.imp_left (⟨·, Or.inl hnb⟩)) hr hs
  ⟨hc, o.wt, o.rout, o.rerr⟩

/-- `wait` never makes up a status: what it hands out is the child's status or nothing (the error of
`waitpid` when something else in the process has reaped the child). -/
theorem wait_never_fabricates (reaped : Bool) (st st' : Status) (h : waitOutcome reaped st = some st') : st' = st := by
  cases reaped <;> simp [waitOutcome] at h
  exact h.symm

/-- `wait` returns the child's real status: whenever the wait is done with `st`, the child has exited
with `st` — and in a finished run that is the status the program denotes. -/
theorem wait_real_status {c : Cfg} {script : List CAct} {payload : Bytes} {b : Bool} {es : List Ev} {s : St}
    {st : Status} (hr : run c (init script payload b) es = some s) (hw : s.wt = .done st) :
    s.status = some st :=
  (inv_reach hr).wtDone st hw

/-- `wait` never returns before the child has exited: the completing step is only possible in a state in
which the child has an exit status, and it returns that status. -/
theorem wait_not_before_exit {c : Cfg} {s s' : St} (h : step c s .wtDone = some s') :
    ∃ st, s.status = some st ∧ s'.wt = .done st := by
  cases step_some h with
  | wtDone _ _ _ hx => exact ⟨_, hx, rfl⟩

/-- …so along any schedule no wait (on either route) is past its readiness point while the child runs. -/
theorem waiting_while_alive {c : Cfg} {script : List CAct} {payload : Bytes} {b : Bool} {es : List Ev} {s : St}
    (hr : run c (init script payload b) es = some s) (ha : s.status = none) :
    s.wt = .idle ∨ s.wt = .started := by
  have hi := inv_reach hr
  cases hw : s.wt with
  | idle => exact Or.inl rfl
  | started => exact Or.inr rfl
  | ready => exact alive_elim ha (hi.wtExited (Or.inl hw))
  | taken => exact alive_elim ha (hi.wtExited (Or.inr hw))
  | done st => cases ha.symm.trans (hi.wtDone st hw)

/-- `wait` yields the status exactly once: a schedule contains at most one completed wait, and exactly
one iff the wait is done at its end (the `Child` is moved into the wait: there is no second call). -/
theorem wait_at_most_once {c : Cfg} {script : List CAct} {payload : Bytes} {b : Bool} {es : List Ev} {s : St}
    (hr : run c (init script payload b) es = some s) :
    waits es ≤ 1 ∧ (waits es = 1 ↔ s.wt.isDone = true) := by
  have h := waits_run hr
  have h0 : (init script payload b).wt.isDone = false := rfl
  rw [h0] at h
  cases hd : s.wt.isDone <;> rw [hd] at h <;> simp [b2n] at h ⊢ <;> omega

/-- Route B (pidfd): when the `PollOnce` completion has been popped the operation's clone of the
`SharedFd` is gone, the count is 1, and `take()` succeeds at its first poll. -/
theorem pidfd_take_succeeds {c : Cfg} {script : List CAct} {payload : Bytes} {b : Bool} {es : List Ev} {s : St}
    (hr : run c (init script payload b) es = some s) (hw : s.wt = .ready)
    (hd : depsOk c s .Wt = true) (hb : s.wblock = 0) :
    s.fdRefs = 1 ∧ c.pidfd = true ∧ (step c s .wtTake).isSome = true := by
  have hi := inv_reach hr
  have h1 : s.fdRefs = 1 := by have := hi.refs; rw [hw] at this; exact this
  have h2 := hi.wtPidfd (Or.inl hw)
  exact ⟨h1, h2, by rw [(Step.wtTake hd hb h2 hw h1).eq]; rfl⟩

/-- The same four steps on C06's model of `SharedFd` (`compio-driver/src/fd.rs`): create, clone into the
operation, drop the operation, `take()`, one poll: the closer gets the descriptor (`doneSome`), nothing
is left registered. -/
theorem sharedFd_take_completes :
    (Compio.SharedFd.run (Compio.SharedFd.init false) [.opStart 0, .drop 1, .take 0, .poll 0]).map
      (fun s => (s.actors, s.count, s.delivered, s.slot)) =
    some ([.closer .doneSome, .gone], 0, 1, none) := by
  decide +kernel

/-- …whereas a `take()` polled while the operation still holds its clone parks (this is the state the
model's `wtTake` excludes by `fdRefs = 1`). -/
theorem sharedFd_take_parks_while_op_alive :
    (Compio.SharedFd.run (Compio.SharedFd.init false) [.opStart 0, .take 0, .poll 0]).map
      (fun s => (s.actors, s.count, s.delivered)) =
    some ([.closer .parked, .op .live], 2, 0) := by
  decide +kernel

/-- The driver's run is a schedule, it is maximal, and more fuel does not change it. -/
theorem canon_is_maximal_schedule (c : Cfg) (script : List CAct) (payload : Bytes) (b : Bool) :
    (∃ es, run c (init script payload b) es =
      some (runCanon c (mu (init script payload b)) (init script payload b))) ∧
    Stuck c (runCanon c (mu (init script payload b)) (init script payload b)) ∧
    ∀ k, runCanon c (mu (init script payload b) + k) (init script payload b) =
      runCanon c (mu (init script payload b)) (init script payload b) :=
  ⟨runCanon_run _ _ _, runCanon_stuck (inv_init c script payload b) (Nat.le_refl _),
   fun k => runCanon_fuel (inv_init c script payload b) (Nat.le_refl _) k⟩

/-- Hence, when the driver's run finishes, what it prints is what EVERY finished schedule produces. -/
theorem canon_predicts_all {c c' : Cfg} {script : List CAct} {payload : Bytes} {b : Bool} {es : List Ev} {s : St}
    (hcan : (runCanon c' (mu (init script payload b)) (init script payload b)).completed = true)
    (hr : run c (init script payload b) es = some s) (hc : s.completed = true) :
    s.rout = (runCanon c' (mu (init script payload b)) (init script payload b)).rout ∧
    s.rerr = (runCanon c' (mu (init script payload b)) (init script payload b)).rerr ∧
    s.got = (runCanon c' (mu (init script payload b)) (init script payload b)).got ∧
    s.sunk = (runCanon c' (mu (init script payload b)) (init script payload b)).sunk ∧
    s.wt = (runCanon c' (mu (init script payload b)) (init script payload b)).wt := by
  obtain ⟨es', h'⟩ := runCanon_run c' (mu (init script payload b)) (init script payload b)
  exact schedule_independent hr hc h' hcan

/-- `exCfg` (Lemmas): 2-byte pipes, io_uring, plan `conc` satisfies the hypotheses of `concurrent_complete` -/
example : exCfg.Pos := ⟨by decide, by decide, by decide, by decide, by decide⟩
example : ∀ x, exCfg.plan.deps .W x = false := by intro x; cases x <;> rfl
example : ∀ x, exCfg.plan.deps .Ro x = false := by intro x; cases x <;> rfl

/-- `head -c 3; printf A >&2; exit 7` fed 7 bytes (more than all pipes together): the canonical schedule
finishes with 3 bytes echoed, `A` on stderr, status 7, and the writer got `BrokenPipe`. -/
example :
    let s := runCanon exCfg 100 (init [.copy (some 3) 2 .out, .emit .err [65], .exit 7] [1, 2, 3, 4, 5, 6, 7] false)
    s.completed = true ∧ s.rout = [1, 2, 3] ∧ s.rerr = [65] ∧ s.wt = .done (.exited 7) ∧ s.wepipe = true ∧
      s.got = [1, 2, 3] := by
  decide +kernel

/-- `cat` fed 7 bytes through 2-byte pipes, the child killed by SIGTERM afterwards -/
example :
    let s := runCanon exCfg 100 (init [.copy none 4 .out, .kill 15] [1, 2, 3, 4, 5, 6, 7] false)
    s.completed = true ∧ s.rout = [1, 2, 3, 4, 5, 6, 7] ∧ s.wt = .done (.signaled 15) ∧ s.wepipe = false := by
  decide +kernel

/-- the denotation of that program, computed without any schedule -/
example : denS [.copy none 4 .out, .kill 15] [1, 2, 3, 4, 5, 6, 7] =
    ⟨[1, 2, 3, 4, 5, 6, 7], [], [1, 2, 3, 4, 5, 6, 7], 0, .signaled 15⟩ := by
  decide +kernel

/-- the loop configuration between the two bounds (capIn = 2, capOut = 1, blk = 2, 5 bytes, plan `seq`):
this schedule (the child takes two bytes into its buffer) finishes … -/
example :
    (run seqCfg (init [.copy none 2 .out] [1, 2, 3, 4, 5] false)
      [.wr 1, .cRead 1, .cWrite 1, .wr 2, .cRead 2, .wr 2, .wclose]).map
      (fun s => (runCanon seqCfg 100 s).completed) = some true := by
  decide +kernel

/-- … and this one (the child takes one byte) deadlocks: no step is possible, nothing is finished. -/
example :
    (run seqCfg (init [.copy none 2 .out] [1, 2, 3, 4, 5] false)
      [.wr 1, .cRead 1, .cWrite 1, .wr 1, .cRead 1, .wr 2, .wtStart]).all
      (fun s => (next seqCfg s).isNone && !s.completed && s.wleft == [5] && s.pin == [3, 4] && s.pend == [2] &&
        s.pout == [1]) = true ∧
    (run seqCfg (init [.copy none 2 .out] [1, 2, 3, 4, 5] false)
      [.wr 1, .cRead 1, .cWrite 1, .wr 1, .cRead 1, .wr 2, .wtStart]).isSome = true := by
  decide +kernel

/-- `seq_deadlock` is not vacuous: 6 bytes > 2 + 2 + 1 -/
example : seqCfg.capIn + 2 + seqCfg.capOut < ([1, 2, 3, 4, 5, 6] : Bytes).length ∧ seqCfg.plan.deps .Ro .W = true := by
  decide +kernel

/-- `cat` with `child.wait().await` and stdin untouched (plan `held`) on the polling driver -/
example :
    let c : Cfg := { exCfg with plan := .held, blocking := true }
    let s := runCanon c 100 (init [.copy none 4 .out, .emit .out [9], .exit 5] [] false)
    s.completed = true ∧ s.rout = [9] ∧ s.wt = .done (.exited 5) := by
  decide +kernel

/-- `sh -c 'echo out; echo err >&2; exit 3'` with stdout and stderr piped but not taken (`allHeld`) and with
only stderr left in the `Child` (`errHeld`): the real exit code, and the plans satisfy `held_streams_complete` -/
example :
    let c : Cfg := { exCfg with plan := .allHeld }
    let s := runCanon c 100 (init [.emit .out [1], .emit .err [2], .exit 3] [] true)
    s.completed = true ∧ s.wt = .done (.exited 3) := by
  decide +kernel

example : (∀ x, Plan.errHeld.deps .W x = false) ∧ (∀ x, Plan.errHeld.deps .Ro x = false) ∧
    Plan.errHeld.deps .Re .Wt = true ∧ Plan.allHeld.deps .Ro .Wt = true := by
  refine ⟨?_, ?_, rfl, rfl⟩ <;> intro x <;> cases x <;> rfl

/-- more than the pipe holds written to an untaken stdout: the wait cannot complete (std blocks as well) -/
example :
    let c : Cfg := { exCfg with plan := .outHeld }
    let s := runCanon c 100 (init [.emit .out [1, 2, 3], .exit 0] [] true)
    (next c s).isNone = true ∧ s.completed = false ∧ s.pout = [1, 2] ∧ s.pend = [3] := by
  decide +kernel

/-- wait-then-drain with outputs that fit (`fits_complete`): both pipes still hold their bytes after exit -/
example :
    let c : Cfg := { exCfg with plan := .waitDrain }
    let s := runCanon c 100 (init [.emit .out [1, 2], .emit .err [3], .exit 1] [] true)
    s.completed = true ∧ s.rout = [1, 2] ∧ s.rerr = [3] ∧ s.wt = .done (.exited 1) := by
  decide +kernel

end Compio.ChildIo

namespace Compio.ChildCmd

open Compio.ChildIo
open Compio.Gen.CommandShape

/-- `spawn`, `status`, `output` do not touch the stdio configuration of the builder
(over the table GENERATED from compio-process/src/lib.rs: a `self.0.stdout(Stdio::null())` added to
`status` makes this false). -/
theorem run_preserves_config (k : RunKind) (v : Sd) (b : BCfg) : effect k.calls v b = b := by
  cases k <;> rfl

/-- `stdin/stdout/stderr(cfg)` set exactly their own stream to the caller's value -/
theorem set_sets_own_stream (s : Stream) (v : Sd) (b : BCfg) : effect (setCalls s) v b = setSpec b s v := by
  cases s <;> rfl

/-- no other method of `Command` touches the stdio configuration -/
theorem no_other_stdio_mutator : otherStdioMutators = [] := rfl

/-- **Reuse**: for EVERY sequence of configuration and run calls on one `Command`, every child is started with the
configuration the user had set at that moment (earlier `status()/output()/spawn()` calls leave no trace). -/
theorem reuse_gets_configured_stdio (b : BCfg) (l : List BOp) : runSeq b l = specSeq b l := by
  induction l generalizing b with
  | nil => rfl
  | cons op r ih =>
    cases op with
    | set s v => simp only [runSeq, specSeq, set_sets_own_stream, ih]
    | run k => simp only [runSeq, specSeq, run_preserves_config, ih]

/-- in particular: stdout/stderr configured as pipes stay pipes across any number of runs: what a later
`output()`/`spawn()` can collect is what that child wrote -/
theorem piped_survives_runs (b : BCfg) (ks : List RunKind) (k : RunKind) (out : Bytes)
    (h : b.sout = .piped) :
    ∀ p ∈ runSeq b ((ks ++ [k]).map .run), captured p.2.sout out = some out := by
  rw [reuse_gets_configured_stdio]
  generalize ks ++ [k] = l
  induction l with
  | nil => simp [specSeq]
  | cons a r ih =>
    intro p hp
    simp only [List.map, specSeq, List.mem_cons] at hp
    rcases hp with rfl | hp
    · simp [captured, h]
    · exact ih p hp

example : runSeq BCfg.fresh [.set .stdout .piped, .set .stderr .piped, .run .status, .run .output]
    = [(.status, ⟨.inherit, .piped, .piped⟩), (.output, ⟨.inherit, .piped, .piped⟩)] := by decide +kernel

/-- an exhausted pool is an error, whatever is in the pipe — never end of file -/
theorem pool_exhausted_is_error (src : Bytes) (k : Nat) : readManaged 0 src k = .busy := rfl

theorem flat_append (a b : List Bytes) : flat (a ++ b) = flat a ++ flat b := by
  induction a with
  | nil => rfl
  | cons x r ih => simp [flat, List.foldr] at ih ⊢; exact ih

/-- end of file is reported only when every byte has been handed out -/
theorem managed_eof_only_at_end {free : Nat} {src : Bytes} {k : Nat} (h : readManaged free src k = .eof) :
    src = [] ∧ 0 < free := by
  unfold readManaged at h
  split at h
  · cases h
  · split at h
    · rename_i h0 h1; exact ⟨h1, by omega⟩
    · cases h

/-- Nothing of the child's output `src0` is lost or reordered (consumed, then held, then still to come), and the
reader has seen end of file only with nothing left. -/
structure MInv (src0 : Bytes) (s : MSt) : Prop where
  books : s.out ++ flat s.held ++ s.src = src0
  atEof : s.done = true → s.src = [] ∧ s.held = []

theorem MInv.step {src0 : Bytes} {s : MSt} (h : MInv src0 s) (pool : Nat) (e : MEv) :
    MInv src0 (mStep pool s e) := by
  obtain ⟨hb, hd⟩ := h
  cases e with
  | read k =>
    simp only [mStep, mRead]
    by_cases hdone : s.done = true
    · rw [if_pos hdone]; exact ⟨hb, hd⟩
    · rw [if_neg hdone]
      unfold readManaged
      by_cases hf : s.free = 0
      · rw [if_pos hf]; exact ⟨by simpa [flat] using hb, fun h' => absurd h' hdone⟩
      · rw [if_neg hf]
        by_cases hs : s.src = []
        · rw [if_pos hs]; exact ⟨by simpa [flat] using hb, fun _ => ⟨hs, rfl⟩⟩
        · rw [if_neg hs]
          refine ⟨?_, fun h' => absurd h' hdone⟩
          rw [← hb, flat_append]
          simp [flat, List.append_assoc]
  | release j =>
    refine ⟨?_, fun h' => ?_⟩
    · rw [← hb, ← List.take_append_drop j s.held, flat_append]
      simp [mStep, mRelease, List.append_assoc]
    · obtain ⟨h1, h2⟩ := hd h'
      simp [mStep, mRelease, h1, h2]

theorem MInv.run {src0 : Bytes} (pool : Nat) (es : List MEv) {s : MSt} (h : MInv src0 s) :
    MInv src0 (mRun pool s es) := by
  induction es generalizing s with
  | nil => exact h
  | cons e r ih => exact ih (h.step pool e)

/-- **Managed reads are complete**: for every pool size, every request size / transfer size and every pattern of
holding and releasing buffers — including a reader that holds ALL buffers of the pool —, once the reader has seen end
of file it has collected exactly the child's output, in order. -/
theorem managed_read_complete (pool : Nat) (src : Bytes) (es : List MEv)
    (hd : (mRun pool (mInit pool src) es).done = true) : (mRun pool (mInit pool src) es).out = src := by
  have h : MInv src (mRun pool (mInit pool src) es) := MInv.run pool es ⟨by simp [mInit, flat], nofun⟩
  obtain ⟨h3, h4⟩ := h.atEof hd
  have := h.books
  rwa [h3, h4, List.append_nil, flat, List.foldr, List.append_nil] at this

theorem mLoop_is_run (pool hold len : Nat) (f : Nat) (s : MSt) :
    mLoop pool hold len f s = mRun pool s (mLoopEvs pool hold len f s) := by
  induction f generalizing s with
  | zero => rfl
  | succ f ih =>
    unfold mLoop mLoopEvs
    split
    · rfl
    · simp only []
      split
      · simp only [mRun]; exact ih _
      · simp only [mRun]; exact ih _

/-- the driver's reader is one of those schedules: whatever it prints as complete output is the child's output -/
theorem managed_loop_complete (pool hold len f : Nat) (src : Bytes)
    (hd : (mLoop pool hold len f (mInit pool src)).done = true) : (mLoop pool hold len f (mInit pool src)).out = src := by
  rw [mLoop_is_run] at hd ⊢
  exact managed_read_complete pool src _ hd

/-- non-vacuity: a reader holding all 2 buffers of the pool meets `busy` with bytes left and still finishes complete -/
example :
    let s := mLoop 2 9 1 20 (mInit 2 [1, 2, 3, 4, 5])
    s.done = true ∧ s.out = [1, 2, 3, 4, 5] ∧ readManaged 0 [3, 4, 5] 1 = .busy := by decide +kernel

end Compio.ChildCmd
