/-
C12 — blocking-style (`SyncStream`) and poll-style (`AsyncStream`) adapters are lossless FIFO pipes.
Property theorems only (helper lemmas live in Compio/Lemmas/SyncStream.lean, Lemmas/PollAdapter.lean).
Every statement quantifies over all configurations (base capacity, size limit), all scripts of the
inner stream (data / short / Pending / error / end of stream) and all operation lists.
-/
import Compio.Lemmas.SyncStream
import Compio.Lemmas.PollAdapter

namespace Compio.Props.C12
open Compio Compio.SyncStream

/-- **Read side, nothing lost / duplicated / reordered.** After any sequence of operations, what
the caller received (concatenation of everything `read` / `read_buf_uninit` / `consume` handed
out) followed by what is still buffered is exactly what the inner stream delivered, and that in
turn is a prefix of the inner stream's content (the rest is still in its script). -/
theorem sync_read_fifo (base max : Nat) (rs : List RItem) (ws : List WItem) (ops : List Op) :
    takenOf ops (run (State.new base max rs ws) ops).2 ++ (run (State.new base max rs ws) ops).1.r.buf.avail = (run (State.new base max rs ws) ops).1.r.delivered ∧
    (run (State.new base max rs ws) ops).1.r.delivered ++ (if (run (State.new base max rs ws) ops).1.r.innerEof then [] else content (run (State.new base max rs ws) ops).1.r.script) = content rs := by
  obtain ⟨hi, ht, -⟩ := run_new base max rs ws ops _ rfl
  exact ⟨by rw [← ht, hi.1.fifo], hi.1.cons⟩

/-- the bytes returned so far are a prefix of the inner stream -/
theorem sync_read_prefix (base max : Nat) (rs : List RItem) (ws : List WItem) (ops : List Op) :
    takenOf ops (run (State.new base max rs ws) ops).2 <+: content rs := by
  obtain ⟨hi, ht, -⟩ := run_new base max rs ws ops _ rfl
  exact ht ▸ hi.1.taken_prefix

/-- **At end of file everything has been returned.** With a positive base capacity: once the
adapter's EOF flag is set and its buffer drained (the only situation in which `read` returns
`Ok(0)` / `fill_buf` an empty slice, see `sync_eof_report`), the bytes returned are the whole
inner stream. (For `base_capacity = 0` this fails: `Cex.C12.sync_base0_spurious_eof_counterexample`.) -/
theorem sync_read_eof_complete (base max : Nat) (rs : List RItem) (ws : List WItem) (ops : List Op)
    (hb : 0 < base) :
    (run (State.new base max rs ws) ops).1.r.eof = true → (run (State.new base max rs ws) ops).1.r.buf.avail = [] → takenOf ops (run (State.new base max rs ws) ops).2 = content rs := by
  intro he ha
  obtain ⟨hi, ht, -, hbase, -⟩ := run_new base max rs ws ops _ rfl
  exact ht ▸ hi.1.eof_complete (Nat.lt_of_lt_of_eq hb hbase.symm) he ha

/-- the adapter's EOF flag is only ever set by a genuine end-of-stream report of the inner reader
(guard: positive base capacity) -/
theorem sync_eof_genuine (base max : Nat) (rs : List RItem) (ws : List WItem) (ops : List Op) (hb : 0 < base) :
    (run (State.new base max rs ws) ops).1.r.eof = true → (run (State.new base max rs ws) ops).1.r.innerEof = true := by
  intro he
  obtain ⟨hi, -, -, hbase, -⟩ := run_new base max rs ws ops _ rfl
  exact hi.1.eof_inner (Nat.lt_of_lt_of_eq hb hbase.symm) he

/-- when does the adapter report EOF to its caller: `read` into a non-empty buffer returning
`Ok(0)`, or `fill_buf` returning an empty slice, happens only with the EOF flag set and nothing buffered -/
theorem sync_eof_report (s : State) (n : Nat) (s' : State) :
    (step s (.read n) = (s', .bytes []) → 0 < n → s.r.buf.avail = [] ∧ s.r.eof = true) ∧
    (step s .fillbuf = (s', .bytes []) → s.r.buf.avail = [] ∧ s.r.eof = true) := by
  constructor
  · intro h hn
    unfold SyncStream.step at h
    simp only at h
    split at h
    · cases h
    · obtain ⟨hb, -, he⟩ := RSide.read_ok (Out.ofBytes_bytes (congrArg Prod.snd h))
      have hav : s.r.buf.avail = [] := by
        rcases List.take_eq_nil_iff.mp hb.symm with h0 | h0
        · omega
        · exact h0
      exact ⟨hav, he hav⟩
  · intro h
    unfold SyncStream.step at h
    simp only at h
    split at h
    · cases h
    · obtain ⟨hb, -, he⟩ := RSide.fillBuf_ok (Out.ofBytes_bytes (congrArg Prod.snd h))
      exact ⟨hb.symm, he hb.symm⟩

/-- **Write side, nothing lost / duplicated / reordered.** The bytes `write` accepted are, in order,
the bytes that reached the inner stream followed by the bytes still buffered. -/
theorem sync_write_fifo (base max : Nat) (rs : List RItem) (ws : List WItem) (ops : List Op) :
    acceptedOf ops (run (State.new base max rs ws) ops).2 = (run (State.new base max rs ws) ops).1.w.sent ++ (run (State.new base max rs ws) ops).1.w.buf.avail := by
  obtain ⟨hi, -, ha, -⟩ := run_new base max rs ws ops _ rfl
  exact ha ▸ hi.2.fifo

/-- **A successful `flush_write_buf` sends exactly the unsent bytes** — in every reachable state,
in particular after any number of failed or partial flushes: afterwards everything accepted has
reached the inner stream, what this flush added is exactly what was still buffered, nothing else. -/
theorem sync_flush_sends_unsent (base max : Nat) (rs : List RItem) (ws : List WItem) (ops : List Op)
    (k n : Nat) (s' : State) :
    step (run (State.new base max rs ws) ops).1 (.wflush k) = (s', .num n) →
    s'.w.sent = (run (State.new base max rs ws) ops).1.w.sent ++ (run (State.new base max rs ws) ops).1.w.buf.avail ∧ s'.w.sent = s'.w.accepted ∧ s'.w.buf.avail = [] := by
  intro h
  generalize hs0 : (run (State.new base max rs ws) ops).1 = s at h ⊢
  have hi : Inv (content rs) s := hs0 ▸ (run_new base max rs ws ops _ rfl).1
  have hacc := (step_ok s (.wflush k)).w.acc
  rw [h] at hacc
  simp only [Out.acceptedOf, List.append_nil] at hacc
  unfold SyncStream.step at h
  simp only at h
  split at h
  · cases h
  · obtain ⟨hs, ho⟩ := Prod.mk.inj h
    obtain ⟨hf1, hf2, -⟩ := (hi.2.clearObs.flush k).2 n (Out.ofDrive_num ho)
    subst hs
    simp only at hacc hf1 hf2 ⊢
    exact ⟨by rw [hf1, hacc, hi.2.fifo], hf1, by simp [Buf.avail, hf2]⟩

/-- **Write-side limit honoured:** the bytes waiting in the write buffer never exceed
`max_buffer_size`; and as long as no flush has failed half-way (`pos = 0`) neither does the length of
the buffer itself. (After a failed flush the `Vec` may be longer: `Cex.C12.sync_write_vec_exceeds_limit_counterexample`.) -/
theorem sync_write_limit (base max : Nat) (rs : List RItem) (ws : List WItem) (ops : List Op) :
    (run (State.new base max rs ws) ops).1.w.buf.avail.length ≤ max ∧ ((run (State.new base max rs ws) ops).1.w.buf.pos = 0 → (run (State.new base max rs ws) ops).1.w.buf.data.length ≤ max) := by
  obtain ⟨hi, -, -, -, -, hm⟩ := run_new base max rs ws ops _ rfl
  have h1 := hi.2.avail_le
  have h2 := hi.2.pend_le
  rw [hm] at h1 h2
  exact ⟨h1, fun hp => by omega⟩

/-- **Read-side bound the code really has:** the read buffer never holds more than
`base_capacity + max_buffer_size - 1` bytes (it is *not* bounded by `max_buffer_size`:
`Cex.C12.sync_read_limit_exceeded_counterexample`). -/
theorem sync_read_limit_bound (base max : Nat) (rs : List RItem) (ws : List WItem) (ops : List Op) :
    (run (State.new base max rs ws) ops).1.r.buf.data.length ≤ (run (State.new base max rs ws) ops).1.r.buf.cap ∧ (run (State.new base max rs ws) ops).1.r.buf.cap ≤ base + (max - 1) := by
  obtain ⟨hi, -, -, hbase, hmax, -⟩ := run_new base max rs ws ops _ rfl
  exact ⟨hi.1.len_le, Nat.le_trans hi.1.cap_le (Nat.le_of_eq (by rw [hbase, hmax]))⟩

/-- **No panic for a disciplined caller.** If the caller keeps the `BufRead::consume` contract
(`amt ≤` the length `fill_buf` shows) and never drops a `fill_read_buf` / `flush_write_buf` future
while it is Pending (`Disciplined`), no operation of a `SyncStream` ever panics — for every inner
script, including errors, short transfers, `WriteZero` and premature end of stream. -/
theorem sync_no_panic (base max : Nat) (rs : List RItem) (ws : List WItem) (ops : List Op)
    (hd : Disciplined (State.new base max rs ws) ops) :
    Out.panic ∉ (run (State.new base max rs ws) ops).2 :=
  run_nopanic ops (Inv.new base max rs ws) ⟨rfl, rfl⟩ hd

/-- **`into_parts` + re-wrap loses and duplicates nothing on the read side.** Take the stream apart
after any operations `ops1` (buffer in place, inner stream not at its end), hand the returned bytes to
the caller, wrap the same inner stream again (any limits) and continue with any `ops2`: what the
caller received in the first life, the bytes `into_parts` returned, what it received in the second
life, what the second buffer holds and what the inner stream still has are, in this order, exactly
the inner stream. (Bytes accepted by `write` and not yet flushed are discarded by `into_parts`, as
documented for `into_inner`; `has_pending_write` tells.) -/
theorem sync_rewrap_lossless (base max base' max' : Nat) (rs : List RItem) (ws : List WItem) (ops1 ops2 : List Op)
    (hl : (run (State.new base max rs ws) ops1).1.r.buf.lent = false)
    (he : (run (State.new base max rs ws) ops1).1.r.innerEof = false) :
    takenOf ops1 (run (State.new base max rs ws) ops1).2 ++ (run (State.new base max rs ws) ops1).1.r.intoParts ++
      (takenOf ops2 (run (State.new base' max' (run (State.new base max rs ws) ops1).1.r.script
          (run (State.new base max rs ws) ops1).1.w.script) ops2).2 ++
       (run (State.new base' max' (run (State.new base max rs ws) ops1).1.r.script
          (run (State.new base max rs ws) ops1).1.w.script) ops2).1.r.buf.avail) ++
      (if (run (State.new base' max' (run (State.new base max rs ws) ops1).1.r.script
          (run (State.new base max rs ws) ops1).1.w.script) ops2).1.r.innerEof then []
       else content (run (State.new base' max' (run (State.new base max rs ws) ops1).1.r.script
          (run (State.new base max rs ws) ops1).1.w.script) ops2).1.r.script) = content rs := by
  have h1 := sync_read_fifo base max rs ws ops1
  have h2 := sync_read_fifo base' max' (run (State.new base max rs ws) ops1).1.r.script
    (run (State.new base max rs ws) ops1).1.w.script ops2
  simp only [RSide.intoParts, hl, Bool.false_eq_true, if_false]
  rw [h1.1, h2.1, List.append_assoc, h2.2]
  have := h1.2
  simp only [he, Bool.false_eq_true, if_false] at this
  exact this

/-- **`max_buffer_size = 0` (SyncStream):** nothing is lost or exceeded, the limit is *reported*:
`write` of a non-empty buffer always answers WouldBlock and leaves the stream unchanged, and
`fill_read_buf` always answers `OutOfMemory` — in every reachable state. -/
theorem sync_max0_reported (base : Nat) (rs : List RItem) (ws : List WItem) (ops : List Op) (src : Bytes)
    (hsrc : src ≠ []) :
    (run (State.new base 0 rs ws) ops).1.w.write src = ((run (State.new base 0 rs ws) ops).1.w, .err .wb) ∧
    ((run (State.new base 0 rs ws) ops).1.r.eof = false → (run (State.new base 0 rs ws) ops).1.r.buf.lent = false →
      (run (State.new base 0 rs ws) ops).1.r.fillStart.2 = some (.err .oom)) := by
  obtain ⟨hi, -, -, -, hrm, hwm⟩ := run_new base 0 rs ws ops _ rfl
  exact ⟨WSide.write_max0 hi.2 hwm hsrc, RSide.fillStart_max0 hrm⟩

/-- **Sticky state after a lost buffer** (a future dropped while Pending, or a panic of
`consume(amt > available)`): every later call answers the same way and changes nothing — reads
`WouldBlock`, `consume` panics, `into_parts` returns nothing, `fill_read_buf` panics (or answers
`Ok(0)` once EOF is latched); writes `WouldBlock`, `flush_write_buf` panics, `has_pending_write` panics. -/
theorem sync_lost_buffer_sticky (r : RSide) (w : WSide) (n k : Nat) (src : Bytes) :
    (r.buf.lent = true →
      r.read n = (r, .err .wb) ∧ r.fillBuf = .err .wb ∧ r.consume n = (r, .panic) ∧ r.intoParts = [] ∧
      (r.eof = false → r.fill (k + 1) = (r, some .panic)) ∧ (r.eof = true → r.fill (k + 1) = (r, some (.ok 0)))) ∧
    (w.buf.lent = true →
      w.write src = (w, .err .wb) ∧ w.flush (k + 1) = (w, some .panic) ∧ w.hasPending = none) :=
  ⟨fun hl => RSide.lost_sticky r hl n k, fun hl => WSide.lost_sticky w hl src k⟩

/-! ### non-vacuity: the hypotheses are satisfiable on non-trivial runs -/

/-- a read that would block, a short fill, a partial read, a fill across compaction, EOF -/
example :
    (run (State.new 4 64 [.d [1, 2, 3], .p, .d [4, 5, 6, 7, 8, 9], .z] [])
      [.read 2, .fill 9, .read 2, .fill 1, .fill 9, .read 9, .fill 9, .fill 9, .read 9, .read 9]).2 =
    [.err .wb, .num 3, .bytes [1, 2], .cancel, .panic, .err .wb, .panic, .panic, .err .wb, .err .wb] := by
  decide

example :
    (run (State.new 4 64 [.d [1, 2, 3], .p, .d [4, 5, 6, 7, 8, 9], .z] [])
      [.fill 9, .read 2, .fill 9, .read 9, .fill 9, .read 9, .fill 9, .read 9, .read 9]).2 =
    [.num 3, .bytes [1, 2], .num 3, .bytes [3, 4, 5, 6], .num 3, .bytes [7, 8, 9], .num 0, .bytes [], .bytes []] := by
  decide

/-- a disciplined run through would-block, Pending, short transfers, an inner error and EOF -/
example :
    Disciplined (State.new 3 64 [.p, .d [1, 2, 3, 4, 5], .e, .z] [.p, .w 1, .e, .w 0])
      [.read 4, .fill 9, .fillbuf, .consume 2, .read 4, .fill 9, .fill 9, .fill 9, .read 4, .read 4,
       .write [7, 8, 9], .wflush 9, .wflush 9, .wflush 9, .st] := by
  decide

/-- a flush that fails after a partial write, and the retry that sends exactly the rest -/
example :
    (run (State.new 16 64 [] [.w 2, .e, .p, .w 1])
      [.write [1, 2, 3, 4, 5], .wflush 9, .write [6], .wflush 9]).2 =
    [.num 5, .err .other, .num 1, .num 4] ∧
    (run (State.new 16 64 [] [.w 2, .e, .p, .w 1])
      [.write [1, 2, 3, 4, 5], .wflush 9, .write [6], .wflush 9]).1.w.sent = [1, 2, 3, 4, 5, 6] := by
  decide


section Async
open Compio.PollAdapter

/-- **Read side, nothing lost / duplicated / reordered**, for every interleaving of `poll_read`,
`poll_read_uninit`, `poll_fill_buf`, `consume` by any tasks with Pending / short / error / EOF
answers of the inner stream. -/
theorem async_read_fifo (base max : Nat) (rs : List RItem) (ws : List WItem) (ops : List PollAdapter.Op) :
    PollAdapter.takenOf ops (PollAdapter.run (PollAdapter.State.new base max rs ws) ops).2 ++
        (PollAdapter.run (PollAdapter.State.new base max rs ws) ops).1.ar.r.buf.avail =
      (PollAdapter.run (PollAdapter.State.new base max rs ws) ops).1.ar.r.delivered ∧
    (PollAdapter.run (PollAdapter.State.new base max rs ws) ops).1.ar.r.delivered ++
        (if (PollAdapter.run (PollAdapter.State.new base max rs ws) ops).1.ar.r.innerEof then []
         else content (PollAdapter.run (PollAdapter.State.new base max rs ws) ops).1.ar.r.script) = content rs := by
  have hi := (AInv.new base max rs ws).run ops
  have hf := PollAdapter.run_frame ops (PollAdapter.State.new base max rs ws)
  refine ⟨?_, hi.1.inv.cons⟩
  rw [hi.1.inv.fifo, hf.1]
  simp [PollAdapter.State.new, ARead.new, RSide.new]

theorem async_read_prefix (base max : Nat) (rs : List RItem) (ws : List WItem) (ops : List PollAdapter.Op) :
    PollAdapter.takenOf ops (PollAdapter.run (PollAdapter.State.new base max rs ws) ops).2 <+: content rs := by
  have h := ((AInv.new base max rs ws).run ops).1.inv.taken_prefix
  rwa [(PollAdapter.run_frame ops _).1] at h

/-- at EOF (flag set, buffer drained) everything has been returned; guard: positive base capacity -/
theorem async_read_eof_complete (base max : Nat) (rs : List RItem) (ws : List WItem) (ops : List PollAdapter.Op)
    (hb : 0 < base) :
    (PollAdapter.run (PollAdapter.State.new base max rs ws) ops).1.ar.r.eof = true →
    (PollAdapter.run (PollAdapter.State.new base max rs ws) ops).1.ar.r.buf.avail = [] →
    PollAdapter.takenOf ops (PollAdapter.run (PollAdapter.State.new base max rs ws) ops).2 = content rs := by
  intro he ha
  have hf := PollAdapter.run_frame ops (PollAdapter.State.new base max rs ws)
  have h := ((AInv.new base max rs ws).run ops).1.inv.eof_complete (by rw [hf.2.2.1]; exact hb) he ha
  rwa [hf.1] at h

/-- **Write side, nothing lost / duplicated / reordered** -/
theorem async_write_fifo (base max : Nat) (rs : List RItem) (ws : List WItem) (ops : List PollAdapter.Op) :
    PollAdapter.acceptedOf ops (PollAdapter.run (PollAdapter.State.new base max rs ws) ops).2 =
      (PollAdapter.run (PollAdapter.State.new base max rs ws) ops).1.aw.w.sent ++
      (PollAdapter.run (PollAdapter.State.new base max rs ws) ops).1.aw.w.buf.avail := by
  have hi := (AInv.new base max rs ws).run ops
  have hf := PollAdapter.run_frame ops (PollAdapter.State.new base max rs ws)
  rw [← hi.2.fifo, hf.2.1]
  simp [PollAdapter.State.new, AWrite.new, WSide.new]

/-- limits: pending write bytes `≤ max`; read buffer `≤ base + max - 1` -/
theorem async_limits (base max : Nat) (rs : List RItem) (ws : List WItem) (ops : List PollAdapter.Op) :
    (PollAdapter.run (PollAdapter.State.new base max rs ws) ops).1.aw.w.buf.avail.length ≤ max ∧
    (PollAdapter.run (PollAdapter.State.new base max rs ws) ops).1.ar.r.buf.data.length ≤ base + (max - 1) := by
  have hi := (AInv.new base max rs ws).run ops
  have hf := PollAdapter.run_frame ops (PollAdapter.State.new base max rs ws)
  have h1 := hi.2.avail_le
  have h2 := hi.1.inv.cap_le
  rw [hf.2.2.2.2.2] at h1
  rw [hf.2.2.1, hf.2.2.2.1] at h2
  exact ⟨h1, Nat.le_trans hi.1.inv.len_le h2⟩

/-- **`poll_flush` / `poll_close` returning `Ready(Ok(()))` mean everything accepted has reached the
inner stream** — provided the caller never calls `poll_write` while the in-flight flush future is
suspended in the inner stream's `flush()` (`GuardedRun`; without the guard this is false: finding
F15, `Cex.C12.async_stale_flush_counterexample`). In particular `poll_close` flushes before it
shuts the inner stream down. -/
theorem async_flush_complete (base max : Nat) (rs : List RItem) (ws : List WItem) (ops : List PollAdapter.Op)
    (hg : GuardedRun (PollAdapter.State.new base max rs ws) ops) (t : Nat) :
    ((PollAdapter.step (PollAdapter.run (PollAdapter.State.new base max rs ws) ops).1 (.pfl t)).2 = .unit →
      Flushed (PollAdapter.step (PollAdapter.run (PollAdapter.State.new base max rs ws) ops).1 (.pfl t)).1.aw.w) ∧
    ((PollAdapter.step (PollAdapter.run (PollAdapter.State.new base max rs ws) ops).1 (.pcl t)).2 = .unit →
      Flushed (PollAdapter.step (PollAdapter.run (PollAdapter.State.new base max rs ws) ops).1 (.pcl t)).1.aw.w) := by
  have hs := (WSafe.run ops (WSafe.new base max ws) hg).2
  generalize (PollAdapter.run (PollAdapter.State.new base max rs ws) ops).1 = s at hs
  have h0 := hs.clearObs
  exact ⟨(pollFlush_safe t h0).2.2, (pollClose_safe t h0).2.2⟩

/-- **Write half: no panic and both `debug_assert!`s hold** for every caller that respects the guard
of `async_flush_complete` — for every inner script (Pending / short / error answers of write, flush
and shutdown) and any interleaving of `poll_write` / `poll_flush` / `poll_close` by any tasks, no
write-half entry point panics (`expect(MISSING_BUF)`, the asserts of `Buffer::advance`, the
`max - len` underflow of `write`, `debug_assert!(write_future.is_none())`,
`debug_assert!(shutdown_future.is_none())`). Without the guard the last one fires:
`Cex.C12.async_stale_close_debug_assert_counterexample`. -/
theorem async_write_no_panic (base max : Nat) (rs : List RItem) (ws : List WItem) (ops : List PollAdapter.Op)
    (hg : GuardedRun (PollAdapter.State.new base max rs ws) ops) :
    NoWritePanic ops (PollAdapter.run (PollAdapter.State.new base max rs ws) ops).2 :=
  (WSafe.run ops (WSafe.new base max ws) hg).1

/-- **Termination of the read entry points, with a measure.** As long as no read-half call has
panicked, `poll_read` / `poll_read_uninit` / `poll_fill_buf` never spin: at most two rounds of
`sync call → WouldBlock → poll the fill future` (after a round whose future completed `Ok`, the
buffer is in place and holds data or EOF is latched, so the next synchronous call succeeds) — the
model's fuel `4 + |script|` is never exhausted. Every inner script, base capacity, limit (also 0). -/
theorem async_read_terminates (base max : Nat) (rs : List RItem) (ws : List WItem) (ops : List PollAdapter.Op)
    (hp : AllOuts (fun op o => isReadOp op = true → o ≠ .panic) ops
      (PollAdapter.run (PollAdapter.State.new base max rs ws) ops).2) :
    AllOuts (fun op o => isReadOp op = true → o ≠ .hang) ops
      (PollAdapter.run (PollAdapter.State.new base max rs ws) ops).2 :=
  ReadOK.run (C := content rs) ops ⟨ARInv.new base max rs, rfl⟩ hp

/-- **Termination of the write entry points, with a measure**, guard `0 < max_buffer_size` only:
whatever the callers do (including the F15 interleavings and after panics of the `debug_assert!`s),
`poll_write` ends within three rounds (a possibly stale flush future completes; a fresh flush
empties the buffer; `write` into an empty buffer with a positive limit accepts), `poll_flush` and
`poll_close` have no loop. -/
theorem async_write_terminates (base max : Nat) (rs : List RItem) (ws : List WItem) (ops : List PollAdapter.Op)
    (hm : 0 < max) :
    AllOuts (fun op o => isReadOp op = false → o ≠ .hang) ops
      (PollAdapter.run (PollAdapter.State.new base max rs ws) ops).2 :=
  write_run_term ops (WBase.new base max ws) hm

/-- **`max_buffer_size = 0` (AsyncStream), finding F121:** with an inner writer that is always ready,
`poll_write` of a non-empty buffer never returns — for every fuel the model's loop is still going
(`write` answers "buffer full", the flush succeeds with nothing to do, …): the limit is turned into
a busy hang instead of being reported. -/
theorem async_max0_poll_write_spins (base t : Nat) (src : Bytes) (hsrc : src ≠ []) (fuel : Nat) :
    (({ AWrite.new base 0 [] with slots := Slots.empty.set .a (some t) } : AWrite).writeLoop src fuel).2 = .hang :=
  writeLoopA_max0_spins hsrc fuel (WInv.new base 0 []) rfl rfl rfl rfl

/-- **Sticky state of the read half after its buffer was lost by a panic** (no future in flight):
before EOF every further poll panics (`expect(MISSING_BUF)`), once EOF is latched every further poll
spins (`fill_read_buf` answers `Ok(0)` before it notices the missing buffer). -/
theorem async_lost_read_buffer_sticky (C : Bytes) (a : ARead) (e : Entry) (n fuel : Nat)
    (hl : a.r.buf.lent = true) (hfut : a.fut = false) :
    (a.r.eof = false → (a.pollLoop e (fun r => r.read n) (fuel + 1)).2 = .panic ∧
                        (a.pollLoop e (fun r => (r, r.fillBuf)) (fuel + 1)).2 = .panic) ∧
    (a.r.eof = true → (a.pollLoop e (fun r => r.read n) fuel).2 = .hang ∧
                       (a.pollLoop e (fun r => (r, r.fillBuf)) fuel).2 = .hang) :=
  ⟨fun he => ⟨pollLoop_lost_panics (SyncCall.read C n) e hl hfut he fuel,
              pollLoop_lost_panics (SyncCall.fillBuf C) e hl hfut he fuel⟩,
   fun he => ⟨pollLoop_lost_eof_spins (SyncCall.read C n) e hl hfut he fuel,
              pollLoop_lost_eof_spins (SyncCall.fillBuf C) e hl hfut he fuel⟩⟩

/-- **Waker law.** In every reachable state and for every next call:
(1) if the call returns Pending, the inner stream is parked with a waker snapshot containing the caller;
(2) if the in-flight future of the half completed during the call (the inner stream woke the
    snapshot it held), then every task whose latest call of some entry point of that half had
    returned Pending — through whichever of the three entry points — is among the tasks woken. -/
theorem async_waker_law (base max : Nat) (rs : List RItem) (ws : List WItem) (ops : List PollAdapter.Op)
    (op : PollAdapter.Op) :
    (∀ e t, op.entry = some (e, t) →
      (PollAdapter.step (PollAdapter.run (PollAdapter.State.new base max rs ws) ops).1 op).2 = .pending →
      ∃ snap, parkedAfterOp (PollAdapter.step (PollAdapter.run (PollAdapter.State.new base max rs ws) ops).1 op).1 op
                = some snap ∧ t ∈ snap) ∧
    ((eventAfter (PollAdapter.step (PollAdapter.run (PollAdapter.State.new base max rs ws) ops).1 op).1 op).1 = true →
      ∀ e t, (owedBefore (PollAdapter.run (PollAdapter.State.new base max rs ws) ops).1 op).get e = some t →
        t ∈ (eventAfter (PollAdapter.step (PollAdapter.run (PollAdapter.State.new base max rs ws) ops).1 op).1 op).2) := by
  have hw := (WakeOK.new base max rs ws).run ops
  exact ⟨fun e t he hp => step_pending_registered hw op e t he hp, (hw.step op).2⟩

/-- **Pending ⇒ owed** (one step, either half): a call of entry point `e` by task `t` that returns
Pending records the wake obligation of `e` for `t` -/
theorem async_owed_is_pending (s : PollAdapter.State) (op : PollAdapter.Op) (e : Entry) (t : Nat)
    (he : op.entry = some (e, t)) (hp : (PollAdapter.step s op).2 = .pending) :
    (owedAfterOp (PollAdapter.step s op).1 op).get e = some t :=
  step_pending_owed s op e t he hp

/-- **Fuel independence of the model's retry loops** (`loop { … WouldBlock ⇒ poll the future … }` of the
entry points): a result reached within the fuel is the result for any larger fuel; `hang` (fuel
exhausted — the real code would spin) is never produced on the sampled cases of the harness. -/
theorem async_loops_fuel_independent (e : Entry) (f : RSide → RSide × Res Bytes) (src : Bytes) (n : Nat) :
    (∀ a : ARead, (a.pollLoop e f n).2 ≠ .hang → a.pollLoop e f (n + 1) = a.pollLoop e f n) ∧
    (∀ a : AWrite, (a.writeLoop src n).2 ≠ .hang → a.writeLoop src (n + 1) = a.writeLoop src n) :=
  ⟨ARead.pollLoop_stable e f n, writeLoopA_stable src n⟩

/-- two tasks Pending on two entry points of the read half, both woken when the inner read completes -/
example :
    (PollAdapter.run (PollAdapter.State.new 4 64 [.p, .p, .d [1, 2, 3]] [])
      [.pr 0 2, .pfb 1, .pr 0 2, .pfb 1]).2 = [.pending, .pending, .bytes [1, 2], .bytes [3]] ∧
    (PollAdapter.run (PollAdapter.State.new 4 64 [.p, .p, .d [1, 2, 3]] [])
      [.pr 0 2, .pfb 1, .pr 0 2]).1.ar.r.woken = [0, 1] := by
  decide

/-- a guarded run with a Pending inner write and a Pending inner flush: the flush completes everything -/
example :
    GuardedRun (PollAdapter.State.new 4 64 [] [.p, .w 2, .w 9, .p])
      [.pw 0 [1, 2, 3], .pfl 0, .pfl 0, .pfl 0] ∧
    (PollAdapter.run (PollAdapter.State.new 4 64 [] [.p, .w 2, .w 9, .p])
      [.pw 0 [1, 2, 3], .pfl 0, .pfl 0, .pfl 0]).2 = [.num 3, .pending, .pending, .unit] ∧
    (PollAdapter.run (PollAdapter.State.new 4 64 [] [.p, .w 2, .w 9, .p])
      [.pw 0 [1, 2, 3], .pfl 0, .pfl 0, .pfl 0]).1.aw.w.sent = [1, 2, 3] := by
  decide

end Async

end Compio.Props.C12
