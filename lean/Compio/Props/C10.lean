/-
C10 — all buffer views obey one contract. The statements quantify over every root kind, every
length/capacity/content, every nesting of `Slice` / `Uninit` layers (`Buf` is a stack of arbitrary depth), every
in-range parameter and every operation sequence. Guard used where finding F6 makes the unguarded statement false:
`Buf.Fresh` — every `Uninit` layer of the stack still sits at the end of the initialised part of what it wraps, i.e.
nothing has been recorded through it yet ("first fill"); stacks without `Uninit` layers are always fresh. Vectored
buffers (`VBuf`; `VIter` at its first position only, finding V1) have a second guard, `Packed` (findings V2, V3). Pool
buffers (`Compio.Pool.PBuf`) keep `len ≤ cap`, also over the bodies of `BufferRef` regenerated from the source.
-/
import Compio.Lemmas.View
import Compio.Lemmas.ViewVec
import Compio.Lemmas.ViewOps
import Compio.Lemmas.ViewAppend
import Compio.Gen.PoolBufRef

namespace Compio.Props.C10
open Compio Compio.View

/-- `as_init()` lies inside the initialised part of the root, for every view stack (also a re-used `Uninit`) -/
theorem init_inside_initialised_root (v : Buf) (o l : Nat) (h : v.asInit = .ok (o, l)) :
    o + l ≤ v.getRoot.len :=
  (Buf.asInit_inside h).2

/-- `as_uninit()` lies inside the root allocation, for every view stack (also a re-used `Uninit`) -/
theorem writable_inside_allocation (v : Buf) (o c : Nat) (h : v.asUninit = .ok (o, c)) :
    o + c ≤ v.getRoot.cap :=
  (Buf.asUninit_inside h).2

/-- false for a re-used `Uninit`: `Cex.C10.f6_reused_uninit_not_prefix_counterexample` -/
theorem init_is_prefix_of_writable (v : Buf) (hw : v.getRoot.WF) (hf : v.Fresh) (oi li ou lu : Nat)
    (hi : v.asInit = .ok (oi, li)) (hu : v.asUninit = .ok (ou, lu)) : oi = ou ∧ li ≤ lu := by
  obtain ⟨h1, h2, -⟩ := Buf.fresh_window hf hw.le hi hu
  exact ⟨h1, h2⟩

theorem init_sub_writable_sub_allocation (v : Buf) (hw : v.getRoot.WF) (hf : v.Fresh) (oi li ou lu : Nat)
    (hi : v.asInit = .ok (oi, li)) (hu : v.asUninit = .ok (ou, lu)) :
    ou ≤ oi ∧ oi + li ≤ ou + lu ∧ ou + lu ≤ v.getRoot.cap := by
  obtain ⟨rfl, h2, -, -, hcap⟩ := Buf.fresh_window hf hw.le hi hu
  exact ⟨Nat.le_refl _, Nat.add_le_add_left h2 _, hcap⟩

theorem slice_stacks_are_fresh (v : Buf) (h : v.NoUninit) : v.Fresh := h.fresh

theorem uninit_of_fresh_is_fresh (v u : Buf) (hf : v.Fresh) (h : v.mkUninit = .ok u) : u.Fresh := by
  obtain ⟨o, li, hi, rfl⟩ := Buf.mkUninit_ok h
  exact ⟨hf, o, hi⟩

theorem slice_of_fresh_is_fresh (v s : Buf) (b : Nat) (e : Option Nat) (hf : v.Fresh)
    (h : v.mkSlice b e = .ok s) : s.Fresh := by
  obtain ⟨rfl, _⟩ := Buf.mkSlice_ok h
  exact hf

/-- `Op`: view constructors, fill, `set_len` / `advance_to` / `advance` under the documented contract
(`Buf.checked`), `clear`, `into_inner` -/
theorem step_preserves_len_le_cap (v v' : Buf) (op : Op) (hw : v.getRoot.WF) (h : v.step op = .ok v') :
    v'.getRoot.len ≤ v'.getRoot.cap :=
  (Buf.step_wf hw h).le

theorem program_preserves_len_le_cap (v v' : Buf) (ops : List Op) (hw : v.getRoot.WF)
    (h : v.run ops = .ok v') : v'.getRoot.len ≤ v'.getRoot.cap :=
  (Buf.run_wf hw h).le

/-- the documented contract of `SetLen::set_len` (`len ≤ as_uninit().len()`) excludes panic and UB through any
view stack -/
theorem set_len_contract_suffices (v : Buf) (o c n : Nat) (hw : v.getRoot.WF)
    (hu : v.asUninit = .ok (o, c)) (hn : n ≤ c) : ∃ v', v.setLen n = .ok v' :=
  let ⟨v', h, _⟩ := Buf.setLen_ok_of_contract hw hu hn
  ⟨v', h⟩

/-- **Fill law** (exact form) on a fresh view: a store at the start of `as_uninit()` recorded with
`advance_to(|data|)` changes nothing but the root. -/
theorem fill_law (v : Buf) (hw : v.getRoot.WF) (hf : v.Fresh) (oi li o c : Nat)
    (hi : v.asInit = .ok (oi, li)) (hu : v.asUninit = .ok (o, c)) (data : Bytes) (hk : data.length ≤ c) :
    v.fill data = .ok (v.setRoot { v.getRoot with
      len := max v.getRoot.len (o + data.length), mem := splice v.getRoot.mem o data }) :=
  Buf.fill_law hw hf hi hu data hk

/-- the fill law as C10 words it: exactly the written bytes become initialised bytes of the root where they were
written, every other byte is untouched, and the view reports them as its first `|data|` initialised bytes -/
theorem fill_makes_bytes_visible (v v' : Buf) (hw : v.getRoot.WF) (hf : v.Fresh) (oi li o c : Nat)
    (hi : v.asInit = .ok (oi, li)) (hu : v.asUninit = .ok (o, c)) (data : Bytes) (hk : data.length ≤ c)
    (h : v.fill data = .ok v') :
    (v'.getRoot.mem.drop o).take data.length = data ∧ o + data.length ≤ v'.getRoot.len ∧
    (∀ j, j < o ∨ o + data.length ≤ j → v'.getRoot.mem[j]? = v.getRoot.mem[j]?) ∧
    v.getRoot.len ≤ v'.getRoot.len ∧ v'.getRoot.cap = v.getRoot.cap ∧
    v'.asInit = .ok (o, max li data.length) := by
  rw [fill_law v hw hf oi li o c hi hu data hk] at h
  cases h
  obtain ⟨rfl, ha2, ha3, hroot, hcap⟩ := Buf.fresh_window hf hw.le hi hu
  have hfit : oi + data.length ≤ v.getRoot.mem.length := Nat.le_trans (Nat.add_le_add_left hk _) hcap
  simp only [Buf.getRoot_setRoot, Root.cap]
  refine ⟨splice_read _ _ _ hfit, by omega, fun j hj => splice_other _ _ _ hfit j hj, by omega,
    splice_length _ _ _ hfit, ?_⟩
  by_cases hgt : data.length ≤ li
  · rw [Buf.asInit_setRoot_mem v _ (Nat.max_eq_left (by omega)), hi, Nat.max_eq_left hgt]
  · have hl : max v.getRoot.len (oi + data.length) = oi + data.length :=
      Nat.max_eq_right (by have := ha3 (by omega); omega)
    rw [Nat.max_eq_right (Nat.le_of_not_le hgt)]
    exact hf.asInit_setRoot hi hu hk _ hl

/-- **Any sequence of fills through one slice stack** (any nesting depth, no `Uninit` layer). For `Uninit` this
fails at the second fill: `Cex.C10.f6_uninit_second_fill_counterexample`. -/
theorem fill_sequence_on_slice_stack (ds : List Bytes) (v : Buf) (hn : v.NoUninit) (hw : v.getRoot.WF)
    (oi li o c : Nat) (hi : v.asInit = .ok (oi, li)) (hu : v.asUninit = .ok (o, c))
    (hk : ∀ d ∈ ds, d.length ≤ c) :
    v.run (ds.map Op.fill) = .ok (v.setRoot (ds.foldl (fillRoot o) v.getRoot)) := by
  induction ds generalizing v oi li with
  | nil => simp [Buf.run]
  | cons d rest ih =>
    have hd : d.length ≤ c := hk d (by simp)
    have hstep := Buf.fill_law hw hn.fresh hi hu d hd
    obtain ⟨_, _, _, _, hcap, hinit⟩ := fill_makes_bytes_visible v _ hw hn.fresh oi li o c hi hu d hd hstep
    have hu' := (Buf.NoUninit.asUninit_setRoot hn _ (by simpa using hcap)).trans hu
    have := ih _ (Buf.NoUninit_setRoot _ hn) (Buf.fill_wf hw hstep) _ _ hinit hu' fun x hx => hk x (by simp [hx])
    simpa [Buf.run, Buf.step, hstep] using this

/-- **First fill of an `Uninit`**: bytes written through `root.uninit()` and recorded with `advance_to` are
appended to the root. -/
theorem uninit_first_fill (r : Root) (hw : r.WF) (data : Bytes) (hk : data.length ≤ r.cap - r.len) :
    ∃ u, (Buf.root r).mkUninit = .ok u ∧
      u.fill data = .ok (u.setRoot { r with len := r.len + data.length, mem := splice r.mem r.len data }) := by
  refine ⟨.uninit (.root r) r.len, rfl, ?_⟩
  have := fill_law (.uninit (.root r) r.len) hw ⟨trivial, 0, rfl⟩ _ _ _ _
    (uninit_root_asInit r r.len (Nat.le_refl _)) (uninit_root_asUninit r r.len (Nat.le_refl _) hw.le) data hk
  simp only [Buf.getRoot] at this
  rw [this, Nat.max_eq_right (Nat.le_add_right _ _)]

/-- `Slice<Slice<T>>::flatten` reports exactly the ranges of the nested slice it replaces (including the
cases where those panic) and forwards `set_len` to the same place -/
theorem flatten_reports_same_view (v : Buf) (n : Nat) :
    v.flatten.asInit = v.asInit ∧ v.flatten.asUninit = v.asUninit ∧
    (v.flatten.setLen n).toOption.map Buf.getRoot = (v.setLen n).toOption.map Buf.getRoot := by
  refine ⟨Buf.flatten_asInit v, Buf.flatten_asUninit v, ?_⟩
  rw [Buf.setLen_eq, Buf.setLen_eq, Buf.flatten_off, Buf.getRoot_flatten]
  cases v.getRoot.setLen (v.off + n) <;> simp [Except.toOption]

/-- **Append law** of `extend_from_slice` / `Writer::write` on a fresh view. On a re-used `Uninit` the copy is
aimed at `begin + 2·len`, possibly outside the allocation:
`Cex.C10.f6_writer_second_write_out_of_bounds_counterexample`. -/
theorem extend_law (v : Buf) (hw : v.getRoot.WF) (hf : v.Fresh) (oi li o c : Nat)
    (hi : v.asInit = .ok (oi, li)) (hu : v.asUninit = .ok (o, c)) (data : Bytes)
    (hres : v.reserve data.length = .ok (some true)) (hk : li + data.length ≤ c) :
    ∃ v', v.extend data = .done v' ∧ v' = v.setRoot (fillRoot (o + li) v.getRoot data) := by
  obtain ⟨rfl, -, ha3, -, hu2⟩ := Buf.fresh_window hf hw.le hi hu
  have hfit : oi + li + data.length ≤ v.getRoot.cap := by omega
  simp only [Buf.extend, hi, hres, hu, hfit, or_true, if_true,
    Buf.advanceTo_write_eq_fillRoot hw hi (Nat.add_assoc _ _ _).symm hfit fun h => ha3 (by omega)]
  exact ⟨_, rfl, rfl⟩

/-- `Reader::read(n)` (io.rs) delivers the next `min(n, remaining)` initialised bytes of the view, in order; the
buffer itself is untouched -/
theorem reader_delivers_in_order (v v' : Buf) (n : Nat) (d : Bytes) (h : readerRead v n = .ok (d, v')) :
    ∃ o l, v.asInit = .ok (o, l) ∧ d = (v.getRoot.mem.drop o).take (min n l) ∧
      v'.asInit = .ok (o + min n l, l - min n l) ∧ v'.getRoot = v.getRoot := by
  unfold readerRead at h
  split at h
  · rename_i i b
    cases hs : (Buf.slice i b none).asInit with
    | error f => simp [hs] at h
    | ok p =>
      obtain ⟨o, l⟩ := p
      simp only [hs] at h
      cases hi : i.asInit with
      | error f => simp [hi] at h
      | ok q =>
        obtain ⟨oi, li⟩ := q
        simp only [hi] at h
        split at h
        · rename_i hb
          cases h
          refine ⟨o, l, rfl, rfl, ?_, rfl⟩
          simp only [Buf.asInit, hi] at hs ⊢
          obtain ⟨e1, e2⟩ := subRange_ok hs
          simp only [Option.getD_none, Nat.min_self] at e1 e2
          rw [subRange_of_le (by simpa using hb)]
          simp only [Option.getD_none, Nat.min_self, Except.ok.injEq, Prod.mk.injEq]
          omega
        · cases h
  · cases h

/-- the append law for `extendWith`, the function the driver runs, with or without a capacity answer, when no growth
is needed -/
theorem extend_with_law (v : Buf) (hw : v.getRoot.WF) (hf : v.Fresh) (oi li o c : Nat)
    (hi : v.asInit = .ok (oi, li)) (hu : v.asUninit = .ok (o, c)) (data : Bytes) (ans : Option Nat)
    (hres : v.reserve data.length = .ok (some true)) (hk : li + data.length ≤ c) :
    v.extendWith data ans = .done (v.setRoot (fillRoot (o + li) v.getRoot data)) := by
  rw [Buf.extendWith_eq_extend hres]
  obtain ⟨v', h1, h2⟩ := extend_law v hw hf oi li o c hi hu data hres hk
  rw [h1, h2]

/-- when the root has to grow, `extendWith` is the growth-free `extend` of the grown buffer, to which `extend_law`
applies -/
theorem extend_with_growth (v v1 : Buf) (hw : v.getRoot.WF) (data : Bytes) (ans : Option Nat) (out : ResOut)
    (h : v.reserveWith data.length false ans = .done v1 out) :
    v.extendWith data ans = v1.extend data ∧ v1.asInit = v.asInit ∧ v1.reserve data.length = .ok (some true) :=
  ⟨Buf.extendWith_after_growth hw.le h, Buf.reserveWith_done_room hw.le h⟩

/-- **Reserve law** (`reserve` and `reserve_exact`, any view stack, any answer `ans` of the allocator). `.done` is
`Ok` or `ExactSizeMismatch`; every other outcome (`NotSupported`, `ReserveFailed`, a request that is not issued) has
no successor state at all. -/
theorem reserve_law (v v' : Buf) (hw : v.getRoot.WF) (n : Nat) (exact : Bool) (ans : Option Nat) (out : ResOut)
    (h : v.reserveWith n exact ans = .done v' out) :
    v' = v.setRoot v'.getRoot ∧ v'.getRoot.kind = v.getRoot.kind ∧ v'.getRoot.len = v.getRoot.len ∧
    v'.getRoot.mem.take v.getRoot.len = v.getRoot.mem.take v.getRoot.len ∧
    v.getRoot.cap ≤ v'.getRoot.cap ∧ (out = .ok → v.getRoot.len + n ≤ v'.getRoot.cap) ∧
    v'.getRoot.len ≤ v'.getRoot.cap ∧ v'.asInit = v.asInit := by
  obtain ⟨_, r', hroot, rfl⟩ := Buf.reserveWith_done h
  obtain ⟨hk, hl, hm, hc, ho, hle, _⟩ := Root.reserveWith_done hw.le hroot
  simp only [Buf.getRoot_setRoot]
  exact ⟨trivial, hk, hl, hm, hc, ho, hle, Buf.asInit_setRoot_mem v r' hl⟩

/-- a fixed-size `Slice` (one with an end) refuses every `reserve`, also one that would fit -/
theorem bounded_slice_refuses_reserve (i : Buf) (b e n : Nat) (exact : Bool) (ans : Option Nat) :
    (Buf.slice i b (some e)).reserveWith n exact ans = .notSupported := by
  simp [Buf.reserveWith, Buf.reserveReaches]

/-- **`ensure_init`** zeroes `as_uninit()[buf_len()..]` and returns the whole writable region; `set_len` is not
called, so neither the root's length nor the view's ranges change -/
theorem ensure_init_law (v v' : Buf) (p : Nat × Nat) (h : v.ensureInit = .ok (v', p)) :
    ∃ oi li o c, v.asInit = .ok (oi, li) ∧ v.asUninit = .ok (o, c) ∧ p = (o, c) ∧ li ≤ c ∧
      (v'.getRoot.mem.drop (o + li)).take (c - li) = List.replicate (c - li) 0 ∧
      (∀ j, j < o + li ∨ o + c ≤ j → v'.getRoot.mem[j]? = v.getRoot.mem[j]?) ∧
      v'.getRoot.len = v.getRoot.len ∧ v'.asInit = v.asInit ∧ v'.asUninit = v.asUninit := by
  unfold Buf.ensureInit at h
  cases hi : v.asInit with
  | error f => simp [hi] at h
  | ok pi =>
    obtain ⟨oi, li⟩ := pi
    cases hu : v.asUninit with
    | error f => simp [hi, hu] at h
    | ok pu =>
      obtain ⟨o, c⟩ := pu
      simp only [hi, hu] at h
      split at h <;> cases h
      rename_i hle
      have hfit : o + li + (List.replicate (c - li) (0 : UInt8)).length ≤ v.getRoot.cap := by
        have := (Buf.asUninit_inside hu).2
        simp only [List.length_replicate] at this ⊢
        omega
      obtain ⟨h1, h2, h3, -⟩ := Buf.write_spec v _ _ hfit
      rw [List.length_replicate] at h1 h2
      exact ⟨oi, li, o, c, rfl, rfl, rfl, hle, h1, fun j hj => h2 j (by omega), h3,
        (Buf.asInit_write _ _ _).trans hi, (Buf.asUninit_write _ _ _ hfit).trans hu⟩

/-- **`as_mut_slice`** on a fresh view; on a re-used `Uninit` it can lie outside the allocation:
`Cex.C10.f6_as_mut_slice_outside_allocation_counterexample` -/
theorem as_mut_slice_is_as_init (v : Buf) (hw : v.getRoot.WF) (hf : v.Fresh) (oi li o c : Nat)
    (hi : v.asInit = .ok (oi, li)) (hu : v.asUninit = .ok (o, c)) : v.asMutSlice = .ok (oi, li) := by
  obtain ⟨rfl, -, -, h2, -⟩ := Buf.fresh_window hf hw.le hi hu
  have := hw.le
  simp only [Buf.asMutSlice, hi, hu]
  rw [if_pos (by omega)]

/-- **`copy_within(s..e, dest)`** is `self.as_uninit().copy_within(..)`: positions are relative to the view's
writable region, and it panics exactly where `slice::copy_within` does -/
theorem copy_within_law (v : Buf) (s e dest o c : Nat) (hu : v.asUninit = .ok (o, c)) :
    (¬ (s ≤ e ∧ e ≤ c ∧ dest + (e - s) ≤ c) → v.copyWithin s e dest = .error .panic) ∧
    (s ≤ e ∧ e ≤ c ∧ dest + (e - s) ≤ c → ∃ v', v.copyWithin s e dest = .ok v' ∧
      (v'.getRoot.mem.drop (o + dest)).take (e - s) = (v.getRoot.mem.drop (o + s)).take (e - s) ∧
      (∀ j, j < o + dest ∨ o + dest + (e - s) ≤ j → v'.getRoot.mem[j]? = v.getRoot.mem[j]?) ∧
      v'.getRoot.len = v.getRoot.len ∧ v'.getRoot.cap = v.getRoot.cap) := by
  constructor
  · intro hn
    simp only [Buf.copyWithin, hu, hn, if_false]
  · intro hr
    simp only [Buf.copyWithin, hu, hr, and_self, if_true]
    have hlen : ((v.getRoot.mem.drop (o + s)).take (e - s)).length = e - s := by
      have := (Buf.asUninit_inside hu).2
      simp only [Root.cap] at this
      simp only [List.length_take, List.length_drop]
      omega
    obtain ⟨h1, h2, h3, h4⟩ := Buf.write_spec v (o + dest) ((v.getRoot.mem.drop (o + s)).take (e - s))
      (by have := (Buf.asUninit_inside hu).2; rw [hlen]; omega)
    rw [hlen] at h1 h2
    exact ⟨_, rfl, h1, h2, h3, h4⟩

/-- **`is_filled`** says `buf_len() == buf_capacity()`; after a fill of the whole writable region of a fresh
view it is true -/
theorem is_filled_iff (v : Buf) (oi li o c : Nat) (hi : v.asInit = .ok (oi, li)) (hu : v.asUninit = .ok (o, c)) :
    v.isFilled = .ok (li == c) := by
  simp [Buf.isFilled, hi, hu]

/-- `fill_law` with `fillRoot`, the function the vectored theorems use -/
theorem fill_is_fillRoot (v : Buf) (hw : v.getRoot.WF) (hf : v.Fresh) (oi li o c : Nat)
    (hi : v.asInit = .ok (oi, li)) (hu : v.asUninit = .ok (o, c)) (data : Bytes) (hk : data.length ≤ c) :
    v.fill data = .ok (v.setRoot (fillRoot o v.getRoot data)) :=
  fill_law v hw hf oi li o c hi hu data hk

/-- **Vectored fill law, `default_set_len` containers** (`Vec<T>`, `[T; N]`, `ArrayVec<T, N>`,
`SmallVec<[T; N]>`): writing `d` across `iter_uninit_slice()` and recording it with `advance_vec_to(|d|)` is exactly
the member-wise single-buffer fill, so `default_set_len` distributes the total over the members by capacity.
Without packedness the statement is false in the code (finding V3,
`Cex.C10.v3_unpacked_fill_lost_counterexample`). -/
theorem vectored_fill_law_list (ms : List Buf) (d : Bytes) (hp : Packed ms) (hc : d.length ≤ capSum ms) :
    (VBuf.base .list ms).fill d = .ok (.base .list (fillMembers ms d)) :=
  VBuf.fill_base_packed .list ms d hp hc

/-- the same for the tuple containers `(T, (T, … (T,)))` and `(T, (T, … ()))` -/
theorem vectored_fill_law_tuple (k : VKind) (hk : k ≠ .list) (ms : List Buf) (d : Bytes) (hp : Packed ms)
    (hc : d.length ≤ capSum ms) :
    (VBuf.base k ms).fill d = .ok (.base k (fillMembers ms d)) :=
  VBuf.fill_base_packed k ms d hp hc

/-- members after the end of the data are not touched at all by a vectored fill -/
theorem vectored_fill_leaves_rest (ms : List Buf) (hg : GoodAll ms) : fillMembers ms [] = ms :=
  fillMembers_nil hg

/-- `SetLen for VectoredSlice` (slice.rs): `self.buf.set_len(self.begin + len)` -/
theorem vectored_slice_set_len (i : VBuf) (b x o n : Nat) :
    (VBuf.vslice i b x o).setLen n =
      match i.setLen (b + n) with
      | .ok i' => .ok (.vslice i' b x o)
      | .error f => .error f := rfl

/-- `slice_mut(begin)` starts exactly at capacity position `begin`. Together with `vectored_slice_set_len`
(`set_len(begin + n)`) this places a fill through the slice at capacity positions `begin ..` of the wrapped buffer. -/
theorem slice_mut_starts_at_begin (k : VKind) (ms : List Buf) (hg : GoodAll ms) (begin : Nat) :
    ∃ j off, (VBuf.base k ms).mkSliceMut begin = .ok (.vslice (.base k ms) begin j off) ∧
      j ≤ ms.length ∧ capSum (ms.take j) + off = begin ∧ (∀ m, ms[j]? = some m → off < memberCap m) := by
  obtain ⟨j, off, h1, h2, h3, h4⟩ := skipCount_asUninit ms 0 begin 0 hg
  refine ⟨j, off, ?_, h2, h3, h4⟩
  simp only [VBuf.mkSliceMut, VBuf.iterUninit, h1, Nat.zero_add]

/-- **Fill law through a `VectoredSlice`** (`slice_mut(begin)` of a packed `default_set_len` container, the
`read_exact` loop of compio-io/src/read/ext.rs). `begin = capSum pre + off` with `off ≤ li`, `off < c` is a position
`≤ total_len` inside `m`; `pre` is untouched, the first chunk is stored and recorded `off` bytes into `m`, the
following chunks are ordinary member-wise fills of `rest`. -/
theorem vectored_slice_fill_law (pre : List Buf) (m : Buf) (rest : List Buf) (o li c off : Nat) (d : Bytes)
    (hpre : AllFull pre) (hm : GoodM m o li c) (hoff : off ≤ li) (hoffc : off < c)
    (hshape : (li = c ∧ Packed rest) ∨ AllEmpty rest) (hd : d.length ≤ (c - off) + capSum rest) :
    ∃ s, (VBuf.base .list (pre ++ m :: rest)).mkSliceMut (capSum pre + off) = .ok s ∧
      s.fill d = .ok (.vslice (.base .list (pre ++ fillMemberAt m off d :: fillMembers rest (d.drop (c - off))))
        (capSum pre + off) pre.length off) := by
  refine ⟨.vslice (.base .list (pre ++ m :: rest)) (capSum pre + off) pre.length off, ?_,
    VBuf.fill_slice_packed pre m rest o li c off d hpre hm hoff hshape hd⟩
  simp only [VBuf.mkSliceMut, VBuf.iterUninit,
    skipCount_full_prefix pre m rest o li c off 0 0 hpre hm hoffc, Nat.zero_add]

/-- a fill through a freshly created `owned_iter()` (first position, nothing recorded yet) of a `default_set_len`
container, whatever the shape of the other members. Later positions are only right when every earlier member's
capacity has been recorded in full through the iterator: finding V1,
`Cex.C10.v1_viter_partial_then_next_counterexample`. -/
theorem viter_first_fill (m : Buf) (rest : List Buf) (o li c : Nat) (hg : GoodM m o li c) (d : Bytes)
    (hd : d.length ≤ c) (n : Nat) :
    (VIter.mk (.base .list (m :: rest)) 0 0 n 0).fill d =
      .ok (VIter.mk (.base .list (fillMember m d :: rest)) 0 0 n (if d.length > li then d.length else 0)) :=
  VIter.fill_first m rest o li c hg d hd n

/-- `vec(len 6, cap 10).slice(1..9).slice(2..).slice(1..4)` -/
example :
    let r : Root := ⟨.vec, 6, [0, 1, 2, 3, 4, 5, 6, 7, 8, 9]⟩
    let v : Buf := .slice (.slice (.slice (.root r) 1 (some 9)) 2 none) 1 (some 4)
    v.NoUninit ∧ r.WF ∧ v.asInit = .ok (4, 2) ∧ v.asUninit = .ok (4, 3) ∧
    (v.fill [0xA, 0xB, 0xC]).toOption.map (fun v' => (v'.getRoot.len, v'.getRoot.mem)) =
      some (7, [0, 1, 2, 3, 0xA, 0xB, 0xC, 7, 8, 9]) := by
  refine ⟨trivial, ⟨by decide, by decide⟩, rfl, rfl, by decide⟩

example :
    let r : Root := ⟨.arrayvec, 2, [1, 2, 3, 4, 5]⟩
    ∃ u, (Buf.root r).mkUninit = .ok u ∧ u.Fresh ∧ u.asUninit = .ok (2, 3) ∧
      (u.fill [9, 9]).toOption.map (fun v' => (v'.getRoot.len, v'.getRoot.mem)) = some (4, [1, 2, 9, 9, 5]) :=
  ⟨_, rfl, ⟨trivial, 0, rfl⟩, rfl, by decide⟩

example :
    let m0 : Buf := .root ⟨.vec, 3, [1, 2, 3]⟩
    let m1 : Buf := .root ⟨.vec, 1, [4, 5, 6, 7]⟩
    let m2 : Buf := .root ⟨.arrayvec, 0, [8, 9]⟩
    Packed [m0, m1, m2] ∧ capSum [m0, m1, m2] = 9 ∧
    ((VBuf.base .list [m0, m1, m2]).fill [0xA, 0xB, 0xC, 0xD, 0xE, 0xF, 0x10, 0x11]).toOption.map
        (fun v => v.members.map fun m => (m.getRoot.len, m.getRoot.mem))
      = some [(3, [0xA, 0xB, 0xC]), (4, [0xD, 0xE, 0xF, 0x10]), (1, [0x11, 9])] := by
  refine ⟨Or.inl ⟨0, 3, ⟨⟨by decide, by decide⟩, trivial, rfl, rfl, rfl⟩,
    Or.inr ⟨0, 1, 4, ⟨⟨by decide, by decide⟩, trivial, rfl, rfl, rfl⟩,
      ⟨⟨0, 2, ⟨⟨by decide, by decide⟩, trivial, rfl, rfl, rfl⟩⟩, trivial⟩⟩⟩, rfl, by decide⟩

/-- the `read_exact` step: `[full 3/3, partial 1/4, empty 0/2].slice_mut(4)` is one byte into the second member -/
example :
    let m0 : Buf := .root ⟨.vec, 3, [1, 2, 3]⟩
    let m1 : Buf := .root ⟨.vec, 1, [4, 5, 6, 7]⟩
    let m2 : Buf := .root ⟨.arrayvec, 0, [8, 9]⟩
    (match (VBuf.base .list [m0, m1, m2]).mkSliceMut 4 with
      | .ok s => (s.fill [0xA, 0xB, 0xC, 0xD, 0xE]).toOption.map
          (fun v => v.members.map fun m => (m.getRoot.len, m.getRoot.mem))
      | .error _ => none)
      = some [(3, [1, 2, 3]), (4, [4, 0xA, 0xB, 0xC]), (2, [0xD, 0xE])] := by decide

/-- **Repeated fills of one `Uninit` view append** when each is recorded with `advance(k)` (with `advance_to` the
second fill is lost: F6): the sequence form of "recording n written bytes makes exactly those bytes visible where
they were written". -/
theorem uninit_append_fills (ds : List Bytes) :
    ∀ (r : Root) (b : Nat), r.kind ≠ .arr ∧ r.kind ≠ .boxed → b ≤ r.len →
      r.len + ds.flatten.length ≤ r.cap →
      (Buf.uninit (.root r) b).fillAdvAll ds = .ok (.uninit (.root (ds.foldl appendRoot r)) b) := by
  induction ds with
  | nil => intro r b _ _ _; rfl
  | cons d rest ih =>
    intro r b hk hb hl
    simp only [List.flatten_cons, List.length_append] at hl
    have hstep := uninit_append_step r b d hk hb (by omega)
    simp only [Buf.fillAdvAll, hstep, List.foldl_cons]
    apply ih (appendRoot r d) b hk
    · simp only [appendRoot]; omega
    · rw [appendRoot_cap r d (by omega)]
      simp only [appendRoot]; omega

/-- so the chunks sit in order at `len ..`; by `splice_other` every byte outside that range is untouched -/
theorem append_fold_is_one_store (ds : List Bytes) :
    ∀ (r : Root), r.len + ds.flatten.length ≤ r.cap →
      ds.foldl appendRoot r = { r with len := r.len + ds.flatten.length, mem := splice r.mem r.len ds.flatten } := by
  induction ds with
  | nil => intro r _; simp [splice_nil]
  | cons d rest ih =>
    intro r hl
    simp only [List.flatten_cons, List.length_append] at hl
    have hc := appendRoot_cap r d (by omega)
    rw [List.foldl_cons, ih (appendRoot r d) (by rw [hc]; simp only [appendRoot]; omega)]
    simp only [appendRoot, List.flatten_cons, List.length_append]
    rw [splice_splice _ _ _ _ (by simp only [Root.cap] at *; omega)]
    simp [Nat.add_assoc]

/-- `hello` in a 10-byte `Vec`, `uninit()`, fill `ABC`, fill `xy` ⇒ `helloABCxy` -/
example :
    ((Buf.uninit (.root ⟨.vec, 5, [104, 101, 108, 108, 111, 0, 0, 0, 0, 0]⟩) 5).fillAdvAll
        [[65, 66, 67], [120, 121]]).toOption.map (fun v => (v.getRoot.len, v.getRoot.mem))
      = some (10, [104, 101, 108, 108, 111, 65, 66, 67, 120, 121]) := by decide

open Compio.Pool in
/-- **Pool buffers (`BufferRef`, compio-driver/src/buffer_pool.rs) keep `len ≤ cap ≤ full_cap` under every program**
of `set_len` / `advance_to` / `advance` / `clear` / `set_capacity` / `with_capacity` / fills (refused and panicking
calls included: they leave the buffer as it was), hence `as_init()` is a prefix of `as_uninit()` and both lie
inside the allocation. -/
theorem pool_program_keeps_len_le_cap (ops : List Pool.Op) :
    ∀ (p : PBuf), p.WF →
      (p.run ops).WF ∧ (p.run ops).asInit.1 = (p.run ops).asUninit.1 ∧
      (p.run ops).asInit.2 ≤ (p.run ops).asUninit.2 ∧
      (p.run ops).asUninit.1 + (p.run ops).asUninit.2 ≤ (p.run ops).mem.length := by
  intro p h
  have hw := PBuf.run_wf ops h
  exact ⟨hw, rfl, hw.le, by simpa [PBuf.asUninit] using hw.cap⟩

open Compio.Pool in
/-- `set_capacity(c)` / `with_capacity(c)`, `c ≠ 0`, from any state (no `WF` hypothesis); `c % 4294967296` is
`c as u32` -/
theorem pool_set_capacity_clamps (p : PBuf) (c : Nat) (hc : c ≠ 0) :
    (p.setCap c).len ≤ (p.setCap c).cap ∧ (p.setCap c).cap ≤ p.mem.length ∧
    (p.setCap c).cap = min (c % 4294967296) p.mem.length ∧ (p.setCap c).mem = p.mem ∧
    (p.setCap c).len ≤ p.len := by
  simp only [PBuf.setCap, hc, if_false, PBuf.full, u32Max]
  exact ⟨Nat.min_le_right _ _, Nat.min_le_right _ _, trivial, trivial, Nat.min_le_left _ _⟩

open Compio.Pool in
/-- **Fill law for pool buffers.** `h32`: `set_len` has `debug_assert!(len <= u32::MAX as usize)` -/
theorem pool_fill_law (p : PBuf) (hw : p.WF) (d : Bytes) (hk : d.length ≤ p.cap) (h32 : p.mem.length ≤ 4294967295) :
    p.fill d = .ok { p with len := max p.len d.length, mem := splice p.mem 0 d } := by
  have h1 := hw.le
  have h2 := hw.cap
  unfold PBuf.fill PBuf.advanceTo PBuf.setLen u32Max
  simp only [hk, if_true]
  by_cases hg : d.length > p.len
  · have : d.length ≤ 4294967295 := by omega
    simp only [hg, if_true, this]
    congr 2
    omega
  · simp only [hg, if_false]
    congr 2
    omega

open Compio.Pool in
/-- record 3 bytes, then lower the capacity to 1 ⇒ `len = cap = 1` -/
example :
    ((⟨0, 4, [1, 2, 3, 4]⟩ : PBuf).run [.fill [7, 8, 9], .setCap 1, .setLen 9, .setCap 4294967296]) = ⟨0, 0, [7, 8, 9, 4]⟩ ∧
    ((⟨0, 4, [1, 2, 3, 4]⟩ : PBuf).run [.fill [7, 8, 9], .setCap 1]) = ⟨1, 1, [7, 8, 9, 4]⟩ := by decide

open Compio.Pool Compio.Gen.PoolBufRef in
/-- the body of `BufferRef::set_capacity` **as regenerated from compio-driver/src/buffer_pool.rs** is the hand model's
`setCap`, for every buffer state and every argument -/
theorem gen_pool_set_capacity_is_model (p : PBuf) (c : Nat) : execStmts setCapacityBody p c = .ok (p.setCap c) := by
  unfold setCapacityBody PBuf.setCap
  by_cases hc : c = 0 <;> simp [execStmts, hc, PBuf.full]

open Compio.Pool Compio.Gen.PoolBufRef in
/-- the body of `<BufferRef as SetLen>::set_len` as regenerated from the source is the hand model's `setLen` -/
theorem gen_pool_set_len_is_model (p : PBuf) (n : Nat) : execStmts setLenBody p n = p.setLen n := by
  unfold setLenBody PBuf.setLen
  by_cases hn : n ≤ u32Max
  · have : n % (u32Max + 1) = n := Nat.mod_eq_of_lt (by omega)
    simp [execStmts, hn, this]
  · simp [execStmts, hn]

open Compio.Pool Compio.Gen.PoolBufRef in
/-- `len ≤ cap` directly over the regenerated bodies, from ANY state (also `len > cap`): after `set_capacity(c)`,
`c ≠ 0`, and after every successful `set_len(n)` -/
theorem gen_pool_bodies_keep_len_le_cap (p : PBuf) (a : Nat) :
    (a ≠ 0 → ∀ p', execStmts setCapacityBody p a = .ok p' → p'.len ≤ p'.cap ∧ p'.cap ≤ p.mem.length) ∧
    (∀ p', execStmts setLenBody p a = .ok p' → p'.len ≤ p'.cap ∧ p'.cap = p.cap) := by
  constructor
  · intro ha p' h
    rw [gen_pool_set_capacity_is_model] at h
    injection h with h
    subst h
    have := pool_set_capacity_clamps p a ha
    exact ⟨this.1, this.2.1⟩
  · intro p' h
    rw [gen_pool_set_len_is_model] at h
    unfold PBuf.setLen at h
    split at h
    · injection h with h
      subst h
      exact ⟨Nat.min_le_right _ _, rfl⟩
    · cases h

end Compio.Props.C10
