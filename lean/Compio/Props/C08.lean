/-
C08 — file and pipe I/O matches the OS, identically on every driver.  PARTIAL: what the kernel does for
pread/pwrite/... is observed (differential harness), not proved. Proved here:
  (a) laws over the op table REGENERATED from the sources on every run (`Compio.Gen.OpTable`): range kinds by
      direction, agreement of the two drivers, length derivations, result mappings;
  (b) for all buffer shapes and every row of the table: "the OS stores n bytes into the offered ranges, then the
      result mapping is applied" gives the reference readv result (bytes, positions, lengths, untouched spare content);
      a write row hands the OS exactly the visible bytes, and on the reference file a vectored write is its members'
      writes back to back, a vectored read its members' reads, a read after a write what was written;
  (c) the open-flag mapping equals std's rules; custom flags never change the access mode;
  (d) `DirBuilder::create_dir_all`, with the arms of its two matches regenerated: `Ok` iff the path is a directory
      afterwards, for every lawful file system (a plain tree of directories is one);
  and the splice model answers alike on both drivers when the polling driver waits for pollable ends only.
-/
import Compio.Lemmas.BufShape
import Compio.Model.DirUtil

namespace Compio.Props.C08

open Compio Compio.BufShape Compio.FileRef
open Compio.Gen.OpTable
open Compio.Gen.OpenFlags (OFlag openFlags)

/-! `decide +kernel` throughout the table laws: the table is evaluated by the kernel alone. Plain `decide`
evaluates it in the elaborator as well, the slower of the two on the sweeps over pairs of rows. -/

def expectedKind : Dir → Kind
  | .read => .writable
  | .write => .init

/-- every row hands a read buffer to the OS as its writable range (`0..capacity`), a write buffer as its
initialised range (`0..len`); ops without a buffer hand nothing -/
theorem table_law : ∀ r ∈ rows,
    r.mainKinds = (r.main.map (expectedKind ·.dir)).toList ∧
    r.ctrlKinds = (r.ctrl.map (expectedKind ·.dir)).toList := by decide +kernel

def sameShape (a b : Row) : Bool :=
  a.main == b.main && a.ctrl == b.ctrl && a.mainKinds == b.mainKinds && a.ctrlKinds == b.ctrlKinds

/-- the rows of an op are one of the io_uring driver and one of the polling driver, both shaped like `a` -/
theorem rows_of_op : ∀ a ∈ rows,
    ((rows.filter (·.op = a.op)).map fun b => (b.driver, sameShape a b)).Perm [(.iour, true), (.poll, true)] := by
  decide +kernel

/-- rows of the same op agree across drivers -/
theorem drivers_agree : ∀ a ∈ rows, ∀ b ∈ rows, a.op = b.op → sameShape a b = true := by
  intro a ha b hb h
  exact (show ∀ x ∈ [(Driver.iour, true), (Driver.poll, true)], x.2 = true by decide) _
    ((rows_of_op a ha).subset (List.mem_map_of_mem (List.mem_filter.mpr ⟨hb, by simp [h]⟩)))

/-- counting the rows of an op by a test on the driver is counting the two drivers -/
theorem count_of_op (q : Driver → Prop) [DecidablePred q] {a : Row} (ha : a ∈ rows) :
    (rows.filter fun b => b.op = a.op ∧ q b.driver).length = [Driver.iour, .poll].countP (q ·) := by
  have h := (rows_of_op a ha).countP_eq (fun x => q x.1)
  rw [List.countP_map, List.countP_eq_length_filter, List.filter_filter] at h
  simpa [Bool.and_comm, Function.comp_def, List.countP_cons] using h

/-- every op code is implemented by both drivers, once each -/
theorem both_drivers : ∀ a ∈ rows, (rows.filter fun b => b.op = a.op ∧ b.driver ≠ a.driver).length = 1 := by
  intro a ha
  rw [count_of_op (· ≠ a.driver) ha]
  cases a.driver <;> rfl

theorem one_row_per_op_and_driver :
    ∀ a ∈ rows, (rows.filter fun b => b.op = a.op ∧ b.driver = a.driver).length = 1 := by
  intro a ha
  rw [count_of_op (· = a.driver) ha]
  cases a.driver <;> rfl

/-- every byte length an op hands to the OS is derived by saturation to `u32::MAX` or passed as `usize`; no
row narrows a length with a plain cast (iovec counts: saturated, `usize`, or stored into `msg_iovlen`) -/
theorem length_law : ∀ r ∈ rows,
    (∀ k ∈ r.byteLens, k = .saturating ∨ k = .full) ∧ ∀ k ∈ r.countLens, k ≠ .cast := by decide +kernel

/-- **every length handed to the OS is `min(len, u32::MAX)` or `len` itself, never a wrapped value**; in
particular the OS is asked for 0 bytes only for an empty buffer (no false end-of-file on buffers of 4 GiB and
more), and never for more than the buffer holds -/
theorem length_never_wrapped :
    ∀ r ∈ rows, ∀ k ∈ r.byteLens, ∀ n : Nat,
      (lenHanded k n = min n u32Max ∨ lenHanded k n = n) ∧ lenHanded k n ≤ n ∧ (lenHanded k n = 0 → n = 0) := by
  intro r hr k hk n
  rcases (length_law r hr).1 k hk with rfl | rfl
  · refine ⟨Or.inl rfl, Nat.min_le_left .., fun h => ?_⟩
    simp only [lenHanded, u32Max] at h; omega
  · exact ⟨Or.inr rfl, Nat.le_refl _, id⟩

/-- the lookups the model driver makes for the huge-capacity reads -/
theorem lenOf_read_ops :
    lenOf .Read .iour = some .saturating ∧ lenOf .ReadAt .iour = some .saturating ∧
    lenOf .Read .poll = some .full ∧ lenOf .ReadAt .poll = some .full := by decide +kernel

/-- what fails for a wrapped length: with `.cast`, capacity 2^32 delivers nothing (example below) -/
theorem huge_read_delivers_all :
    ∀ r ∈ rows, ∀ k ∈ r.byteLens, ∀ (cap : Nat) (avail : Bytes),
      avail.length ≤ cap → avail.length ≤ u32Max → hugeRead k cap avail = avail := by
  intro r hr k hk cap avail h1 h2
  obtain ⟨h, _, _⟩ := length_never_wrapped r hr k hk cap
  unfold hugeRead
  apply List.take_of_length_le
  rcases h with h | h <;> rw [h] <;> omega

example : lenHanded .cast (2 ^ 32) = 0 ∧ lenHanded .saturating (2 ^ 32) = 2 ^ 32 - 1 := by decide

def expectedMapping (p : BufParam) : Mapping :=
  match p.dir, p.vectored with
  | .read, false => .advanced
  | .read, true => .vecAdvanced
  | .write, _ => .none

/-- the high-level calls (`File::read_at`, `AsyncFd::read_vectored`, ...) record the returned length with
`map_advanced` for single reads, `map_vec_advanced` for vectored reads, and leave writes alone -/
theorem mapping_law :
    ∀ m ∈ mappings, ∀ r ∈ rows, r.op = m.2.2.1 → r.main.map expectedMapping = some m.2.2.2 := by decide +kernel

theorem row_kind {r : Row} (hr : r ∈ rows) {p : BufParam} (hm : r.main = some p) :
    r.mainKinds = [expectedKind p.dir] := by
  rw [(table_law r hr).1, hm]; rfl

/-- the lookups the model driver performs (`kindOf`) resolve, on both drivers, to the kind of the direction:
the eight file / pipe ops of compio-fs and `AsyncFd` -/
theorem kindOf_file_ops (d : Driver) :
    kindOf .ReadAt d = some .writable ∧ kindOf .ReadVectoredAt d = some .writable ∧
    kindOf .Read d = some .writable ∧ kindOf .ReadVectored d = some .writable ∧
    kindOf .WriteAt d = some .init ∧ kindOf .WriteVectoredAt d = some .init ∧
    kindOf .Write d = some .init ∧ kindOf .WriteVectored d = some .init := by
  cases d <;> decide +kernel

example : (rows.filter fun r => r.main.isSome).length = 36 := by decide +kernel
example : ∃ r ∈ rows, r.op = .ReadVectoredAt ∧ r.driver = .iour ∧ r.mainKinds = [.writable] := by decide +kernel

/-- the reference result of reading `data` into the window of `b` (what `pread` into `as_uninit()` followed
by `advance_to(data.length)` must give) -/
structure ReadSpec (b b' : Buf) (data : Bytes) : Prop where
  /-- bytes: the window holds the data, then its old content -/
  window : b'.window = data ++ b.window.drop data.length
  /-- positions / untouched spare content: nothing outside the window changes, nothing moves -/
  before : b'.root.mem.take b.start = b.root.mem.take b.start
  after : b'.root.mem.drop (b.start + b.bufCap) = b.root.mem.drop (b.start + b.bufCap)
  cap : b'.root.cap = b.root.cap
  start : b'.start = b.start
  stop : b'.stop = b.stop
  /-- new length: never shrinks, covers the data, stays within the capacity (`wf`) -/
  len : b'.root.len = max b.root.len (b.start + data.length)
  wf : b'.wf
  /-- the visible content (`as_init`) is the data followed by what was visible beyond it -/
  visible : b'.visible = data ++ b.visible.drop data.length

/-- OS fill of the writable range, then `map_advanced` (= `advance_to(n)`) -/
theorem fill_then_advance_spec (b : Buf) (data : Bytes) (hb : b.wf) (hd : data.length ≤ b.bufCap) :
    ReadSpec b ((b.osFill .writable data).advanceTo data.length) data := by
  have hwf1 := osFill_wf b data hb
  obtain ⟨hs1, hst1, hl1⟩ := osFill_shape .writable b data
  have hn : data.length ≤ (b.osFill .writable data).bufCap := by rw [osFill_bufCap b data hb]; exact hd
  have hwf2 := advanceTo_wf hwf1 hn
  have hlen := advanceTo_bufLen hwf1 hn
  -- from here on `advance_to` is a store into the length field: the other fields are those of the fill
  rw [advanceTo_eq hwf1 hn] at hwf2 hlen ⊢
  have hwin := (osFill_window b data hb).trans (by rw [List.take_of_length_le hd, Nat.min_eq_left hd])
  refine ⟨hwin, osFill_before b data hb, osFill_after b data hb, osFill_cap b data hb, hs1, hst1,
    by rw [← hl1, ← hs1], hwf2, ?_⟩
  rw [visible_eq_window_take hwf2, hlen, osFill_bufLen, visible_eq_window_take hb]
  show List.take _ (b.osFill .writable data).window = _
  rw [hwin, List.take_append, List.take_of_length_le (by omega), List.drop_take]
  congr 2
  omega

/-- **single reads** (`ReadAt`, `Read`, `Recv`, `RecvFrom` on both drivers): for every range kind the row hands
to the OS, result and buffer are the reference `pread` result. -/
theorem read_single_law :
    ∀ r ∈ rows, r.main = some ⟨.read, false⟩ → ∀ k ∈ r.mainKinds,
    ∀ (b : Buf) (f : Bytes) (pos : Nat), b.wf →
      (readOp k b f pos).1 = (pread f pos b.bufCap).length ∧
      ReadSpec b (readOp k b f pos).2 (pread f pos b.bufCap) := by
  intro r hr hm k hk b f pos hb
  obtain rfl := List.mem_singleton.mp (row_kind hr hm ▸ hk)
  exact ⟨rfl, fill_then_advance_spec b _ hb (pread_length_le f pos b.bufCap)⟩

def MemberSpec (b b' : Buf) : Prop :=
  b'.start = b.start ∧ b'.stop = b.stop ∧ b'.root.cap = b.root.cap ∧
  b'.root.mem.take b.start = b.root.mem.take b.start ∧
  b'.root.mem.drop (b.start + b.bufCap) = b.root.mem.drop (b.start + b.bufCap)

/-- readv-style fill, then `map_vec_advanced` (= `advance_vec_to(n)`) -/
theorem fillVec_then_advance_spec (bs : List Buf) (data : Bytes) (hw : ∀ b ∈ bs, b.wf)
    (hd : data.length ≤ totalCap bs) :
    let res := advanceVecTo (osFillVec .writable bs data) data.length
    windowVec res = data ++ (windowVec bs).drop data.length ∧
    AllPairs MemberSpec bs res ∧
    (∀ b' ∈ res, b'.wf) ∧
    ((∀ b ∈ bs, b.bufLen = 0) → visibleVec res = data ∧ totalLen res = data.length) := by
  intro res
  have hwf1 := osFillVec_wf bs hw data
  have hwin := osFillVec_window bs hw data hd
  have hres : res = defaultSetLen (osFillVec .writable bs data) _ := advanceVecTo_eq ..
  have hwf2 : ∀ b' ∈ res, b'.wf := hres ▸ defaultSetLen_wf _ hwf1 _
  refine ⟨by rw [hres, defaultSetLen_windowVec, hwin], ?_, hwf2, fun hf => ?_⟩
  · refine AllPairs.trans ?_ (osFillVec_members bs hw data) (hres ▸ defaultSetLen_members _ _)
    intro a b c ⟨s1, st1, _, c1, _, bf1, af1⟩ ⟨s2, st2, m2⟩
    refine ⟨by rw [s2, s1], by rw [st2, st1], ?_, ?_, ?_⟩
    · unfold Root.cap at *; rw [m2]; exact c1
    · rw [m2]; exact bf1
    · rw [m2]; exact af1
  · have hf1 := osFillVec_fresh bs hw hf data
    have hcap : data.length ≤ totalCap (osFillVec .writable bs data) := by
      rw [← windowVec_length, hwin, List.length_append, List.length_drop, windowVec_length]; omega
    have hvis : visibleVec res = data := by
      rw [hres, totalLen_fresh hf1, show (if 0 < data.length then data.length else 0) = data.length by
        split <;> omega, defaultSetLen_visible _ hwf1 hf1 _ hcap, hwin]
      exact List.take_left' rfl
    exact ⟨hvis, by rw [totalLen_eq_length hwf2, hvis]⟩

/-- **vectored reads** (`ReadVectoredAt`, `ReadVectored`, `RecvVectored`, `RecvFromVectored`, `RecvMsg`):
for every range kind the row hands to the OS, result and members are the reference result of a `pread` for the
total capacity. The visible content is the data read only for fresh members (nothing recorded yet, e.g.
`Vec::with_capacity` or `buf.slice(len..)`); otherwise see `Cex.C08.f15_vectored_read_not_recorded_counterexample`. -/
theorem read_vectored_law :
    ∀ r ∈ rows, r.main = some ⟨.read, true⟩ → ∀ k ∈ r.mainKinds,
    ∀ (bs : List Buf) (f : Bytes) (pos : Nat), (∀ b ∈ bs, b.wf) →
      let data := pread f pos (totalCap bs)
      let res := readVecOp k bs f pos
      res.1 = data.length ∧
      windowVec res.2 = data ++ (windowVec bs).drop data.length ∧
      AllPairs MemberSpec bs res.2 ∧
      (∀ b' ∈ res.2, b'.wf) ∧
      ((∀ b ∈ bs, b.bufLen = 0) → visibleVec res.2 = data ∧ totalLen res.2 = data.length) := by
  intro r hr hm k hk bs f pos hw
  obtain rfl := List.mem_singleton.mp (row_kind hr hm ▸ hk)
  exact ⟨rfl, fillVec_then_advance_spec bs _ hw (pread_length_le f pos (totalCap bs))⟩

/-- **writes**: every write row hands exactly the visible (initialised) bytes to the OS — never spare
capacity, never bytes outside the slice window — single and vectored -/
theorem write_law :
    ∀ r ∈ rows, ∀ v, r.main = some ⟨.write, v⟩ → ∀ k ∈ r.mainKinds,
      (∀ b : Buf, b.offeredBytes k = b.visible) ∧ (∀ bs : List Buf, offeredBytesVec k bs = visibleVec bs) := by
  intro r hr v hm k hk
  obtain rfl := List.mem_singleton.mp (row_kind hr hm ▸ hk)
  exact ⟨fun _ => rfl, fun _ => rfl⟩

/-- a vectored write (`WriteVectoredAt` hands `visibleVec`) leaves the file as the members' writes back to
back would -/
theorem writev_eq_consecutive_writes (f : Bytes) (pos : Nat) (b : Buf) (bs : List Buf) :
    pwrite f pos (visibleVec (b :: bs))
      = pwrite (pwrite f pos b.visible) (pos + b.visible.length) (visibleVec bs) := by
  rw [visibleVec_cons]; exact pwrite_append f pos _ _

/-- `preadv` = `pread`s back to back -/
theorem pread_split (f : Bytes) (pos n m : Nat) :
    pread f pos (n + m) = pread f pos n ++ pread f (pos + n) m := by
  unfold pread
  rw [← List.drop_drop, List.take_add]

theorem write_then_read (f : Bytes) (pos : Nat) (b : Buf) :
    pread (pwrite f pos b.visible) pos b.visible.length = b.visible := pread_pwrite f pos b.visible

def exBuf : Buf := ⟨⟨[9, 9, 9, 9, 9, 9], 2⟩, 1, some 5⟩

example : exBuf.wf := by decide
example : (readOp .writable exBuf [1, 2, 3] 1).1 = 2 := by decide
example : (readOp .writable exBuf [1, 2, 3] 1).2 = ⟨⟨[9, 2, 3, 9, 9, 9], 3⟩, 1, some 5⟩ := by decide
example : (readVecOp .writable [Buf.ofRoot ⟨[7, 7], 0⟩, Buf.ofRoot ⟨[8, 8, 8], 0⟩] [1, 2, 3, 4] 1).2
    = [Buf.ofRoot ⟨[2, 3], 2⟩, Buf.ofRoot ⟨[4, 8, 8], 1⟩] := by decide

/-- std's flag set (library/std/src/sys/fs/unix.rs), with `append` -/
inductive SFlag where
  | RDONLY | WRONLY | RDWR | APPEND | CREAT | TRUNC | EXCL | CLOEXEC
  deriving DecidableEq, Repr

/-- std `OpenOptions::get_access_mode` -/
def stdAccess (read write append : Bool) : Option (List SFlag) :=
  match read, write, append with
  | true, false, false => some [.RDONLY]
  | false, true, false => some [.WRONLY]
  | true, true, false => some [.RDWR]
  | false, _, true => some [.WRONLY, .APPEND]
  | true, _, true => some [.RDWR, .APPEND]
  | false, false, false => none

/-- std `OpenOptions::get_creation_mode` -/
def stdCreation (write append truncate create createNew : Bool) : Option (List SFlag) :=
  let guard : Bool :=
    match write, append with
    | true, false => true
    | false, false => !(truncate || create || createNew)
    | _, true => !(truncate && !createNew)
  if !guard then none else
  some (match create, truncate, createNew with
    | false, false, false => []
    | true, false, false => [.CREAT]
    | false, true, false => [.TRUNC]
    | true, true, false => [.CREAT, .TRUNC]
    | _, _, true => [.CREAT, .EXCL])

/-- std `File::open_c`: `O_CLOEXEC | access | creation` (no custom flags) -/
def stdOpen (read write append truncate create createNew : Bool) : Option (List SFlag) :=
  match stdAccess read write append with
  | none => none
  | some a =>
    match stdCreation write append truncate create createNew with
    | none => none
    | some c => some (.CLOEXEC :: a ++ c)

def toS : OFlag → SFlag
  | .RDONLY => .RDONLY
  | .WRONLY => .WRONLY
  | .RDWR => .RDWR
  | .CREATE => .CREAT
  | .TRUNC => .TRUNC
  | .EXCL => .EXCL
  | .CLOEXEC => .CLOEXEC

/-- the flags compio passes to `openat` (table regenerated from `open_options/unix.rs`) are std's, and the
same settings are rejected with `EINVAL`, for all 32 settings of (read, write, truncate, create, create_new) -/
theorem open_flags_eq_std (r w t c n : Bool) :
    (openFlags r w t c n).map (·.map toS) = stdOpen r w false t c n := by
  revert r w t c n; decide

theorem open_flags_valid_iff (r w t c n : Bool) :
    (openFlags r w t c n).isSome = ((r || w) && (w || !(t || c || n))) := by
  revert r w t c n; decide

open Compio.Gen.OpenFlags (customMasks defaultMode)

/-- std `File::open_c`: `custom_flags & !O_ACCMODE` (the two low bits are cleared) -/
def stdCustom (f : Nat) : Nat := f / 4 * 4

/-- what `custom_flags(f)` keeps (the masks are regenerated from `open_options/unix.rs`) is what std keeps -/
theorem custom_flags_eq_std (f : Nat) : keepCustom customMasks f = stdCustom f := rfl

theorem flagWord_mod4 (fl : List OFlag) (a b : Nat) (h : a % 4 = b % 4) :
    flagWord fl a % 4 = flagWord fl b % 4 := by
  unfold flagWord
  induction fl generalizing a b with
  | nil => simpa using h
  | cons x xs ih =>
    simp only [List.foldl_cons]
    apply ih
    have e : (4 : Nat) = 2 ^ 2 := rfl
    rw [e, Nat.or_mod_two_pow, Nat.or_mod_two_pow, ← e, h]

/-- **custom flags never change the access mode** (the two low bits of the word passed to `openat`): it is the
one selected with `read()`/`write()` -/
theorem custom_flags_keep_access_mode (fl : List OFlag) (f : Nat) :
    flagWord fl (keepCustom customMasks f) % 4 = flagWord fl 0 % 4 := by
  apply flagWord_mod4
  rw [custom_flags_eq_std]
  exact Nat.mul_mod_left ..

/-- ... which is std's: `O_RDONLY` = 0 / `O_WRONLY` = 1 / `O_RDWR` = 2 by (read, write) -/
theorem access_mode_eq_std (r w t c n : Bool) (f : Nat) (fl : List OFlag) (h : openFlags r w t c n = some fl) :
    flagWord fl (keepCustom customMasks f) % 4 = (if r && w then 2 else if w then 1 else 0) := by
  rw [custom_flags_keep_access_mode]
  revert r w t c n fl; decide

/-- `OpenOptions::new()` creates with std's default mode -/
theorem default_mode_eq_std : defaultMode = 0o666 := rfl

example : keepCustom customMasks (0o400000 + 1) = 0o400000 := by decide
example : flagWord [.CLOEXEC, .RDONLY] (keepCustom customMasks (0o400000 + 1)) % 4 = 0 := by decide

example : openFlags true true false true false = some [.CLOEXEC, .RDWR, .CREATE] := rfl
example : openFlags true false true false false = none := rfl

/-- with `Splice::pre_submit` (op/fs/poll.rs) waiting only for the ends epoll can poll (`pollableEnds`, what the
extractor finds: `Gen.OpTable.spliceWaitPoll`) the polling driver answers every splice as io_uring does; with
`bothEnds` (finding F080, repaired in /repo 482f69a) this holds for pipe-to-pipe transfers only -/
theorem splice_driver_independent (wait : Gen.OpTable.SpliceWait) (s : St) (src dst : End) (len : Nat) (oi oo : Option Nat)
    (h : wait = .pollableEnds ∨ (∃ a b, src = .pipe a ∧ dst = .pipe b)) :
    St.splice .poll wait s src dst len oi oo = St.splice .iour wait s src dst len oi oo := by
  rcases h with rfl | ⟨a, b, rfl, rfl⟩
  · rfl
  · -- the flag is only looked at in `eperm && hasFile`, and `hasFile` is `false` between two pipes
    cases wait <;> rfl

section DirUtil

open Compio.DirUtil
open Compio.Gen.DirBuilder (firstAttempt secondAttempt)

theorem first_arms (r : Except Nat Unit) (b : Bool) :
    evalArms firstAttempt r b = match r with
      | .ok _ => .retOk
      | .error e => if e = ENOENT then .fall else if b then .retOk else .retErr := by
  cases r with
  | ok u => rfl
  | error e => cases b <;> simp [firstAttempt, evalArms, armMatches, ENOENT]

theorem second_arms (r : Except Nat Unit) (b : Bool) :
    evalArms secondAttempt r b = match r with
      | .ok _ => .retOk
      | .error _ => if b then .retOk else .retErr := by
  cases r <;> cases b <;> rfl

def Good {σ : Type} (ops : FsOps σ) (r : σ × Except Nat Unit) (p : Path) : Prop :=
  match r.2 with
  | .ok _ => ops.isDir r.1 p = true
  | .error _ => ops.isDir r.1 p = false

/-- **`create_dir_all` answers `Ok` iff the path is a directory afterwards** — for every lawful file system, with
the arms REGENERATED from compio-fs/src/utils/mod.rs. So "exists but is a regular file / a dangling symlink"
is never reported as success, and an existing directory (also behind a symlink) never as failure. -/
theorem create_dir_all_spec {σ : Type} (ops : FsOps σ) (hl : Lawful ops) :
    ∀ (fuel : Nat) (s : σ) (p : Path), p.length < fuel →
      Good ops (cda ops firstAttempt secondAttempt fuel s p) p := by
  intro fuel
  induction fuel with
  | zero => intro s p h; omega
  | succ n ih =>
    intro s p hlen
    have hok := hl.mkdir_ok s p
    have herr := hl.mkdir_err s p
    have hno := hl.mkdir_enoent s p
    simp only [cda, first_arms, second_arms]
    generalize ops.mkdir s p = m1 at *
    obtain ⟨s1, r1⟩ := m1
    cases r1 with
    | ok u => exact hok rfl
    | error e =>
      obtain rfl : s1 = s := herr e rfl
      by_cases he : e = ENOENT
      · subst he
        cases p with
        | nil => rw [hl.root] at hno; cases hno rfl
        | cons c cs =>
          have ih2 := ih s1 (c :: cs).dropLast (by
            simp only [List.length_dropLast, List.length_cons] at *; omega)
          simp only [if_pos]
          generalize cda ops firstAttempt secondAttempt n s1 (c :: cs).dropLast = r2 at *
          obtain ⟨s2, q2⟩ := r2
          cases q2 with
          | error e2 =>
            -- the parent is no directory, so the path is none
            have ih2 : ops.isDir s2 (c :: cs).dropLast = false := ih2
            exact Bool.eq_false_iff.mpr fun hd => by rw [hl.parent _ _ hd] at ih2; cases ih2
          | ok u =>
            have hok3 := hl.mkdir_ok s2 (c :: cs)
            generalize ops.mkdir s2 (c :: cs) = m3 at *
            obtain ⟨s3, r3⟩ := m3
            cases r3 with
            | ok u => exact hok3 rfl
            | error e3 => cases hb : ops.isDir s3 (c :: cs) <;> exact hb
      · -- any other error: the re-check `is_dir` decides, in agreement with `Good`
        simp only [if_neg he]
        cases hb : ops.isDir s1 p <;> exact hb

theorem create_dir_all_ok_iff_dir {σ : Type} (ops : FsOps σ) (hl : Lawful ops) (s : σ) (p : Path) :
    let r := cda ops firstAttempt secondAttempt (p.length + 1) s p
    (r.2 = .ok () ↔ ops.isDir r.1 p = true) := by
  intro r
  have h : Good ops r p := create_dir_all_spec ops hl (p.length + 1) s p (by omega)
  unfold Good at h
  split at h <;> simp_all

/-- the concrete tree the model driver runs (`Ns`, with symbolic links) uses the very same function -/
theorem ns_create_dir_all_spec (h : Lawful Ns.ops) (ns : Ns) (p : Path) :
    Good Ns.ops (ns.createDirAll p) p :=
  create_dir_all_spec Ns.ops h (p.length + 1) ns p (by omega)

/-! ### the laws are satisfiable: a plain tree of directories (no files, no links) -/

structure PlainTree where
  has : Path → Bool
  root : has [] = true
  closed : ∀ p, has p = true → has p.dropLast = true

def PlainTree.mkdir (t : PlainTree) (p : Path) : PlainTree × Except Nat Unit :=
  if hp : t.has p = true then (t, .error EEXIST)
  else if hq : t.has p.dropLast = true then
    (⟨fun q => q == p || t.has q, by simp [t.root], by
        intro q hq'
        simp only [Bool.or_eq_true, beq_iff_eq] at hq' ⊢
        rcases hq' with rfl | h
        · exact Or.inr hq
        · exact Or.inr (t.closed q h)⟩, .ok ())
  else (t, .error ENOENT)

def plainOps : FsOps PlainTree := ⟨PlainTree.mkdir, fun t p => t.has p⟩

theorem plain_lawful : Lawful plainOps where
  root := fun s => s.root
  mkdir_ok := by
    intro s p h
    simp only [plainOps, PlainTree.mkdir] at h ⊢
    by_cases hp : s.has p = true
    · simp [hp] at h
    · by_cases hq : s.has p.dropLast = true
      · simp [hp, hq]
      · simp [hp, hq] at h
  mkdir_err := by
    intro s p e h
    simp only [plainOps, PlainTree.mkdir] at h ⊢
    split
    · rfl
    · split
      · rename_i h1 h2; simp [h1, h2] at h
      · rfl
  mkdir_enoent := by
    intro s p h
    simp only [plainOps, PlainTree.mkdir] at h ⊢
    split at h
    · simp [EEXIST, ENOENT] at h
    · rename_i hp
      simpa using hp
  parent := fun s p h => s.closed p h

theorem plain_create_dir_all_spec (t : PlainTree) (p : Path) :
    Good plainOps (cda plainOps firstAttempt secondAttempt (p.length + 1) t p) p :=
  create_dir_all_spec plainOps plain_lawful (p.length + 1) t p (by omega)

def exNs : Ns :=
  { ents := [(["f"], .file 0), (["d"], .dir), (["lf"], .link 1 ["f"]), (["ld"], .link 2 ["d"]),
             (["dang"], .link 3 ["nowhere"])], nextIno := 4 }

example : (exNs.createDirAll ["f"]).2 = .error EEXIST := by rfl
example : (exNs.createDirAll ["dang"]).2 = .error EEXIST := by rfl
example : (exNs.createDirAll ["lf"]).2 = .error EEXIST := by rfl
example : (exNs.createDirAll ["ld"]).2 = .ok () := by rfl
example : (exNs.createDirAll ["f", "x"]).2 = .error ENOTDIR := by rfl
example : (exNs.createDirAll ["ld", "x", "y"]).2 = .ok () := by rfl
example : Ns.isDir (exNs.createDirAll ["ld", "x", "y"]).1 ["d", "x", "y"] = true := by rfl

end DirUtil

end Compio.Props.C08
