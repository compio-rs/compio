/-
C17 — the bound is a bound over ALL entry points that share a builder, and the slot of a
pool thread is given back on every exit path of the worker.

1. `ProactorBuilder`'s pool configuration (`compio-driver/src/lib.rs`: `ThreadPoolBuilder::{Create, Reuse}`,
   `create_or_get_thread_pool`, `force_reuse_thread_pool`) and the statement order of `Dispatcher::new_impl`
   (`compio-dispatcher/src/lib.rs`): pools are numbered by an allocation counter (every `AsyncifyPool::new` is a new
   pool).  With `force_reuse_thread_pool()` BEFORE `create_or_get_thread_pool()` (the code as it is) the dispatcher's
   handle (`dispatch_blocking`, `join`) and the pool of every worker runtime (`spawn_blocking`, `Asyncify` ops) are
   the same pool for every builder state, so the theorems of Props/C17.lean (any number `nd` of dispatchers of ONE
   `State`) bound the union of the entry points.  In the other order a `Create` builder yields two pools.
2. `finish` of a raw (uncaught) panicking job leads to `leaving`, and `exit` (the guard's `fetch_sub`) is enabled
   there: the counter goes down by one on the unwinding path exactly as on the timeout path.
-/
import Compio.Model.AsyncifyPool

namespace Compio.Props.C17
open Compio Compio.Asyncify

/-- `ThreadPoolBuilder` -/
inductive PoolCfg where
  | create (limit : Nat)
  | reuse (pool : Nat)
  deriving DecidableEq, Repr

/-- a `ProactorBuilder` as far as the pool goes + the allocation counter of pools -/
structure PB where
  cfg : PoolCfg
  fresh : Nat
  deriving DecidableEq, Repr

/-- `create_or_get_thread_pool(&self)`: `Create` makes a NEW pool every time and leaves the builder as it is -/
def createOrGet (b : PB) : Nat × PB :=
  match b.cfg with
  | .create _ => (b.fresh, { b with fresh := b.fresh + 1 })
  | .reuse p => (p, b)

/-- `force_reuse_thread_pool`: `self.reuse_thread_pool(self.create_or_get_thread_pool())` -/
def forceReuse (b : PB) : PB :=
  let (p, b') := createOrGet b
  { b' with cfg := .reuse p }

/-- the worker runtimes: each builds its `Proactor` from a clone of the builder (`create_or_reuse`) -/
def runtimePools : Nat → PB → List Nat
  | 0, _ => []
  | n + 1, b => let (p, b') := createOrGet b; p :: runtimePools n { b' with cfg := b.cfg }

/-- `Dispatcher::new_impl`: (`pool` of the dispatcher, pools of the `nthreads` worker runtimes);
`forceFirst = true` is the statement order of the code -/
def newImpl (forceFirst : Bool) (b : PB) (nthreads : Nat) : Nat × List Nat :=
  if forceFirst then
    let b1 := forceReuse b
    let (p, b2) := createOrGet b1
    (p, runtimePools nthreads b2)
  else
    let (p, b1) := createOrGet b
    let b2 := forceReuse b1
    (p, runtimePools nthreads b2)

theorem runtimePools_reuse (n : Nat) (p f : Nat) :
    ∀ q ∈ runtimePools n { cfg := .reuse p, fresh := f }, q = p := by
  induction n with
  | zero => intro q h; simp [runtimePools] at h
  | succ n ih =>
    intro q h
    simp [runtimePools, createOrGet] at h
    rcases h with h | h
    · exact h
    · exact ih q h

/-- **one pool behind every entry point**: for every builder state (default `Create` with any limit, or `Reuse`) and
any number of worker threads, every worker runtime's pool is the dispatcher's own pool — so `running ≤ limit`
(`running_le_limit_of_reserve`, `live_le_limit_of_serial_spawns`, which hold for any number of dispatchers of one
pool) bounds `spawn_blocking` + `dispatch_blocking` + `join` jobs together -/
theorem dispatcher_entry_points_share_one_pool (b : PB) (nthreads : Nat) :
    ∀ q ∈ (newImpl true b nthreads).2, q = (newImpl true b nthreads).1 := by
  cases b with
  | mk cfg fresh =>
    cases cfg with
    | create l =>
      simp only [newImpl, forceReuse, createOrGet, if_true]
      exact runtimePools_reuse nthreads fresh (fresh + 1)
    | reuse p =>
      simp only [newImpl, forceReuse, createOrGet, if_true]
      exact runtimePools_reuse nthreads p fresh

/-- the other statement order (seed 5a): a `Create` builder gives the dispatcher a pool of its own — two pools, each
with the whole limit -/
theorem handle_before_force_splits_the_pool (l f n : Nat) :
    ∀ q ∈ (newImpl false { cfg := .create l, fresh := f } n).2, q ≠ (newImpl false { cfg := .create l, fresh := f } n).1 := by
  simp only [newImpl, forceReuse, createOrGet]
  intro q h
  have := runtimePools_reuse n (f + 1) (f + 1 + 1) q h
  simp at this ⊢
  omega

example : newImpl true { cfg := .create 2, fresh := 0 } 3 = (0, [0, 0, 0]) := by decide
example : newImpl false { cfg := .create 2, fresh := 0 } 3 = (0, [1, 1, 1]) := by decide

/-- **the slot is given back on the unwinding path**: a worker inside a raw (uncaught) panicking job can finish
(the thread dies) and then `exit` — the guard's `fetch_sub`, created before the receive loop — is enabled and takes
the counter down by one, exactly as after an idle timeout -/
theorem crashed_worker_gives_slot_back (s : State) (w j : Nat) (hw : w < s.nw)
    (hr : s.wrk w = .running j) (hk : s.kind j = .raw) :
    ∃ s1 s2, step? s (.finish w) = some s1 ∧ step? s1 (.exit w) = some s2
      ∧ s2.counter = s.counter - 1 ∧ s2.wrk w = .exited ∧ s2.crashed = j :: s.crashed := by
  refine ⟨{ s with wrk := upd s.wrk w .leaving, crashed := j :: s.crashed },
    { s with wrk := upd (upd s.wrk w .leaving) w .exited, crashed := j :: s.crashed, counter := s.counter - 1 },
    ?_, ?_, rfl, ?_, rfl⟩
  · simp [step?, doFinish, hw, hr, hk]
  · simp [step?, doExit, hw, upd]
  · simp [upd]

end Compio.Props.C17
